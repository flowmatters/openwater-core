import OW.Nd.Array
/-
Model of /repo/io/hdf5.go (= every instantiation in gen-hdf5.go), /repo/io/hdf5_util.go and /repo/conv/slices.go
(core Lean only), over

* the n-d array model `OW.Nd` (source arrays are `(Heap Int, Arr)`, consumed through `Unroll()`; results are fresh
  root arrays, printed as shape + row-major values),
* an abstract file: `Disk = Option Tree` (`none` = no file), `Tree` = the objects of the file by path
  (groups and datasets `(shape, row-major elements)`),
* the SPECIFICATION of the library (`Selection`, `selectHyperslab`, `linear`, `h5read`, `h5write`): HDF5's regular
  hyperslab — along a dimension the coordinates `offset + k*stride + b`, `k < count`, `b < block` —, traversal in
  row-major order, the transfer rules of H5Dread/H5Dwrite (equal numbers of selected elements, selections inside the
  extents) and gonum's wrapper code around them. The same semantics is implemented by /verif/harness/hdf5stub.

`sliceSize` rounds up, as `io/hdf5_util.go` does; `sliceSizeFloor` is the rounding-down quotient, which the code does not
use (it loses the last index of a stepped selection: `sliceSizeFloor_drops_last`).
One defect of the code is mirrored (known finding KF-C08-int-width):
* `narrow = true` for the element types `int` and `uint`: gonum maps them to H5T_NATIVE_INT/UINT (4 bytes) and passes
  the dataset's type as memory type, so the 8-byte Go elements are copied as pairs of 4-byte file elements
  (`packBuf`/`unpackBuf`); element values are assumed in `[0, 2^31)` there.

Go `int` is `Int` (no overflow), `uint` is `Nat` with `uint(x) = x mod 2^64`. Shapes are assumed non-negative and
small (a dataset of more than 2^40 bytes is refused by the stub, not by this model); rank-0 shapes are outside the
model (gonum's wrapper panics on them).
-/
namespace OW.Sim.H5
open OW.Nd

/-! ## util/m, conv -/

/-- `m.MinInt` -/
def minInt (a b : Int) : Int := if a > b then b else a
/-- `m.MaxInt` -/
def maxInt (a b : Int) : Int := if a > b then a else b

def two64 : Int := 18446744073709551616
def two32 : Int := 4294967296

/-- Go `uint(x)` for an `int` x (`-2^63 ≤ x < 2^63`): `x` itself when non-negative, else `x + 2^64` -/
def toUint (x : Int) : Nat := if 0 ≤ x then x.toNat else (x + two64).toNat

/-- `conv.IntsToUints` -/
def intsToUints (l : Idx) : List Nat := l.map toUint
/-- `conv.UintsToInts` (extents below 2^63) -/
def uintsToInts (l : List Nat) : Idx := l.map Int.ofNat

/-! ## sliceSize, makeHyperslab (hdf5_util.go) -/

/-- one entry of `H5Ref.Slice`: `none` = Go `nil`, `some [start, stop, step]` -/
abbrev SelDim := Option (List Int)
abbrev Sel := List SelDim

/-- `sliceSize(slice, size)`: `(MaxInt(0, MinInt(size,slice[1]) - MinInt(size,slice[0])) + slice[2] - 1) / slice[2]`.
Go `/` truncates; `slice[i]` out of range and a zero step panic. -/
def sliceSize (sl : List Int) (size : Int) : R Int :=
  match sl with
  | s0 :: s1 :: s2 :: _ =>
    if s2 = 0 then .error "int-div-zero"
    else .ok ((maxInt 0 (minInt size s1 - minInt size s0) + s2 - 1).tdiv s2)
  | _ => oob

/-- `sliceSize` with the quotient rounded down, `MaxInt(0, …) / slice[2]`: not what the code computes -/
def sliceSizeFloor (sl : List Int) (size : Int) : R Int :=
  match sl with
  | s0 :: s1 :: s2 :: _ =>
    if s2 = 0 then .error "int-div-zero"
    else .ok ((maxInt 0 (minInt size s1 - minInt size s0)).tdiv s2)
  | _ => oob

structure Slab where
  offset : List Nat
  stride : List Nat
  count : List Nat
  block : List Nat
  deriving Repr, DecidableEq

/-- body of the loop of `makeHyperslab` for dimension `i`: (offset, stride, count) -/
def slabDim (dims : Idx) (i : Nat) : SelDim → R (Nat × Nat × Nat)
  | none =>
    match dims[i]? with
    | some n => .ok (0, 1, toUint n)
    | none => oob
  | some sl =>
    match sl with
    | s0 :: _ :: s2 :: _ =>
      match dims[i]? with
      | none => oob
      | some n => do
        let c ← sliceSize sl n
        pure (toUint s0, toUint s2, toUint c)
    | _ => oob

def slabDims (dims : Idx) : Nat → Sel → R (List (Nat × Nat × Nat))
  | _, [] => .ok []
  | i, d :: rest => do
    let e ← slabDim dims i d
    let r ← slabDims dims (i + 1) rest
    pure (e :: r)

/-- `makeHyperslab(slice, dims)` -/
def makeHyperslab (sel : Sel) (dims : Idx) : R Slab := do
  let l ← slabDims dims 0 sel
  pure { offset := l.map (·.1), stride := l.map (·.2.1), count := l.map (·.2.2), block := l.map (fun _ => 1) }

/-! ## the library: dataspaces, hyperslabs, transfers (SPECIFICATION) -/

inductive Selection where
  | all
  | none
  | hyper (offset stride count block : List Nat)
  deriving Repr, DecidableEq

def prodN : List Nat → Nat
  | [] => 1
  | d :: ds => d * prodN ds

/-- coordinates selected along one dimension: `offset + k*stride + b`, `k < count`, `b < block`, increasing -/
def dimCoords (offset stride count block : Nat) : List Nat :=
  (List.range count).flatMap fun k => (List.range block).map fun b => offset + k * stride + b

/-- all selected coordinates of one dimension lie below `extent` (closed form, for `count, block ≥ 1`) -/
def dimWithin (offset stride count block extent : Nat) : Bool :=
  decide (offset + (count - 1) * stride + (block - 1) < extent)

def zip4 : List Nat → List Nat → List Nat → List Nat → List (Nat × Nat × Nat × Nat)
  | a :: as, b :: bs, c :: cs, d :: ds => (a, b, c, d) :: zip4 as bs cs ds
  | _, _, _, _ => []

/-- `Dataspace.SelectHyperslab` (gonum wrapper + H5Sselect_hyperslab, H5S_SELECT_SET) on a dataspace of extent `dims`
whose current selection is `cur`. Not checked against the extent (HDF5 checks at the transfer). -/
def selectHyperslab (dims : List Nat) (cur : Selection) (offset stride count block : List Nat) : Except String Selection :=
  let rank := offset.length
  if rank = 0 then .ok cur                       -- gonum: H5Soffset_simple(id, NULL), nothing selected anew
  else if rank ≠ dims.length then .error "rank"  -- gonum: "size of offset does not match extent"
  else if count.length < rank ∨ stride.length < rank ∨ block.length < rank then .error "args"
  else
    let stride := stride.take rank
    let count := count.take rank
    let block := block.take rank
    if stride.any (· == 0) then .error "stride0"
    else if (zip4 offset stride count block).any (fun (_, s, c, b) => decide (c > 1) && decide (s < b)) then .error "overlap"
    else if count.any (· == 0) || block.any (· == 0) then .ok .none
    else .ok (.hyper offset stride count block)

/-- per-dimension coordinate lists of a selection -/
def selCoords (dims : List Nat) : Selection → List (List Nat)
  | .all => dims.map List.range
  | .none => dims.map (fun _ => [])
  | .hyper o s c b => (zip4 o s c b).map fun (o, s, c, b) => dimCoords o s c b

/-- row-major cartesian product (last list varies fastest) -/
def cartesian : List (List Nat) → List (List Nat)
  | [] => [[]]
  | l :: ls => l.flatMap fun x => (cartesian ls).map (x :: ·)

/-- row-major rank of coordinates within an extent -/
def ravelN : List Nat → List Nat → Nat
  | c :: cs, _ :: ds => c * prodN ds + ravelN cs ds
  | _, _ => 0

/-- the selected elements as row-major element numbers of the extent, in HDF5's traversal order -/
def linear (dims : List Nat) (sel : Selection) : List Nat :=
  match sel with
  | .none => []
  | s => (cartesian (selCoords dims s)).map (ravelN · dims)

/-- H5Sget_select_npoints -/
def npoints (dims : List Nat) : Selection → Nat
  | .all => prodN dims
  | .none => 0
  | .hyper _ _ c b => prodN ((List.zip c b).map fun (c, b) => c * b)

/-- H5S_SELECT_VALID -/
def selValid (dims : List Nat) : Selection → Bool
  | .hyper o s c b => (List.zip (zip4 o s c b) dims).all fun ((o, s, c, b), e) => dimWithin o s c b e
  | _ => true

/-- H5Dread into a buffer whose memory dataspace has `nMem` elements, all selected: buffer element `k` := the
`k`-th selected file element; the rest of the buffer is untouched. -/
def h5read (vals : List Int) (fdims : List Nat) (fsel : Selection) (nMem : Nat) (buf : List Int) : Except String (List Int) :=
  if nMem ≠ npoints fdims fsel then .error "count"
  else if ¬ selValid fdims fsel then .error "sel"
  else .ok ((linear fdims fsel).map (fun i => vals.getD i 0) ++ buf.drop nMem)

/-- sequential stores -/
def scatter (vals : List Int) : List Nat → List Int → List Int
  | i :: is, x :: xs => scatter (vals.set i x) is xs
  | _, _ => vals

/-- H5Dwrite from a buffer whose memory dataspace has `nMem` elements, all selected -/
def h5write (vals : List Int) (fdims : List Nat) (fsel : Selection) (nMem : Nat) (buf : List Int) : Except String (List Int) :=
  if nMem ≠ npoints fdims fsel then .error "count"
  else if ¬ selValid fdims fsel then .error "sel"
  else .ok (scatter vals (linear fdims fsel) buf)

/-! ### memory elements ↔ file elements (gonum: memory type = dataset type, no conversion) -/

/-- the Go slice handed to the library, in units of FILE elements -/
def packBuf (narrow : Bool) (vals : List Int) : List Int :=
  if narrow then vals.flatMap fun x => [x % two32, (x / two32) % two32] else vals

def unpairs : List Int → List Int
  | lo :: hi :: rest => (lo + hi * two32) :: unpairs rest
  | [lo] => [lo]
  | [] => []

/-- the Go slice after the library has filled it -/
def unpackBuf (narrow : Bool) (buf : List Int) : List Int := if narrow then unpairs buf else buf

/-- a freshly made result array of `n` elements (`NewArray`), in units of file elements -/
def zeroBuf (narrow : Bool) (n : Nat) : List Int := List.replicate (if narrow then 2 * n else n) 0

/-! ## the abstract file -/

inductive Obj where
  | group
  | ds (shape : List Nat) (vals : List Int)
  deriving Repr, DecidableEq

abbrev Path := List String
/-- all objects below the root group, by path -/
abbrev Tree := List (Path × Obj)
/-- the file on disk (`none`: it does not exist) -/
abbrev Disk := Option Tree

def find (t : Tree) (p : Path) : Option Obj := if p = [] then some .group else t.lookup p

/-- replace the elements of the dataset at `p` (the first entry with that path, which is the one `find` returns) -/
def setVals : Tree → Path → List Int → Tree
  | [], _, _ => []
  | (q, o) :: rest, p, vals =>
    if q = p then
      (match o with
        | .ds s _ => (q, .ds s vals)
        | .group => (q, .group)) :: rest
    else (q, o) :: setVals rest p vals

/-- every dataset holds as many elements as its shape says -/
def WF (t : Tree) : Prop := ∀ p s v, (p, Obj.ds s v) ∈ t → v.length = prodN s

/-- components of an HDF5 path name (empty components and "." do not count) -/
def splitPath (s : String) : Path := (s.splitOn "/").filter (fun c => c != "" && c != ".")

/-- result of an io call: value, returned error (class), or panic (class) -/
inductive Res (α : Type) where
  | ok (a : α)
  | err (cls : String)
  | panic (cls : String)
  deriving Repr, DecidableEq

/-- `openWriteOrCreate(fn, createIfNotExist)`: a created file exists (empty) from then on -/
def openW (d : Disk) (create : Bool) : Disk × Except String Tree :=
  match d with
  | some t => (d, .ok t)
  | none => if create then (some [], .ok []) else (none, .error "nofile")

/-- `f.OpenDataset(path)` -/
def openDataset (t : Tree) (path : String) : Except String (Path × List Nat × List Int) :=
  let p := splitPath path
  if p = [] then .error "notfound"
  else match find t p with
    | some (.ds s v) => .ok (p, s, v)
    | _ => .error "notfound"

def stripLead : List String → List String
  | "" :: rest => rest
  | l => l

theorem stripLead_length_le (l : List String) : (stripLead l).length ≤ l.length := by
  unfold stripLead; split <;> simp

/-- `createDataset(g, path, shape, …)`: `comps = strings.Split(path, "/")`, `cur` = the group `g`. Groups that are missing
are created on the way and stay even when the dataset cannot be created. A new dataset reads as zeros.
`paths[0] == ""` drops one leading empty component; if nothing is left, `paths[0]` panics (path "g/h/"). -/
def createDs (dims : List Nat) (t : Tree) (cur : Path) (comps : List String) : Tree × Res Path :=
  match _h : stripLead comps with
  | [] => (t, .panic "index-out-of-range")
  | [name] =>
    if name = "" ∨ name = "." then (t, .err "create")     -- the library refuses an empty name
    else match find t (cur ++ [name]) with
      | some _ => (t, .err "create")
      | none => (t ++ [(cur ++ [name], .ds dims (List.replicate (prodN dims) 0))], .ok (cur ++ [name]))
  | g :: r :: rest =>
    if g = "" ∨ g = "." then createDs dims t cur (r :: rest)
    else match find t (cur ++ [g]) with
      | some .group => createDs dims t (cur ++ [g]) (r :: rest)
      | some (.ds _ _) => (t, .err "group")
      | none => createDs dims (t ++ [(cur ++ [g], .group)]) (cur ++ [g]) (r :: rest)
termination_by comps.length
decreasing_by
  all_goals
    have := stripLead_length_le comps
    rw [_h] at this
    simp only [List.length_cons] at this ⊢
    omega

/-- `openOrCreateDataset(f, path, shape, example, compress=false)` -/
def openOrCreate (t : Tree) (path : String) (shape : Idx) : Tree × Res Path :=
  match openDataset t path with
  | .ok (p, s, _) => if uintsToInts s = shape then (t, .ok p) else (t, .err "shape")
  | .error _ => createDs (intsToUints shape) t [] (path.splitOn "/")

/-- `Unroll()` of the source view, as values -/
def unrollVals (h : Heap Int) (a : Arr) : R (List Int) := do
  let sl ← unroll h a
  sliceVals h sl

/-! ## the operations of `H5RefArrayType` -/

/-- `Write(data)` -/
def write (narrow : Bool) (h : Heap Int) (a : Arr) (d : Disk) (path : String) : Disk × Res Unit :=
  match openW d true with
  | (d1, .error c) => (d1, .err c)
  | (_, .ok t) =>
    -- arguments of openOrCreateDataset: data.Shape(), data.Get(data.NewIndex(0))
    match get h a (a.v.newIndex 0) with
    | .error e => (some t, .panic e)
    | .ok _ =>
      match openOrCreate t path a.v.dims with
      | (t1, .err c) => (some t1, .err c)
      | (t1, .panic e) => (some t1, .panic e)
      | (t1, .ok p) =>
        match unrollVals h a with
        | .error e => (some t1, .panic e)
        | .ok vals =>
          match find t1 p with
          | some (.ds s v) =>
            match h5write v s .all (prodN s) (packBuf narrow vals) with
            | .ok v' => (some (setVals t1 p v'), .ok ())
            | .error c => (some t1, .err c)
          | _ => (some t1, .err "notfound")

/-- `Create(shape, fillValue, compress=false)` (the fill value only determines the element type) -/
def create (d : Disk) (path : String) (shape : Idx) : Disk × Res Unit :=
  match openW d true with
  | (d1, .error c) => (d1, .err c)
  | (_, .ok t) =>
    match openOrCreate t path shape with
    | (t1, .err c) => (some t1, .err c)
    | (t1, .panic e) => (some t1, .panic e)
    | (t1, .ok _) => (some t1, .ok ())

/-- `WriteSlice(data, loc)`; the error of `WriteSubset` is swallowed (`return nil`) -/
def writeSlice (narrow : Bool) (h : Heap Int) (a : Arr) (d : Disk) (path : String) (loc : Idx) : Disk × Res Unit :=
  match openW d false with
  | (d1, .error c) => (d1, .err c)
  | (_, .ok t) =>
    match openDataset t path with
    | .error c => (some t, .err c)
    | .ok (p, s, v) =>
      let shp := intsToUints a.v.dims
      let ones := List.replicate loc.length 1
      match selectHyperslab s .all (intsToUints loc) ones ones shp with
      | .error c => (some t, .err c)
      | .ok fsel =>
        match unrollVals h a with
        | .error e => (some t, .panic e)
        | .ok vals =>
          match h5write v s fsel (prodN shp) (packBuf narrow vals) with
          | .ok v' => (some (setVals t p v'), .ok ())
          | .error _ => (some t, .ok ())

/-- the loop `for dim, size := range shape { if h.Slice[dim] != nil { shape[dim] = sliceSize(h.Slice[dim], size) } }` -/
def newShape : Sel → Idx → R Idx
  | _, [] => .ok []
  | [], _ :: _ => oob
  | none :: ss, d :: ds => do
    let r ← newShape ss ds
    pure (d :: r)
  | some sl :: ss, d :: ds => do
    let n ← sliceSize sl d
    let r ← newShape ss ds
    pure (n :: r)

/-- `loadSubset(ds)` -/
def loadSubset (narrow : Bool) (sel : Sel) (s : List Nat) (v : List Int) : Res (Idx × List Int) :=
  let shape := uintsToInts s
  match makeHyperslab sel shape with
  | .error e => .panic e
  | .ok slab =>
    match selectHyperslab s .all slab.offset slab.stride slab.count slab.block with
    | .error c => .err c
    | .ok fsel =>
      match newShape sel shape with
      | .error e => .panic e
      | .ok ns =>
        if product ns < 0 then .panic "alloc"
        else
          let n := (product ns).toNat
          match h5read v s fsel (prodN (intsToUints ns)) (zeroBuf narrow n) with
          | .error c => .err c
          | .ok buf => .ok (ns, unpackBuf narrow buf)

/-- `Load()` -/
def load (narrow : Bool) (d : Disk) (path : String) (sel : Option Sel) : Res (Idx × List Int) :=
  match d with
  | none => .err "nofile"
  | some t =>
    match openDataset t path with
    | .error c => .err c
    | .ok (_, s, v) =>
      let subset := match sel with
        | none => false
        | some l => l.any Option.isSome
      if subset then loadSubset narrow (sel.getD []) s v
      else
        let n := prodN s
        match h5read v s .all n (zeroBuf narrow n) with
        | .ok buf => .ok (uintsToInts s, unpackBuf narrow buf)
        | .error _ => .ok (uintsToInts s, unpackBuf narrow (zeroBuf narrow n))   -- `ds.Read(&impl)`: error ignored

/-- `Shape()` -/
def shapeOf (d : Disk) (path : String) : Res Idx :=
  match d with
  | none => .err "nofile"
  | some t =>
    match openDataset t path with
    | .error c => .err c
    | .ok (_, s, _) => .ok (uintsToInts s)

def insertSorted (x : String) : List String → List String
  | [] => [x]
  | y :: ys => if x < y then x :: y :: ys else y :: insertSorted x ys

def sortStrings (l : List String) : List String := l.foldr insertSorted []

/-- names of the children of group `p` that satisfy `keep`, in increasing name order -/
def children (t : Tree) (p : Path) (keep : Obj → Bool) : List String :=
  sortStrings (t.filterMap fun (q, o) =>
    if q.length = p.length + 1 ∧ q.take p.length = p ∧ keep o then q.getLast? else none)

def isDs : Obj → Bool
  | .ds _ _ => true
  | .group => false

/-- `GetDatasets()` / `GetGroups()` (`h.Dataset` names a group) -/
def listGroup (d : Disk) (path : String) (keep : Obj → Bool) : Res (List String) :=
  match d with
  | none => .err "nofile"
  | some t =>
    let p := splitPath path
    match find t p with
    | some .group => .ok (children t p keep)
    | _ => .err "notfound"

/-- the loop of `Exists()` over `strings.Split(h.Dataset, "/")` -/
def existsLoop (d : Disk) : Path → List String → Bool
  | _, [] => true
  | cur, comp :: rest =>
    if comp = "" then existsLoop d cur rest
    else match d with
      | none => false
      | some t =>
        match find t (cur ++ [comp]) with
        | some (.ds _ _) => rest.isEmpty
        | some .group => existsLoop d (cur ++ [comp]) rest
        | none => false

/-- `Exists()` -/
def pathExists (d : Disk) (path : String) : Bool := existsLoop d [] (path.splitOn "/")

/-! ### canonical dump of a file (what the harness reads back through the library, not through `io`) -/

def ltPath : Path → Path → Bool
  | [], [] => false
  | [], _ :: _ => true
  | _ :: _, [] => false
  | a :: as, b :: bs => if a < b then true else if b < a then false else ltPath as bs

def insertObj (x : Path × Obj) : Tree → Tree
  | [] => [x]
  | y :: ys => if ltPath x.1 y.1 then x :: y :: ys else y :: insertObj x ys

def sortTree (t : Tree) : Tree := t.foldr insertObj []

/-! ## vocabulary of the property statements (what "the selected region" means, independent of the code) -/

/-- "start, start+step, … while < lim" (at most `fuel` elements) -/
def walkIdx (lim step : Nat) : Nat → Nat → List Nat
  | 0, _ => []
  | fuel + 1, x => if x < lim then x :: walkIdx lim step fuel (x + step) else []

/-- the indices of a dimension of extent `e` that a `Slice` entry selects, in the property's words:
nil = all; `[start, stop, step]` = `start, start+step, … < min(stop, extent)` -/
def specIdx (e : Nat) : SelDim → List Nat
  | none => List.range e
  | some [a, b, st] => walkIdx (min b.toNat e) st.toNat e a.toNat
  | some _ => []

/-- a well-formed `Slice` entry: nil, or `[start, stop, step]` with `0 ≤ start`, `1 ≤ step` (any stop) -/
def SelDimOK : SelDim → Prop
  | none => True
  | some [a, _, st] => 0 ≤ a ∧ 1 ≤ st
  | some _ => False

/-- per dimension, the indices a `Slice` selects -/
def selIdx (sel : Sel) (s : List Nat) : List (List Nat) := List.zipWith (fun x e => specIdx e x) sel s

/-- `c` is a coordinate inside the extent `s` -/
def CoordIn : List Nat → List Nat → Prop
  | [], [] => True
  | c :: cs, e :: es => c < e ∧ CoordIn cs es
  | _, _ => False

/-- the block `loc + [0, dims)` lies inside the extent `s` -/
def BlockIn : List Nat → List Nat → List Nat → Prop
  | [], [], [] => True
  | l :: ls, d :: ds, e :: es => l + d ≤ e ∧ BlockIn ls ds es
  | _, _, _ => False

/-- `c` lies in the block `loc + [0, dims)` -/
def inBlock : List Nat → List Nat → List Nat → Bool
  | [], [], [] => true
  | c :: cs, l :: ls, d :: ds => decide (l ≤ c) && decide (c < l + d) && inBlock cs ls ds
  | _, _, _ => false

end OW.Sim.H5
