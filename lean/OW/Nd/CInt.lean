import OW.Nd.Array
/-!
The C back-end of the `int` / `uint` instantiations (data/cdata/gen-arrays_c.go: `Impl *[1<<30]C.int`, `Set`:
`nd.Impl[i] = C.int(val)`, `Get`: `int(nd.Impl[i])`; likewise `C.uint`): the caller's buffer holds 32-BIT elements while the
Go-backed `[]int` / `[]uint` hold 64-bit ones. A write through a C-backed view therefore NARROWS: two's-complement wrap to
32 bits, read back sign-extended (`int`) or zero-extended (`uint`). The array model `OW/Nd/Array.lean` is generic in the
element type and stores values verbatim; the width of the C element type is modelled here, as a normalisation of the
C storages applied after every operation (narrowing is idempotent, so "normalise after each operation" = "narrow on each
write"). The six fixed-width instantiations use the same width on both back-ends: nothing to narrow there.

Finding KF-C01/C02/C03-c-int-width: outside the 32-bit range a C-backed `NDInt` / `NDUint` does not read back what was
written (`Set(1<<40+7)` reads back `7`), a Go-backed one does. The theorems of C01–C03 are about values every element
type of both back-ends can hold (`narrow32_id_signed`, `narrow32_id_unsigned`).
-/
namespace OW.Nd

/-- `int(C.int(x))` (`signed`) resp. `uint(C.uint(x))` on a 64-bit platform -/
def narrow32 (signed : Bool) (x : Int) : Int :=
  let m := x % 4294967296
  if signed && decide (2147483648 ≤ m) then m - 4294967296 else m

/-- narrow every element of the C storages `cs` -/
def narrowHeap (signed : Bool) (cs : List Nat) (h : Heap Int) : Heap Int :=
  (h.zip (List.range h.length)).map fun (st, sid) => if cs.contains sid then st.map (narrow32 signed) else st

/-- values of the 32-bit range are stored verbatim (`int`: `[-2^31, 2^31)`) -/
theorem narrow32_id_signed (x : Int) (h0 : -2147483648 ≤ x) (h1 : x < 2147483648) : narrow32 true x = x := by
  unfold narrow32
  simp only [Bool.true_and, decide_eq_true_eq]
  split <;> omega

/-- … (`uint`: `[0, 2^32)`) -/
theorem narrow32_id_unsigned (x : Int) (h0 : 0 ≤ x) (h1 : x < 4294967296) : narrow32 false x = x := by
  unfold narrow32
  simp only [Bool.false_and, Bool.false_eq_true, if_false]
  omega

theorem narrow32_false_range (x : Int) : 0 ≤ narrow32 false x ∧ narrow32 false x < 4294967296 := by
  unfold narrow32
  simp only [Bool.false_and, Bool.false_eq_true, if_false]
  omega

theorem narrow32_true_range (x : Int) : -2147483648 ≤ narrow32 true x ∧ narrow32 true x < 2147483648 := by
  unfold narrow32
  simp only [Bool.true_and, decide_eq_true_eq]
  split <;> omega

/-- narrowing is idempotent: normalising the C storages after every operation is narrowing on every write -/
theorem narrow32_idem (s : Bool) (x : Int) : narrow32 s (narrow32 s x) = narrow32 s x := by
  cases s
  · exact narrow32_id_unsigned _ (narrow32_false_range x).1 (narrow32_false_range x).2
  · exact narrow32_id_signed _ (narrow32_true_range x).1 (narrow32_true_range x).2

/-- the witness of the finding: `Set(1<<40+7)` reads back `7` on a C-backed `NDInt`; `-2^35-1` reads back `-1`;
on a C-backed `NDUint` `2^40+7` reads back `7` -/
example : narrow32 true (1099511627776 + 7) = 7 ∧ narrow32 true (-34359738368 - 1) = -1 ∧
    narrow32 false (1099511627776 + 7) = 7 ∧ narrow32 true 2147483648 = -2147483648 ∧ narrow32 false 2147483648 = 2147483648 := by
  decide

end OW.Nd
