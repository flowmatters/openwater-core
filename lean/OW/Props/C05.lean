import OW.Sim.CellTasks
import OW.Proofs.Interleave
import OW.Proofs.Join
import OW.Props.C04
/-!
C05 — concurrent cell and model execution is race-free and schedule-independent. No Mathlib import.

* T1 `steps_commute`, T2 `disjoint_interleaving` (final memory; per-task values: `disjoint_interleaving_view`,
  `same_view_in_all_interleavings`): theorems about `OW.Sim.Interleave` (atomic steps with declared footprints over a shared
  memory, tasks = lists of steps, ALL interleavings). The proof of T2 starts in `OW/Proofs/Interleave.lean` (its head gives the
  idea) and goes on here from `TasksDisjoint` on: `prefix_view`, `final_view`, `final_eq` (the final memory of any
  interleaving, address by address), applied to the schedule and to the sequential one. T2 holds for ANY task list with
  pairwise disjoint footprints, so for a bounded WORKER POOL once the workers are shown disjoint (`workers_disjoint`).
  For a family of pairwise non-conflicting steps, one per index: `family_any_interleaving`, `family_pool_any_interleaving`,
  `perm_runList` — used by the row-level steps (`cellStepM`, here) and the address-level steps (`stepA`,
  `OW.Props.C05Addr`); `refines_family_any_interleaving` (tasks of any length with the effect of one step each) has one
  user, `refined_cells_any_interleaving`;
* T3 `cells_disjoint`, `cells_schedule_independent`, `cells_any_interleaving(_arrays)`, `pool_cells_any_interleaving`,
  `refined_cells_any_interleaving`: the instance on the wrapper semantics `OW.Sim.cellStep` / `runCells` (C04), via
  `OW.Sim.CellTasks`;
* T4 `join_complete` (its clauses: `sender_never_stuck`, `join_progress`, `terminal_iff_allDone`; beside it
  `last_receive_after_all_finished`): the `doneChan` transition system `OW.Sim.Join`, for every N;
  T4' `wg_join_complete`: the same for a `sync.WaitGroup` join (`OW.Sim.JoinWG`); lemmas in `OW/Proofs/Join.lean`;
* tie A, `OW.Props.C05Facts` (a module of its own): `current_run_facts_ok` on the facts regenerated from the source.
(DESIGN.md §6 C05 numbers differently: its T1 is `disjoint_interleaving`, T2 `cells_disjoint`, T3 the writer-vs-main theorem
`OW.Props.C07.writer_no_conflict`, T4 `join_complete`.)

TRUSTED, not proved here (Go memory model): a data-race-free Go program behaves like some interleaving of atomic
steps of its goroutines; a channel receive happens after the matching send; the Go scheduler. The theorems are about
the footprints of the MODEL; the property is partial by nature for this technique.
-/
namespace OW.Props.C05
open OW.Sim.Interleave

variable {Addr Val : Type}

/-- **T1 `steps_commute`.** If neither step writes an address the other reads or writes, the two orders of
execution give the same memory (for every initial memory). -/
theorem steps_commute [DecidableEq Addr] (s t : Step Addr Val) (h : NoConflict s t) (m : Mem Addr Val) :
    s.run (t.run m) = t.run (s.run m) := by
  funext a
  by_cases hs : a ∈ s.writes
  · exact run_run_of_mem_writes s t h m hs
  · by_cases ht : a ∈ t.writes
    · exact (run_run_of_mem_writes t s h.symm m ht).symm
    · rw [s.frame _ a hs, t.frame _ a ht, t.frame _ a ht, s.frame _ a hs]

/-- no step of a task writes what a step of ANOTHER task reads or writes (within a task, steps may conflict: their order is
kept by every interleaving) -/
def TasksDisjoint (tasks : List (Task Addr Val)) : Prop :=
  ∀ (i j : Nat) (ti tj : Task Addr Val), tasks[i]? = some ti → tasks[j]? = some tj → i ≠ j →
    ∀ s, s ∈ ti → ∀ t, t ∈ tj → WritesAvoid s t

/-- `own_view` for the region "everything task `i` touches": after ANY prefix of an interleaving the memory there is what the
steps of task `i` in that prefix, run alone, leave -/
theorem prefix_view [DecidableEq Addr] {tasks : List (Task Addr Val)} (hd : TasksDisjoint tasks) {sched pre post : Sched Addr Val}
    (hi : Interleaving tasks sched) (hs : sched = pre ++ post) {i : Nat} {ti : Task Addr Val} (hti : tasks[i]? = some ti)
    (m : Mem Addr Val) (a : Addr) (ha : ∃ u, u ∈ ti ∧ a ∈ u.foot) : runSched pre m a = runList (proj i pre) m a := by
  have hmem := mem_of_interleaving hi
  have hpre : ∀ x, x ∈ pre → x ∈ sched := fun x hx => by rw [hs]; exact List.mem_append_left _ hx
  -- the region: everything task `i` may touch
  apply own_view i (fun b => ∃ u, u ∈ ti ∧ b ∈ u.foot) pre _ _ m m (fun _ _ => rfl) a ha
  · intro x hx hxi b hb
    obtain ⟨tj, h1, h2⟩ := hmem x.1 x.2 (hpre x hx)
    rw [hxi, hti] at h1
    cases h1
    exact ⟨x.2, h2, hb⟩
  · intro x hx hxi b hb ⟨u, hu, hbu⟩
    obtain ⟨tj, h1, h2⟩ := hmem x.1 x.2 (hpre x hx)
    exact hd x.1 i tj ti h1 hti hxi x.2 h2 u hu b hb hbu

/-- **T2 `disjoint_interleaving` (per-task values).** Under the same hypothesis, cut ANY interleaving just before
a step `s` of task `i`: at every address in `s`'s footprint the memory holds exactly what task `i`'s own earlier
steps, run alone from the initial memory, leave there. The other tasks and the schedule do not matter, so every
step reads the same values — and hence computes the same results — in every interleaving, in particular in the
sequential one. -/
theorem disjoint_interleaving_view [DecidableEq Addr] (tasks : List (Task Addr Val)) (hd : TasksDisjoint tasks)
    (sched pre post : Sched Addr Val) (i : Nat) (s : Step Addr Val) (hi : Interleaving tasks sched)
    (hs : sched = pre ++ (i, s) :: post) (m : Mem Addr Val) :
    ∀ a, a ∈ s.foot → runSched pre m a = runList (proj i pre) m a := by
  intro a ha
  obtain ⟨ti, hti, hsti⟩ := mem_of_interleaving hi i s (by rw [hs]; simp)
  exact prefix_view hd hi hs hti m a ⟨s, hsti, ha⟩

/-- the sequential schedule is one of the interleavings (so the theorems above compare every concurrent schedule
with something that can actually happen, e.g. under GOMAXPROCS=1 with run-to-completion) -/
theorem seqSched_interleaving : ∀ (ts : List (Task Addr Val)) (k : Nat),
    Interleaving (List.replicate k [] ++ ts) (seqSched k ts)
  | [], k => by
    simp only [seqSched, List.append_nil]
    exact Interleaving.done (fun t ht => (List.mem_replicate.mp ht).2)
  | t :: ts, k => by
    -- task `k` first, then the rest with `k + 1` finished tasks in front
    refine task_first k t (by rw [List.getElem?_append_right (by simp)]; simp) ?_
    have h := seqSched_interleaving ts (k + 1)
    rw [List.replicate_succ', List.append_assoc, List.singleton_append] at h
    rwa [List.set_append_right _ _ (by simp), List.length_replicate, Nat.sub_self, List.set_cons_zero]

theorem runSched_seqSched : ∀ (ts : List (Task Addr Val)) (k : Nat) (m : Mem Addr Val),
    runSched (seqSched k ts) m = seqRun ts m
  | [], _, _ => rfl
  | t :: ts, k, m => by
    simp only [seqSched, runSched_append, seqRun, List.flatten_cons, runList_append]
    have : runSched (t.map fun s => (k, s)) m = runList t m := by simp [runSched, List.map_map, Function.comp_def]
    rw [this]
    exact runSched_seqSched ts (k + 1) (runList t m)

theorem final_view [DecidableEq Addr] {tasks : List (Task Addr Val)} (hd : TasksDisjoint tasks) {sched : Sched Addr Val}
    (hi : Interleaving tasks sched) {i : Nat} {ti : Task Addr Val} (hti : tasks[i]? = some ti) (m : Mem Addr Val) (a : Addr)
    (ha : ∃ u, u ∈ ti ∧ a ∈ u.foot) : runSched sched m a = runList ti m a := by
  rw [prefix_view hd hi (List.append_nil _).symm hti m a ha, proj_interleaving hi, hti]
  rfl

/-- the final memory of ANY interleaving of pairwise disjoint tasks, address by address: where a step of task `i` writes,
what task `i` run alone from the initial memory leaves there; where nothing writes, the initial value. No schedule occurs
on the right-hand sides. -/
theorem final_eq [DecidableEq Addr] {tasks : List (Task Addr Val)} (hd : TasksDisjoint tasks) {sched : Sched Addr Val}
    (hi : Interleaving tasks sched) (m mf : Mem Addr Val)
    (hown : ∀ (i : Nat) (ti : Task Addr Val), tasks[i]? = some ti → ∀ u, u ∈ ti → ∀ a, a ∈ u.writes → runList ti m a = mf a)
    (hrest : ∀ a, a ∉ tasks.flatten.flatMap Step.writes → m a = mf a) : runSched sched m = mf := by
  funext a
  by_cases ha : a ∈ tasks.flatten.flatMap Step.writes
  · obtain ⟨u, hu, hau⟩ := List.mem_flatMap.mp ha
    obtain ⟨ti, hti, hu⟩ := List.mem_flatten.mp hu
    obtain ⟨i, hti⟩ := List.mem_iff_getElem?.mp hti
    rw [final_view hd hi hti m a ⟨u, hu, List.mem_append_right _ hau⟩]
    exact hown i ti hti u hu a hau
  · rw [final_frame hi ha]
    exact hrest a ha

/-- **T2 `disjoint_interleaving` (final memory).** If the tasks are pairwise disjoint (no task writes what another
task reads or writes), then EVERY interleaving of their steps — every schedule that preserves each task's own
order — ends in exactly the memory obtained by running the tasks one after the other in index order. -/
theorem disjoint_interleaving [DecidableEq Addr] (tasks : List (Task Addr Val)) (hd : TasksDisjoint tasks) (sched : Sched Addr Val)
    (hi : Interleaving tasks sched) (m : Mem Addr Val) : runSched sched m = seqRun tasks m := by
  -- the sequential schedule is an interleaving too, so `final_eq` describes its final memory as well
  have hseq : Interleaving tasks (seqSched 0 tasks) := by simpa using seqSched_interleaving tasks 0
  rw [← runSched_seqSched tasks 0 m]
  exact final_eq hd hi m _
    (fun i ti hti u hu a hau => (final_view hd hseq hti m a ⟨u, hu, List.mem_append_right _ hau⟩).symm)
    fun a ha => (final_frame hseq ha m).symm

/-- Same cut in two interleavings of the same disjoint tasks (e.g. a concurrent one and the sequential one): the
`k`-th step of task `i` finds the same values at its footprint in both. -/
theorem same_view_in_all_interleavings [DecidableEq Addr] (tasks : List (Task Addr Val)) (hd : TasksDisjoint tasks)
    (sched pre post sched' pre' post' : Sched Addr Val) (i : Nat) (s : Step Addr Val)
    (hi : Interleaving tasks sched) (hi' : Interleaving tasks sched')
    (hs : sched = pre ++ (i, s) :: post) (hs' : sched' = pre' ++ (i, s) :: post')
    (hk : (proj i pre).length = (proj i pre').length) (m : Mem Addr Val) :
    ∀ a, a ∈ s.foot → runSched pre m a = runSched pre' m a := by
  intro a ha
  rw [disjoint_interleaving_view tasks hd sched pre post i s hi hs m a ha,
    disjoint_interleaving_view tasks hd sched' pre' post' i s hi' hs' m a ha]
  -- both prefixes project to the same initial segment of task i
  have p := proj_interleaving hi i
  have p' := proj_interleaving hi' i
  rw [hs, proj_append] at p
  rw [hs', proj_append] at p'
  rw [List.append_inj_left (p.trans p'.symm) hk]

/-- the task of a pool worker that received the cell indices `idx`, in that order: the steps of those cells, one
cell after the other -/
def workerTask (cells : List (Task Addr Val)) (idx : List Nat) : Task Addr Val :=
  (idx.map fun i => (cells[i]?).getD []).flatten

theorem mem_workerTask {cells : List (Task Addr Val)} {idx : List Nat} {s : Step Addr Val}
    (h : s ∈ workerTask cells idx) : ∃ i t, i ∈ idx ∧ cells[i]? = some t ∧ s ∈ t := by
  obtain ⟨l, hl, hs⟩ := List.mem_flatten.mp h
  obtain ⟨i, hi, rfl⟩ := List.mem_map.mp hl
  cases hc : cells[i]? with
  | none => rw [hc] at hs; cases hs
  | some t => rw [hc] at hs; exact ⟨i, t, hi, hc, hs⟩

/-- **`workers_disjoint`.** A bounded worker pool: the cells' tasks are pairwise disjoint and no cell index is handed
to two different workers (every value sent on the channel of cell indices is received once). Then the WORKERS' tasks —
each the concatenation of the tasks of the cells it received — are pairwise disjoint, so T2 applies to the pool. -/
theorem workers_disjoint (cells : List (Task Addr Val)) (hd : TasksDisjoint cells) (groups : List (List Nat))
    (hx : ∀ (a b : Nat) (ga gb : List Nat), groups[a]? = some ga → groups[b]? = some gb → a ≠ b →
      ∀ i, i ∈ ga → ∀ j, j ∈ gb → i ≠ j) :
    TasksDisjoint (groups.map (workerTask cells)) := by
  intro a b ta tb ha hb hab s hs t ht
  rw [List.getElem?_map] at ha hb
  obtain ⟨ga, hga, rfl⟩ := Option.map_eq_some_iff.mp ha
  obtain ⟨gb, hgb, rfl⟩ := Option.map_eq_some_iff.mp hb
  obtain ⟨i, ti, hi, hci, hsi⟩ := mem_workerTask hs
  obtain ⟨j, tj, hj, hcj, htj⟩ := mem_workerTask ht
  exact hd i j ti tj hci hcj (hx a b ga gb hga hgb hab i hi j hj) s hsi t htj

theorem pool_interleaving [DecidableEq Addr] (cells : List (Task Addr Val)) (hd : TasksDisjoint cells) (groups : List (List Nat))
    (hx : ∀ (a b : Nat) (ga gb : List Nat), groups[a]? = some ga → groups[b]? = some gb → a ≠ b →
      ∀ i, i ∈ ga → ∀ j, j ∈ gb → i ≠ j)
    (sched : Sched Addr Val) (hi : Interleaving (groups.map (workerTask cells)) sched) (m : Mem Addr Val) :
    runSched sched m = seqRun (groups.map (workerTask cells)) m :=
  disjoint_interleaving _ (workers_disjoint cells hd groups hx) sched hi m

theorem flatten_map_workerTask (cells : List (Task Addr Val)) (groups : List (List Nat)) :
    (groups.map (workerTask cells)).flatten = workerTask cells groups.flatten := by
  induction groups with
  | nil => rfl
  | cons g gs ih => simp only [List.map_cons, List.flatten_cons, ih, workerTask, List.map_append, List.flatten_append]

theorem groups_distinct (groups : List (List Nat)) (hn : groups.flatten.Nodup)
    (a b : Nat) (ga gb : List Nat) (ha : groups[a]? = some ga) (hb : groups[b]? = some gb) (hab : a ≠ b)
    (i : Nat) (hi : i ∈ ga) (j : Nat) (hj : j ∈ gb) : i ≠ j := by
  have hp := List.pairwise_iff_getElem.mp (List.pairwise_flatten.mp hn).2
  obtain ⟨ha', rfl⟩ := List.getElem?_eq_some_iff.mp ha
  obtain ⟨hb', rfl⟩ := List.getElem?_eq_some_iff.mp hb
  rcases Nat.lt_or_gt_of_ne hab with h | h
  · exact hp a b ha' hb' h i hi j hj
  · exact (hp b a hb' ha' h j hj i hi).symm

theorem perm_runList [DecidableEq Addr] (f : Nat → Step Addr Val) (hf : ∀ i j, i ≠ j → NoConflict (f i) (f j))
    {l₁ l₂ : List Nat} (hp : l₁.Perm l₂) : l₁.Nodup → ∀ m : Mem Addr Val, runList (l₁.map f) m = runList (l₂.map f) m := by
  induction hp with
  | nil => intro _ m; rfl
  | cons x _ ih =>
    intro hn m
    exact ih (List.nodup_cons.mp hn).2 _
  | swap x y l =>
    intro hn m
    have hxy : x ≠ y := fun e => (List.nodup_cons.mp hn).1 (e ▸ List.mem_cons_self)
    simp only [List.map_cons, runList_cons]
    rw [steps_commute (f x) (f y) (hf x y hxy) m]
  | trans h₁ _ ih₁ ih₂ =>
    intro hn m
    rw [ih₁ hn m, ih₂ (h₁.nodup_iff.mp hn) m]

theorem eq_of_getElem?_range_map {β : Type} {g : Nat → β} {n i : Nat} {t : β}
    (h : ((List.range n).map g)[i]? = some t) : i < n ∧ t = g i := by
  have hi : i < n := by simpa using lt_length_of_getElem? h
  rw [List.getElem?_map, List.getElem?_range hi] at h
  exact ⟨hi, (Option.some.inj h).symm⟩

theorem flatten_map_singleton {β γ : Type} (g : β → γ) (l : List β) : (l.map fun i => [g i]).flatten = l.map g :=
  List.map_eq_flatMap.symm

section Family
variable [DecidableEq Addr] (f : Nat → Step Addr Val)

omit [DecidableEq Addr] in
theorem singles_disjoint (hf : ∀ i j, i ≠ j → NoConflict (f i) (f j)) (n : Nat) :
    TasksDisjoint ((List.range n).map fun i => [f i]) := by
  intro i j ti tj hi hj hij s hs t ht
  obtain ⟨_, rfl⟩ := eq_of_getElem?_range_map hi
  obtain ⟨_, rfl⟩ := eq_of_getElem?_range_map hj
  cases List.mem_singleton.mp hs
  cases List.mem_singleton.mp ht
  exact (hf i j hij).1

theorem family_any_interleaving (hf : ∀ i j, i ≠ j → NoConflict (f i) (f j)) (n : Nat) (sched : Sched Addr Val)
    (hi : Interleaving ((List.range n).map fun i => [f i]) sched) (m : Mem Addr Val) :
    runSched sched m = runList ((List.range n).map f) m := by
  rw [disjoint_interleaving _ (singles_disjoint f hf n) sched hi, seqRun, flatten_map_singleton]

omit [DecidableEq Addr] in
theorem workerTask_singles (n : Nat) (idx : List Nat) (h : ∀ i, i ∈ idx → i < n) :
    workerTask ((List.range n).map fun i => [f i]) idx = idx.map f := by
  unfold workerTask
  rw [List.map_congr_left (g := fun i => [f i])
    (fun i hi => by rw [List.getElem?_map, List.getElem?_range (h i hi)]; rfl)]
  exact flatten_map_singleton f idx

theorem family_pool_any_interleaving (hf : ∀ i j, i ≠ j → NoConflict (f i) (f j)) (n : Nat) (groups : List (List Nat))
    (hp : groups.flatten.Perm (List.range n)) (sched : Sched Addr Val)
    (hi : Interleaving (groups.map (workerTask ((List.range n).map fun i => [f i]))) sched) (m : Mem Addr Val) :
    runSched sched m = runList ((List.range n).map f) m := by
  have hn : groups.flatten.Nodup := hp.nodup_iff.mpr List.nodup_range
  rw [pool_interleaving _ (singles_disjoint f hf n) groups (groups_distinct groups hn) sched hi, seqRun,
    flatten_map_workerTask, workerTask_singles f n _ (fun i hi => List.mem_range.mp (hp.mem_iff.mp hi))]
  exact perm_runList f hf hp hn m

/-- the index order is one of the interleavings of the one-step tasks, so (`final_eq`) what it leaves where step `i` writes
is what step `i` alone, from the initial memory, leaves there -/
theorem runList_family_eq (hf : ∀ i j, i ≠ j → NoConflict (f i) (f j)) (m : Mem Addr Val) (n : Nat) (mf : Mem Addr Val)
    (hown : ∀ i, i < n → ∀ a, a ∈ (f i).writes → (f i).run m a = mf a)
    (hrest : ∀ a, (∀ i, i < n → a ∉ (f i).writes) → mf a = m a) : runList ((List.range n).map f) m = mf := by
  have hseq := seqSched_interleaving ((List.range n).map fun i => [f i]) 0
  rw [List.replicate_zero, List.nil_append] at hseq
  rw [← flatten_map_singleton f, ← seqRun, ← runSched_seqSched _ 0 m]
  refine final_eq (singles_disjoint f hf n) hseq m mf (fun i ti hti u hu a hau => ?_)
    fun a ha => (hrest a fun i hi hw => ha ?_).symm
  · obtain ⟨hi, rfl⟩ := eq_of_getElem?_range_map hti
    cases List.mem_singleton.mp hu
    exact hown i hi a hau
  · rw [flatten_map_singleton]
    exact List.mem_flatMap.mpr ⟨f i, List.mem_map.mpr ⟨i, List.mem_range.mpr hi, rfl⟩, hw⟩

omit [DecidableEq Addr] in
theorem runList_flatten_eq : ∀ (tasks : List (Task Addr Val)) (k : Nat),
    (∀ (i : Nat) (t : Task Addr Val), tasks[i]? = some t → ∀ m, runList t m = (f (k + i)).run m) →
    ∀ m, runList tasks.flatten m = runList ((List.range' k tasks.length).map f) m
  | [], _, _, _ => rfl
  | t :: ts, k, h, m => by
    rw [List.flatten_cons, runList_append, List.length_cons, List.range'_succ, List.map_cons, runList_cons,
      h 0 t rfl m]
    exact runList_flatten_eq ts (k + 1) (fun i t' ht => by rw [Nat.add_assoc, Nat.add_comm 1]; exact h (i + 1) t' ht) _

/-- T2 for tasks that REFINE a family of steps: the tasks are pairwise disjoint and task `i`, run alone, has the effect of the
one step `f i` (however many steps it is made of). Then every interleaving ends where `f 0, …, f (n-1)` in index order end. -/
theorem refines_family_any_interleaving (tasks : List (Task Addr Val)) (hd : TasksDisjoint tasks)
    (hseq : ∀ (i : Nat) (t : Task Addr Val), tasks[i]? = some t → ∀ m, runList t m = (f i).run m)
    (sched : Sched Addr Val) (hi : Interleaving tasks sched) (m : Mem Addr Val) :
    runSched sched m = runList ((List.range tasks.length).map f) m := by
  rw [disjoint_interleaving tasks hd sched hi, seqRun, runList_flatten_eq f tasks 0 (by simpa using hseq),
    ← List.range_eq_range']

end Family

section Cells
open OW OW.Sim OW.Sim.CellTasks

variable {α : Type} [Num α]
variable (km : KModel α) (spec : ParamSpec) (lay : List (Nat × Nat)) (params : List (List α))
  (inputs : List (List (List α)))

omit [Num α] in
theorem writesAvoid_of_rows {s t : Step CAddr (CVal α)} {i j : Nat} (hij : i ≠ j)
    (hs : ∀ a, a ∈ s.foot → a = CAddr.st i ∨ a = CAddr.out i)
    (ht : ∀ a, a ∈ t.foot → a = CAddr.st j ∨ a = CAddr.out j) : WritesAvoid s t := by
  -- an address of row `i` and of row `j` would have both indices
  have idx : ∀ {a : CAddr} {k : Nat}, a = CAddr.st k ∨ a = CAddr.out k → a.idx = k := fun h => by
    rcases h with rfl | rfl <;> rfl
  exact fun a ha ha' => hij ((idx (hs a (List.mem_append_right _ ha))).symm.trans (idx (ht a ha')))

variable {km spec lay params inputs} in
theorem foot_cellStepM {i : Nat} {a : CAddr} (ha : a ∈ (cellStepM km spec lay params inputs i).foot) :
    a = CAddr.st i ∨ a = CAddr.out i := by
  simp only [cellStepM, Step.foot, List.mem_append, List.mem_cons, List.not_mem_nil, or_false] at ha
  rcases ha with (e | e) | (e | e) <;> simp [e]

/-- **T3 `cells_disjoint`.** For `i ≠ j` the step of cell `i` (reads and writes its own state row and output rows,
nothing else in the shared arrays) and the step of cell `j` do not conflict. -/
theorem cells_disjoint (i j : Nat) (h : i ≠ j) :
    NoConflict (cellStepM km spec lay params inputs i) (cellStepM km spec lay params inputs j) :=
  ⟨writesAvoid_of_rows h (fun _ => foot_cellStepM) (fun _ => foot_cellStepM),
    writesAvoid_of_rows (Ne.symm h) (fun _ => foot_cellStepM) (fun _ => foot_cellStepM)⟩

variable {km spec lay params inputs} in
theorem seq_eq_runCells {cells : List (List α)} {outs : List (List (List α))} {ss : List (List α)}
    {os : List (List (List α))} (h : runCells km spec lay params inputs 0 cells outs = .ok (ss, os)) :
    runList ((List.range cells.length).map (cellStepM km spec lay params inputs)) (memOf cells outs) = memOf ss os := by
  obtain ⟨hl1, hl2, hle, hstep, hrest⟩ := OW.Props.C04.runCells_spec km spec lay params inputs cells outs 0 ss os h
  refine runList_family_eq _ (cells_disjoint km spec lay params inputs) _ _ _ (fun k hk a ha => ?_) (fun a ha => ?_)
  · -- cell `k` alone, on its initial rows: `cellStep` gives its final rows
    have hko : k < outs.length := by omega
    obtain ⟨s', o', hc, hs', ho'⟩ := hstep k hk hko
    rw [Nat.zero_add] at hc
    show cellRun km spec lay params inputs k (memOf cells outs) a = _
    simp only [cellRun, memOf, List.getElem?_eq_getElem hk, List.getElem?_eq_getElem hko, cellNew, hc]
    rcases foot_cellStepM (List.mem_append_right _ ha) with rfl | rfl <;> simp [upd, hs', ho']
  · -- a row no cell writes is a row `≥ N`
    have hi : ∀ i, (a = .st i ∨ a = .out i) → cells.length ≤ i := fun i e =>
      Nat.le_of_not_lt fun hlt => ha i hlt (by rcases e with rfl | rfl <;> simp [cellStepM])
    cases a with
    | st i => simp only [memOf, List.getElem?_eq_none (hi i (.inl rfl)), List.getElem?_eq_none (hl1 ▸ hi i (.inl rfl))]
    | out i => simp only [memOf, hrest i (hi i (.inr rfl))]

/-- **T3 `cells_schedule_independent` (permutation form).** If the vectorised run of the model succeeds with result
`(ss, os)`, then running the per-cell steps in ANY order `perm` (any permutation of `0 … N-1`) on the initial arrays
produces exactly the arrays `(ss, os)` of `runCells`, the sequential cell-by-cell result. -/
theorem cells_schedule_independent (cells : List (List α)) (outs : List (List (List α))) (ss : List (List α))
    (os : List (List (List α))) (h : runCells km spec lay params inputs 0 cells outs = .ok (ss, os))
    (perm : List Nat) (hp : perm.Perm (List.range cells.length)) :
    runList (perm.map (cellStepM km spec lay params inputs)) (memOf cells outs) = memOf ss os := by
  rw [perm_runList (cellStepM km spec lay params inputs) (cells_disjoint km spec lay params inputs) hp
    (hp.nodup_iff.mpr List.nodup_range)]
  exact seq_eq_runCells h

/-- **T3 `cells_any_interleaving` (through T2).** Every interleaving of the cells' tasks — every schedule of the
goroutines at the granularity of the footprints — ends in the memory image of `runCells`' result.
Granularity: one atomic step per cell; `refined_cells_any_interleaving` (below) removes that.
Row width: the statement is about the list-level model, whose `overwrite` TRUNCATES a state vector longer than the cell's
row; the code copies on into the next cell's row there (overlapping footprints, schedule-dependent states: known findings
KF-C05-GR4J/Lag-InitialiseStates-row-width). Model = code needs `r.states.length ≤ st.length` for every cell — listed in
the check's `assumptions`. -/
theorem cells_any_interleaving (cells : List (List α)) (outs : List (List (List α))) (ss : List (List α))
    (os : List (List (List α))) (h : runCells km spec lay params inputs 0 cells outs = .ok (ss, os))
    (sched : Sched CAddr (CVal α)) (hi : Interleaving (cellTasks km spec lay params inputs cells.length) sched) :
    runSched sched (memOf cells outs) = memOf ss os := by
  rw [family_any_interleaving _ (cells_disjoint km spec lay params inputs) cells.length sched hi]
  exact seq_eq_runCells h

/-- … read as arrays: if a schedule's final memory is the image of arrays `(ss', os')`, these are `runCells`' arrays -/
theorem cells_any_interleaving_arrays (cells : List (List α)) (outs : List (List (List α))) (ss ss' : List (List α))
    (os os' : List (List (List α))) (h : runCells km spec lay params inputs 0 cells outs = .ok (ss, os))
    (sched : Sched CAddr (CVal α)) (hi : Interleaving (cellTasks km spec lay params inputs cells.length) sched)
    (hm : runSched sched (memOf cells outs) = memOf ss' os') : ss' = ss ∧ os' = os := by
  rw [cells_any_interleaving km spec lay params inputs cells outs ss os h sched hi] at hm
  obtain ⟨a, b⟩ := memOf_inj hm
  exact ⟨a.symm, b.symm⟩

/-- **`pool_cells_any_interleaving`.** A bounded worker pool over the cells of one `Run`: `groups[w]` are the cell
indices worker `w` received, in the order it received them, and together they are exactly `0 … N-1`, each once (the
channel was filled with exactly these and every value sent is received once). Then EVERY interleaving of the workers
— every schedule of the pool at the granularity of the footprints, whatever the number of workers and whichever
worker got which cell — ends in the memory image of `runCells`' result, the sequential cell-by-cell run. -/
theorem pool_cells_any_interleaving (cells : List (List α)) (outs : List (List (List α))) (ss : List (List α))
    (os : List (List (List α))) (h : runCells km spec lay params inputs 0 cells outs = .ok (ss, os))
    (groups : List (List Nat)) (hp : groups.flatten.Perm (List.range cells.length))
    (sched : Sched CAddr (CVal α))
    (hi : Interleaving (groups.map (workerTask (cellTasks km spec lay params inputs cells.length))) sched) :
    runSched sched (memOf cells outs) = memOf ss os := by
  rw [family_pool_any_interleaving _ (cells_disjoint km spec lay params inputs) cells.length groups hp sched hi]
  exact seq_eq_runCells h

/-- **`refined_cells_any_interleaving`.** The goroutine of cell `i` need not be ONE atomic step (`cellStepM`, the
granularity of `cells_any_interleaving`): take ANY splitting of it into a list of atomic steps `tasks[i]` — element reads
of the state row, kernel arithmetic, element writes into the output rows, in any number — such that
* every step's declared footprint (reads and writes) lies inside the cell's own rows `{st i, out i}`, and
* run one after the other WITHOUT interference, the steps of the task have the effect of `cellStepM … i`.
Then EVERY interleaving of the steps of all cells (every schedule preserving each goroutine's own order) ends in the
memory image of `runCells`' result, the sequential cell-by-cell run. (A corollary of `disjoint_interleaving`: the
atomicity of the per-cell step in `CellTasks` is not needed for schedule independence.) -/
theorem refined_cells_any_interleaving (cells : List (List α)) (outs : List (List (List α))) (ss : List (List α))
    (os : List (List (List α))) (h : runCells km spec lay params inputs 0 cells outs = .ok (ss, os))
    (tasks : List (Task CAddr (CVal α))) (hlen : tasks.length = cells.length)
    (hfoot : ∀ (i : Nat) (t : Task CAddr (CVal α)), tasks[i]? = some t → ∀ s : Step CAddr (CVal α), s ∈ t →
      ∀ a : CAddr, a ∈ s.foot → a = CAddr.st i ∨ a = CAddr.out i)
    (hseq : ∀ (i : Nat) (t : Task CAddr (CVal α)), tasks[i]? = some t →
      ∀ m, runList t m = (cellStepM km spec lay params inputs i).run m)
    (sched : Sched CAddr (CVal α)) (hi : Interleaving tasks sched) :
    runSched sched (memOf cells outs) = memOf ss os := by
  rw [refines_family_any_interleaving _ tasks (fun i j ti tj hti htj hij s hs t ht =>
    writesAvoid_of_rows hij (hfoot i ti hti s hs) (hfoot j tj htj t ht)) hseq sched hi, hlen]
  exact seq_eq_runCells h

/-- non-vacuity: the one-step tasks of `CellTasks` meet the hypotheses (so the theorem generalises
`cells_any_interleaving`) … -/
example (cells : List (List α)) (outs : List (List (List α))) (ss : List (List α))
    (os : List (List (List α))) (h : runCells km spec lay params inputs 0 cells outs = .ok (ss, os))
    (sched : Sched CAddr (CVal α)) (hi : Interleaving (cellTasks km spec lay params inputs cells.length) sched) :
    runSched sched (memOf cells outs) = memOf ss os :=
  refined_cells_any_interleaving km spec lay params inputs cells outs ss os h _ (by simp [cellTasks])
    (fun i t ht s hs a ha => by
      obtain ⟨_, rfl⟩ := eq_of_getElem?_range_map ht
      cases List.mem_singleton.mp hs
      exact foot_cellStepM ha)
    (fun i t ht m => by
      obtain ⟨_, rfl⟩ := eq_of_getElem?_range_map ht
      rfl)
    sched hi

/-- … and so does a genuinely split task: the cell's step followed by a second step that re-reads and rewrites the
cell's own state row unchanged (two atomic steps per goroutine) -/
def touchSt (i : Nat) : Step CAddr (CVal α) :=
  Step.ofFun [.st i] [.st i] (fun m a => m a) (fun m m' h a ha => h a (by simp [ha]))

example (cells : List (List α)) (outs : List (List (List α))) (ss : List (List α))
    (os : List (List (List α))) (h : runCells km spec lay params inputs 0 cells outs = .ok (ss, os))
    (sched : Sched CAddr (CVal α))
    (hi : Interleaving ((List.range cells.length).map fun i => [cellStepM km spec lay params inputs i, touchSt i]) sched) :
    runSched sched (memOf cells outs) = memOf ss os :=
  refined_cells_any_interleaving km spec lay params inputs cells outs ss os h _ (by simp)
    (fun i t ht s hs a ha => by
      obtain ⟨_, rfl⟩ := eq_of_getElem?_range_map ht
      simp only [List.mem_cons, List.not_mem_nil, or_false] at hs
      rcases hs with rfl | rfl
      · exact foot_cellStepM ha
      · simp only [touchSt, Step.ofFun, Step.foot, List.mem_append, List.mem_singleton, or_self] at ha
        exact Or.inl ha)
    (fun i t ht m => by
      obtain ⟨_, rfl⟩ := eq_of_getElem?_range_map ht
      funext a
      simp [touchSt, Step.ofFun])
    sched hi

end Cells

section Join
open OW.Sim.Join

/-- **T4a `sender_never_stuck`.** In every reachable state, a goroutine that is blocked at its send can complete it
right now: the parent still has a receive to do. (So no sender is blocked forever, whatever the other goroutines do.) -/
theorem sender_never_stuck (n : Nat) (s : St) (hr : Reach n s) (i : Nat) (hi : s.ph[i]? = some .ready) :
    ∃ t, Trans s t ∧ t.ph[i]? = some .done := by
  have hlt : s.recvd < s.ph.length := by
    rw [reach_inv hr, sumf_isDone]
    exact Nat.lt_of_le_of_ne List.count_le_length fun e =>
      nomatch List.count_eq_length.mp e .ready (List.mem_of_getElem? hi)
  exact ⟨_, Trans.rendezvous s i hi hlt, List.getElem?_set_self (lt_length_of_getElem? hi)⟩

/-- **T4b `join_progress`.** Deadlock freedom: every reachable state in which not all goroutines are done has a
successor. -/
theorem join_progress (n : Nat) (s : St) (hr : Reach n s) (hnd : ¬ AllDone s) : ∃ t, Trans s t := by
  have : ∃ p, p ∈ s.ph ∧ p ≠ .done := Decidable.byContradiction fun hne =>
    hnd fun p hp => Decidable.byContradiction fun hpd => hne ⟨p, hp, hpd⟩
  obtain ⟨p, hp, hpd⟩ := this
  obtain ⟨i, hi⟩ := List.mem_iff_getElem?.mp hp
  cases p with
  | running => exact ⟨_, Trans.finish s i hi⟩
  | ready =>
    obtain ⟨t, ht, _⟩ := sender_never_stuck n s hr i hi
    exact ⟨t, ht⟩
  | done => exact absurd rfl hpd

theorem terminal_iff_allDone {n : Nat} {s : St} (hr : Reach n s) : Terminal s ↔ AllDone s := by
  unfold Terminal
  rw [reach_inv hr, sumf_isDone, List.count_eq_length]
  exact forall₂_congr fun _ _ => eq_comm

/-- at the very moment of the parent's N-th receive no goroutine is still running -/
theorem last_receive_after_all_finished (n : Nat) (s t : St) (hr : Reach n s) (h : Trans s t)
    (hN : t.recvd = n) : ∀ p, p ∈ s.ph → p ≠ .running := by
  have hrt : Reach n t := Reach.step hr h
  have hall := (terminal_iff_allDone hrt).mp (hN.trans (reach_length hrt).symm)
  intro p hp hrun
  subst hrun
  -- `t.ph` is `s.ph` with entry `i` changed, and all of `t.ph` is `done`: a `running` entry of `s.ph` must be entry `i`
  obtain ⟨j, hj⟩ := List.mem_iff_getElem?.mp hp
  cases h with
  | finish i hi => exact nomatch hall .ready (List.mem_of_getElem? (List.getElem?_set_self (lt_length_of_getElem? hi)))
  | rendezvous i hi hlt =>
    by_cases hij : i = j
    · rw [hij, hj] at hi
      cases hi
    · exact nomatch hall .running (List.mem_of_getElem? ((List.getElem?_set_ne hij).trans hj))

/-- **T4 `join_complete`.** For EVERY number `n` of goroutines (induction, not a bounded check): from the initial
state (all running, no receive done)
1. every execution has at most `2n` transitions (each goroutine finishes once and sends once);
2. every reachable state that is not all-done has a successor (no deadlock; in particular a blocked sender can
   always proceed — `sender_never_stuck`), so executions can only stop in an all-done state;
3. every execution of `2n` transitions ends in the terminal state: the parent has done its `n` receives and all
   goroutines are done;
4. the parent's `n`-th receive is completed only in reachable states where all goroutines have finished,
5. and in every reachable state where all have finished it is completed (`terminal_iff_allDone`).
(About the number of transitions, what is stated is `≤ 2n` and that `2n` transitions end in the terminal state; that an
execution which stops has exactly `2n` is not a clause.) -/
theorem join_complete (n : Nat) :
    (∀ t k, Path (init n) t k → k ≤ 2 * n) ∧
    (∀ s, Reach n s → ¬ AllDone s → ∃ t, Trans s t) ∧
    (∀ t, Path (init n) t (2 * n) → Terminal t ∧ AllDone t) ∧
    (∀ s, Reach n s → Terminal s → AllDone s) ∧
    (∀ s, Reach n s → AllDone s → Terminal s) := by
  have hm0 : remaining (init n) = 2 * n := (sumf_replicate weight .running n).trans (Nat.mul_comm n 2)
  refine ⟨?_, join_progress n, ?_, fun s hr => (terminal_iff_allDone hr).mp,
    fun s hr => (terminal_iff_allDone hr).mpr⟩
  · intro t k hp
    have := path_measure hp
    omega
  · intro t hp
    have hmt := path_measure hp
    have hr : Reach n t := path_reach Reach.init hp
    have hall : AllDone t := weight_zero_allDone t.ph (by unfold remaining at hmt hm0; omega)
    exact ⟨(terminal_iff_allDone hr).mpr hall, hall⟩

end Join

section JoinWG
open OW.Sim.JoinWG

theorem wg_progress (n : Nat) (s : St) (hr : Reach n s) (hw : s.waited = false) : ∃ t, Trans s t := by
  by_cases h0 : count s.running = 0
  · exact ⟨_, Trans.wait s ((wg_reach_inv hr).1.trans h0) hw⟩
  · obtain ⟨i, hi⟩ := count_pos_iff.mp (Nat.pos_of_ne_zero h0)
    exact ⟨_, Trans.done s i hi⟩

theorem wg_wait_only_after_all_done (n : Nat) (s : St) (hr : Reach n s) (hw : s.waited = true) : AllDone s := by
  have h0 : true ∉ s.running := List.count_eq_zero.mp ((count_eq _).symm.trans ((wg_reach_inv hr).2 hw))
  intro b hb
  cases b with
  | false => rfl
  | true => exact absurd hb h0

/-- **T4' `wg_join_complete`.** The `sync.WaitGroup` join (`Add(n)` before the launches, one `Done()` at the end of every
goroutine, `Wait()` after the launch loop), for EVERY number `n` of goroutines: from the initial state (counter `n`, all running)
1. every execution has at most `n + 1` transitions (each goroutine calls `Done()` once, the parent's `Wait()` returns once);
2. as long as `Wait()` has not returned there is a next step (`Done()` never blocks; `Wait()` is enabled when the counter is 0);
3. every execution of `n + 1` transitions ends with `Wait()` returned and all goroutines done;
4. `Wait()` has returned only in states where every goroutine has called `Done()` — `Run` returns only after all cells finished;
5. the counter never goes negative (a `Done()` always finds it positive). -/
theorem wg_join_complete (n : Nat) :
    (∀ t k, Path (init n) t k → k ≤ n + 1) ∧
    (∀ s, Reach n s → s.waited = false → ∃ t, Trans s t) ∧
    (∀ t, Path (init n) t (n + 1) → t.waited = true ∧ AllDone t) ∧
    (∀ s, Reach n s → s.waited = true → AllDone s) ∧
    (∀ (s : St) (i : Nat), Reach n s → s.running[i]? = some true → 0 < s.counter) := by
  have hm0 : remaining (init n) = n + 1 := congrArg (· + 1) (count_replicate n)
  refine ⟨?_, wg_progress n, ?_, wg_wait_only_after_all_done n,
    fun s i hr hi => (wg_reach_inv hr).1 ▸ count_pos_iff.mpr ⟨i, hi⟩⟩
  · intro t k hp
    have := wg_path_measure hp
    omega
  · intro t hp
    have hmt := wg_path_measure hp
    have h0 : remaining t = 0 := by omega
    have hw : t.waited = true := by
      cases hwt : t.waited with
      | true => rfl
      | false => simp [remaining, hwt] at h0
    exact ⟨hw, wg_wait_only_after_all_done n t (wg_path_reach Reach.init hp) hw⟩

end JoinWG

section Examples
open OW OW.Sim OW.Sim.CellTasks OW.Sim.Join

def inc (a : Nat) : Step Nat Nat :=
  Step.ofFun [a] [a] (fun m _ => m a + 1) (by intro m m' h b _; simp [h a (by simp)])
def setOne : Step Nat Nat := Step.ofFun [] [0] (fun _ _ => 1) (by intro _ _ _ _ _; rfl)
def dbl : Step Nat Nat := Step.ofFun [0] [0] (fun m _ => 2 * m 0) (by intro m m' h b _; simp [h 0 (by simp)])

theorem inc_noConflict (i j : Nat) (h : i ≠ j) : NoConflict (inc i) (inc j) := by
  constructor <;> intro a ha <;> simp [inc, Step.ofFun, Step.foot] at ha ⊢ <;> omega

/-- T1's hypothesis is satisfiable … -/
example : NoConflict (inc 0) (inc 1) := inc_noConflict 0 1 (by decide)
example (m : Mem Nat Nat) : (inc 0).run ((inc 1).run m) = (inc 1).run ((inc 0).run m) :=
  steps_commute _ _ (inc_noConflict 0 1 (by decide)) m
/-- … and needed: two steps that write the same address do not commute -/
example : setOne.run (dbl.run (fun _ => 0)) 0 = 1 ∧ dbl.run (setOne.run (fun _ => 0)) 0 = 2 := by
  simp [setOne, dbl, Step.ofFun]

/-- a toy kernel without arithmetic: the output series is the old state row, the new state row is the first input -/
def toyKernel {α : Type} : KModel α :=
  ⟨"toy", fun _ => .ok [], fun _ ins st => .ok { outputs := [st], states := ins.headD [] }⟩

/-- the hypothesis of T3 (`runCells` succeeds) is satisfiable: two cells sharing one input block -/
theorem toy_run {α : Type} [Num α] (a b u v : α) :
    runCells (toyKernel (α := α)) [] [] [] [[[u]]] 0 [[a], [b]] [[[v]], [[v]]] = .ok ([[u], [u]], [[[a]], [[b]]]) := by
  with_unfolding_all rfl

/-- T3 on it: running cell 1 before cell 0 gives the arrays of the sequential run -/
example {α : Type} [Num α] (a b u v : α) :
    runList ([1, 0].map (cellStepM (toyKernel (α := α)) [] [] [] [[[u]]])) (memOf [[a], [b]] [[[v]], [[v]]]) =
      memOf [[u], [u]] [[[a]], [[b]]] :=
  cells_schedule_independent toyKernel [] [] [] [[[u]]] [[a], [b]] [[[v]], [[v]]] _ _ (toy_run a b u v) [1, 0]
    (List.Perm.swap 0 1 [])

/-- T2's hypotheses are satisfiable by a non-sequential schedule: cell 1's goroutine runs first -/
example {α : Type} [Num α] (a b u v : α) :
    runSched [(1, cellStepM (toyKernel (α := α)) [] [] [] [[[u]]] 1), (0, cellStepM toyKernel [] [] [] [[[u]]] 0)]
        (memOf [[a], [b]] [[[v]], [[v]]]) = memOf [[u], [u]] [[[a]], [[b]]] := by
  apply cells_any_interleaving toyKernel [] [] [] [[[u]]] [[a], [b]] [[[v]], [[v]]] _ _ (toy_run a b u v)
  exact .step 1 _ [] rfl (.step 0 _ [] rfl (.done fun t ht => ((List.mem_replicate (n := 2)).mp ht).2))

/-- every list of tasks has at least one interleaving (the sequential one) -/
example {Addr Val : Type} (ts : List (Task Addr Val)) : Interleaving ts (seqSched 0 ts) := by
  simpa using seqSched_interleaving ts 0

/-- T4: a concrete execution for two goroutines: 1 finishes, 0 finishes, 1 sends, 0 sends — the parent returns -/
example : Path (Join.init 2) ⟨[.done, .done], 2⟩ 4 :=
  Path.snoc (Path.snoc (Path.snoc (Path.snoc (Path.nil _)
    (Trans.finish (Join.init 2) 1 rfl))
    (Trans.finish ⟨[.running, .ready], 0⟩ 0 rfl))
    (Trans.rendezvous ⟨[.ready, .ready], 0⟩ 1 rfl (by decide)))
    (Trans.rendezvous ⟨[.ready, .done], 1⟩ 0 rfl (by decide))
/-- before all goroutines are done the parent has not returned: a state with `recvd = 2` and a running goroutine is
not reachable -/
example : ¬ Reach 2 ⟨[.running, .done], 2⟩ := by
  intro h
  have := (terminal_iff_allDone h).mp rfl
  have := this .running (by simp)
  cases this
/-- the guard `recvd < N` of the rendezvous is what a missing receive would change: in the state where the parent
has already done all the receives it is going to do, a goroutine still waiting at its send has no transition — which
is why the run facts insist on exactly one receive per launched goroutine (`recvPerIter = 1`, `sameBound`) -/
example : ¬ ∃ t, Trans ⟨[.done, .ready], 2⟩ t := by
  intro ⟨t, h⟩
  cases h with
  | finish i hi => exact absurd (List.mem_of_getElem? hi) (by decide)
  | rendezvous i hi hlt => exact absurd hlt (by decide)

/-- `workers_disjoint`: its hypotheses are satisfiable — three disjoint one-step cells, worker 0 got cells 0 and 2,
worker 1 got cell 1 -/
example : TasksDisjoint ([[0, 2], [1]].map (workerTask [[inc 0], [inc 1], [inc 2]])) :=
  workers_disjoint _ (singles_disjoint inc inc_noConflict 3) _ (groups_distinct [[0, 2], [1]] (by decide))

/-- `pool_cells_any_interleaving` on the toy kernel: ONE worker that received cell 1 and then cell 0 -/
example {α : Type} [Num α] (a b u v : α) :
    runSched [(0, cellStepM (toyKernel (α := α)) [] [] [] [[[u]]] 1), (0, cellStepM toyKernel [] [] [] [[[u]]] 0)]
        (memOf [[a], [b]] [[[v]], [[v]]]) = memOf [[u], [u]] [[[a]], [[b]]] := by
  apply pool_cells_any_interleaving toyKernel [] [] [] [[[u]]] [[a], [b]] [[[v]], [[v]]] _ _ (toy_run a b u v) [[1, 0]]
    (List.Perm.swap 0 1 [])
  show Interleaving [workerTask (cellTasks (toyKernel (α := α)) [] [] [] [[[u]]] 2) [1, 0]] _
  rw [show workerTask (cellTasks (toyKernel (α := α)) [] [] [] [[[u]]] 2) [1, 0] =
      [cellStepM toyKernel [] [] [] [[[u]]] 1, cellStepM toyKernel [] [] [] [[[u]]] 0] from
    workerTask_singles _ 2 [1, 0] (by decide)]
  exact .step 0 _ _ rfl (.step 0 _ [] rfl (.done fun t ht => List.mem_singleton.mp ht))

/-- T4': a concrete execution for two goroutines: 1 calls `Done()`, 0 calls `Done()`, the parent's `Wait()` returns -/
example : OW.Sim.JoinWG.Path (OW.Sim.JoinWG.init 2) ⟨[false, false], 0, true⟩ 3 :=
  .snoc (.snoc (.snoc (.nil _) (.done _ 1 rfl)) (.done _ 0 rfl)) (.wait _ rfl rfl)
/-- before every goroutine has called `Done()` the parent's `Wait()` has not returned -/
example : ¬ OW.Sim.JoinWG.Reach 2 ⟨[true, false], 1, true⟩ := by
  intro h
  have := wg_wait_only_after_all_done 2 _ h rfl
  exact absurd (this true (by simp)) (by decide)
/-- the guard "counter = 0" of `Wait()` is what a wrong `Add` count would change: with `Add(1)` for two goroutines the
counter reaches zero — and `Wait()` is enabled — while a goroutine is still running; which is why the run facts insist on
the `Add` count being the launch count (`sameBound`) -/
example : ∃ t, OW.Sim.JoinWG.Trans ⟨[true, false], 0, false⟩ t ∧ t.waited = true := ⟨_, .wait _ rfl rfl, rfl⟩

end Examples

end OW.Props.C05
