import OW.Props.C16.Conversion
import OW.Props.C16.Partition
import OW.Props.C16.LoadGen
import OW.Props.C16.Sediment
import OW.Props.C16.Usle
/-!
C16 — partition, conversion and generation models satisfy their algebraic identities.
-/
