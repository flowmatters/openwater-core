import OW.Proofs.C12Decay
import OW.Proofs.C12Trapping
import OW.Proofs.C12PN
import OW.Proofs.C12FineExamples
import OW.Proofs.C12Zip
/-!
# C12 — constituent transport and trapping models conserve mass

Theorems over the kernel models of `OW/Kernels/{LumpedConstituent, ConstituentDecay, InstreamCoarseSediment,
InstreamFineSediment, InstreamParticulateNutrient, StorageParticulateTrapping, StorageTrapAll,
StorageDissolvedDecay}.lean` instantiated at `ℝ` (exact arithmetic; the non-negativity clauses that survive rounding are
re-proved for every rounding in OW/Props/Rounded/C12.lean, the budgets are compared with the float64 code by execution only).

Shape of every `budget_M`: for EVERY input list `xs` and EVERY initial state (so also for every prefix of every run —
`prefix_run_outputs`: the outputs of the run on `xs.take n` are the first `n` outputs of the run on `xs`)

    stored₀ + Σ massIn·Δt = stored_final + Σ (massOut·Δt + deposited/trapped/decayed/floodplain + flushed)

where `flushed` is the ghost output of the model's minimum-volume branch, together with the statement that `flushed`
can be non-zero only on a step whose working volume is below the threshold. A division that a budget identity cancels
has its divisor proved non-zero inside the proof (branch condition or hypothesis); the results of the other divisions
enter the budgets as opaque values, and `divisors_pos_*` state the parameter ranges under which those divisors are positive
(facts about numbers: they do not mention the kernels; which division site each speaks of is said in its doc-comment only).
`nonneg_M`: loads and stores stay non-negative for non-negative inputs and parameters in range.
Each pair `budget_M`, `nonneg_M` is the kernel's one-step theorem lifted to runs: by `MassStep.run` (OW/Proofs/C12Mix.lean)
where the step is a `MassStep` (for InstreamParticulateNutrient inside its record `PNStep`, whose channel-store clauses are
lifted apart), by the lemmas under it (`scan_mass`, `scan_mass_eq`, `scan_io`, `scan_io'`, `scan_rel`, `scan_run'`: OW/Proofs/Scan.lean,
ScanBudget.lean) where it is not (the record `FineStep`, the theorem `trapping_step`).
ASSUMPTION "equal series lengths". The theorems quantify over the list `xs` of per-step input tuples. `KModel.run`
builds it from the input series with `zip3/zip4/zip5/zipIn`, which TRUNCATE to the shortest series, where the Go
kernel loops to the length of its first series and panics (`index out of range`) on a shorter one. So the theorems
speak about calls whose input series have one common length — which is every `xs` (`zip3_columns` … `zipIn_columns`: each `xs` is the
zip of its own columns; `zip3_faithful` … `zipIn_faithful`: for equal lengths the zip has that length and those columns) — and say
nothing about calls with unequal lengths (there the model is shorter than the code's panic; the generated wrapper
never makes such a call: the series of a cell are rows of one `[cell, input, time]` array). This is an argument about
the statements, not a Lean statement: no theorem here composes a `zipN` lemma with a budget (OW/Proofs/C12Zip.lean is
imported so that a reader has the lemmas at hand; nothing below uses it). `StorageTrapAll` reads one
series only and is stated on `model.run` itself.
-/
namespace OW.Props.C12
open OW OW.Kernels OW.C12

/-- Running a kernel loop on a prefix of the inputs yields the prefix of the outputs, so each
`budget_M`/`nonneg_M` below (stated for an arbitrary input list) holds for every prefix of every run. -/
theorem prefix_run_outputs {σ ι ο : Type} (step : σ → ι → σ × ο) (s : σ) (xs : List ι) (n : Nat) :
    (scan step s (xs.take n)).2 = (scan step s xs).2.take n :=
  scan_take step s xs n

/-! ## LumpedConstituentRouting (inputs: inflowLoad, lateralLoad, outflow, storage) -/

/-- No hypothesis: any point input, time step, initial store and input series.
Mass in (inflow + lateral + point source)·Δt plus the initial store = final store + Σ (downstream load·Δt + flushed);
`flushed ≠ 0` only where `outflow·Δt + storage < 0.01` (MINIMUM_VOLUME). -/
theorem budget_LumpedConstituentRouting (pointInput dt s0 : ℝ) (xs : List (ℝ × ℝ × ℝ × ℝ)) :
    s0 + (xs.map fun x => (x.1 + x.2.1 + pointInput) * dt).sum =
      (LumpedConstituent.run pointInput dt s0 xs).1 +
        ((LumpedConstituent.run pointInput dt s0 xs).2.map fun o => o.outflowLoad * dt + o.flushed).sum ∧
    List.Forall₂ (fun x o => o.flushed ≠ 0 → x.2.2.1 * dt + x.2.2.2 < 0.01) xs
      (LumpedConstituent.run pointInput dt s0 xs).2 :=
  (MassStep.run (lumped_step pointInput dt) xs s0).1

/-- Non-negative point input, Δt, initial store and inputs ⇒ the store, every
downstream load and every flushed amount are non-negative. -/
theorem nonneg_LumpedConstituentRouting (pointInput dt s0 : ℝ) (xs : List (ℝ × ℝ × ℝ × ℝ))
    (hpi : 0 ≤ pointInput) (hdt : 0 ≤ dt) (hs : 0 ≤ s0)
    (hx : ∀ x ∈ xs, 0 ≤ x.1 ∧ 0 ≤ x.2.1 ∧ 0 ≤ x.2.2.1 ∧ 0 ≤ x.2.2.2) :
    0 ≤ (LumpedConstituent.run pointInput dt s0 xs).1 ∧
    ∀ o ∈ (LumpedConstituent.run pointInput dt s0 xs).2, 0 ≤ o.outflowLoad ∧ 0 ≤ o.flushed :=
  (MassStep.run (lumped_step pointInput dt) xs s0).2 ⟨hpi, hdt⟩ hs hx

/-- the concentration divisor of the lumped model (also used by the dissolved and fine-sediment models) is positive
on the branch that divides -/
theorem divisors_pos_LumpedConstituentRouting (dt q v : ℝ) (h : ¬ q * dt + v < 0.01) : 0 < q * dt + v :=
  pos_of_not_lt_min h

/-- non-vacuity: a wet step followed by a step below the minimum volume; the second step flushes 500 kg -/
example :
    ((LumpedConstituent.run 0 10 0 [((100 : ℝ), 0, 5, 50), (0, 0, 0, 0)]).2.map fun o => o.flushed) = [0, 500] ∧
    ((LumpedConstituent.run 0 10 0 [((100 : ℝ), 0, 5, 50), (0, 0, 0, 0)]).2.map fun o => o.outflowLoad) = [50, 0] := by
  simp only [LumpedConstituent.run, scan, lumped_step_eq, mix, List.map_cons, List.map_nil]
  norm_num

example : 0 ≤ (LumpedConstituent.run 0.1 86400 3 [((1 : ℝ), 2, 0.5, 1000), (0, 0, 0, 0)]).1 :=
  (nonneg_LumpedConstituentRouting 0.1 86400 3 _ (by norm_num) (by norm_num) (by norm_num)
    (List.forall_mem_cons.mpr ⟨by norm_num, List.forall_mem_cons.mpr ⟨by norm_num, fun _ h => absurd h List.not_mem_nil⟩⟩)).1

/-! ## ConstituentDecay (inputs: inflowLoad, lateralLoad, inflow, outflow, storage) -/

/-- Hypothesis: Δt ≠ 0 (the divisor of `decayedLoad = decayedAmount/Δt`; the half-life
divides only on the branch `halflife > 0`, the working volume only on the branch `≥ 0.01`). Any half-life (decay on or
off), any store, any inputs. -/
theorem budget_ConstituentDecay (halflife dt s0 : ℝ) (xs : List (ℝ × ℝ × ℝ × ℝ × ℝ)) (hdt : dt ≠ 0) :
    s0 + (xs.map fun x => x.1 * dt + x.2.1 * dt).sum =
      (ConstituentDecay.run halflife dt s0 xs).1 +
        ((ConstituentDecay.run halflife dt s0 xs).2.map fun o =>
          o.outflowLoad * dt + o.decayedLoad * dt + o.flushed).sum ∧
    List.Forall₂ (fun x o => o.flushed ≠ 0 → x.2.2.2.1 * dt + x.2.2.2.2 < 0.01) xs
      (ConstituentDecay.run halflife dt s0 xs).2 :=
  (MassStep.run (decay_step halflife dt hdt) xs s0).1

/-- Δt > 0, non-negative store and inputs ⇒ store, downstream load, decayed load and
flushed amount non-negative (uses `0 < 2^(−Δt/halflife) ≤ 1`). -/
theorem nonneg_ConstituentDecay (halflife dt s0 : ℝ) (xs : List (ℝ × ℝ × ℝ × ℝ × ℝ)) (hdt : 0 < dt) (hs : 0 ≤ s0)
    (hx : ∀ x ∈ xs, 0 ≤ x.1 ∧ 0 ≤ x.2.1 ∧ 0 ≤ x.2.2.2.1 ∧ 0 ≤ x.2.2.2.2) :
    0 ≤ (ConstituentDecay.run halflife dt s0 xs).1 ∧
    ∀ o ∈ (ConstituentDecay.run halflife dt s0 xs).2, 0 ≤ o.outflowLoad ∧ 0 ≤ o.decayedLoad ∧ 0 ≤ o.flushed :=
  (MassStep.run (decay_step halflife dt hdt.ne') xs s0).2 hdt.le hs hx

/-- non-vacuity: half-life = Δt halves the store: 8 kg stored, nothing coming in, no water ⇒ 4 kg decayed (rate 4/Δt),
4 kg flushed -/
example :
    ((ConstituentDecay.run 2 2 8 [((0 : ℝ), 0, 0, 0, 0)]).2.map fun o => (o.decayedLoad, o.flushed)) = [(2, 4)] := by
  simp only [ConstituentDecay.run, scan, ConstituentDecay.step, ConstituentDecay.decay, ConstituentDecay.minimumVolume,
    realnum]
  have h : ((2.0 : ℝ)) ^ (-(2 : ℝ) / 2) = 1 / 2 := by
    rw [show (-(2 : ℝ) / 2) = -1 by norm_num, show ((2.0 : ℝ)) = 2 by norm_num, Real.rpow_neg_one]; norm_num
  norm_num [h]

example : 0 ≤ (ConstituentDecay.run 86400 86400 3 [((1 : ℝ), 2, 7, 0.5, 1000)]).1 :=
  (nonneg_ConstituentDecay 86400 86400 3 _ (by norm_num) (by norm_num)
    (List.forall_mem_cons.mpr ⟨by norm_num, fun _ h => absurd h List.not_mem_nil⟩)).1

/-! ## InstreamCoarseSediment (inputs: upstreamMass, lateralMass, reachLocalMass; state: channelStore, storedMass) -/

/-- No hypothesis. Everything that enters (and anything stored in-stream) ends in
the channel store; the downstream load is identically 0. -/
theorem budget_InstreamCoarseSediment (dt : ℝ) (st : ℝ × ℝ) (xs : List (ℝ × ℝ × ℝ)) :
    st.1 + st.2 + (xs.map fun x => (x.1 + x.2.1 + x.2.2) * dt).sum =
      (InstreamCoarseSediment.run dt st xs).1.1 + (InstreamCoarseSediment.run dt st xs).1.2 +
        ((InstreamCoarseSediment.run dt st xs).2.map fun o => o.loadDownstream * dt).sum ∧
    List.Forall₂ (fun _ o => o.loadDownstream = 0) xs (InstreamCoarseSediment.run dt st xs).2 :=
  (MassStep.run (coarse_step dt) xs st).1

/-- Δt ≥ 0, non-negative stores and inputs ⇒ both stores and the deposited mass stay non-negative. -/
theorem nonneg_InstreamCoarseSediment (dt : ℝ) (st : ℝ × ℝ) (xs : List (ℝ × ℝ × ℝ)) (hdt : 0 ≤ dt)
    (h1 : 0 ≤ st.1) (h2 : 0 ≤ st.2) (hx : ∀ x ∈ xs, 0 ≤ x.1 ∧ 0 ≤ x.2.1 ∧ 0 ≤ x.2.2) :
    0 ≤ (InstreamCoarseSediment.run dt st xs).1.1 ∧ 0 ≤ (InstreamCoarseSediment.run dt st xs).1.2 ∧
    ∀ o ∈ (InstreamCoarseSediment.run dt st xs).2, 0 ≤ o.loadDownstream ∧ 0 ≤ o.deposited :=
  and_assoc.mp ((MassStep.run (coarse_step dt) xs st).2 hdt ⟨h1, h2⟩ hx)

example : (InstreamCoarseSediment.run 10 (5, 7) [((1 : ℝ), 2, 3)]).1 = (72, 0) := by
  simp only [InstreamCoarseSediment.run, scan, coarse_step_eq]
  norm_num

/-! ## InstreamFineSediment (inputs: upstreamMass, lateralMass, reachLocalMass, reachVolume, outflow;
state: channelStoreFine, totalStoredMass) -/

open InstreamFineSediment (Params) in
/-- Hypothesis: Δt ≠ 0 (divisor of `loadToFloodplain`). Both paths (bank-full flow ≤ 1e-8: lumped routing of everything
that enters; otherwise floodplain deposition and channel-store exchange), any parameters, stores, inputs. With `start` = the state the loop starts from (a negative
initial channel store is read as a proportion of the maximum):
* in-stream: `stored₀ + Σ(up+lat+local)·Δt = stored_final + Σ(down·Δt + floodplain·Δt + netChannelDeposition + flushed)`
* channel + in-stream together: `channel₀ + stored₀ + Σ in = channel_final + stored_final + Σ(down·Δt + floodplain·Δt + flushed)`
* `flushed ≠ 0` only below the minimum volume — on the main path only with no water at all.

Divisors. The identity cancels three divisions, each with a divisor that is non-zero in the proof: Δt (`fp/Δt·Δt = fp`),
`totalVolume` on the branch `totalVolume > 0` of the main path, the working volume on the branch `¬ workingVol < 0.01` of
the bank-full-flow-0 path (`lumped_step`). The results of `floodPlainDepositionEmperical` (divisors `outflow`,
`outflow − bankFullFlow`) and `inChannelStorage` (divisor `v·width^0.4·n^0.6`, twice) are opaque values here (`fp`, `net`
of `fine_stepMain_eq`): the identity holds whatever they return, also for a zero velocity, width or roughness, where ℝ's
`x/0 = 0` is finite and float64 gives ±Inf/NaN — there the theorem speaks of the ℝ model only. Those divisors are positive
by the branch conditions (`divisors_branch_InstreamFineSediment`) resp. under `FineRange`
(`divisors_pos_InstreamFineSediment`, assumed by `nonneg_InstreamFineSediment`). -/
theorem budget_InstreamFineSediment (p : Params ℝ) (st : ℝ × ℝ) (xs : List (ℝ × ℝ × ℝ × ℝ × ℝ))
    (hdt : p.durationInSeconds ≠ 0) :
    (InstreamFineSediment.start p st).2 + (xs.map fun x => (x.1 + x.2.1 + x.2.2.1) * p.durationInSeconds).sum =
      (InstreamFineSediment.run p st xs).1.2 +
        ((InstreamFineSediment.run p st xs).2.map fun o =>
          o.loadDownstream * p.durationInSeconds + o.loadToFloodplain * p.durationInSeconds +
          o.loadToChannelDeposition + o.flushed).sum ∧
    (InstreamFineSediment.start p st).1 + (InstreamFineSediment.start p st).2 +
        (xs.map fun x => (x.1 + x.2.1 + x.2.2.1) * p.durationInSeconds).sum =
      (InstreamFineSediment.run p st xs).1.1 + (InstreamFineSediment.run p st xs).1.2 +
        ((InstreamFineSediment.run p st xs).2.map fun o =>
          o.loadDownstream * p.durationInSeconds + o.loadToFloodplain * p.durationInSeconds + o.flushed).sum ∧
    List.Forall₂ (fun x o => o.flushed ≠ 0 →
        x.2.2.2.1 + x.2.2.2.2 * p.durationInSeconds < 0.01 ∧
        (¬ p.bankFullFlow ≤ 1e-8 → x.2.2.2.1 + x.2.2.2.2 * p.durationInSeconds ≤ 0)) xs
      (InstreamFineSediment.run p st xs).2 := by
  unfold InstreamFineSediment.run
  generalize InstreamFineSediment.start p st = s0
  exact ⟨scan_mass (stor := fun s => s.2) fun s x => (fine_step p s x).budget hdt,
    scan_mass (stor := fun s : ℝ × ℝ => s.1 + s.2) fun s x => by
      linear_combination (fine_step p s x).budget hdt - (fine_step p s x).store,
    scan_io' fun s x => (fine_step p s x).flushed⟩

open InstreamFineSediment (Params) in
/-- Non-negativity, and `remob_le_store` at run level. Parameters in range (`FineRange`: flows,
velocities, areas, geometry non-negative, the divisors `fineSedSettVelocity, fineSedReMobVelocity, linkWidth, manningsN`
and Δt positive), non-negative initial in-stream store (on the main path ANY initial channel store: negative means a
proportion; on the bank-full-flow-0 path, which returns it as given, a non-negative one), non-negative inputs. Then at every step of every run: both stores are non-negative, the downstream load, the
floodplain load and the flushed amount are non-negative, the remobilised amount (−net deposition) is at most what the
channel store held before the step, and deposition never takes the store above max(store before, capacity).
`preStates step s xs` (OW/Proofs/Scan.lean) lists the states the steps start from — `s`, the state after the first step, … —
so `sx.1` below is the state before the step that reads `sx.2` and writes `o`. -/
theorem nonneg_InstreamFineSediment (p : Params ℝ) (hr : FineRange p) (st : ℝ × ℝ)
    (xs : List (ℝ × ℝ × ℝ × ℝ × ℝ)) (hs : 0 ≤ st.2) (hcs : p.bankFullFlow ≤ 1e-8 → 0 ≤ st.1)
    (hx : ∀ x ∈ xs, 0 ≤ x.1 ∧ 0 ≤ x.2.1 ∧ 0 ≤ x.2.2.1 ∧ 0 ≤ x.2.2.2.1 ∧ 0 ≤ x.2.2.2.2) :
    0 ≤ (InstreamFineSediment.run p st xs).1.1 ∧ 0 ≤ (InstreamFineSediment.run p st xs).1.2 ∧
    List.Forall₂ (fun (sx : (ℝ × ℝ) × (ℝ × ℝ × ℝ × ℝ × ℝ)) o =>
        0 ≤ o.loadDownstream ∧ 0 ≤ o.loadToFloodplain ∧ 0 ≤ o.flushed ∧
        -o.loadToChannelDeposition ≤ sx.1.1 ∧
        sx.1.1 + o.loadToChannelDeposition ≤ max sx.1.1 (InstreamFineSediment.maxStorage p))
      ((preStates (InstreamFineSediment.step p) (InstreamFineSediment.start p st) xs).zip xs)
      (InstreamFineSediment.run p st xs).2 := by
  unfold InstreamFineSediment.run
  have hstart : 0 ≤ (InstreamFineSediment.start p st).1 ∧ 0 ≤ (InstreamFineSediment.start p st).2 := by
    by_cases hl : p.bankFullFlow ≤ 1e-8
    · rw [(fine_step_lumped p hl).2]; exact ⟨hcs hl, hs⟩
    · rw [(fine_step_main p hl).2]; exact ⟨fine_initStore_nonneg p hr.maxS _, hs⟩
  generalize InstreamFineSediment.start p st = s0 at hstart ⊢
  exact and_assoc.mp (scan_rel (Inv := fun s : ℝ × ℝ => 0 ≤ s.1 ∧ 0 ≤ s.2)
    (fun s x hs hx => (fine_step p s x).nonneg hr hs hx) hstart hx)

open InstreamFineSediment (Params) in
/-- One step, from any state: for parameters in range, a non-negative channel store and mass
present, the amount `inChannelStorage` remobilises (the negated net deposition) never exceeds the channel store, and
the amount it deposits never exceeds the mass present. -/
theorem remob_le_store (q totalVolume mass store w slope n vs vr maxS : ℝ) (hq : 0 ≤ q) (hsl : 0 ≤ slope)
    (hw : 0 < w) (hn : 0 < n) (hvs : 0 < vs) (hvr : 0 < vr) (hm : 0 ≤ mass) (hst : 0 ≤ store) (hmax : 0 ≤ maxS) :
    -(InstreamFineSediment.inChannelStorage q totalVolume mass store w slope n vs vr maxS) ≤ store ∧
    InstreamFineSediment.inChannelStorage q totalVolume mass store w slope n vs vr maxS ≤ mass :=
  ⟨(fine_inChannel_store rfl hst hmax).1, fine_inChannel_le_mass rfl hq hsl hw hn hvs hvr hm hst⟩

/-- the divisors of the fine-sediment formulas are positive for NUMBERS in the stated ranges (this lemma does not
mention the kernel): the transport-capacity divisor `v·width^0.4·n^0.6` for positive velocity, width, roughness —
parameter hypotheses (`FineRange`), the code has no branch protecting it; `outflow` and `Qf = outflow − bankFullFlow`
for `outflow > bankFullFlow > 0` — tied to the kernel's own branch conditions by
`divisors_branch_InstreamFineSediment` below -/
theorem divisors_pos_InstreamFineSediment (v w n q bff : ℝ) (hv : 0 < v) (hw : 0 < w) (hn : 0 < n)
    (hb : 0 < bff) (hq : bff < q) :
    0 < v * w ^ (0.4 : ℝ) * n ^ (0.6 : ℝ) ∧ 0 < q ∧ 0 < q - bff :=
  ⟨fine_stc_divisor_pos v w n hv hw hn, by linarith, by linarith⟩

open InstreamFineSediment (Params) in
/-- the two divisors of the floodplain deposition, from the code's branch conditions only: on the main
path (`¬ bankFullFlow ≤ 1e-8`) the function divides exactly when its guard
`outflow ≤ bankFullFlow || bankFullFlow == 0` is false, and then `outflow > 0` and `Qf = outflow − bankFullFlow > 0`;
when the guard is true it returns the literal 0 without dividing. No parameter range is assumed. -/
theorem divisors_branch_InstreamFineSediment (p : Params ℝ) (hmain : ¬ p.bankFullFlow ≤ 1e-8) (q total : ℝ) :
    (¬ (q ≤ p.bankFullFlow ∨ p.bankFullFlow = 0) → 0 < q ∧ 0 < q - p.bankFullFlow) ∧
    ((q ≤ p.bankFullFlow ∨ p.bankFullFlow = 0) →
      InstreamFineSediment.floodPlainDepositionEmperical q total p.bankFullFlow p.fineSedSettVelocityFlood
        p.floodPlainArea = 0) := by
  exact ⟨fine_floodplain_divisors (fine_bff_pos hmain), fun h => by rw [floodPlain_eq, if_pos h]⟩

/-- non-vacuity of `FineRange` and of the hypotheses of `nonneg_InstreamFineSediment` (a 20 m × 5 km link) -/
example : FineRange (⟨10, 1e-4, 1e6, 20, 5000, 1e-3, 2, 0.5, 1.5, 0.04, 1e-4, 2e-4, 86400⟩ : InstreamFineSediment.Params ℝ) := by
  constructor <;> simp only [InstreamFineSediment.maxStorage, realnum] <;> norm_num

example (p : InstreamFineSediment.Params ℝ) (hr : FineRange p) (hb : ¬ p.bankFullFlow ≤ 1e-8) :
    0 ≤ (InstreamFineSediment.run p (-0.5, 100) [((1 : ℝ), 2, 3, 1000, 12), (0, 0, 0, 0, 0)]).1.1 :=
  (nonneg_InstreamFineSediment p hr (-0.5, 100) _ (by norm_num) (fun h => absurd h hb)
    (List.forall_mem_cons.mpr ⟨by norm_num, List.forall_mem_cons.mpr ⟨by norm_num, fun _ h => absurd h List.not_mem_nil⟩⟩)).1

/-- non-vacuity, branch `fine:remob` (with `fine:noflood`): parameters in `FineRange`; the model's own branch
classifier returns these tags for the step; 950 kg are remobilised (net deposition −950) out of the 1000 kg of the
channel store, uncapped. The budget of `budget_InstreamFineSediment` on these numbers:
`50 + 0 = 900 + (10·10 + 0·10 − 950 + 0)` and `1000 + 50 = 50 + 900 + 10·10`. -/
example :
    FineRange fineRemobParams ∧
    InstreamFineSediment.classify fineRemobParams (InstreamFineSediment.start fineRemobParams (1000, 50))
      (0, 0, 0, 90, 1) = ["fine:noflood", "fine:remob"] ∧
    (InstreamFineSediment.run fineRemobParams (1000, 50) [(0, 0, 0, 90, 1)]).1 = (50, 900) ∧
    (InstreamFineSediment.run fineRemobParams (1000, 50) [(0, 0, 0, 90, 1)]).2.map
      (fun o => (o.loadDownstream, o.loadToFloodplain, o.loadToChannelDeposition, o.flushed)) = [(10, 0, -950, 0)] :=
  ⟨fineRemobParams_range, fine_example_remob⟩

/-- non-vacuity, branch `fine:flood` (with `fine:deposit`): parameters in `FineRange`, outflow 1 above bank-full 0.5;
a POSITIVE floodplain load `50·(1 − e⁻¹)` kg/s (Δt = 10 s), channel deposition `400 + 500·e⁻¹` kg, 1 kg/s downstream,
90 kg stay: `1000 + 0 = 90 + (1·10 + 50(1 − e⁻¹)·10 + 400 + 500e⁻¹ + 0)`. -/
example :
    FineRange fineFloodParams ∧
    InstreamFineSediment.classify fineFloodParams (InstreamFineSediment.start fineFloodParams (0, 1000))
      (0, 0, 0, 90, 1) = ["fine:flood", "fine:deposit"] ∧
    (InstreamFineSediment.run fineFloodParams (0, 1000) [(0, 0, 0, 90, 1)]).1 = (400 + 500 * Real.exp (-1), 90) ∧
    (InstreamFineSediment.run fineFloodParams (0, 1000) [(0, 0, 0, 90, 1)]).2.map
      (fun o => (o.loadDownstream, o.loadToFloodplain, o.loadToChannelDeposition, o.flushed)) =
        [(1, 50 * (1 - Real.exp (-1)), 400 + 500 * Real.exp (-1), 0)] ∧
    0 < 50 * (1 - Real.exp (-1)) :=
  ⟨fineFloodParams_range, fine_example_flood⟩

/-- non-vacuity of `divisors_branch_InstreamFineSediment`: the flood example is on the main path and takes the dividing
branch of the floodplain formula (guard false), so its two divisors are positive; the remobilisation example
(outflow 1 ≤ bank-full 2) takes the guarded branch and deposits exactly 0 on the floodplain -/
example : 0 < (1 : ℝ) ∧ 0 < 1 - fineFloodParams.bankFullFlow :=
  (divisors_branch_InstreamFineSediment fineFloodParams (by simp only [fineFloodParams]; norm_num) 1 1000).1
    (by simp only [fineFloodParams]; norm_num)
example : InstreamFineSediment.floodPlainDepositionEmperical 1 50 fineRemobParams.bankFullFlow
    fineRemobParams.fineSedSettVelocityFlood fineRemobParams.floodPlainArea = 0 :=
  (divisors_branch_InstreamFineSediment fineRemobParams (by simp only [fineRemobParams]; norm_num) 1 50).2
    (Or.inl (by simp only [fineRemobParams]; norm_num))

/-! ## InstreamParticulateNutrient (state: instreamStoredMass, channelStoredMass) -/

open InstreamParticulateNutrient (In) in
/-- Hypothesis: Δt ≠ 0 (divisor of `loadToFloodplain`); the concentration
divisor is ≥ 0.01 on its branch; `/100` is a literal. Any parameters, stores, inputs (deposition or resuspension,
lateral sediment present or not).
* total: `instream₀ + channel₀ + Σ(upstream + lateral + streambank·concentration)·Δt
          = instream_final + channel_final + Σ(down·Δt + floodplain·Δt + flushed)`
* the channel store moves by the (ghost) bed exchange each step, which is the reported `loadDeposited` on every step
  that is not flushed (on a flushed step the code leaves `loadDeposited` at 0 although the channel store has moved);
  `loadFromStreambank` = streambank erosion × concentration;
* `flushed ≠ 0` only where `outflow·Δt + reachVolume < 0.01`. -/
theorem budget_InstreamParticulateNutrient (pnc spf dt : ℝ) (st : ℝ × ℝ) (xs : List (In ℝ)) (hdt : dt ≠ 0) :
    st.1 + st.2 + (xs.map fun i => i.incomingMassUpstream * dt + i.incomingMassLateral * dt +
        i.streamBankErosion * pnc * dt).sum =
      (InstreamParticulateNutrient.run pnc spf dt st xs).1.1 + (InstreamParticulateNutrient.run pnc spf dt st xs).1.2 +
        ((InstreamParticulateNutrient.run pnc spf dt st xs).2.map fun o =>
          o.loadDownstream * dt + o.loadToFloodplain * dt + o.flushed).sum ∧
    st.2 + ((InstreamParticulateNutrient.run pnc spf dt st xs).2.map fun o => o.bedExchange).sum =
      (InstreamParticulateNutrient.run pnc spf dt st xs).1.2 ∧
    List.Forall₂ (fun i o =>
        (o.flushed ≠ 0 → i.outflow * dt + i.reachVolume < 0.01) ∧
        (¬ i.outflow * dt + i.reachVolume < 0.01 → o.loadDeposited = o.bedExchange) ∧
        o.loadFromStreambank = i.streamBankErosion * pnc) xs
      (InstreamParticulateNutrient.run pnc spf dt st xs).2 := by
  have h := (MassStep.run (fun s i => (pn_step pnc spf dt s i).mass hdt) xs st).1
  -- the channel store alone moves by the bed exchange
  exact ⟨h.1, scan_run' (M := fun (s : ℝ × ℝ) _ (s' : ℝ × ℝ) os =>
        s.2 + (os.map fun o : InstreamParticulateNutrient.Out ℝ => o.bedExchange).sum = s'.2) (fun s => add_zero s.2)
      (fun s i _ _ _ ih => by rw [List.map_cons, List.sum_cons, ← ih, (pn_step pnc spf dt s i).store, add_assoc]) xs st,
    h.2⟩

open InstreamParticulateNutrient (In) in
/-- Δt > 0, concentration ≥ 0, `0 ≤ soilPercentFine ≤ 100`, non-negative
in-stream store, loads, streambank erosion, flow and volume (the two deposition-fraction signals and the lateral
sediment flag are arbitrary: the code clips the first, a negative second means resuspension) ⇒ the in-stream store,
the downstream load, the floodplain load, the streambank load and the flushed amount are non-negative. (The nutrient
CHANNEL store is not claimed non-negative: resuspension is a fraction of the mass in transport, not limited by that
store — the property's "remobilisation ≤ store" is about the fine-sediment channel store.) -/
theorem nonneg_InstreamParticulateNutrient (pnc spf dt : ℝ) (st : ℝ × ℝ) (xs : List (In ℝ))
    (hdt : 0 < dt) (hpnc : 0 ≤ pnc) (hspf0 : 0 ≤ spf) (hspf1 : spf ≤ 100) (hs : 0 ≤ st.1)
    (hx : ∀ i ∈ xs, 0 ≤ i.incomingMassUpstream ∧ 0 ≤ i.incomingMassLateral ∧ 0 ≤ i.streamBankErosion ∧
      0 ≤ i.outflow ∧ 0 ≤ i.reachVolume) :
    0 ≤ (InstreamParticulateNutrient.run pnc spf dt st xs).1.1 ∧
    ∀ o ∈ (InstreamParticulateNutrient.run pnc spf dt st xs).2,
      0 ≤ o.loadDownstream ∧ 0 ≤ o.loadToFloodplain ∧ 0 ≤ o.loadFromStreambank ∧ 0 ≤ o.flushed :=
  (MassStep.run (fun s i => (pn_step pnc spf dt s i).mass hdt.ne') xs st).2 ⟨hdt, hpnc, hspf0, hspf1⟩ hs hx

open InstreamParticulateNutrient (In) in
/-- **loadDeposited is not reported on flushed steps** (an OBSERVATION on the code, outside the property text — the
budget above is over the two stores and closes; recorded in DESIGN §0.4). On every step of every run whose working
volume is below MINIMUM_VOLUME (`outflow·Δt + reachVolume < 0.01`) the reported `loadDeposited` is 0 (the code
`continue`s before `loadDeposited.Set`) and the in-stream store is emptied, while — second clause of
`budget_InstreamParticulateNutrient` — the channel store has moved by the ghost `bedExchange` of that step, which
need not be 0 (example below: 5 kg deposited, 0 reported). Hence `Σ loadDeposited` reconstructs the channel store only
over the non-flushed steps. No hypothesis (no division is involved in these clauses). -/
theorem loadDeposited_unreported_on_flush_InstreamParticulateNutrient (pnc spf dt : ℝ) (st : ℝ × ℝ) (xs : List (In ℝ)) :
    List.Forall₂ (fun (sx : (ℝ × ℝ) × In ℝ) o =>
        sx.2.outflow * dt + sx.2.reachVolume < 0.01 →
          o.loadDeposited = 0 ∧ o.loadDownstream = 0 ∧
          (InstreamParticulateNutrient.step pnc spf dt sx.1 sx.2).1 = (0, sx.1.2 + o.bedExchange))
      ((preStates (InstreamParticulateNutrient.step pnc spf dt) st xs).zip xs)
      (InstreamParticulateNutrient.run pnc spf dt st xs).2 := by
  unfold InstreamParticulateNutrient.run
  exact (scan_rel (Inv := fun _ => True) (Ok := fun _ => True)
    (fun s i _ _ => ⟨trivial, (pn_step pnc spf dt s i).dry⟩) trivial fun _ _ => trivial).2

/-- the witness: a dry step (no flow, no volume) with 10 kg in the water and a channel deposition fraction of 0.5:
the channel store goes from 0 to 5 kg, `loadDeposited` reports 0, the other 5 kg are dropped (ghost `flushed`) -/
example :
    (InstreamParticulateNutrient.run 0 0 10 (10, 0) [⟨(0 : ℝ), 0, 0, 0, 0, 0, 0, 0.5⟩]).1 = (0, 5) ∧
    ((InstreamParticulateNutrient.run 0 0 10 (10, 0) [⟨(0 : ℝ), 0, 0, 0, 0, 0, 0, 0.5⟩]).2.map
      fun o => (o.loadDeposited, o.bedExchange, o.flushed)) = [(0, 5, 5)] := by
  simp only [InstreamParticulateNutrient.run, scan, InstreamParticulateNutrient.step,
    InstreamParticulateNutrient.forDeposition, InstreamParticulateNutrient.bedExchange,
    LumpedConstituent.minimumVolume, realnum]
  norm_num

example : 0 ≤ (InstreamParticulateNutrient.run 0.001 40 86400 (5, 0)
    [⟨(1 : ℝ), 2, 1000, 3, 10, 1, 0.2, 0.1⟩, ⟨0, 0, 0, 0, 0, 0, 0, -0.5⟩]).1.1 :=
  (nonneg_InstreamParticulateNutrient 0.001 40 86400 (5, 0) _ (by norm_num) (by norm_num) (by norm_num) (by norm_num)
    (by norm_num) (List.forall_mem_cons.mpr ⟨by norm_num, List.forall_mem_cons.mpr ⟨by norm_num, fun _ h => absurd h List.not_mem_nil⟩⟩)).1

/-! ## StorageParticulateTrapping (inputs: inflowLoad, inflow, outflow, storage) -/

open StorageParticulateTrapping (Params) in
/-- Hypotheses: Δt ≥ 0, non-negative
initial store, inflow load, outflow and volume (they are needed for the budget too: the code clips the new store at 0,
which is inactive exactly because the released mass never exceeds the stored mass). Any trapping parameters — also
`lengthDischargeFactor = 0`, where the divisor of the sedimentation index is 0 (the code guards `inflowRate > 0` and
`reservoirLength > 0` only): whatever that division returns, the trapping efficiency computed from it is clipped to
[0,100] %, and that is all the proof uses. There is no flush branch in this model (an empty storage releases
nothing and keeps its mass): `stored₀ + Σ in·Δt = stored_final + Σ(trapped + out·Δt)` with no other term; the store
stays non-negative, `0 ≤ trapped ≤ in·Δt`, `0 ≤ out`. -/
theorem budget_StorageParticulateTrapping (p : Params ℝ) (s0 : ℝ) (xs : List (ℝ × ℝ × ℝ × ℝ))
    (hdt : 0 ≤ p.deltaT) (hs : 0 ≤ s0) (hx : ∀ x ∈ xs, 0 ≤ x.1 ∧ 0 ≤ x.2.2.1 ∧ 0 ≤ x.2.2.2) :
    0 ≤ (StorageParticulateTrapping.run p s0 xs).1 ∧
    s0 + (xs.map fun x => x.1 * p.deltaT).sum =
      (StorageParticulateTrapping.run p s0 xs).1 +
        ((StorageParticulateTrapping.run p s0 xs).2.map fun o => o.trappedMass + o.outflowLoad * p.deltaT).sum ∧
    List.Forall₂ (fun x o => 0 ≤ o.trappedMass ∧ o.trappedMass ≤ x.1 * p.deltaT ∧ 0 ≤ o.outflowLoad) xs
      (StorageParticulateTrapping.run p s0 xs).2 :=
  and_assoc.mp ⟨scan_mass_eq (stor := id) (fun s x hs hx => (trapping_step p s x hdt hs hx rfl).1) hs hx,
    (scan_io (fun s x hs hx => ⟨(trapping_step p s x hdt hs hx rfl).1.1, (trapping_step p s x hdt hs hx rfl).2⟩)
      hs hx).2⟩

open StorageParticulateTrapping (Params) in
/-- the divisor of the sedimentation index is positive on the branch that divides by it (`inflowRate > 0 &&
reservoirLength > 0`) for a positive length/discharge factor, the one factor the code does not guard -/
theorem divisors_pos_StorageParticulateTrapping (p : Params ℝ) (qi : ℝ) (hldf : 0 < p.lengthDischargeFactor)
    (hlen : 0 < p.reservoirLength) (hq : 0 < qi) :
    0 < p.lengthDischargeFactor * p.reservoirLength * qi ^ (2.0 : ℝ) :=
  mul_pos (mul_pos hldf hlen) (Real.rpow_pos_of_pos hq _)

example : 0 ≤ (StorageParticulateTrapping.run ⟨86400, 1e8, 1e4, 112, 800, 3.28, -0.2⟩ 5
    [((1 : ℝ), 100, 3, 1000), (0, 0, 0, 0)]).1 :=
  (budget_StorageParticulateTrapping ⟨86400, 1e8, 1e4, 112, 800, 3.28, -0.2⟩ 5 _ (by norm_num) (by norm_num)
    (List.forall_mem_cons.mpr ⟨by norm_num, List.forall_mem_cons.mpr ⟨by norm_num, fun _ h => absurd h List.not_mem_nil⟩⟩)).1

/-- On the kernel function `trapped` (`budget_StorageTrapAll_model` is the statement on the model's run, which also
reads the final store from the model). `trapped` returns `some t` exactly on a non-empty
series: `Σ inflow + stored₀ = Σ t` (the `+ 0` is the final store of that case, see `budget_StorageTrapAll_model`),
`t` as long as the inflow series. On the empty series `trapped` is `none` and the model — as the code —
returns the stored mass unchanged with empty outputs (it does NOT panic). -/
theorem budget_StorageTrapAll (inflow : List ℝ) (s0 : ℝ) (t : List ℝ)
    (h : StorageTrapAll.trapped inflow s0 = some t) :
    inflow.sum + s0 = t.sum + 0 ∧ t.length = inflow.length := by
  obtain ⟨x, xs, rfl, rfl⟩ := trapAll_some h
  simp only [List.sum_cons, List.length_cons]
  exact ⟨by ring, trivial⟩

/-- Non-negative store and inflow masses ⇒ the trapped series is non-negative (on `trapped`, as `budget_StorageTrapAll`). -/
theorem nonneg_StorageTrapAll (inflow : List ℝ) (s0 : ℝ) (t : List ℝ)
    (h : StorageTrapAll.trapped inflow s0 = some t) (hs : 0 ≤ s0) (hx : ∀ x ∈ inflow, 0 ≤ x) : ∀ y ∈ t, 0 ≤ y := by
  obtain ⟨x, xs, rfl, rfl⟩ := trapAll_some h
  obtain ⟨hx0, hxs⟩ := List.forall_mem_cons.mp hx
  exact List.forall_mem_cons.mpr ⟨add_nonneg hx0 hs, hxs⟩

/-- On the adapter `StorageTrapAll.model.run`: the outputs and the FINAL STORE are read from the model's result,
nothing is a literal of the statement. The model carries NO Δt: the trapped series is the
inflow-mass series with the initial store added to its first element, so the budget is in the units of the
inflow-mass series. For EVERY inflow-mass series — the empty one included — every other input series (never read,
any lengths) and every initial store, the run succeeds (no error class) and returns two output series `trapped`,
`out` and one state `sf` with
* `Σ inflowMass + stored₀ = Σ trapped + sf`, `out` (the downstream load) identically 0, both of the length of the
  inflow-mass series;
* non-empty series: `sf = 0` (everything held is released into `trapped[0]`);
* empty series: `sf = stored₀`, both outputs empty (as the code, which returns the stored mass unchanged
  without reading element 0);
* non-negative store and inflow masses ⇒ `trapped` and `sf` non-negative. -/
theorem budget_StorageTrapAll_model (inflowMass inflow outflow volume : List ℝ) (s0 : ℝ) :
    ∃ (r : KOut ℝ) (trapped out : List ℝ) (sf : ℝ),
      (StorageTrapAll.model (α := ℝ)).run [] [inflowMass, inflow, outflow, volume] [s0] = .ok r ∧
      r.outputs = [trapped, out] ∧ r.states = [sf] ∧
      inflowMass.sum + s0 = trapped.sum + sf ∧
      (∀ y ∈ out, y = 0) ∧ trapped.length = inflowMass.length ∧ out.length = inflowMass.length ∧
      (inflowMass ≠ [] → sf = 0) ∧
      (inflowMass = [] → sf = s0 ∧ trapped = [] ∧ out = []) ∧
      (0 ≤ s0 → (∀ x ∈ inflowMass, 0 ≤ x) → 0 ≤ sf ∧ ∀ y ∈ trapped, 0 ≤ y) := by
  cases inflowMass with
  | nil =>
    exact ⟨_, [], [], s0, rfl, rfl, rfl, by simp, by simp, rfl, rfl, fun h => absurd rfl h,
      fun _ => ⟨rfl, rfl, rfl⟩, fun hs _ => ⟨hs, by simp⟩⟩
  | cons x xs =>
    refine ⟨{ outputs := [(x + s0) :: xs, zeros (xs.length + 1)], states := [0], tags := ["trapall"] },
      (x + s0) :: xs, zeros (xs.length + 1), 0, ?_, rfl, rfl, ?_, ?_, by simp, by simp [zeros],
      fun _ => rfl, fun h => absurd h (List.cons_ne_nil _ _),
      fun hs hx => ⟨le_refl _, nonneg_StorageTrapAll (x :: xs) s0 _ rfl hs hx⟩⟩
    · simp only [StorageTrapAll.model, StorageTrapAll.trapped, List.length_cons, realnum]
      norm_num
    · exact (budget_StorageTrapAll (x :: xs) s0 _ rfl).1
    · intro y hy
      simp only [zeros, List.mem_replicate] at hy
      rw [hy.2]; rfl

example : StorageTrapAll.trapped [(1 : ℝ), 2, 3] 10 = some [11, 2, 3] := by
  simp only [StorageTrapAll.trapped, realnum]; norm_num
example : StorageTrapAll.trapped ([] : List ℝ) 10 = none := rfl

/-- non-vacuity on the model's run: a three-step series (the other three input series are not read: here of lengths
0, 1, 2) releases the 10 kg held into the first element and ends with store 0 … -/
example : (StorageTrapAll.model (α := ℝ)).run [] [[1, 2, 3], [], [7], [8, 9]] [10] =
    .ok { outputs := [[11, 2, 3], [0, 0, 0]], states := [0], tags := ["trapall"] } := by
  simp only [StorageTrapAll.model, StorageTrapAll.trapped, zeros, List.length_cons, List.length_nil, realnum]
  norm_num [List.replicate]
/-- … and the EMPTY series is a successful run that keeps the 10 kg (no error class, both outputs empty) -/
example : (StorageTrapAll.model (α := ℝ)).run [] [[], [], [], []] [10] =
    .ok { outputs := [[], []], states := [10], tags := ["trapall-empty"] } := rfl
/-- a malformed call (three input series) is the error class "arity", not a default value -/
example : (StorageTrapAll.model (α := ℝ)).run [] [[1], [1], [1]] [10] = .error "arity" := rfl

/-! ## StorageDissolvedDecay with decay disabled (`doStorageDecay < 0.5`) -/

/-- Hypothesis: `doStorageDecay < 0.5` (decay disabled — the model then is the
lumped routing with no lateral and no point source). Nothing else: any Δt, store, inputs.
`stored₀ + Σ in·Δt = stored_final + Σ(out·Δt + flushed)`, `decayedMass = 0`, `flushed ≠ 0` only below MINIMUM_VOLUME. -/
theorem budget_StorageDissolvedDecay (dt dsd bff mfrt s0 : ℝ) (xs : List (ℝ × ℝ × ℝ × ℝ)) (hoff : dsd < 0.5) :
    s0 + (xs.map fun x => x.1 * dt).sum =
      (StorageDissolvedDecay.run dt dsd bff mfrt s0 xs).1 +
        ((StorageDissolvedDecay.run dt dsd bff mfrt s0 xs).2.map fun o => o.outflowMass * dt + o.flushed).sum ∧
    List.Forall₂ (fun x o => (o.flushed ≠ 0 → x.2.2.1 * dt + x.2.2.2 < 0.01) ∧ o.decayedMass = 0) xs
      (StorageDissolvedDecay.run dt dsd bff mfrt s0 xs).2 := by
  rw [dissolved_run_off dt dsd bff mfrt s0 xs hoff]
  exact (MassStep.run (dissolvedOff_step dt) xs s0).1

/-- Decay disabled, Δt ≥ 0, non-negative store and inputs ⇒ store, outflow mass and flushed amount non-negative. -/
theorem nonneg_StorageDissolvedDecay (dt dsd bff mfrt s0 : ℝ) (xs : List (ℝ × ℝ × ℝ × ℝ)) (hoff : dsd < 0.5)
    (hdt : 0 ≤ dt) (hs : 0 ≤ s0) (hx : ∀ x ∈ xs, 0 ≤ x.1 ∧ 0 ≤ x.2.2.1 ∧ 0 ≤ x.2.2.2) :
    0 ≤ (StorageDissolvedDecay.run dt dsd bff mfrt s0 xs).1 ∧
    ∀ o ∈ (StorageDissolvedDecay.run dt dsd bff mfrt s0 xs).2, 0 ≤ o.outflowMass ∧ 0 ≤ o.flushed := by
  rw [dissolved_run_off dt dsd bff mfrt s0 xs hoff]
  exact (MassStep.run (dissolvedOff_step dt) xs s0).2 hdt hs hx

example : 0 ≤ (StorageDissolvedDecay.run 86400 0 1 10 3 [((1 : ℝ), 9, 0.5, 1000), (0, 0, 0, 0)]).1 :=
  (nonneg_StorageDissolvedDecay 86400 0 1 10 3 _ (by norm_num) (by norm_num) (by norm_num)
    (List.forall_mem_cons.mpr ⟨by norm_num, List.forall_mem_cons.mpr ⟨by norm_num, fun _ h => absurd h List.not_mem_nil⟩⟩)).1

end OW.Props.C12
