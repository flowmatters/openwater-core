import OW.Gen.Kernels
import OW.Kernels.Storage
import OW.Props.GenTieBase
/-! Tie of `storageWaterBalance` (models/storage/storage.go), bottom up: the lambda-lifted function literals, the inner trial loop and the
sub-step loop (fuelled `whileLoop`s against the fuelled recursions `Storage.trial`, `Storage.outer`, by induction on the fuel), the reads
before the loop, then `gen_eq_Storage`. `Option` on the regenerated side, `Except` in the hand model: related by `exceptToOption`. -/
namespace OW.Props.GenTie
open OW OW.Kernels OW.Gen.K OW.Gen.Prelude

/-! ### models/storage/storage.go -/

/-- the instantiation of the abstract `fn.Piecewise` (util/fn/piecewise.go; NOT translated by owtranslate) in the tie of
`storageWaterBalance`: the hand-written model `OW.Fn.piecewise`; `none` = its error result is non-nil or it panics (the
code panics in both cases) -/
def piecewiseArg {α} [Num α] (x : α) (xs ys : List α) : Option α :=
  match Fn.piecewise x xs ys with
  | .val v => some v
  | .err => none
  | .panic _ => none

section StorageClosures
variable {α : Type} [Num α] (t : Storage.Tables α)

theorem tableGet_last (ys : List α) (n : Nat) (hn : 0 < n) :
    tableGet ys ((n : Int) - 1) = exceptToOption (Storage.getAt ys (n - 1)) := by
  unfold tableGet Storage.getAt
  have h1 : ¬ ((n : Int) - 1 < 0) := by omega
  have h2 : ((n : Int) - 1).toNat = n - 1 := by omega
  simp only [h1, ↓reduceIte, h2]
  cases ys[n - 1]? <;> rfl

theorem tableGet_zero (ys : List α) : tableGet ys 0 = exceptToOption (Storage.getAt ys 0) :=
  tableGet_last ys 1 Nat.one_pos

theorem gen_eq_Storage_cappedPiecewise (hn : 0 < t.volumes.length) (vol : α) (ys : List α) :
    storageWaterBalance.cappedPiecewise piecewiseArg t.volumes 0 ((t.volumes.length : Int) - 1) t.volCurveMin t.volCurveMax vol ys =
      exceptToOption (Storage.cappedPiecewise t vol ys) := by
  unfold storageWaterBalance.cappedPiecewise Storage.cappedPiecewise
  split
  · exact tableGet_zero ys
  · simp only [gt_iff_lt]
    split
    · exact tableGet_last ys _ hn
    · unfold piecewiseArg
      cases Fn.piecewise vol t.volumes ys <;> rfl

theorem gen_eq_Storage_releaseRate (hn : 0 < t.volumes.length) (demand vol : α) :
    storageWaterBalance.releaseRate piecewiseArg t.volumes t.minRelease t.maxRelease 0 ((t.volumes.length : Int) - 1)
        t.volCurveMin t.volCurveMax demand vol =
      exceptToOption (Storage.releaseRate t demand vol) := by
  unfold storageWaterBalance.releaseRate Storage.releaseRate
  simp only [gen_eq_Storage_cappedPiecewise t hn, exceptToOption_bind, apply_ite exceptToOption, gt_iff_lt]
  rfl

theorem gen_eq_Storage_closeEnough (a b : α) :
    storageWaterBalance.releaseRatesCloseEnough a b = Storage.releaseRatesCloseEnough a b := by
  unfold storageWaterBalance.releaseRatesCloseEnough Storage.releaseRatesCloseEnough Storage.allowedAbs Storage.allowedRel
  rfl

/-- the integer literal `2` (converted to float64 by Go) and the float literal `2.0` are the same number -/
def NatTwo (α : Type) [Num α] : Prop := (2 : α) = 2.0

/-- the inner trial loop `for { … }` (lifted: `loopBody2`, `loopCond2`) = `Storage.trial`, for every fuel; the carried
values are `(subtimestep, testVol, avgOutflow, avgArea)` -/
theorem gen_eq_Storage_trial (h0 : NatZero α) (h2 : NatTwo α) (hn : 0 < t.volumes.length)
    (inflow demand netFlux volume estOutflow area : α) :
    ∀ (fuel : Nat) (sub tv ao aa : α) (tags : List String),
      whileLoop storageWaterBalance.loopCond2
          (storageWaterBalance.loopBody2 piecewiseArg t.volumes t.areas t.minRelease t.maxRelease volume area 0
            ((t.volumes.length : Int) - 1) t.volCurveMin t.volCurveMax inflow demand netFlux estOutflow)
          fuel (sub, tv, ao, aa) =
        (exceptToOption (Storage.trial t inflow demand netFlux volume estOutflow area fuel sub tags)).map
          (fun a => (a.sub, a.testVol, a.avgOutflow, a.avgArea)) := by
  unfold NatZero at h0
  unfold NatTwo at h2
  intro fuel
  induction fuel with
  | zero => intros; rfl
  | succ fuel ih =>
    have ih' := ih
    unfold storageWaterBalance.loopBody2 at ih'
    simp only [gen_eq_Storage_cappedPiecewise t hn, gen_eq_Storage_releaseRate t hn, gen_eq_Storage_closeEnough, h0, h2] at ih'
    intro sub tv ao aa tags
    unfold whileLoop Storage.trial
    simp only [storageWaterBalance.loopCond2, ↓reduceIte]
    unfold storageWaterBalance.loopBody2
    simp only [gen_eq_Storage_cappedPiecewise t hn, gen_eq_Storage_releaseRate t hn, gen_eq_Storage_closeEnough,
      Storage.minStepNeg, Storage.minStepPos, h0, h2]
    simp only [ge_iff_le]
    by_cases hneg : volume + (inflow - estOutflow + netFlux * area) * sub < 0.0
    · simp only [hneg, ↓reduceIte]
      by_cases hs : sub ≤ 6
      · simp only [hs, ↓reduceIte]; rfl
      · simp only [hs, ↓reduceIte, Bool.false_eq_true]
        exact ih' _ _ _ _ _
    · simp only [hneg, ↓reduceIte]
      cases Storage.cappedPiecewise t ((volume + (inflow - estOutflow + netFlux * area) * sub + volume) / 2.0) t.areas with
      | error e => rfl
      | ok avgArea =>
        simp only [exceptToOption, bind, Except.bind]
        cases Storage.releaseRate t demand (volume + (inflow - estOutflow + netFlux * avgArea) * sub) with
        | error e => rfl
        | ok after =>
          simp only [exceptToOption]
          by_cases hpos : 0.0 ≤ volume + (inflow - (after + estOutflow) / 2.0 + netFlux * avgArea) * sub
          · simp only [hpos, ↓reduceIte]
            by_cases hc : Storage.releaseRatesCloseEnough estOutflow ((after + estOutflow) / 2.0) = true
            · simp only [hc, ↓reduceIte]; rfl
            · simp only [hc, ↓reduceIte]
              by_cases h60 : sub ≤ 60
              · simp only [h60, ↓reduceIte]; rfl
              · simp only [h60, ↓reduceIte, Bool.false_eq_true]
                exact ih' _ _ _ _ _
          · simp only [hpos, ↓reduceIte]
            by_cases hs : sub ≤ 6
            · simp only [hs, ↓reduceIte]; rfl
            · simp only [hs, ↓reduceIte, Bool.false_eq_true]
              exact ih' _ _ _ _ _

/-- `x + Num.zero = x`: the hand model adds the (zero) spill volume also when nothing spills, the code does not. True at
`ℝ`; at `Float` for every `x` except `-0.0` (where the sum is `+0.0`: equal as numbers, not as bit patterns). -/
def AddZero (α : Type) [Num α] : Prop := ∀ x : α, x + Num.zero = x

/-- one accepted sub-step: the lifted body `loopBody1` of `for timeRemaining > 0 { … }` = `Storage.outerBody` -/
theorem gen_eq_Storage_outerBody (h0 : NatZero α) (h2 : NatTwo α) (hadd : AddZero α) (hn : 0 < t.volumes.length) (keep : Bool)
    (fi : Nat) (inflow demand rps pps netFlux tmv : α) (s : Storage.Loop α) (area : α) (nsub : Int) (dem : α) :
    match Storage.outerBody t keep fi inflow demand rps pps netFlux s with
    | .error _ =>
      storageWaterBalance.loopBody1 piecewiseArg fi t.volumes t.areas t.minRelease t.maxRelease 0
          ((t.volumes.length : Int) - 1) t.volCurveMin t.volCurveMax t.maxSpill tmv inflow demand rps pps netFlux
          (s.volume, area, nsub, s.timeRemaining, s.subtimestep, s.outflowVolume, dem, s.rainfallVol, s.evaporationVol) = none
    | .ok s' => ∃ a' : α,
      storageWaterBalance.loopBody1 piecewiseArg fi t.volumes t.areas t.minRelease t.maxRelease 0
          ((t.volumes.length : Int) - 1) t.volCurveMin t.volCurveMax t.maxSpill tmv inflow demand rps pps netFlux
          (s.volume, area, nsub, s.timeRemaining, s.subtimestep, s.outflowVolume, dem, s.rainfallVol, s.evaporationVol) =
        some ((s'.volume, a', nsub + 1, s'.timeRemaining, s'.subtimestep, s'.outflowVolume, demand, s'.rainfallVol,
          s'.evaporationVol), false) := by
  unfold storageWaterBalance.loopBody1 Storage.outerBody
  simp only [gen_eq_Storage_cappedPiecewise t hn, gen_eq_Storage_releaseRate t hn, Bool.false_and, Bool.false_eq_true, ↓reduceIte,
    fun v e a sub tv ao aa => gen_eq_Storage_trial t h0 h2 hn inflow demand netFlux v e a fi sub tv ao aa s.tags]
  cases Storage.releaseRate t demand s.volume with
  | error e => rfl
  | ok est =>
    simp only [exceptToOption, bind, Except.bind]
    cases Storage.cappedPiecewise t s.volume t.areas with
    | error e => rfl
    | ok ar =>
      simp only [exceptToOption]
      cases Storage.trial t inflow demand netFlux s.volume est ar fi (Num.gmin s.timeRemaining (s.subtimestep * 2)) s.tags with
      | error e => rfl
      | ok a =>
        simp only [exceptToOption, Option.map_some]
        unfold NatZero at h0
        unfold NatTwo at h2
        by_cases hv : s.volume + (inflow + netFlux * a.avgArea - a.avgOutflow) * a.sub < 0
        · simp only [hv, ↓reduceIte]
        · simp only [hv, ↓reduceIte, pure, Except.pure]
          refine ⟨ar, ?_⟩
          unfold Storage.spill Storage.mmToM
          simp only [gt_iff_lt]
          by_cases hs : t.volCurveMax < s.volume + (inflow + netFlux * a.avgArea - a.avgOutflow) * a.sub
          · simp only [hs, ↓reduceIte, h0, h2]
          · simp only [hs, ↓reduceIte, hadd _]

/-- the sub-step loop `for timeRemaining > 0 { … }` (lifted: `loopBody1`, `loopCond1`) = `Storage.outer`, for every fuel
of the two loops -/
theorem gen_eq_Storage_outer (h0 : NatZero α) (h2 : NatTwo α) (hadd : AddZero α) (hn : 0 < t.volumes.length) (keep : Bool)
    (fi : Nat) (inflow demand rps pps netFlux tmv : α) :
    ∀ (fo : Nat) (s : Storage.Loop α) (area : α) (nsub : Int) (dem : α),
      match Storage.outer t keep fi inflow demand rps pps netFlux fo s with
      | .error _ =>
        whileLoop storageWaterBalance.loopCond1
          (storageWaterBalance.loopBody1 piecewiseArg fi t.volumes t.areas t.minRelease t.maxRelease 0
            ((t.volumes.length : Int) - 1) t.volCurveMin t.volCurveMax t.maxSpill tmv inflow demand rps pps netFlux)
          fo (s.volume, area, nsub, s.timeRemaining, s.subtimestep, s.outflowVolume, dem, s.rainfallVol, s.evaporationVol) = none
      | .ok v => ∃ c,
        whileLoop storageWaterBalance.loopCond1
          (storageWaterBalance.loopBody1 piecewiseArg fi t.volumes t.areas t.minRelease t.maxRelease 0
            ((t.volumes.length : Int) - 1) t.volCurveMin t.volCurveMax t.maxSpill tmv inflow demand rps pps netFlux)
          fo (s.volume, area, nsub, s.timeRemaining, s.subtimestep, s.outflowVolume, dem, s.rainfallVol, s.evaporationVol) = some c ∧
        c.1 = v.volume ∧ c.2.2.2.2.2.1 = v.outflowVolume ∧ c.2.2.2.2.2.2.2.1 = v.rainfallVol ∧
          c.2.2.2.2.2.2.2.2 = v.evaporationVol := by
  intro fo
  induction fo with
  | zero => intros; rfl
  | succ fo ih =>
    intro s area nsub dem
    unfold whileLoop Storage.outer
    simp only [storageWaterBalance.loopCond1, gt_iff_lt, decide_eq_true_eq]
    by_cases htr : 0 < s.timeRemaining
    · simp only [htr, ↓reduceIte]
      have hb := gen_eq_Storage_outerBody t h0 h2 hadd hn keep fi inflow demand rps pps netFlux tmv s area nsub dem
      cases hOB : Storage.outerBody t keep fi inflow demand rps pps netFlux s with
      | error e =>
        rw [hOB] at hb
        simp only at hb
        rw [hb]
      | ok s' =>
        rw [hOB] at hb
        obtain ⟨a', ha⟩ := hb
        rw [ha]
        exact ih s' a' (nsub + 1) demand
    · simp only [htr, ↓reduceIte]
      exact ⟨_, rfl, rfl, rfl, rfl, rfl⟩

end StorageClosures

/-- the three table reads before the loop (`volumes[0]`, `volumes[nLVA-1]`, `minRelease[nLVA-1]`; out of range = panic =
`none`) are `Storage.mkTables` (with `nLVA` the table length, as the wrapper passes it); the guard is the (NOT translated)
configuration check; the loop starts from the initial volume with `level = area = 0` and the sub-step counter 0 -/
theorem gen_eq_Storage_pre {α} [Num α] (iv il ia deltaT : α) (levels volumes areas minRelease maxRelease : List α)
    (chk : Int → List α → Bool) :
    storageWaterBalance.pre iv il ia deltaT (volumes.length : Int) levels volumes areas minRelease maxRelease chk =
      (exceptToOption (Storage.mkTables levels volumes areas minRelease maxRelease)).map
        (fun t => (0, (volumes.length : Int) - 1, t.volCurveMin, t.volCurveMax, t.maxSpill)) ∧
    storageWaterBalance.init iv il ia deltaT (volumes.length : Int) levels volumes areas minRelease maxRelease chk =
      (exceptToOption (Storage.mkTables levels volumes areas minRelease maxRelease)).map
        (fun _ => (iv, Num.zero, Num.zero, 0)) ∧
    storageWaterBalance.guard iv il ia deltaT (volumes.length : Int) levels volumes areas minRelease maxRelease chk =
      (exceptToOption (Storage.mkTables levels volumes areas minRelease maxRelease)).map
        (fun _ => chk (volumes.length : Int) volumes) := by
  unfold storageWaterBalance.pre storageWaterBalance.init storageWaterBalance.guard Storage.mkTables
  by_cases hn : 0 < volumes.length
  · simp only [tableGet_zero, tableGet_last _ _ hn, exceptToOption_bind, map_optBind]
    exact ⟨rfl, rfl, rfl⟩
  · have hnil : volumes = [] := List.eq_nil_of_length_eq_zero (by omega)
    subst hnil
    exact ⟨rfl, rfl, rfl⟩

/-- `storageWaterBalance` (models/storage/storage.go), all of it except the two functions it calls in other packages:
* before the loop: the three table reads = `Storage.mkTables` (`gen_eq_Storage_pre`); the early return is the configuration
  check `checkStorageConfiguration` (NOT translated: the abstract argument `chk`; the run returns zero values when it holds);
* the function literals `cappedPiecewise`, `releaseRate`, `releaseRatesCloseEnough` (lambda-lifted, captured tables and
  bounds as parameters) = the hand model's functions, with `fn.Piecewise` (NOT translated) instantiated by the hand model
  `OW.Fn.piecewise` (`piecewiseArg`);
* one time step, with the two sub-step loops `for timeRemaining > 0 { … for { … } … }` as fuelled loops (for every fuel) =
  `Storage.step` (`outer`, `trial`): the new volume and the four outputs; the state `level` passes through; the states `area`,
  `nSubtimeSteps` are recomputed / counted by the code and are not part of the hand model's step (their incoming values and that of
  `level` are not read before they are overwritten: the statement holds for all of them). `chk`, `iv`, `il`, `ia`, `nLVA`, `tmc` (the
  `targetMinimumCapacity` input, read only by the dead `autoAdjustDemand` branch) do not influence the result;
* after the loop: `level`, `area` from the final volume (`level = cappedPiecewise(volume, levels)`, `area = cappedPiecewise(volume, areas)`)
  = the tail of `Storage.run`.
Literal identities `NatZero`, `NatTwo` (`0`/`0.0`, `2`/`2.0`) and the law `AddZero` (the hand model adds the zero spill
volume when nothing spills). -/
theorem gen_eq_Storage {α} [Num α] (h0 : NatZero α) (h2 : NatTwo α) (hadd : AddZero α) (t : Storage.Tables α)
    (hn : 0 < t.volumes.length) (keep : Bool) (fo fi : Nat) (iv il ia deltaT : α) (nLVA : Int) (chk : Int → List α → Bool)
    (volume level area : α) (nsub : Int) (tags : List String) (rain pet inflow demand tmc : α) :
    ((storageWaterBalance.step piecewiseArg fo fi iv il ia deltaT nLVA t.levels t.volumes t.areas t.minRelease t.maxRelease chk
        0 ((t.volumes.length : Int) - 1) t.volCurveMin t.volCurveMax t.maxSpill volume level area nsub rain pet inflow demand
        tmc).map (fun r => (r.1.1, r.1.2.1, r.2)) =
      (exceptToOption (Storage.step t keep fo fi deltaT volume tags (rain, pet, inflow, demand))).map
        (fun r => (r.1, level, (r.2.2.volume, r.2.2.outflow, r.2.2.rainfallVolume, r.2.2.evaporationVolume)))) ∧
    (storageWaterBalance.final piecewiseArg iv il ia deltaT nLVA t.levels t.volumes t.areas t.minRelease t.maxRelease chk
        0 ((t.volumes.length : Int) - 1) t.volCurveMin t.volCurveMax t.maxSpill volume level area nsub =
      exceptToOption (do
        let level ← Storage.cappedPiecewise t volume t.levels
        let area ← Storage.cappedPiecewise t volume t.areas
        pure (volume, level, area))) := by
  refine ⟨?_, ?_⟩
  · unfold storageWaterBalance.step Storage.step
    have h0' := h0
    unfold NatZero at h0'
    simp only [Storage.mmToM, bind, Except.bind, pure, Except.pure]
    have hW := gen_eq_Storage_outer t h0 h2 hadd hn keep fi inflow demand (rain / deltaT) (pet / deltaT)
      ((rain / deltaT - pet / deltaT) * 1e-3) (t.volCurveMax - tmc) fo
      { timeRemaining := deltaT, subtimestep := deltaT, volume := volume, outflowVolume := 0, rainfallVol := 0,
        evaporationVol := 0, tags := tags, trace := [] } area nsub demand
    simp only [h0'] at hW ⊢
    split at hW <;> rename_i hO <;> rw [hO]
    · rw [hW]
      rfl
    · obtain ⟨c, hc, e1, e4, e5, e6⟩ := hW
      rw [hc]
      simp only [exceptToOption, Option.map_some, e1, e4, e5, e6]
  · unfold storageWaterBalance.final
    simp only [gen_eq_Storage_cappedPiecewise t hn, exceptToOption_bind]
    rfl

end OW.Props.GenTie
