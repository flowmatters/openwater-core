import OW.Proofs.GenIdxFn
import OW.Proofs.Dates
import OW.Proofs.NdDot
/-!
# GenTieIndex — the syntactic tie for the integer / index code, the hyperslab arithmetic, util/fn and the calendar helpers

`OW/Gen/Index.lean` is REGENERATED on every run by `harness/cmd/owtransidx` from the Go source: one definition
`OW.Gen.Idx.<pkg>.<Func>` per function of data/sliceops.go, data/arraysint.go, data/arrays.go (the genny TEMPLATE, which C09
proves the gen-*.go files equal to), util/slice, util/m, conv, io/hdf5_util.go (`sliceSize`, `makeHyperslab`), util/fn
(`brackets`, `Piecewise`, `FindRoot`) and models/functions/dates.go (`leapYear`, `daysInMonth`, `_dayOfYear`), in the monad
`Except String` (a Go panic is `.error "<class>"`), loops as `loopN` of its prelude applied to the translated loop body. Each theorem `gen_eq_<Func>` below states that the regenerated definition IS the hand-written model function the
theorems of C01 / C02 / C03 (OW/Nd/Ints.lean, OW/Nd/View.lean), C08 (OW/Sim/H5.lean), C18 (OW/Util/Piecewise.lean,
OW/Util/FindRoot.lean) and C19 (OW/Util/Dates.lean) are stated about — for ALL arguments, including the ones on which the
Go code panics (same error class on both sides). Where the hand-written function takes a `Nat` (a count, an axis: `Uniform`,
`Ones`, `Len`) the theorem is for the non-negative arguments; `Uniform` has its negative case in `gen_eq_Uniform_neg`.

How the proofs are built (no property-specific reasoning):
* straight-line functions: unfolding and case analysis;
* loops: `OW/Proofs/GenIdx.lean` / `GenIdxFn.lean` have a lemma per loop SHAPE (that of the source, and that of a stored rewrite where it
  differs: the second alternative of a `first` below, unless marked otherwise), stated for an arbitrary loop body `body`
  and a hypothesis `h` saying what one iteration does (e.g. `body i res = getIdx lhs i >>= fun a => getIdx rhs i >>= fun b =>
  setIdx res i (a * b) >>= …`), proved by induction on the list / the iteration count against the structurally recursive
  hand-written model (index loop versus recursion on the list: lists split as `pre ++ suf`; the left-to-right accumulation of
  `dotProduct` / `Index` versus the right-nested sum of the model uses associativity of `+` on `Int` — the only arithmetic law
  a loop lemma uses). Here `body` is instantiated by unification with the REGENERATED loop body and `h` is proved by `rfl` or by
  unfolding + case analysis. So a theorem fails exactly when the regenerated body no longer does, per iteration, what the
  hand-written model does;
* `Contiguous`, `makeHyperslab`, `FindRoot` (bodies with early exits / several result slices / a nested loop): the hypothesis is
  "one iteration = one step of the hand-written model" (`contigStep`, `slabDim`, `trialCtl` / `iterCtl`, all defined from the
  hand-written functions), on states satisfying the loop invariant.

Renaming locals, introducing temporaries, reordering independent pure statements, and reordering the declarations of loop
variables of different types leave the theorems intact (assignments are shadowing `let`s; the carried tuple of a loop is ordered
by type, then by declaration). So do: `range` ↔ three-clause loops over the same elements (ONE rendering,
`loopN`; the lemmas stated about `loopRange` are reached with the simp lemma `range_loopN0`), `switch` ↔ if-chain, several early returns ↔ one merged
short-circuit condition, a test and its negation with the branches swapped (`ite_lt_eq_ite_ge`), library min / max ↔ explicit comparisons in `sliceSize`, helper functions extracted or inlined where the helper has no
loop of its own or is one of `dotProduct` / `Multiply` (`gen_unfold`, `dot_loop_inline`, `mul_loop_inline`). And: write-only locals (removed by the translator), the container the trial loop of `FindRoot` runs over (a slice built with `append`,
with or without spare capacity ↔ a fixed `[3]float64` with a count: the cases "which trial points are there" are decided first, the
list is then explicit — `iter_shape_ts`; for a slice the trial loop ranges over, `iter_shape`), the direction of a loop whose counter the body does not use, parallel
assignments, bookkeeping moved behind an early return, `brackets` with the upper index alone (`brackets_fin1`) or through an accessor
closure (inlined by the translator), the three Gregorian tests in any order, `range` over the result slice instead of the operand of
the same length (`idivmod_loop0`: that slice only gives the number of iterations), index loops from 1 for `range v[1:]` (`range_loopN1`, `argmax_idx_loop1`), `Increment` with the new
value stored once (`inc_body_reordered`), `Offsets` with a running stride (`offsets_loop_stride`). Still beyond these proofs: swapping
the declarations of two carried variables of the same type, a bracket held in a struct with methods (`FindRoot`), a calendar function
re-derived from another table: the tie then reports a broken obligation although the behaviour is the same (the behavioural families
decide).

Scope: Go `int` is `Int` (overflow not modelled), `uint` is `Nat`; slices are lists, a function that writes into a slice /
through a pointer parameter returns the updated value (aliasing between arguments not modelled); `data.ND1Float64` arguments of
util/fn are the lists of their elements; callbacks are pure total functions; the ghost components of the hand-written
`FindRoot` result (evaluation points, exit tag) have no counterpart in the Go function and are not tied.
-/
namespace OW.Props.GenTieIndex
open OW OW.Gen.Idx OW.Proofs.GenIdx
open OW.Nd hiding R

/-- `Product` (data/sliceops.go) is the left fold `productL`, hence (`productL_eq` of C02) `product` -/
theorem gen_eq_Product (ix : Idx) : data.Product ix = .ok (productL ix) := by
  simp only [data.Product, Int.sub_zero, Int.toNat_natCast, range_loopN0]
  rw [fold_loop (· * ·) _ ?_]
  · rfl
  · intros; rfl

theorem gen_eq_dotProduct (lhs rhs : Idx) : data.dotProduct lhs rhs = dotProduct lhs rhs := by
  simp only [data.dotProduct, Int.sub_zero, Int.toNat_natCast]
  rw [dot_loop0 lhs rhs _ ?_]
  · cases dotProduct lhs rhs <;> simp
  · intros; rfl

theorem gen_eq_Multiply (lhs rhs : Idx) : data.Multiply lhs rhs = multiply lhs rhs := by
  simp only [data.Multiply, Int.sub_zero, Int.toNat_natCast, goMake_nat, bind_ok]
  rw [mul_loop0 lhs rhs _ ?_]
  · cases multiply lhs rhs <;> simp
  · intros; rfl

theorem gen_eq_decrement (v : Idx) : data.decrement v = .ok (decrement v) := by
  simp only [data.decrement, Int.sub_zero, Int.toNat_natCast, goMake_nat, bind_ok]
  rw [map_loop0 (· - 1) 0 v _ ?_]
  · rfl
  · intros; rfl

theorem gen_eq_IDivMod (n : Int) (den md : Idx) : data.IDivMod n den md = idivmod n den md := by
  simp only [data.IDivMod, gen_unfold, goMake_nat, bind_ok, Int.sub_zero, Int.toNat_natCast, List.length_replicate]
  -- the loop ranges over the denominators (the source), or (only its length matters) over the result slice of the same length
  -- (/verif/harmless/h3/C02-1)
  rw [idivmod_loop0 n den md _ ?hx _ ?h]
  case h => intros; rfl
  case hx => simp
  cases idivmod n den md <;> simp

/-- `slice.Uniform` (util/slice/slice.go) for a non-negative count -/
theorem gen_eq_Uniform (n : Nat) (val : Int) : slice.Uniform (n : Int) val = .ok (uniform n val) := by
  simp only [slice.Uniform, goMake_nat, bind_ok, Int.sub_zero, Int.toNat_natCast]
  split
  · next h => simp [uniform, h]
  · rw [const_loop0 val 0 n _ ?_]
    · rfl
    · intros; rfl

/-- `slice.Uniform` with a negative count: `make` panics -/
theorem gen_eq_Uniform_neg (n val : Int) (h : n < 0) : slice.Uniform n val = .error "alloc" := by
  simp only [slice.Uniform, goMake, h, if_true, bind_error]

theorem gen_eq_Ones (n : Nat) : slice.Ones (n : Int) = .ok (uniform n 1) := by
  simp only [slice.Ones, gen_eq_Uniform, bind_ok, pure_eq]

theorem gen_eq_max (a b : Int) : data.max a b = .ok (if a > b then a else b) := by
  simp only [data.max]; split <;> rfl

theorem gen_eq_Maximum (v : Idx) : data.Maximum v = maximum v := by
  cases v with
  | nil => simp [data.Maximum, maximum, oob]
  | cons x xs =>
    simp only [data.Maximum, getIdx_zero_cons, bind_ok, sliceFrom_one_cons, Int.sub_zero, Int.toNat_natCast, range_loopN0]
    -- a range loop over `vector[1:]` (the source), or the index loop from 1 that reads `vector[i]` (/verif/harmless/h3/C02-1)
    first
      | rw [fold_loop (fun r x => if r > x then r else x) _ ?_]
      | (rw [range_loopN1 _ x xs _ _ (by simp)]; rw [fold_loop (fun r x => if r > x then r else x) _ ?_])
    · rfl
    · intro i v s; simp only [gen_eq_max, bind_ok, pure_eq]

theorem gen_eq_Argmax (v : Idx) : data.Argmax v = argmax v := by
  cases v with
  | nil => simp [data.Argmax, argmax, oob]
  | cons x xs =>
    simp only [data.Argmax, getIdx_zero_cons, bind_ok, sliceFrom_one_cons, Int.sub_zero, Int.toNat_natCast, range_loopN0]
    first
      | (rw [argmax_loop 1 _ ?_]
         · simp [argmax]
         · intro i v s
           by_cases h : v > s.2 <;> simp [h])
      | (rw [argmax_idx_loop1 x xs _ ?_ _ (by simp)]   -- the index loop from 1 (`res = i`, `maxFound = vector[i]`: /verif/harmless/h3/C02-1)
         · simp [argmax]
         · intro i s
           cases getIdx (x :: xs) i with
           | error e => rfl
           | ok a => by_cases h : a > s.2 <;> simp [h])

theorem gen_eq_IntsToUints (l : Idx) : conv.IntsToUints l = .ok (OW.Sim.H5.intsToUints l) := by
  simp only [conv.IntsToUints, Int.sub_zero, Int.toNat_natCast, goMake_nat, bind_ok]
  rw [map_loop0 toUint 0 l _ ?_]
  · rfl
  · intros; rfl

theorem gen_eq_UintsToInts (l : List Nat) : conv.UintsToInts l = .ok (OW.Sim.H5.uintsToInts l) := by
  simp only [conv.UintsToInts, Int.sub_zero, Int.toNat_natCast, goMake_nat, bind_ok]
  rw [map_loop0 Int.ofNat 0 l _ ?_]
  · rfl
  · intros; rfl

theorem gen_eq_Index (nd : data.NdArrayTypeCommon) (loc : Idx) :
    data.NdArrayTypeCommon.Index nd loc = (toView nd).index loc := by
  simp only [data.NdArrayTypeCommon.Index, Int.sub_zero, Int.toNat_natCast]
  rw [dot_loop0 loc nd.OffsetStep _ ?_]
  · simp only [View.index, indexAux_eq_dotProduct, toView]
    cases dotProduct loc nd.OffsetStep <;> simp
  · intros; rfl

theorem gen_eq_MinInt (a b : Int) : m.MinInt a b = .ok (OW.Sim.H5.minInt a b) := by
  simp only [m.MinInt, OW.Sim.H5.minInt]; split <;> rfl
theorem gen_eq_MaxInt (a b : Int) : m.MaxInt a b = .ok (OW.Sim.H5.maxInt a b) := by
  simp only [m.MaxInt, OW.Sim.H5.maxInt]; split <;> rfl

theorem gen_eq_sliceSize (sl : List Int) (size : Int) : io.sliceSize sl size = OW.Sim.H5.sliceSize sl size := by
  unfold io.sliceSize OW.Sim.H5.sliceSize
  match sl with
  | [] | [_] => simp [oob]
  | [_, _] => simp [oob, gen_eq_MinInt, gen_eq_MaxInt, gen_unfold, ite_ok_bind]
  | s0 :: s1 :: s2 :: rest =>
    -- the same reads in the same order (same panics); the clipped length is then compared as an integer expression (`omega`), so
    -- `MinInt` / `MaxInt` calls and explicit comparisons are interchangeable
    simp only [getIdx_zero_cons, getIdx_one_cons, getIdx_two_cons, bind_ok, gen_eq_MinInt, gen_eq_MaxInt, gen_unfold, ite_ok_bind,
      goDiv, pure_eq] <;>
    (unfold OW.Sim.H5.maxInt OW.Sim.H5.minInt
     by_cases h2 : s2 = 0
     · simp only [h2, if_true]
     · simp only [h2, if_false] <;> (congr 2 <;> (repeat' split) <;> omega))

theorem gen_eq_Offsets (dims : Idx) : data.Offsets dims = offsets dims := by
  simp only [data.Offsets, goMake_nat, bind_ok, offsets]
  cases hd : dims.length with
  | zero =>
    have : dims = [] := List.eq_nil_of_length_eq_zero hd
    subst this
    simp [setIdx, oob]
  | succ n =>
    have hne : dims.isEmpty = false := by cases dims <;> simp_all
    have hdrop : dims.drop n = [dims[n]'(by omega)] := by
      rw [List.drop_eq_getElem_cons (by omega), List.drop_eq_nil_of_le (by omega)]
    have e1 : ((n + 1 : Nat) : Int) - 1 = (n : Int) := by omega
    have e4 : ((n + 1 : Nat) : Int) - 2 = (n : Int) - 1 := by omega
    have s0 := setIdx_zeros n (0 : Int) 1 []
    rw [List.append_nil] at s0
    simp only [e1, s0, bind_ok, hne, e4, downCount]
    first
      | (rw [show [(1 : Int)] = offsetsT (dims.drop n) by rw [hdrop]; rfl, offsets_loop dims _ ?_ n (by omega)]
         · simp
         · intros; rfl)
      | (-- a running stride instead of re-reading `res[i+1]` (/verif/harmless/h3/C02-1)
         have hcnt : ((n : Int) - 0).toNat = n := by omega
         rw [hcnt, offsets_loop_stride dims _ ?_ n (by omega) 1 [] (by rw [hdrop]; rfl)]
         · simp
         · intros; rfl)

/-- `Increment` (data/sliceops.go): the updated vector -/
theorem gen_eq_Increment (vector wrt : Idx) : data.Increment vector wrt = increment vector wrt := by
  simp only [data.Increment, downCount]
  apply inc_fin
  · first
      | (intro i vec; exact inc_body_reordered wrt i vec)   -- new value computed first, stored once (/verif/harmless/h3/C02-1)
      | (intros; rfl)   -- the source
      | (intros; simp only [ite_lt_eq_ite_ge]; rfl)   -- `if v[i] < w[i] { return }` in place of `if v[i] >= w[i] { … } else { return }` (C01-3)
  · intros; rfl
  · intros; rfl

/-- `NdArrayTypeCommon.Contiguous`: one iteration of the regenerated loop is one unfolding of `View.contigLoop` -/
theorem gen_eq_Contiguous (nd : data.NdArrayTypeCommon) :
    data.NdArrayTypeCommon.Contiguous nd = (toView nd).contiguous := by
  simp only [data.NdArrayTypeCommon.Contiguous, View.contiguous, downCount]
  apply contig_fin (toView nd)
  · intro k s
    simp only [getIdx_nat, contigStep, contigInner, toView]
    cases nd.Dims[k]? with
    | none => rfl
    | some d =>
      simp only [bind_ok]
      by_cases hd : d > 1
      · simp only [hd, if_true]
        cases hm : s.1 with
        | true => simp
        | false =>
          simp only [Bool.false_eq_true, if_false]
          cases nd.Step[k]? with
          | none => rfl
          | some st =>
            simp only [bind_ok]
            by_cases hs : st > 1
            · simp [hs]
            · simp only [hs, if_false]
              cases nd.Offset[k]? with
              | none => rfl
              | some o =>
                simp only [bind_ok]
                by_cases ho : o > s.2
                · simp [ho]
                · simp only [ho, if_false]
                  cases nd.OriginalDims[k]? with
                  | none => rfl
                  | some od => by_cases hne : d = od <;> simp [hne]
      · simp only [hd, if_false]
        cases nd.OriginalDims[k]? with
        | none => rfl
        | some od => by_cases hne : d = od <;> simp [hne]
  · intros; rfl
  · intros; rfl

/-- `NdArrayTypeCommon.SliceInto` (the stride composition): the metadata written into `dest` -/
theorem gen_eq_SliceInto (nd dest : data.NdArrayTypeCommon) (loc dims : Idx) (step : Option Idx) :
    toView <$> data.NdArrayTypeCommon.SliceInto nd dest loc dims step = (toView nd).sliceInto loc dims step := by
  -- the index arithmetic is `dotProduct` / `Multiply`, called (the source: rewritten by their theorems) or written out inline (the same
  -- loops: `dot_loop_inline`, `mul_loop_inline`; /verif/harmless/h3/C01-1)
  simp only [data.NdArrayTypeCommon.SliceInto, gen_eq_dotProduct, gen_eq_Multiply, View.sliceInto, toView, gen_unfold,
    goMake_nat, bind_ok, Int.sub_zero, Int.toNat_natCast, dot_loop_inline, mul_loop_inline]
  cases dotProduct loc nd.OffsetStep with
  | error e => rfl
  | ok d =>
    cases step with
    | none =>
      simp only [bind_ok, pure_eq]
      cases multiply nd.Step nd.Offset <;> rfl
    | some st =>
      simp only [bind_ok]
      cases multiply nd.Step st with
      | error e => rfl
      | ok s2 =>
        simp only [bind_ok, pure_eq]
        cases multiply s2 nd.Offset <;> rfl

theorem gen_eq_Len (nd : data.NdArrayTypeCommon) (ax : Nat) :
    data.NdArrayTypeCommon.Len nd (ax : Int) = (toView nd).len ax := by
  simp only [data.NdArrayTypeCommon.Len, getIdx_nat, View.len, toView]
  cases nd.Dims[ax]? <;> rfl
theorem gen_eq_Len1 (nd : data.NdArrayTypeCommon) : data.NdArrayTypeCommon.Len1 nd = (toView nd).len 0 := gen_eq_Len nd 0
theorem gen_eq_Len2 (nd : data.NdArrayTypeCommon) : data.NdArrayTypeCommon.Len2 nd = (toView nd).len 1 := gen_eq_Len nd 1
theorem gen_eq_Len3 (nd : data.NdArrayTypeCommon) : data.NdArrayTypeCommon.Len3 nd = (toView nd).len 2 := gen_eq_Len nd 2
theorem gen_eq_NDims (nd : data.NdArrayTypeCommon) : data.NdArrayTypeCommon.NDims nd = .ok ((toView nd).ndims : Int) := rfl
theorem gen_eq_Shape (nd : data.NdArrayTypeCommon) : data.NdArrayTypeCommon.Shape nd = .ok (toView nd).dims := rfl
theorem gen_eq_NewIndex (nd : data.NdArrayTypeCommon) (val : Int) :
    data.NdArrayTypeCommon.NewIndex nd val = .ok ((toView nd).newIndex val) := by
  simp only [data.NdArrayTypeCommon.NewIndex, data.NdArrayTypeCommon.NDims, pure_eq, bind_ok, gen_eq_Uniform]
  rfl

/-- `makeHyperslab` (io/hdf5_util.go): offset, stride, count, block -/
theorem gen_eq_makeHyperslab (sel : OW.Sim.H5.Sel) (dims : Idx) :
    io.makeHyperslab sel dims =
      (fun s : OW.Sim.H5.Slab => (s.offset, s.stride, s.count, s.block)) <$> OW.Sim.H5.makeHyperslab sel dims := by
  simp only [io.makeHyperslab, goMake_nat, bind_ok, OW.Sim.H5.makeHyperslab, Int.sub_zero, Int.toNat_natCast, range_loopN0]
  rw [slab_loop0 dims _ ?_ sel]
  · cases OW.Sim.H5.slabDims dims 0 sel <;> rfl
  · intro po so ps ss pc sc pb sb z1 z2 z3 z4 dim hps hpc hpb
    cases dim with
    | none =>
      simp only [gen_unfold, setIdx_pre, setIdx_pre' _ _ _ _ _ hps, setIdx_pre' _ _ _ _ _ hpc, setIdx_pre' _ _ _ _ _ hpb, bind_ok,
        getIdx_nat, OW.Sim.H5.slabDim]
      cases dims[po.length]? <;> first | rfl | simp [toUint_eq, oob]
    | some sl =>
      simp only [OW.Sim.H5.slabDim]
      match sl with
      | [] => simp only [gen_unfold, getIdx_nil, bind_error]; rfl
      | [_] | [_, _] => simp only [gen_unfold, getIdx_zero_cons, getIdx_one_cons, getIdx_two_cons, getIdx_nil, setIdx_pre, bind_ok, bind_error]; rfl
      | s0 :: s1 :: s2 :: rest =>
        simp only [gen_unfold, Option.getD_some, getIdx_zero_cons, getIdx_one_cons, getIdx_two_cons, setIdx_pre, setIdx_pre' _ _ _ _ _ hps,
          setIdx_pre' _ _ _ _ _ hpc, setIdx_pre' _ _ _ _ _ hpb, bind_ok, getIdx_nat, gen_eq_sliceSize]
        cases dims[po.length]? with
        | none => rfl
        | some n =>
          simp only [bind_ok]
          cases OW.Sim.H5.sliceSize (s0 :: s1 :: s2 :: rest) n <;> first | rfl | simp [toUint_eq]

/-- `slice.Equal` (util/slice/slice.go; `shapesMatch` of io/hdf5_util.go) -/
theorem gen_eq_Equal (lhs rhs : Idx) : slice.Equal lhs rhs = .ok (decide (lhs = rhs)) := by
  simp only [slice.Equal]
  by_cases hlen : lhs.length = rhs.length
  · have hlen' : ¬ ((lhs.length : Int) ≠ (rhs.length : Int)) := by omega
    simp only [hlen', if_false, Int.sub_zero, Int.toNat_natCast, range_loopN0]
    rw [equal_loop0 lhs rhs _ ?_ hlen]
    · by_cases he : lhs = rhs <;> simp [he]
    · intros; rfl
  · have hlen' : ((lhs.length : Int) ≠ (rhs.length : Int)) := by omega
    have hne : lhs ≠ rhs := fun e => hlen (by rw [e])
    simp [hlen', hne]

/-- `brackets` (util/fn/piecewise.go): `(-1, -1)` or the bracketing pair of indices -/
theorem gen_eq_brackets {α : Type} [Num α] (x : α) (xs : List α) :
    fn.brackets x xs = bracketPair <$> OW.Fn.brackets x xs := by
  cases xs with
  | nil => simp [fn.brackets, OW.Fn.brackets]
  | cons x0 rest =>
    have e : ((((x0 :: rest).length : Nat) : Int) - 1).toNat = rest.length := by simp
    simp only [fn.brackets, OW.Fn.brackets, setIdx_single, bind_ok, nd1Get_single, getIdx_zero_cons, getIdx_last, e]
    split
    · rfl
    · split
      · next h2 => simp [bracketPair, h2]
      · next h2 =>
        have h2' : ¬ ((x0 :: rest).getLast?.getD x0 < x) := h2
        simp only [h2', if_false, map_ok]
        -- the loop carries (i, idx) (the source), or idx alone when the lower index is computed from the upper one (/verif/harmless/h3/C18-2)
        first
          | (refine brackets_search x (x0 :: rest) (fun i a => (i, [a])) (fun i _ => i) _ _ ?_ ?_ ?_ ?_ rest [x0] _ rfl (by simp)
             · intro j i a; rfl
             · intros; rfl
             · intros; rfl
             · intros; rfl)
          | (refine brackets_fin1 x (x0 :: rest) _ _ ?_ ?_ ?_ rest [x0] _ rfl (by simp)
             · intro j a; rfl
             · intros; rfl
             · intros; rfl)

/-- `Piecewise` (util/fn/piecewise.go): value, `err != nil`, or panic -/
theorem gen_eq_Piecewise {α : Type} [Num α] (x : α) (xs ys : List α) :
    pwOf (fn.Piecewise x xs ys) = OW.Fn.piecewise x xs ys := by
  simp only [fn.Piecewise, OW.Fn.piecewise, gen_eq_brackets]
  cases hb : OW.Fn.brackets x xs with
  | error e => rfl
  | ok o =>
    cases o with
    | none => simp only [map_ok, bind_ok, bracketPair, Int.reduceNeg, Int.reduceLT, true_or, if_true, pure_eq, pwOf]
    | some p =>
      obtain ⟨i, j⟩ := p
      have hneg : ¬ (((i : Int) < 0) ∨ ((j : Int) < 0)) := by omega
      simp only [map_ok, bind_ok, bracketPair, hneg, if_false, nd1Get_single, setIdx_single, getIdx_nat]
      cases xs[i]? with
      | none => rfl
      | some x0 =>
        cases xs[j]? with
        | none => rfl
        | some x1 =>
          cases ys[i]? with
          | none => rfl
          | some y0 =>
            cases ys[j]? with
            | none => rfl
            | some y1 =>
              simp only [bind_ok]
              by_cases hx : Num.feq x x1 = true
              · simp [hx, pwOf]
              · have hx' : Num.feq x x1 = false := by simpa using hx
                simp only [hx', Bool.false_eq_true, if_false]
                -- the clamp to the right knot's value: an assignment before the final return (the source), or a return of its own
                -- (/verif/harmless/h3/C18-2)
                first
                  | rw [pwOf_ite]
                  | (simp only [ge_iff_le, gt_iff_lt, pure_eq]
                     split <;> rename_i hc <;> simp only [hc, if_true, if_false, pwOf])

/-- `FindRoot` (util/fn/root.go): the two results; `maxIterations ≤ 0` runs no iteration. The ghost components of the
hand-written model's result (evaluation points, final bracket, exit tag) have no counterpart in the Go function. -/
theorem gen_eq_FindRoot {α : Type} [Num α] (f : α → α) (f' : Option (α → α)) (x0 lo hi tol conv : α) (n : Int) :
    fn.FindRoot f f' x0 lo hi tol conv n =
      (fun r : OW.Fn.Res α => (r.x, r.delta)) <$> OW.Fn.findRoot f f' x0 lo hi tol conv n.toNat := by
  simp only [fn.FindRoot, OW.Fn.findRoot, Int.sub_zero]
  by_cases hr : (0 < f lo ∨ f hi < 0)
  · have hr' : (f lo > 0 ∨ f hi < 0) := hr
    simp only [hr, hr', if_true, bind_error, map_error]
  · have hr' : ¬ (f lo > 0 ∨ f hi < 0) := hr
    simp only [hr, hr', if_false, pure_eq, bind_ok, map_ok, ite_ok_bind, Int.toNat_natCast, range_loopN0]
    -- the iteration loop (its counter is not used in the body: it may count up or down)
    refine iterate_fin f f' tol conv _ _ ?_ ?_ ?_ _ n.toNat _ x0 (f x0) ⟨lo, f lo, hi, f hi⟩ [lo, hi, x0] []
    · intro it b x delta ev
      dsimp only [osOf]
      first
        | -- (the source) the trial points are collected in a slice and the trial loop ranges over it: only "the slice is `trialXs`" depends on
          -- which points there are; one trial is `trialStep` and the end of the iteration is `pick` whatever the slice
          (refine iter_shape f f' tol conv x delta b ev _ _ _ ?_ ?_ ?_ ?_
           · cases f' with
             | none => simp [OW.Fn.trialXs, OW.Fn.halvingX, OW.Fn.secantX]
             | some d =>
               by_cases c0 : Num.feq (d x) 0.0 = true
               · simp [OW.Fn.trialXs, OW.Fn.halvingX, OW.Fn.secantX, c0]
               · have c0' : Num.feq (d x) 0.0 = false := by simpa using c0
                 by_cases c1 : (b.minX < x - delta / d x ∧ x - delta / d x < b.maxX) <;>
                   simp [OW.Fn.trialXs, OW.Fn.halvingX, OW.Fn.secantX, c0', c1]
           · intro i trial s
             simp only [isOf, trialCtl, OW.Fn.trialStep]
             by_cases c2 : Num.abs (f trial) < tol
             · simp [c2]
             · by_cases c3 : f trial < 0.0
               · by_cases c1 : Num.abs (x - trial) < conv <;> by_cases c4 : (s.b.minX < trial ∧ trial ≤ s.b.maxX) <;>
                   simp [c1, c2, c3, c4]
               · by_cases c1 : Num.abs (x - trial) < conv <;> by_cases c5 : (trial < s.b.maxX ∧ s.b.minX ≤ trial) <;>
                   simp [c1, c2, c3, c5]
           · intros; rfl
           · intro ts s
             simp only [isOf, osOf, OW.Fn.pick]
             by_cases c : Num.abs s.b.minDelta ≤ s.b.maxDelta <;> by_cases hh : s.hit = ts.length <;>
               simp [c, hh] <;> omega)
        | -- any other container (a fixed array with a count: /verif/harmless/h3/C11-3): the trial points of this iteration are decided first (two, or three
          -- with the Newton-Raphson point); in each case the text is evaluated (`simp`), so that the list the trial loop runs over is
          -- explicit, and `iter_shape_ts` leaves the same obligations as above
          (rcases f' with _ | d
           case' some => by_cases c0 : Num.feq (d x) 0.0 = true
           case' neg => by_cases c1 : (b.minX < x - delta / d x ∧ x - delta / d x < b.maxX)
           all_goals
             simp [setIdx, sliceTo, List.replicate, ite_ok_bind, *]
             refine iter_shape_ts _ _ _ _ _ _ _ _ _ _ _ ?_ ?_ ?_ ?_
             · simp [OW.Fn.trialXs, OW.Fn.halvingX, OW.Fn.secantX, *]
             · intro i trial s
               simp only [isOf, trialCtl, OW.Fn.trialStep]
               by_cases c1 : Num.abs (x - trial) < conv <;> by_cases c2 : Num.abs (f trial) < tol <;>
                 by_cases c3 : f trial < 0.0 <;> by_cases c4 : (s.b.minX < trial ∧ trial ≤ s.b.maxX) <;>
                 by_cases c5 : (trial < s.b.maxX ∧ s.b.minX ≤ trial) <;> simp [c1, c2, c3, c4, c5]
             · intros; rfl
             · intro s
               simp only [isOf, osOf, OW.Fn.pick]
               by_cases c : Num.abs s.b.minDelta ≤ s.b.maxDelta <;> by_cases hh2 : s.hit = 2 <;> by_cases hh3 : s.hit = 3 <;>
                 simp [c, hh2, hh3] <;> omega)
    · intros; rfl
    · intros; rfl

theorem gen_eq_leapYear (y : Int) : functions.leapYear y = .ok (OW.Dates.leapYear y) := by
  have e4 : ¬ ((4 : Int) = 0) := by decide
  have e100 : ¬ ((100 : Int) = 0) := by decide
  have e400 : ¬ ((400 : Int) = 0) := by decide
  simp only [functions.leapYear, OW.Dates.leapYear, goMod, e4, e100, e400, if_false, bind_ok]
  -- the three tests may come in any order: as facts about `%` their consequences (400 ∣ y → 100 ∣ y → 4 ∣ y) are `omega`'s
  by_cases a : y % 4 = 0 <;> by_cases b : y % 100 = 0 <;> by_cases c : y % 400 = 0 <;> simp [OW.Dates.tmod_zero_iff, a, b, c] <;> omega

/-- `daysInMonth` (models/functions/dates.go) with the `DAYS_IN_MONTH` table of the source -/
theorem gen_eq_daysInMonth (m y : Int) : functions.daysInMonth m y = optR (OW.Dates.daysInMonth m y) := by
  simp only [functions.daysInMonth, gen_eq_leapYear, bind_ok, OW.Dates.daysInMonth, OW.Dates.dimTable]
  by_cases hm : m = 2
  · subst hm
    cases OW.Dates.leapYear y <;> simp [optR, getIdx]
  · have hm' : (m == 2) = false := by simpa using hm
    simp only [hm, hm', if_false, Bool.false_and, Bool.false_eq_true]
    by_cases hneg : m - 1 < 0
    · simp [hneg, optR, getIdx]
    · simp only [hneg, if_false, getIdx, pure_eq]
      cases [31, 28, 31, 30, 31, 30, 31, 31, 30, 31, 30, (31 : Int)][(m - 1).toNat]? <;> rfl

theorem gen_eq_dayOfYear (d m y : Int) : functions._dayOfYear d m y = optR (OW.Dates.dayOfYear d m y) := by
  simp only [functions._dayOfYear, OW.Dates.dayOfYear]
  rw [doy_loop y m _ ?_ (m - 1).toNat 1 0 rfl]
  · cases OW.Dates.doyLoop y m (m - 1).toNat 1 0 <;> rfl
  · intro mi s; simp only [gen_eq_daysInMonth]; rfl

end OW.Props.GenTieIndex
