import OW.Gen.Kernels
import OW.Kernels.StorageRouting
import OW.Props.GenTieBase
import Mathlib.Tactic.SplitIfs
/-! Tie of `storageRouting` (models/routing/storage_routing.go): `runRouting`, `calcOutflow` and its three function literals, then the step.
The regenerated definitions return `Option` (`none` = a Go panic), the hand model `Except`: every statement relates the two through `toOpt`
(`exceptToOption` of `GenTieBase.lean`, then the projection onto the tuple the code returns), and the decision tree of `calcOutflow` is
walked once, one `ite_eq_toOpt` per test and one `cases` per call that may panic. -/
namespace OW.Props.GenTie
open OW OW.Kernels OW.Gen.K OW.Gen.Prelude

/-- `exceptToOption`, then a projection of the result record onto the tuple the regenerated code returns -/
def toOpt {ε β γ : Type} (f : β → γ) (x : Except ε β) : Option γ := (exceptToOption x).map f

theorem toOpt_ok {ε β γ : Type} (f : β → γ) (b : β) : toOpt f (.ok b : Except ε β) = some (f b) := rfl

/-- one `if` of a decision tree whose leaves are related by `toOpt f` -/
theorem ite_eq_toOpt {ε β γ : Type} {c : Prop} [Decidable c] {f : β → γ} {a b : Option γ} {a' b' : Except ε β}
    (ha : a = toOpt f a') (hb : b = toOpt f b') : (if c then a else b) = toOpt f (if c then a' else b') := by
  rw [ha, hb, apply_ite (toOpt f)]

/-! ### models/routing/storage_routing.go -/

theorem gen_eq_StorageRouting_runRouting {α} [Num α] (c : StorageRouting.Ctx α) (q : α) :
    storageRouting.runRouting q c.inflow c.lateral c.initialFluxMax c.storage c.area c.netEvapRate c.deadStorage c.duration
        c.bias c.routingPower c.routingConstant c.qlimit c.klimit c.koffset =
      toOpt (fun r => (r.massBalance, r.outflow, r.sIndex)) (StorageRouting.runRouting c q) := by
  unfold storageRouting.runRouting StorageRouting.runRouting StorageRouting.rr StorageRouting.sIndex StorageRouting.newStorage
    StorageRouting.netEvaporationFlux StorageRouting.linearZone
  simp only [gen_unfold, Bool.or_eq_true, Bool.and_eq_true, decide_eq_true_eq, gt_iff_lt]
  refine ite_eq_toOpt rfl ?_
  tie

section CalcOutflow
variable {α : Type} [Num α]
  (inflow lateral bias prevQi prevOutflow prevStorage netEvapRate area deadStorage duration routingPower routingConstant qlimit klimit koffset : α)

theorem gen_eq_StorageRouting_evaluateRouting (q : α) :
    storageRouting.calcOutflow_evaluateRouting inflow lateral bias prevStorage netEvapRate area deadStorage duration
        routingPower routingConstant qlimit klimit koffset (Num.gmax 0.0 prevStorage / duration + inflow) q =
      toOpt (fun r => (r.massBalance, r.outflow, r.sIndex))
        (StorageRouting.runRouting (StorageRouting.mkCtx inflow lateral bias prevStorage netEvapRate area deadStorage duration
          routingPower routingConstant qlimit klimit koffset) q) :=
  gen_eq_StorageRouting_runRouting (StorageRouting.mkCtx inflow lateral bias prevStorage netEvapRate area deadStorage duration
          routingPower routingConstant qlimit klimit koffset) q

theorem gen_eq_StorageRouting_slope (q : α) :
    storageRouting.calcOutflow_slopeOfMassBalance bias duration routingPower routingConstant qlimit klimit q =
      StorageRouting.slopeOfMassBalance (StorageRouting.mkCtx inflow lateral bias prevStorage netEvapRate area deadStorage duration
          routingPower routingConstant qlimit klimit koffset) q := by
  unfold storageRouting.calcOutflow_slopeOfMassBalance StorageRouting.slopeOfMassBalance StorageRouting.linearZone StorageRouting.mkCtx
  simp only [gen_unfold, Bool.or_eq_true, Bool.and_eq_true, decide_eq_true_eq, gt_iff_lt]
  try tie

/-- the instantiation of the abstract `fn.FindRoot` (util/fn/root.go, NOT translated by owtranslate: tied separately) in the
tie of `calcOutflow`: the hand-written model `OW.Fn.findRoot`, applied to the total version of the residual callback (a
panic of the callback is `NaN` there and is detected afterwards on the logged evaluation points, as in
`StorageRouting.solve`); `none` = `FindRoot` panics ("Invalid range") or the callback does. -/
def findRootArg (f : α → Option α) (f' : α → α) (x0 lo hi tol conv : α) (n : Int) : Option (α × α) :=
  match OW.Fn.findRoot (fun q => (f q).getD Num.nan) (some f') x0 lo hi tol conv n.toNat with
  | .error _ => none
  | .ok fr => if fr.evals.any (fun q => (f q).isNone) then none else some (fr.x, fr.delta)

theorem gen_eq_StorageRouting_massBalance :
    storageRouting.calcOutflow_evaluateRoutingMassBalance inflow lateral bias prevStorage netEvapRate area deadStorage duration
        routingPower routingConstant qlimit klimit koffset (Num.gmax 0.0 prevStorage / duration + inflow) =
      fun q => toOpt (fun r => r.massBalance)
        (StorageRouting.runRouting (StorageRouting.mkCtx inflow lateral bias prevStorage netEvapRate area deadStorage duration
          routingPower routingConstant qlimit klimit koffset) q) := by
  funext q
  unfold storageRouting.calcOutflow_evaluateRoutingMassBalance
  rw [gen_eq_StorageRouting_evaluateRouting]
  cases StorageRouting.runRouting (StorageRouting.mkCtx inflow lateral bias prevStorage netEvapRate area deadStorage duration
          routingPower routingConstant qlimit klimit koffset) q <;> rfl

/-- the residual callback panics at `q` (`runRouting` reports `outflow is nan`) -/
def evalPanics (c : StorageRouting.Ctx α) (q : α) : Bool :=
  match StorageRouting.runRouting c q with | .ok _ => false | .error _ => true

theorem findRootArg_eq (c : StorageRouting.Ctx α) (x0 lo hi tol conv : α) :
    findRootArg (fun q => toOpt (fun r => r.massBalance) (StorageRouting.runRouting c q)) (StorageRouting.slopeOfMassBalance c)
        x0 lo hi tol conv 20 =
      (match OW.Fn.findRoot (StorageRouting.massBalanceFn c) (some (StorageRouting.slopeOfMassBalance c)) x0 lo hi tol conv
          StorageRouting.maxIterations with
       | .error _ => none
       | .ok fr =>
         if fr.evals.any (evalPanics c) then none
         else some (fr.x, fr.delta)) := by
  unfold findRootArg
  have h1 : (fun q => (toOpt (fun r => r.massBalance) (StorageRouting.runRouting c q)).getD Num.nan) =
      StorageRouting.massBalanceFn c := by
    funext q; unfold StorageRouting.massBalanceFn; cases StorageRouting.runRouting c q <;> rfl
  have h2 : (fun q => (toOpt (fun r => r.massBalance) (StorageRouting.runRouting c q)).isNone) =
      evalPanics c := by
    funext q; unfold evalPanics; cases StorageRouting.runRouting c q <;> rfl
  rw [h1, h2]
  rfl

theorem runRouting_ok_notNaN (c : StorageRouting.Ctx α) (q : α) (r : StorageRouting.RR α)
    (h : StorageRouting.runRouting c q = .ok r) : Num.isNaN r.outflow = false := by
  unfold StorageRouting.runRouting at h
  dsimp only at h
  split at h
  · cases h
  · injection h with h; subst h; simp_all

theorem gen_eq_StorageRouting_calcOutflow :
    storageRouting.calcOutflow findRootArg inflow lateral bias prevQi prevOutflow prevStorage netEvapRate area deadStorage
        duration routingPower routingConstant qlimit klimit koffset =
      toOpt (fun r => (r.qi, r.outflow, r.storage))
        (StorageRouting.calcOutflow inflow lateral bias prevQi prevOutflow prevStorage netEvapRate area deadStorage duration
          routingPower routingConstant qlimit klimit koffset) := by
  unfold storageRouting.calcOutflow StorageRouting.calcOutflow
  have hs : storageRouting.calcOutflow_slopeOfMassBalance bias duration routingPower routingConstant qlimit klimit = _ :=
    funext (gen_eq_StorageRouting_slope inflow lateral bias prevStorage netEvapRate area deadStorage duration
        routingPower routingConstant qlimit klimit koffset)
  simp only [gen_eq_StorageRouting_evaluateRouting, gen_eq_StorageRouting_massBalance, hs, findRootArg_eq]
  have hz : storageRouting.zeroOutflowStorage inflow lateral (Num.gmax 0.0 prevStorage / duration + inflow) prevStorage area
      netEvapRate duration = StorageRouting.newStorage (StorageRouting.mkCtx inflow lateral bias prevStorage netEvapRate area
        deadStorage duration routingPower routingConstant qlimit klimit koffset) := rfl
  rw [hz]
  simp only [StorageRouting.solve, StorageRouting.maxQI, StorageRouting.netEvaporationFlux,
    StorageRouting.massBalanceLimit, StorageRouting.convergenceLimit, ge_iff_le]
  generalize hc : StorageRouting.mkCtx inflow lateral bias prevStorage netEvapRate area deadStorage duration
          routingPower routingConstant qlimit klimit koffset = c
  obtain ⟨e1, e2, e3, e4, e5, e6, e7, e8⟩ : c.initialFluxMax = Num.gmax 0.0 prevStorage / duration + inflow ∧ c.area = area ∧
      c.netEvapRate = netEvapRate ∧ c.lateral = lateral ∧ c.bias = bias ∧ c.storage = prevStorage ∧ c.inflow = inflow ∧
      c.duration = duration := by
    subst hc
    exact ⟨rfl, rfl, rfl, rfl, rfl, rfl, rfl, rfl⟩
  simp only [e1, e2, e3, e4, e5, e6, e7, e8]
  clear hs hz hc e1 e2 e3 e4 e5 e6 e7 e8
  refine ite_eq_toOpt rfl ?_
  cases StorageRouting.runRouting c (bias * (inflow + lateral)) with
  | error e => rfl
  | ok r0 =>
    simp only [toOpt_ok]
    refine ite_eq_toOpt rfl (ite_eq_toOpt rfl (ite_eq_toOpt rfl ?_))
    generalize bias * (inflow + lateral) + (1.0 - bias) * Num.gmax 0.0 (Num.gmax 0.0 prevStorage / duration + inflow -
        Num.gmin (Num.gmax 0.0 prevStorage / duration + inflow) (area * netEvapRate) + lateral) = mx
    cases StorageRouting.runRouting c mx with
    | error e => rfl
    | ok r1 =>
      simp only [toOpt_ok]
      refine ite_eq_toOpt rfl ?_
      generalize (if (decide (prevQi ≤ bias * (inflow + lateral)) || decide (mx ≤ prevQi)) = true then
          (bias * (inflow + lateral) + mx) * 0.5 else prevQi) = qi
      cases StorageRouting.runRouting c qi with
      | error e => rfl
      | ok r2 =>
        simp only [toOpt_ok]
        refine ite_eq_toOpt rfl ?_
        cases Fn.findRoot (StorageRouting.massBalanceFn c) (some (StorageRouting.slopeOfMassBalance c))
            (bias * (inflow + lateral)) (bias * (inflow + lateral)) mx 1e-3 0.0 StorageRouting.maxIterations with
        | error e => rfl
        | ok fr =>
          -- the hand model spells the test of the evaluation points out: it is `evalPanics c`
          show _ = toOpt _ (if fr.evals.any (evalPanics c) = true then _ else _)
          by_cases hany : fr.evals.any (evalPanics c) = true
          · simp only [hany, ↓reduceIte]
            rfl
          · simp only [hany, Bool.false_eq_true, ↓reduceIte]
            refine ite_eq_toOpt rfl ?_
            cases h4 : StorageRouting.runRouting c fr.x with
            | error e => rfl
            | ok r4 =>
              simp only [toOpt_ok]
              -- the code tests the outflow of the last evaluation for NaN once more
              rw [runRouting_ok_notNaN c fr.x r4 h4]
              rfl

end CalcOutflow

/-- the end of one iteration, for any result of `calcOutflow` -/
theorem step_tail {α} [Num α] (r : Except String (StorageRouting.CO α)) (inflow : α) (z : StorageRouting.Out α) :
    (match toOpt (fun r => (r.qi, r.outflow, r.storage)) r with
     | none => none
     | some call => some ((call.2.2, inflow, call.2.1, call.1), (call.2.1, call.2.2))) =
    (match (match r with
        | .error e => ((.error e : Except String (StorageRouting.St α)), z)
        | .ok r => (.ok ⟨r.qi, r.outflow, r.storage, inflow⟩, ⟨r.outflow, r.storage, r.tag⟩)) with
     | (.ok st', o) => some ((st'.storage, st'.inflow, st'.outflow, st'.qi), (o.outflow, o.storage))
     | (.error _, _) => none) := by
  cases r <;> rfl

/-- `storageRouting` (models/routing/storage_routing.go). Before the loop the code assigns the parameters `bias` and `x` and
computes `Klimit`, `Qlimit`, `Koffset` from the parameters alone (`StorageRouting.setup`; these statements are rendered at the top
of the regenerated `step`, whatever their form in the source); the loop starts from `storage = s`, `inflow = outflow = qi = 0`
(`qi` is a hidden state); one iteration is `StorageRouting.step` (`none` = a Go panic = `.error` of the hand model).
`calcOutflow`, `runRouting`, `zeroOutflowStorage` and the three function literals of `calcOutflow` are translated;
`fn.FindRoot` is NOT: it is the argument `findRootArg` (the hand model `OW.Fn.findRoot` of util/fn/root.go). `LitZero`: the
limits that a branch of the set-up does not assign are the literal `0.0` or the zero value of a variable. -/
theorem gen_eq_StorageRouting {α} [Num α] (hz : LitZero α) (s prevInflow prevOutflow bias k x area deadStorage deltaT : α)
    (st : StorageRouting.St α) (inflow lateral rainfall evap : α) :
    storageRouting.init s prevInflow prevOutflow bias k x area deadStorage deltaT = (s, 0.0, 0.0, 0.0) ∧
    storageRouting.guard s prevInflow prevOutflow bias k x area deadStorage deltaT = false ∧
    storageRouting.step findRootArg s prevInflow prevOutflow bias k x area deadStorage deltaT
          st.storage st.inflow st.outflow st.qi inflow lateral rainfall evap =
        (match StorageRouting.step (StorageRouting.setup bias k x deltaT) k area deadStorage deltaT (.ok st)
            (inflow, lateral, rainfall, evap) with
         | (.ok st', o) => some ((st'.storage, st'.inflow, st'.outflow, st'.qi), (o.outflow, o.storage))
         | (.error _, _) => none) := by
  unfold LitZero at hz
  refine ⟨?_, rfl, ?_⟩
  · unfold storageRouting.init
    tie
  · unfold storageRouting.step StorageRouting.step
    simp only [gen_eq_StorageRouting_calcOutflow]
    try simp only [gen_unfold]
    unfold StorageRouting.setup
    dsimp only
    simp only [← hz]
    split_ifs <;> exact step_tail _ _ _

end OW.Props.GenTie
