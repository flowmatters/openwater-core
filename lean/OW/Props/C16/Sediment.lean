import OW.Proofs.C16Sediment
/-!
C16 — bank erosion and the two gully models: fine + coarse material split by the model's fine fraction,
delivered load = generated load × delivery ratio, zero load when the driver (flow, annual runoff, sediment supply) is
zero, non-negative loads when drivers and parameters are. Whole-series statements at `α := ℝ`. The
non-negativity theorems assume each divisor positive (time step, long-term flow, area, annual runoff) and use it; `bankErosion_zero_driver`
and the two zero-supply theorems carry such hypotheses without their ℝ proofs using them (note on divisors in
OW/Proofs/C16Lemmas.lean); the gully zero-driver clause needs none (`gully_zero_driver`: literal zeros); the split and
delivery identities relate outputs of one evaluation and hold whatever the quotients are.
-/
namespace OW.Props.C16
open OW OW.Kernels OW.C16

/-- **BankErosion: fine + coarse = total, split by `soilPercentFine`** (one timestep; `total` is the kernel's
`BankErosionTotal_kg_per_Second`): `fine = total·pf/100`, `coarse = total·(1 - pf/100)`. -/
theorem bankErosion_split (p : BankErosion.Params ℝ) (ma : ℝ) (x : ℝ × ℝ) :
    (BankErosion.step p ma x).1 + (BankErosion.step p ma x).2 = BankErosion.totalKgPerSecond p ma x ∧
    (BankErosion.step p ma x).1 = BankErosion.totalKgPerSecond p ma x * (p.soilPercentFine * (1 / 100)) ∧
    (BankErosion.step p ma x).2 = BankErosion.totalKgPerSecond p ma x * (1 - p.soilPercentFine * (1 / 100)) := by
  simp only [BankErosion.step, percentToProportion_eq, realnum]
  refine ⟨by ring, trivial, trivial⟩

/-- BankErosion: no erosion without flow (zero or negative outflow or volume, or no long-term flow), for a POSITIVE time
step. The kernel computes the total as `(meanAnnual · 0) / 365.25 · 1000 / durationInSeconds`, i.e. `0 / Δt`, which in
float64 — the compiled model and the Go code — is 0 only for `Δt ≠ 0` (`0/0 = NaN`): hence the hypothesis
`0 < durationInSeconds`. The ℝ proof does not use it (`0/0 = 0` there; `bankErosion_zero_driver_dt0` is the same branch for
every Δt). -/
theorem bankErosion_zero_driver (p : BankErosion.Params ℝ) (ma : ℝ) (outflow tv : ℝ)
    (hdt : 0 < p.durationInSeconds)
    (h : outflow ≤ 0 ∨ tv ≤ 0 ∨ p.longTermAvDailyFlow ≤ 0) :
    BankErosion.step p ma (outflow, tv) = (0, 0) := by
  have _hne : p.durationInSeconds ≠ 0 := ne_of_gt hdt   -- the divisor of `0 / Δt`
  have h0 : BankErosion.totalKgPerSecond p ma (outflow, tv) = 0 := by
    simp only [BankErosion.totalKgPerSecond, bankErosion_ldf]
    rw [if_pos (by tauto), mul_zero, zero_div, zero_mul, zero_div]
  simp only [BankErosion.step, h0, zero_mul]

/-- BankErosion, the zero-driver total as the code computes it, for every Δt: a quotient `num / durationInSeconds` with a
ZERO numerator (the witness is the code's numerator `meanAnnual · 0 / 365.25 · 1000`; the proof never divides). Over ℝ
the statement implies `total = 0` also for `Δt = 0` (`0/0 = 0` there); IEEE-754 (Go and the compiled model) gives NaN,
which is why the form is a quotient and not the value. -/
theorem bankErosion_zero_driver_dt0 (p : BankErosion.Params ℝ) (ma : ℝ) (outflow tv : ℝ)
    (h : outflow ≤ 0 ∨ tv ≤ 0 ∨ p.longTermAvDailyFlow ≤ 0) :
    ∃ num : ℝ, num = 0 ∧ BankErosion.totalKgPerSecond p ma (outflow, tv) = num / p.durationInSeconds := by
  refine ⟨ma * 0 / (1461 / 4) * 1000, by ring, ?_⟩
  simp only [BankErosion.totalKgPerSecond, bankErosion_ldf, daysPerYear_eq, tonnesToKg_eq]
  rw [if_pos (by tauto)]

/-- BankErosion: non-negative loads (any flows: non-positive ones give zero) for non-negative parameters,
percentages ≤ 100 and a positive time step -/
theorem bankErosion_nonneg (p : BankErosion.Params ℝ) (ma : ℝ) (hma : 0 ≤ ma)
    (hpf0 : 0 ≤ p.soilPercentFine) (hpf1 : p.soilPercentFine ≤ 100) (hdt : 0 < p.durationInSeconds) (x : ℝ × ℝ) :
    0 ≤ (BankErosion.step p ma x).1 ∧ 0 ≤ (BankErosion.step p ma x).2 := by
  obtain ⟨outflow, tv⟩ := x
  have ht : 0 ≤ BankErosion.totalKgPerSecond p ma (outflow, tv) := by
    simp only [BankErosion.totalKgPerSecond, bankErosion_ldf, daysPerYear_eq, tonnesToKg_eq]
    split_ifs with hc
    · rw [mul_zero, zero_div, zero_mul, zero_div]
    · obtain ⟨-, ho, hl⟩ : 0 < tv ∧ 0 < outflow ∧ 0 < p.longTermAvDailyFlow := by
        simpa only [not_or, not_le] using hc
      have hpw : 0 ≤ (outflow * p.durationInSeconds) ^ p.dailyFlowPowerFactor :=
        Real.rpow_nonneg (by positivity) _
      positivity
  obtain ⟨_, hf, hc⟩ := bankErosion_split p ma (outflow, tv)
  rw [hf, hc]
  constructor
  · positivity
  · apply mul_nonneg ht; linarith

/-- **BankErosion, whole series**: at every timestep `fine + coarse = total` split by `soilPercentFine`, and — for a
positive time step (the zero-driver total is `0 / Δt`) — the loads are zero when the flow or the volume is not positive. -/
theorem bankErosion_spec (p : BankErosion.Params ℝ) (hdt : 0 < p.durationInSeconds) (q v : List ℝ) :
    List.Forall₂ (fun (x : ℝ × ℝ) (o : ℝ × ℝ) =>
        o.1 + o.2 = BankErosion.totalKgPerSecond p (BankErosion.meanAnnualBankErosion p) x ∧
        o.1 = BankErosion.totalKgPerSecond p (BankErosion.meanAnnualBankErosion p) x * (p.soilPercentFine * (1 / 100)) ∧
        ((x.1 ≤ 0 ∨ x.2 ≤ 0 ∨ p.longTermAvDailyFlow ≤ 0) → o = (0, 0)))
      (q.zip v) (BankErosion.run p q v) := by
  unfold BankErosion.run
  apply forall₂_map
  rintro ⟨outflow, tv⟩
  obtain ⟨a, b, _⟩ := bankErosion_split p (BankErosion.meanAnnualBankErosion p) (outflow, tv)
  exact ⟨a, b, fun h => bankErosion_zero_driver p _ outflow tv hdt h⟩

/-- **BankErosion, whole series**: non-negative loads for non-negative parameters. -/
theorem bankErosion_series_nonneg (p : BankErosion.Params ℝ) (q v : List ℝ)
    (h1 : p.riparianVegPercent ≤ 100) (h2 : 0 ≤ p.soilErodibility) (h3 : 0 ≤ p.bankErosionCoeff)
    (h4 : 0 ≤ p.linkSlope) (h5 : 0 ≤ p.bankFullFlow) (h6 : 0 ≤ p.bankMgtFactor) (h7 : 0 ≤ p.sedBulkDensity)
    (h8 : 0 ≤ p.bankHeight) (h9 : 0 ≤ p.linkLength)
    (hpf0 : 0 ≤ p.soilPercentFine) (hpf1 : p.soilPercentFine ≤ 100) (hdt : 0 < p.durationInSeconds) :
    List.Forall₂ (fun (_ : ℝ × ℝ) (o : ℝ × ℝ) => 0 ≤ o.1 ∧ 0 ≤ o.2) (q.zip v) (BankErosion.run p q v) := by
  unfold BankErosion.run
  apply forall₂_map
  intro x
  exact bankErosion_nonneg p _ (bankErosion_meanAnnual_nonneg p h1 h2 h3 h4 h5 h6 h7 h8 h9) hpf0 hpf1 hdt x

/-- **Gully models: delivered load = generated load × delivery ratio** (`sdr` in percent), on every branch and for
both export functions. No hypothesis on the time step: `generatedFine` is the per-second load `loads.1 / Δt` itself and
`fineLoad` is literally that value times `sdrFine · 0.01`, so the identity relates two outputs of one evaluation and
does not depend on the value of any quotient. -/
theorem gully_delivered (f : SednetGully.ExportFn ℝ) (p : SednetGully.Params ℝ)
    (x : ℝ × ℝ × ℝ × ℝ) :
    (SednetGully.step f p x).fineLoad = (SednetGully.step f p x).generatedFine * (p.sdrFine * (1 / 100)) ∧
    (SednetGully.step f p x).coarseLoad = (SednetGully.step f p x).generatedCoarse * (p.sdrCoarse * (1 / 100)) := by
  obtain ⟨q, yr, ar, al⟩ := x
  simp only [SednetGully.step, RealNum.sci_001]
  split_ifs <;> simp only [RealNum.ofNat_eq, Nat.cast_zero, RealNum.zero_eq, zero_mul, and_self]

/-- **Gully models: fine + coarse material split by the model's fine fraction.** On every timestep there is a common
generated load `G` (kg/s) with `generatedFine = G · GullyPercentFine/100 · activityFactor` and
`generatedCoarse = G · (1 - GullyPercentFine/100)`; while the gully is active (`year ≤ GullyEndYear`, activity factor 1)
this is `generatedFine + generatedCoarse = G` split by the fine fraction. After `GullyEndYear` the code applies
`averageGullyActivityFactor` to the fine part only (as the Source implementation it was ported from does), and the
property's clause "fine + coarse material split by the model's fine fraction" is then FALSE for the code whenever that
factor ≠ 1: `gully_fine_fraction_after_end_year_counterexample` below; recorded as known findings
KF-C16-gully-activity-factor / KF-C16-gully-activity-factor-alt (the Go oracle evaluates the clause there under the
scopes `DynamicSednetGully(Alt):fine-fraction-after-end-year`). -/
theorem gully_fine_fraction (alt : Bool) (p : SednetGully.Params ℝ) (x : ℝ × ℝ × ℝ × ℝ) :
    let o := SednetGully.step (if alt then SednetGully.gullyLoadDerm else SednetGully.gullyLoadOrig) p x
    ∃ G, o.generatedFine = G * (p.percentFine / 100) * SednetGully.activityFactor p x.2.1 ∧
         o.generatedCoarse = G * (1 - p.percentFine / 100) ∧
         (x.2.1 ≤ p.gullyEndYear → o.generatedFine + o.generatedCoarse = G) := by
  obtain ⟨q, yr, ar, al⟩ := x
  intro o
  obtain ⟨G, e, _⟩ := gully_step_eq alt p q yr ar al
  simp only [o, e]
  refine ⟨G / p.timestepInSeconds, by ring, by ring, fun hle => ?_⟩
  rw [gully_activity, if_neg (not_lt.mpr hle)]
  ring

/-- **The fine-fraction clause FAILS after `GullyEndYear`** (both gully models; known findings
KF-C16-gully-activity-factor / -alt): for a year after the end year and `averageGullyActivityFactor ≠ 1` the generated
material is not split by `GullyPercentFine`. Witness: 60 % fines, activity factor 2, year 2000 > end year 1950,
quickflow 2 m³/s, annual runoff 500 mm, (Alt) annual load 3000 t on 1 km², (Orig) supply 1000 t/yr without long-term
runoff factor: the fine share of the generated load is 3/4, not 3/5 (`0 < fine + coarse`: a genuine quotient). -/
theorem gully_fine_fraction_after_end_year_counterexample (alt : Bool) :
    ∃ (p : SednetGully.Params ℝ) (x : ℝ × ℝ × ℝ × ℝ),
      let o := SednetGully.step (if alt then SednetGully.gullyLoadDerm else SednetGully.gullyLoadOrig) p x
      p.gullyEndYear < x.2.1 ∧ 0 < p.timestepInSeconds ∧ 0 < o.generatedFine + o.generatedCoarse ∧
      o.generatedFine / (o.generatedFine + o.generatedCoarse) = 3 / 4 ∧ p.percentFine / 100 = 3 / 5 ∧
      o.generatedFine / (o.generatedFine + o.generatedCoarse) ≠ p.percentFine / 100 := by
  refine ⟨⟨1900, 1950, 1000000, 2, 1000, 60, 1, 0, 0, 100, 10, 86400⟩, (2, 2000, 500, 3000), ?_⟩
  intro o
  obtain ⟨G, e, hGv⟩ := gully_step_eq alt
    (⟨1900, 1950, 1000000, 2, 1000, 60, 1, 0, 0, 100, 10, 86400⟩ : SednetGully.Params ℝ) 2 2000 500 3000
  have hact : SednetGully.activityFactor (⟨1900, 1950, 1000000, 2, 1000, 60, 1, 0, 0, 100, 10, 86400⟩ : SednetGully.Params ℝ) 2000 = 2 := by
    rw [gully_activity]; norm_num
  have hd : SednetGully.dailyRunoffFactor (2 : ℝ) 0 0 = 1 := by
    simp only [SednetGully.dailyRunoffFactor, realnum, RealNum.sci_one]
    norm_num
  have hGpos : 0 < G := by
    rw [hGv]
    cases alt <;> norm_num [hd]
  have e1 : o.generatedFine = G * (60 / 100) * 2 / 86400 := by simp only [o, e, hact]
  have e2 : o.generatedCoarse = G * (1 - 60 / 100) / 86400 := by simp only [o, e]
  have hsum : o.generatedFine + o.generatedCoarse = G * (8 / 5) / 86400 := by rw [e1, e2]; ring
  have hq : o.generatedFine / (o.generatedFine + o.generatedCoarse) = 3 / 4 := by
    rw [hsum, e1]; field_simp; ring
  refine ⟨by norm_num, by norm_num, by rw [hsum]; positivity, hq, by norm_num, ?_⟩
  rw [hq]; norm_num

/-- **DynamicSednetGully: zero sediment supply ⇒ zero load**, for a positive time step and non-negative quickflow.
On the generating branch the loads are `G·… / Δt` with `G = (1/365.25)·dailyRunoffFactor·mpf·supply·1000 = 0`, i.e.
`0 / Δt`: `0 < Δt` makes the quotient meaningful (float64: `0/0 = NaN`); `0 ≤ quickflow` keeps
`dailyRunoffFactor = quickflow^power / longtermRunoffFactor` a number in float64 (`math.Pow` of a negative base with a
fractional power is NaN, and NaN·0 ≠ 0). Neither is needed by the ℝ proof; both are needed to read it for the code. -/
theorem gullyOrig_zero_supply (p : SednetGully.Params ℝ) (_hts : 0 < p.timestepInSeconds)
    (h : p.annualAverageSedimentSupply = 0) (x : ℝ × ℝ × ℝ × ℝ) (_hq0 : 0 ≤ x.1) :
    SednetGully.step SednetGully.gullyLoadOrig p x = ⟨0, 0, 0, 0⟩ := by
  obtain ⟨q, yr, ar, al⟩ := x
  obtain ⟨G, e, hGv⟩ := gully_step_eq false p q yr ar al
  have hG0 : G = 0 := by rw [hGv, h, if_neg Bool.false_ne_true, mul_zero, zero_mul, ite_self]
  rw [hG0] at e
  simpa only [Bool.false_eq_true, if_false, zero_mul, zero_div] using e

/-- **DynamicSednetGullyAlt: zero annual load (the year's sediment supply) ⇒ zero load** on that timestep, for a positive
time step and a positive area: the loads are `(quickflow/area·1000·86400)/annualRunoff · … · (mpf·0) / Δt`; the divisors
are the area (`0 < area`), the annual runoff (non-zero on the generating branch) and the time step. -/
theorem gullyDerm_zero_supply (p : SednetGully.Params ℝ) (_hts : 0 < p.timestepInSeconds) (_harea : 0 < p.area)
    (x : ℝ × ℝ × ℝ × ℝ) (h : x.2.2.2 = 0) :
    SednetGully.step SednetGully.gullyLoadDerm p x = ⟨0, 0, 0, 0⟩ := by
  obtain ⟨q, yr, ar, al⟩ := x
  obtain ⟨G, e, hGv⟩ := gully_step_eq true p q yr ar al
  have hG0 : G = 0 := by rw [hGv, if_pos rfl, show al = 0 from h, mul_zero, mul_zero, ite_self]
  rw [hG0] at e
  simpa only [if_true, zero_mul, zero_div] using e

/-- **Gully models: non-negative drivers and parameters ⇒ non-negative loads** (one timestep). Divisors: the time
step, and for the Alt model the area and the annual runoff, all positive. -/
theorem gully_nonneg (alt : Bool) (p : SednetGully.Params ℝ)
    (hts : 0 < p.timestepInSeconds) (harea : 0 < p.area)
    (hpf0 : 0 ≤ p.percentFine) (hpf1 : p.percentFine ≤ 100) (haf : 0 ≤ p.averageGullyActivityFactor)
    (hmpf : 0 ≤ p.managementPracticeFactor) (hsup : 0 ≤ p.annualAverageSedimentSupply)
    (hsf : 0 ≤ p.sdrFine) (hsc : 0 ≤ p.sdrCoarse)
    (q yr ar al : ℝ) (hq : 0 ≤ q) (har : 0 ≤ ar) (hal : 0 ≤ al) :
    let o := SednetGully.step (if alt then SednetGully.gullyLoadDerm else SednetGully.gullyLoadOrig) p (q, yr, ar, al)
    0 ≤ o.fineLoad ∧ 0 ≤ o.coarseLoad ∧ 0 ≤ o.generatedFine ∧ 0 ≤ o.generatedCoarse := by
  intro o
  obtain ⟨G, e, hGv⟩ := gully_step_eq alt p q yr ar al
  have hG : 0 ≤ G := by
    have hd := gully_dailyRunoffFactor_nonneg q p.longtermRunoffFactor p.dailyRunoffPowerFactor hq
    rw [hGv]
    split_ifs
    · exact le_rfl
    · positivity
    · positivity
  have hpf : 0 ≤ p.percentFine / 100 := div_nonneg hpf0 (by norm_num)
  have hpf' : 0 ≤ 1 - p.percentFine / 100 := sub_nonneg.mpr ((div_le_one (by norm_num)).mpr hpf1)
  have gF : 0 ≤ G * (p.percentFine / 100) * SednetGully.activityFactor p yr / p.timestepInSeconds :=
    div_nonneg (mul_nonneg (mul_nonneg hG hpf) (gully_activity_nonneg p haf yr)) hts.le
  have gC : 0 ≤ G * (1 - p.percentFine / 100) / p.timestepInSeconds := div_nonneg (mul_nonneg hG hpf') hts.le
  have h100 : (0 : ℝ) ≤ 1 / 100 := by norm_num
  simp only [o, e]
  exact ⟨mul_nonneg gF (mul_nonneg hsf h100), mul_nonneg gC (mul_nonneg hsc h100), gF, gC⟩

/-- **Gully models, whole series** (`alt = false`: DynamicSednetGully, `alt = true`: DynamicSednetGullyAlt; inputs
quickflow, year, annual runoff, annual load), positive time step and area: at every timestep delivered = generated × SDR;
the generated material is `G·pf·activity` and `G·(1-pf)` — split by the fine fraction UP TO `GullyEndYear` only (after it
the clause fails: `gully_fine_fraction_after_end_year_counterexample`, known finding); the loads vanish when quickflow or
annual runoff is zero or the year precedes the disturbance, and when the sediment supply is zero
(DynamicSednetGully: parameter `GullyAnnualAverageSedimentSupply = 0`, for non-negative quickflow; Alt: input
`annualLoad = 0`). -/
theorem gully_spec (alt : Bool) (p : SednetGully.Params ℝ) (hts : 0 < p.timestepInSeconds) (harea : 0 < p.area)
    (q yr ar al : List ℝ) :
    List.Forall₂ (fun (x : ℝ × ℝ × ℝ × ℝ) (o : SednetGully.Out ℝ) =>
        o.fineLoad = o.generatedFine * (p.sdrFine * (1 / 100)) ∧
        o.coarseLoad = o.generatedCoarse * (p.sdrCoarse * (1 / 100)) ∧
        (∃ G, o.generatedFine = G * (p.percentFine / 100) * SednetGully.activityFactor p x.2.1 ∧
              o.generatedCoarse = G * (1 - p.percentFine / 100) ∧
              (x.2.1 ≤ p.gullyEndYear → o.generatedFine + o.generatedCoarse = G)) ∧
        ((x.1 = 0 ∨ x.2.2.1 = 0 ∨ x.2.1 < p.yearDisturbance) → o = ⟨0, 0, 0, 0⟩) ∧
        (alt = false → p.annualAverageSedimentSupply = 0 → 0 ≤ x.1 → o = ⟨0, 0, 0, 0⟩) ∧
        (alt = true → x.2.2.2 = 0 → o = ⟨0, 0, 0, 0⟩))
      (zip4 q yr ar al)
      (SednetGully.run (if alt then SednetGully.gullyLoadDerm else SednetGully.gullyLoadOrig) p q yr ar al) := by
  unfold SednetGully.run
  apply forall₂_map
  rintro ⟨a, b, c, d⟩
  obtain ⟨h1, h2⟩ := gully_delivered (if alt then SednetGully.gullyLoadDerm else SednetGully.gullyLoadOrig) p (a, b, c, d)
  refine ⟨h1, h2, gully_fine_fraction alt p (a, b, c, d), fun h => gully_zero_driver _ p a b c d h, ?_, ?_⟩
  · intro ha hs hq
    subst ha
    exact gullyOrig_zero_supply p hts hs (a, b, c, d) hq
  · intro ha hd
    subst ha
    exact gullyDerm_zero_supply p hts harea (a, b, c, d) hd

/-- **Gully models, whole series**: non-negative loads for non-negative inputs and parameters. -/
theorem gully_series_nonneg (alt : Bool) (p : SednetGully.Params ℝ)
    (hts : 0 < p.timestepInSeconds) (harea : 0 < p.area)
    (hpf0 : 0 ≤ p.percentFine) (hpf1 : p.percentFine ≤ 100) (haf : 0 ≤ p.averageGullyActivityFactor)
    (hmpf : 0 ≤ p.managementPracticeFactor) (hsup : 0 ≤ p.annualAverageSedimentSupply)
    (hsf : 0 ≤ p.sdrFine) (hsc : 0 ≤ p.sdrCoarse) (q yr ar al : List ℝ) :
    List.Forall₂ (fun (x : ℝ × ℝ × ℝ × ℝ) (o : SednetGully.Out ℝ) =>
        0 ≤ x.1 → 0 ≤ x.2.2.1 → 0 ≤ x.2.2.2 →
        0 ≤ o.fineLoad ∧ 0 ≤ o.coarseLoad ∧ 0 ≤ o.generatedFine ∧ 0 ≤ o.generatedCoarse)
      (zip4 q yr ar al)
      (SednetGully.run (if alt then SednetGully.gullyLoadDerm else SednetGully.gullyLoadOrig) p q yr ar al) := by
  unfold SednetGully.run
  apply forall₂_map
  rintro ⟨a, b, c, d⟩ h1 h2 h3
  exact gully_nonneg alt p hts harea hpf0 hpf1 haf hmpf hsup hsf hsc a b c d h1 h2 h3

/-- the catalogue models are `step` with the two export functions -/
theorem gully_models :
    (SednetGully.model (α := ℝ)).name = "DynamicSednetGully" ∧ (SednetGully.modelAlt (α := ℝ)).name = "DynamicSednetGullyAlt" ∧
    (SednetGully.model (α := ℝ)) = SednetGully.mk "DynamicSednetGully" SednetGully.gullyLoadOrig ∧
    (SednetGully.modelAlt (α := ℝ)) = SednetGully.mk "DynamicSednetGullyAlt" SednetGully.gullyLoadDerm :=
  ⟨rfl, rfl, rfl, rfl⟩

/-- bank erosion with 30 % fines: the split of a concrete total -/
example (p : BankErosion.Params ℝ) (h : p.soilPercentFine = 30) (ma : ℝ) (x : ℝ × ℝ) :
    (BankErosion.step p ma x).1 = BankErosion.totalKgPerSecond p ma x * (30 * (1 / 100)) := by
  rw [(bankErosion_split p ma x).2.1, h]
/-- concrete BankErosion parameters (30 % fines, daily step) -/
noncomputable def bankP : BankErosion.Params ℝ := ⟨50, 95, 80, 1e-4, 1e-3, 100, 1, 1.5, 2, 1000, 1.4, 1e6, 30, 86400⟩
/-- `bankErosion_series_nonneg` APPLIED to a concrete two-step series (one flowing day, one dry day) -/
example : List.Forall₂ (fun (_ : ℝ × ℝ) (o : ℝ × ℝ) => 0 ≤ o.1 ∧ 0 ≤ o.2) ([3, 0].zip [5, 5])
    (BankErosion.run bankP [3, 0] [5, 5]) :=
  bankErosion_series_nonneg bankP [3, 0] [5, 5] (by norm_num [bankP]) (by norm_num [bankP]) (by norm_num [bankP])
    (by norm_num [bankP]) (by norm_num [bankP]) (by norm_num [bankP]) (by norm_num [bankP]) (by norm_num [bankP])
    (by norm_num [bankP]) (by norm_num [bankP]) (by norm_num [bankP]) (by norm_num [bankP])
/-- `bankErosion_zero_driver` applied: the dry day of that series has zero loads -/
example : BankErosion.step bankP (BankErosion.meanAnnualBankErosion bankP) (0, 5) = (0, 0) :=
  bankErosion_zero_driver bankP _ 0 5 (by norm_num [bankP]) (Or.inl (le_refl 0))

/-- concrete gully parameters (60 % fines, active 1900–1950, daily step) -/
noncomputable def gullyP : SednetGully.Params ℝ := ⟨1900, 1950, 1e6, 1, 1000, 60, 1, 2, 1.4, 100, 10, 86400⟩
/-- `gully_series_nonneg` APPLIED (both export functions) to a concrete two-step series -/
example (alt : Bool) : List.Forall₂ (fun (x : ℝ × ℝ × ℝ × ℝ) (o : SednetGully.Out ℝ) =>
        0 ≤ x.1 → 0 ≤ x.2.2.1 → 0 ≤ x.2.2.2 →
        0 ≤ o.fineLoad ∧ 0 ≤ o.coarseLoad ∧ 0 ≤ o.generatedFine ∧ 0 ≤ o.generatedCoarse)
      (zip4 [2, 0] [1920, 1960] [500, 500] [3000, 3000])
      (SednetGully.run (if alt then SednetGully.gullyLoadDerm else SednetGully.gullyLoadOrig) gullyP
        [2, 0] [1920, 1960] [500, 500] [3000, 3000]) :=
  gully_series_nonneg alt gullyP (by norm_num [gullyP]) (by norm_num [gullyP]) (by norm_num [gullyP])
    (by norm_num [gullyP]) (by norm_num [gullyP]) (by norm_num [gullyP]) (by norm_num [gullyP]) (by norm_num [gullyP])
    (by norm_num [gullyP]) _ _ _ _
/-- the first step of that series is a generating one (active branch, `G > 0`): -/
example : 0 < (SednetGully.step SednetGully.gullyLoadDerm gullyP (2, 1920, 500, 3000)).generatedFine := by
  rw [gully_step_active _ gullyP 2 1920 500 3000 (by norm_num) (by norm_num) (by norm_num [gullyP])]
  obtain ⟨G, hG, hGv⟩ := gullyLoad_split true 2 500 gullyP.area (gullyP.percentFine / 100)
    (SednetGully.activityFactor gullyP 1920) gullyP.managementPracticeFactor 3000
    gullyP.annualAverageSedimentSupply gullyP.longtermRunoffFactor gullyP.dailyRunoffPowerFactor
  rw [if_pos rfl] at hG hGv
  have hact : SednetGully.activityFactor gullyP 1920 = 1 := by rw [gully_activity]; norm_num [gullyP]
  rw [hact] at hG
  simp only [hact, hG]
  have : 0 < G := by rw [hGv]; norm_num [gullyP]
  have h2 : (0:ℝ) < gullyP.percentFine / 100 := by norm_num [gullyP]
  have h3 : (0:ℝ) < gullyP.timestepInSeconds := by norm_num [gullyP]
  positivity
/-- a generating timestep of the Alt model: G = (q/area·1000·86400)/annualRunoff · mpf · annualLoad -/
example : ∃ G : ℝ, SednetGully.gullyLoadDerm 2 500 1000000 0.6 1 1 3000 0 0 0 = (G * 0.6 * 1, G * (1 - 0.6)) ∧
    G = (2 / 1000000 * 1000 * 86400) / 500 * (1 * 3000) := by
  simpa only [if_pos] using gullyLoad_split true 2 500 1000000 0.6 1 1 3000 0 0 0

end OW.Props.C16
