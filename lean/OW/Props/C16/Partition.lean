import OW.Proofs.C16Lemmas
import OW.Kernels.C16.Partitions
import OW.Proofs.Piecewise
/-!
C16 — partitioning models split without loss: the two outputs of the fixed, variable, rating-curve and demand
partitions always sum to the input; extraction never exceeds demand or availability and outflow is never negative.
Whole-series statements for every input value (zero, negative, table end points), every parameter value and every
rating-table size, at `α := ℝ`.
-/
namespace OW.Props.C16
open OW OW.Kernels OW.C16

/-- **FixedPartition: output1 + output2 = input** along the whole series, for every fraction (also outside [0,1]). -/
theorem fixedPartition_sum (fraction : ℝ) (input : List ℝ) :
    (FixedPartition.run fraction input).map (fun o => o.1 + o.2) = input := by
  refine (map_map_of _ _ id (fun x => ?_) input).trans (List.map_id _)
  simp only [FixedPartition.step, realnum, id]
  ring

/-- FixedPartition: output1 is `input × fraction` (and output2 the remainder `input × (1 - fraction)`). -/
theorem fixedPartition_outputs (fraction : ℝ) (input : List ℝ) :
    FixedPartition.run fraction input = input.map (fun x => (x * fraction, x * (1 - fraction))) := by
  unfold FixedPartition.run
  congr 1; funext x
  simp only [FixedPartition.step, realnum]

/-- **VariablePartition: output1 + output2 = input** along the whole series, for every fraction series. -/
theorem variablePartition_sum (input fraction : List ℝ) (hlen : input.length = fraction.length) :
    (VariablePartition.run input fraction).map (fun o => o.1 + o.2) = input := by
  refine (map_map_of _ _ (·.1) (fun x => ?_) _).trans (zip_fst_map input fraction hlen)
  simp only [VariablePartition.step, realnum]
  ring

/-- one timestep: whenever the kernel does not panic, the two outputs sum to the input (any table) -/
theorem ratingPartition_step_sum (xs ys : List ℝ) (x : ℝ) (o : ℝ × ℝ)
    (h : RatingCurvePartition.step xs ys x = .ok o) : o.1 + o.2 = x := by
  unfold RatingCurvePartition.step at h
  split at h
  · cases h
  · cases h
  · rename_i frac _
    simp only [RealNum.isNaN_eq, Bool.or_self, Bool.false_eq_true, if_false, Except.ok.injEq] at h
    subst h
    simp only [realnum]; ring

/-- The loop of the kernel is written out by hand (it is `List.mapM` of the timestep): it returns exactly when every timestep
does. The same loop as a `scanM`, for causality and hot start: `RatingCurvePartition.run_eq_scanM`
(OW/Proofs/HotStartStateless.lean). -/
theorem ratingPartition_run_ok (xs ys : List ℝ) (input : List ℝ) (os : List (ℝ × ℝ)) :
    RatingCurvePartition.run xs ys input = .ok os ↔
      List.Forall₂ (fun x o => RatingCurvePartition.step xs ys x = .ok o) input os := by
  induction input generalizing os with
  | nil => cases os <;> simp [RatingCurvePartition.run]
  | cons x rest ih =>
    unfold RatingCurvePartition.run
    constructor
    · intro h
      split at h
      · cases h
      · rename_i o ho
        split at h
        · cases h
        · rename_i os' hos'
          cases h
          exact .cons ho ((ih _).mp hos')
    · rintro (_ | ⟨ho, hrest⟩)
      rw [ho]
      simp only
      rw [(ih _).mpr hrest]

/-- **RatingCurvePartition: output1 + output2 = input** along the whole series, for every rating table (any number of
rows, any abscissae and proportions) and every input series on which the kernel returns at all. -/
theorem ratingPartition_sum (xs ys input : List ℝ) (os : List (ℝ × ℝ))
    (h : RatingCurvePartition.run xs ys input = .ok os) : os.map (fun o => o.1 + o.2) = input := by
  rw [eq_comm, ← List.forall₂_eq_eq_eq, List.forall₂_map_right_iff]
  exact ((ratingPartition_run_ok xs ys input os).mp h).imp fun x o ho => (ratingPartition_step_sum xs ys x o ho).symm

/-- A fact about numbers (the kernel and `Fn.piecewise` are not mentioned): adjacent abscissae of a strictly increasing
list differ by a positive amount. That difference is the divisor `x1 - x0` of the interpolation between adjacent rows. -/
theorem ratingPartition_divisor_pos (xs : List ℝ) (hs : xs.Pairwise (· < ·)) (k : Nat) (hk : 1 ≤ k)
    (hkn : k < xs.length) : 0 < xs[k] - xs[k - 1]'(by omega) := by
  have := (List.pairwise_iff_getElem.mp hs) (k - 1) k (by omega) hkn (by omega)
  linarith

/-- **RatingCurvePartition, catalogue-model level**: for EVERY parameter column (any `nPts`, any table rows — the column
is decoded as `nPts, inputAmount[nPts], proportion[nPts]`) and every input series, if the run returns then its two
output series sum, timestep by timestep, to the input series. -/
theorem ratingPartition_model_sum (p input : List ℝ) (o : KOut ℝ)
    (h : (RatingCurvePartition.model (α := ℝ)).run p [input] [] = .ok o) :
    ∃ out1 out2, o.outputs = [out1, out2] ∧ List.zipWith (· + ·) out1 out2 = input := by
  simp only [RatingCurvePartition.model] at h
  split at h
  · rename_i hin _
    simp only [List.cons.injEq, and_true] at hin
    subst hin
    split at h
    · cases h
    · rename_i os hos
      simp only [Except.ok.injEq] at h
      subst h
      refine ⟨_, _, rfl, ?_⟩
      rw [← ratingPartition_sum _ _ _ os hos, List.zipWith_map, List.zipWith_self]
  · cases h

/-- **RatingCurvePartition is defined on the whole table range, end points included**: with at least two rows, as many
proportions as abscissae, and the input between the first and the last abscissa, a timestep does not panic.
(For a strictly increasing table the interpolation divides by a positive number: `ratingPartition_divisor_pos`.) -/
theorem ratingPartition_step_defined (x0 x1 : ℝ) (rest ys : List ℝ) (x : ℝ)
    (hlen : ys.length = (x0 :: x1 :: rest).length)
    (hlo : x0 ≤ x) (hhi : x ≤ (x1 :: rest).getLast (List.cons_ne_nil _ _)) :
    ∃ o, RatingCurvePartition.step (x0 :: x1 :: rest) ys x = .ok o := by
  obtain ⟨y, hy⟩ := OW.Proofs.Piecewise.piecewise_total (xs := x0 :: x1 :: rest) (ys := ys) (Nat.le_add_left 2 _) (le_of_eq hlen.symm)
    hlo (by rwa [List.getLast_eq_getElem] at hhi)
  unfold RatingCurvePartition.step
  rw [hy]
  simp only [RealNum.isNaN_eq, Bool.or_self, Bool.false_eq_true, if_false]
  exact ⟨_, rfl⟩

/-- whole series: every input inside the table range ⇒ the run returns (and then `ratingPartition_sum` applies) -/
theorem ratingPartition_defined (x0 x1 : ℝ) (rest ys input : List ℝ)
    (hlen : ys.length = (x0 :: x1 :: rest).length)
    (hin : ∀ x ∈ input, x0 ≤ x ∧ x ≤ (x1 :: rest).getLast (List.cons_ne_nil _ _)) :
    ∃ os, RatingCurvePartition.run (x0 :: x1 :: rest) ys input = .ok os ∧ os.map (fun o => o.1 + o.2) = input := by
  choose! f hf using fun x (hx : x ∈ input) => ratingPartition_step_defined x0 x1 rest ys x hlen (hin x hx).1 (hin x hx).2
  have hos := (ratingPartition_run_ok _ ys input (input.map f)).mpr
    (List.forall₂_map_right_iff.mpr (List.forall₂_same.mpr hf))
  exact ⟨_, hos, ratingPartition_sum _ _ _ _ hos⟩

/-- an input below the first or above the last abscissa makes the kernel panic (class "other": `panic(err)` with
Piecewise's "Couldn't find brackets"): outside the table the partition is not defined, it never extrapolates -/
theorem ratingPartition_outside_panics (x0 : ℝ) (rest ys : List ℝ) (x : ℝ) (more : List ℝ)
    (hout : x < x0 ∨ (x0 :: rest).getLast (List.cons_ne_nil _ _) < x) :
    RatingCurvePartition.run (x0 :: rest) ys (x :: more) = .error "other" := by
  unfold RatingCurvePartition.run RatingCurvePartition.step
  rw [OW.Proofs.Piecewise.piecewise_outside (List.cons_ne_nil _ _) x hout]

/-- a single-row table never brackets anything: the kernel panics on the first timestep, whatever the input -/
theorem ratingPartition_single_row_panics (x0 : ℝ) (ys : List ℝ) (x : ℝ) (more : List ℝ) :
    RatingCurvePartition.run [x0] ys (x :: more) = .error "other" := by
  have hb : Fn.brackets x [x0] = .ok none := by
    unfold Fn.brackets
    simp only
    split_ifs <;> simp [Fn.bracketLoop]
  unfold RatingCurvePartition.run RatingCurvePartition.step Fn.piecewise
  rw [hb]

/-- an empty table: index out of range in `brackets` -/
theorem ratingPartition_empty_table_panics (ys : List ℝ) (x : ℝ) (more : List ℝ) :
    RatingCurvePartition.run [] ys (x :: more) = .error "index-out-of-range" := by
  unfold RatingCurvePartition.run RatingCurvePartition.step Fn.piecewise Fn.brackets
  rfl

/-- **PartitionDemand**, every timestep of the series: extraction ≤ demand, extraction ≤ input (availability),
outflow ≥ 0 and outflow + extraction = input — for every input and demand, including zero and negative demand. -/
theorem partitionDemand_spec (input demand : List ℝ) :
    List.Forall₂ (fun (x : ℝ × ℝ) (o : ℝ × ℝ) => o.2 ≤ x.2 ∧ o.2 ≤ x.1 ∧ 0 ≤ o.1 ∧ o.1 + o.2 = x.1)
      (input.zip demand) (PartitionDemand.run input demand) := by
  unfold PartitionDemand.run
  apply forall₂_map
  rintro ⟨inp, dmd⟩
  simp only [PartitionDemand.step, realnum, RealNum.sci_zero]
  have h1 : min dmd inp ≤ inp := min_le_right _ _
  refine ⟨min_le_left _ _, h1, le_max_right _ _, ?_⟩
  rw [max_eq_left (by linarith)]; ring

/-- with `demand ≤ input` the demand is met in full and the rest flows on -/
theorem partitionDemand_met (inp dmd : ℝ) (h : dmd ≤ inp) :
    PartitionDemand.step (inp, dmd) = (inp - dmd, dmd) := by
  simp only [PartitionDemand.step, realnum, RealNum.sci_zero]
  rw [min_eq_left h, max_eq_left (by linarith)]

example : (FixedPartition.run (0.25:ℝ) [8, 0, -4]).map (fun o => o.1 + o.2) = [8, 0, -4] := fixedPartition_sum _ _
/-- table `(0,0.2) (10,0.6)`, inputs at both end points and inside: the run returns and the outputs sum to the input -/
example : ∃ os, RatingCurvePartition.run [(0:ℝ), 10] [0.2, 0.6] [0, 10, 5] = .ok os ∧
    os.map (fun o => o.1 + o.2) = [0, 10, 5] :=
  ratingPartition_defined 0 10 [] [0.2, 0.6] [0, 10, 5] rfl
    (List.forall_iff_forall_mem.mp ⟨by norm_num, by norm_num, by norm_num⟩)
/-- negative demand: extraction = demand < 0, outflow = input - demand > input, still summing to the input -/
example : PartitionDemand.step ((5:ℝ), -2) = (7, -2) := by
  rw [partitionDemand_met 5 (-2) (by norm_num)]; norm_num

end OW.Props.C16
