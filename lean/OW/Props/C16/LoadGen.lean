import OW.Proofs.C16Lemmas
import OW.Kernels.C16.LoadGen
/-!
C16 — concentration-based generation models: totals equal the sum of their parts, the loads are linear in flow
and concentration with the mg/L → kg/m³ factor `1e-3`, every load is zero when its driver (flow, supplied sediment) is
zero and non-negative when its drivers are. Whole-series statements (`List.Forall₂` relates timestep `t` of the inputs to
timestep `t` of the outputs), for all inputs and parameters including the early-return parameter values, at `α := ℝ`.
-/
namespace OW.Props.C16
open OW OW.Kernels OW.C16

/-- the early return of `emcDWC` (`EMC == 0 && DWC == 0`, outputs left as allocated) produces exactly what the loop
would have produced -/
theorem emcDwc_run_eq_loop (emc dwc : ℝ) (qf sf : List ℝ) (hlen : qf.length = sf.length) :
    EmcDwc.run emc dwc qf sf = (qf.zip sf).map (EmcDwc.step emc dwc) := by
  refine early_return _ _ _ _ _ (by simp [hlen]) fun hc => ?_
  rw [Bool.and_eq_true, feq_zero, feq_zero] at hc
  rintro ⟨q, s⟩
  simp only [EmcDwc.step, hc.1, hc.2, RealNum.zero_eq, mul_zero, zero_mul, add_zero]

/-- **EmcDwc**, every timestep: `quickLoad = quickflow·EMC·1e-3`, `slowLoad = baseflow·DWC·1e-3` (linear in flow and in
concentration, with `MG_PER_LITRE_TO_KG_PER_M3 = 1e-3`) and `totalLoad = quickLoad + slowLoad`. -/
theorem emcDwc_spec (emc dwc : ℝ) (qf sf : List ℝ) (hlen : qf.length = sf.length) :
    List.Forall₂ (fun (x : ℝ × ℝ) (o : EmcDwc.Out ℝ) =>
        o.quickLoad = x.1 * emc * (1 / 1000) ∧ o.slowLoad = x.2 * dwc * (1 / 1000) ∧
        o.totalLoad = o.quickLoad + o.slowLoad)
      (qf.zip sf) (EmcDwc.run emc dwc qf sf) := by
  rw [emcDwc_run_eq_loop emc dwc qf sf hlen]
  apply forall₂_map
  rintro ⟨q, s⟩
  simp only [EmcDwc.step, mgPerLitreToKgPerM3_eq, and_self]

/-- **EmcDwc**, every timestep: zero flow ⇒ zero load; non-negative flows and concentrations ⇒ non-negative loads. -/
theorem emcDwc_zero_nonneg (emc dwc : ℝ) (qf sf : List ℝ) (hlen : qf.length = sf.length) :
    List.Forall₂ (fun (x : ℝ × ℝ) (o : EmcDwc.Out ℝ) =>
        (x.1 = 0 → o.quickLoad = 0) ∧ (x.2 = 0 → o.slowLoad = 0) ∧ (x.1 = 0 → x.2 = 0 → o.totalLoad = 0) ∧
        (0 ≤ emc → 0 ≤ dwc → 0 ≤ x.1 → 0 ≤ x.2 → 0 ≤ o.quickLoad ∧ 0 ≤ o.slowLoad ∧ 0 ≤ o.totalLoad))
      (qf.zip sf) (EmcDwc.run emc dwc qf sf) := by
  refine List.Forall₂.imp ?_ (emcDwc_spec emc dwc qf sf hlen)
  rintro ⟨q, s⟩ o ⟨h1, h2, h3⟩
  obtain ⟨z1, n1⟩ := load_zero_nonneg h1
  obtain ⟨z2, n2⟩ := load_zero_nonneg h2
  exact ⟨z1, z2, fun a b => by rw [h3, z1 a, z2 b, add_zero],
    fun a b c d => ⟨n1 a c, n2 b d, by rw [h3]; exact add_nonneg (n1 a c) (n2 b d)⟩⟩

/-- linearity in flow: scaling both flows by `a` scales every load by `a` -/
theorem emcDwc_linear_in_flow (emc dwc a q s : ℝ) :
    (EmcDwc.step emc dwc (a * q, a * s)).quickLoad = a * (EmcDwc.step emc dwc (q, s)).quickLoad ∧
    (EmcDwc.step emc dwc (a * q, a * s)).slowLoad = a * (EmcDwc.step emc dwc (q, s)).slowLoad ∧
    (EmcDwc.step emc dwc (a * q, a * s)).totalLoad = a * (EmcDwc.step emc dwc (q, s)).totalLoad := by
  simp only [EmcDwc.step]
  refine ⟨by ring, by ring, by ring⟩

/-- linearity in concentration: scaling EMC and DWC by `a` scales every load by `a` -/
theorem emcDwc_linear_in_concentration (emc dwc a q s : ℝ) :
    (EmcDwc.step (a * emc) (a * dwc) (q, s)).totalLoad = a * (EmcDwc.step emc dwc (q, s)).totalLoad := by
  simp only [EmcDwc.step]; ring

/-- **FixedConcentration is the linear map `load = flow · concentration · 1e-3`** on the whole series, for every
concentration (with `concentration = 0` the kernel returns early and the output stays zero = `flow·0·1e-3`). -/
theorem fixedConcentration_linear (conc : ℝ) (flow : List ℝ) :
    FixedConcentration.run conc flow = flow.map (fun f => f * conc * (1 / 1000)) := by
  rw [← mgPerLitreToKgPerM3_eq]
  exact early_return_zero conc _ flow _ rfl fun h x => by rw [h, mul_zero, zero_mul]

/-- FixedConcentration: zero flow ⇒ zero load, non-negative flow and concentration ⇒ non-negative load -/
theorem fixedConcentration_zero_nonneg (conc : ℝ) (flow : List ℝ) :
    List.Forall₂ (fun (f l : ℝ) => (f = 0 → l = 0) ∧ (0 ≤ conc → 0 ≤ f → 0 ≤ l))
      flow (FixedConcentration.run conc flow) := by
  rw [fixedConcentration_linear]
  apply forall₂_map
  exact fun f => load_zero_nonneg rfl

/-- `EFFECTIVELY_ZERO = 1e-8` -/
theorem effectivelyZero_eq : (PassLoadIfFlow.effectivelyZero : ℝ) = 1 / 100000000 := by
  simp only [PassLoadIfFlow.effectivelyZero]; norm_num

/-- **PassLoadIfFlow is the mask-and-scale map** `outputLoad = inputLoad · scalingFactor` where `flow > 1e-8`, `0`
elsewhere, on the whole series and for every scaling factor (early return for `scalingFactor = 0` included). -/
theorem passLoadIfFlow_spec (sf : ℝ) (flow load : List ℝ) (hlen : flow.length = load.length) :
    PassLoadIfFlow.run sf flow load =
      (flow.zip load).map (fun x => if 1 / 100000000 < x.1 then x.2 * sf else 0) := by
  have hstep : ∀ x : ℝ × ℝ, PassLoadIfFlow.step sf x = if 1 / 100000000 < x.1 then x.2 * sf else 0 := by
    rintro ⟨f, l⟩
    simp only [PassLoadIfFlow.step, effectivelyZero_eq, gt_iff_lt, RealNum.sci_zero]
  rw [← funext hstep]
  exact early_return_zero sf _ _ _ (by simp [hlen]) fun h x => by rw [hstep, h, mul_zero, ite_self]

/-- PassLoadIfFlow: zero flow ⇒ zero load; non-negative load and factor ⇒ non-negative output -/
theorem passLoadIfFlow_zero_nonneg (sf : ℝ) (flow load : List ℝ) (hlen : flow.length = load.length) :
    List.Forall₂ (fun (x : ℝ × ℝ) (o : ℝ) => (x.1 = 0 → o = 0) ∧ (0 ≤ sf → 0 ≤ x.2 → 0 ≤ o))
      (flow.zip load) (PassLoadIfFlow.run sf flow load) := by
  rw [passLoadIfFlow_spec sf flow load hlen]
  apply forall₂_map
  rintro ⟨f, l⟩
  refine ⟨fun h => ?_, fun h1 h2 => ?_⟩
  · simp only at h; rw [if_neg (by rw [h]; norm_num)]
  · split_ifs
    · positivity
    · exact le_refl _

/-- `cumecs_to_lpd = SECONDS_PER_DAY · CUBIC_METRES_TO_LITRES` -/
theorem cumecsToLpd_eq : (DissolvedNutrients.cumecsToLpd : ℝ) = Units.secondsPerDay * Units.cubicMetresToLitres := by
  rw [secondsPerDay_eq, cubicMetresToLitres_eq]
  simp only [DissolvedNutrients.cumecsToLpd, RealNum.ofNat_eq]; norm_num

/-- **SednetDissolvedNutrientGeneration**, every timestep: the day-based computation (m³/s → L/day, mg → kg, per
day → per second) reduces to `load = flow · concentration · 1e-3` (the mg/L → kg/m³ factor), and
`totalLoad = quickflowConstituent + slowflowConstituent`. -/
theorem dissolvedNutrients_spec (emc dwc : ℝ) (qf sf : List ℝ) :
    List.Forall₂ (fun (x : ℝ × ℝ) (o : DissolvedNutrients.Out ℝ) =>
        o.quick = x.1 * emc * (1 / 1000) ∧ o.slow = x.2 * dwc * (1 / 1000) ∧ o.total = o.quick + o.slow)
      (qf.zip sf) (DissolvedNutrients.run emc dwc qf sf) := by
  unfold DissolvedNutrients.run
  apply forall₂_map
  rintro ⟨q, s⟩
  simp only [DissolvedNutrients.step, cumecsToLpd_eq, secondsPerDay_eq, cubicMetresToLitres_eq, milligramToKg_eq]
  refine ⟨by ring, by ring, by ring⟩

/-- SednetDissolvedNutrientGeneration: zero flow ⇒ zero load; non-negative drivers ⇒ non-negative loads -/
theorem dissolvedNutrients_zero_nonneg (emc dwc : ℝ) (qf sf : List ℝ) :
    List.Forall₂ (fun (x : ℝ × ℝ) (o : DissolvedNutrients.Out ℝ) =>
        (x.1 = 0 → o.quick = 0) ∧ (x.2 = 0 → o.slow = 0) ∧
        (0 ≤ emc → 0 ≤ dwc → 0 ≤ x.1 → 0 ≤ x.2 → 0 ≤ o.quick ∧ 0 ≤ o.slow ∧ 0 ≤ o.total))
      (qf.zip sf) (DissolvedNutrients.run emc dwc qf sf) := by
  refine List.Forall₂.imp ?_ (dissolvedNutrients_spec emc dwc qf sf)
  rintro ⟨q, s⟩ o ⟨h1, h2, h3⟩
  obtain ⟨z1, n1⟩ := load_zero_nonneg h1
  obtain ⟨z2, n2⟩ := load_zero_nonneg h2
  exact ⟨z1, z2, fun a b c d => ⟨n1 a c, n2 b d, by rw [h3]; exact add_nonneg (n1 a c) (n2 b d)⟩⟩

/-- **SednetParticulateNutrientGeneration**, every timestep (inputs: fine/coarse sheet, fine/coarse gully sediment,
slowflow): hillslope and gully contributions are *generated sediment × soil concentration × enrichment × delivery ratio
(percent → proportion)*, the quickflow constituent is their sum, the slowflow constituent is `slowflow·DWC·1e-3` and
`totalLoad = quick + slow`. Both branches of the CREAMS switch compute the same expressions. -/
theorem particulateNutrients_spec (p : ParticulateNutrients.Params ℝ) (a b c d e : List ℝ) :
    List.Forall₂ (fun (x : ℝ × ℝ × ℝ × ℝ × ℝ) (o : ParticulateNutrients.Out ℝ) =>
        o.hillslope = (x.1 + x.2.1) * p.nutSurfSoilConc * p.nutrientEnrichmentRatio * (p.hillDeliveryRatio * (1 / 100)) ∧
        o.gully = (x.2.2.1 + x.2.2.2.1) * p.nutSubSoilConc * p.nutrientEnrichmentRatioGully * (p.gullyDeliveryRatio * (1 / 100)) ∧
        o.quick = o.hillslope + o.gully ∧
        o.slow = x.2.2.2.2 * p.nutrientDWC * (1 / 1000) ∧
        o.total = o.quick + o.slow)
      (zip5 a b c d e) (ParticulateNutrients.run p a b c d e) := by
  unfold ParticulateNutrients.run
  apply forall₂_map
  rintro ⟨fs, cs, fg, cg, sf⟩
  simp only [ParticulateNutrients.step, percentToProportion_eq, mgPerLitreToKgPerM3_eq, ite_self, and_self]

/-- SednetParticulateNutrientGeneration: zero supplied sediment ⇒ zero particulate load, zero slowflow ⇒ zero slow
load; non-negative inputs and parameters ⇒ non-negative loads -/
theorem particulateNutrients_zero_nonneg (p : ParticulateNutrients.Params ℝ) (a b c d e : List ℝ) :
    List.Forall₂ (fun (x : ℝ × ℝ × ℝ × ℝ × ℝ) (o : ParticulateNutrients.Out ℝ) =>
        (x.1 + x.2.1 = 0 → o.hillslope = 0) ∧ (x.2.2.1 + x.2.2.2.1 = 0 → o.gully = 0) ∧
        (x.1 + x.2.1 = 0 → x.2.2.1 + x.2.2.2.1 = 0 → o.quick = 0) ∧ (x.2.2.2.2 = 0 → o.slow = 0) ∧
        (0 ≤ p.nutSurfSoilConc → 0 ≤ p.nutrientEnrichmentRatio → 0 ≤ p.hillDeliveryRatio →
         0 ≤ p.nutSubSoilConc → 0 ≤ p.nutrientEnrichmentRatioGully → 0 ≤ p.gullyDeliveryRatio → 0 ≤ p.nutrientDWC →
         0 ≤ x.1 → 0 ≤ x.2.1 → 0 ≤ x.2.2.1 → 0 ≤ x.2.2.2.1 → 0 ≤ x.2.2.2.2 →
         0 ≤ o.hillslope ∧ 0 ≤ o.gully ∧ 0 ≤ o.quick ∧ 0 ≤ o.slow ∧ 0 ≤ o.total))
      (zip5 a b c d e) (ParticulateNutrients.run p a b c d e) := by
  refine List.Forall₂.imp ?_ (particulateNutrients_spec p a b c d e)
  rintro ⟨fs, cs, fg, cg, sf⟩ o ⟨h1, h2, h3, h4, h5⟩
  simp only at h1 h2 h4 ⊢
  obtain ⟨z4, n4⟩ := load_zero_nonneg h4
  refine ⟨fun h => by rw [h1, h]; ring, fun h => by rw [h2, h]; ring,
    fun ha hb => by rw [h3, h1, h2, ha, hb]; ring, z4, ?_⟩
  intro c1 c2 c3 c4 c5 c6 c7 x1 x2 x3 x4 x5
  have e1 : 0 ≤ o.hillslope := by rw [h1]; exact delivered_nonneg (add_nonneg x1 x2) c1 c2 c3
  have e2 : 0 ≤ o.gully := by rw [h2]; exact delivered_nonneg (add_nonneg x3 x4) c4 c5 c6
  have e3 : 0 ≤ o.quick := by rw [h3]; exact add_nonneg e1 e2
  exact ⟨e1, e2, e3, n4 c7 x5, by rw [h5]; exact add_nonneg e3 (n4 c7 x5)⟩

example : EmcDwc.run (100:ℝ) 10 [2] [3] = [⟨2 * 100 * 0.001, 3 * 10 * 0.001, 2 * 100 * 0.001 + 3 * 10 * 0.001⟩] := by
  rw [emcDwc_run_eq_loop 100 10 [2] [3] rfl]; rfl
example : FixedConcentration.run (50:ℝ) [4, 0] = [4 * 50 * (1 / 1000), 0 * 50 * (1 / 1000)] :=
  fixedConcentration_linear 50 [4, 0]
example : PassLoadIfFlow.run (2:ℝ) [1, 0] [5, 5] = [5 * 2, 0] := by
  rw [passLoadIfFlow_spec 2 [1, 0] [5, 5] rfl]; norm_num

end OW.Props.C16
