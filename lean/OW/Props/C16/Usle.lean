import OW.Proofs.C16Sediment
/-!
C16 — USLEFineSedimentGeneration: totals = quick + slow, delivered load = generated load × hillslope delivery
ratio, generated fine and coarse material split by the fine fraction `KLSC_Fine / KLSC` (also after the
maximum-concentration cap), zero load when a driver (quickflow, erosive rainfall, KLSC) is zero, and non-negative loads
for non-negative drivers. One-timestep theorems for every parameter and input value, lifted to the whole series.
The rainfall erosivity `R = α(1 + η·cos(2π(doy-15)/365))·rain^β` is treated as an arbitrary real number: none of the
identities depends on it (with `η > 1` it can be negative, and the event test `R·KLSC > 0` then gives zero load).
Hypotheses `0 < Δt`, `0 ≤ maxConc` that an ℝ proof does not use: note on divisors in OW/Proofs/C16Lemmas.lean.
-/
namespace OW.Props.C16
open OW OW.Kernels OW.C16

/-- **USLE: totals equal the sum of their parts** — `totalFineLoad = quickLoadFine + slowLoadFine`,
`totalCoarseLoad = quickLoadCoarse + slowLoadCoarse` (the latter is always 0), and the slow fine load is
`DWC · baseflow · 1e-3`. -/
theorem usle_totals (p : UsleFine.Params ℝ) (i : UsleFine.In ℝ) :
    (UsleFine.step p i).totalFineLoad = (UsleFine.step p i).quickLoadFine + (UsleFine.step p i).slowLoadFine ∧
    (UsleFine.step p i).totalCoarseLoad = (UsleFine.step p i).quickLoadCoarse + (UsleFine.step p i).slowLoadCoarse ∧
    (UsleFine.step p i).slowLoadCoarse = 0 ∧
    (UsleFine.step p i).slowLoadFine = p.dwc * i.sf * (1 / 1000) := by
  rw [usle_step_eq]
  split_ifs <;> exact ⟨rfl, rfl, rfl, rfl⟩

/-- **USLE: delivered load = generated load × hillslope delivery ratio** (percent), fine and coarse; the only divisor
is the positive time step (`(load·ratio)/Δt = (load/Δt)·ratio` needs `Δt ≠ 0` to be a statement about quotients). -/
theorem usle_delivered (p : UsleFine.Params ℝ) (_hts : 0 < p.timeStepInSeconds) (i : UsleFine.In ℝ) :
    (UsleFine.step p i).quickLoadFine = (UsleFine.step p i).generatedLoadFine * (p.usleHSDRFine * (1 / 100)) ∧
    (UsleFine.step p i).quickLoadCoarse = (UsleFine.step p i).generatedLoadCoarse * (p.usleHSDRCoarse * (1 / 100)) := by
  rw [usle_step_eq]
  split_ifs <;> constructor <;> ring

/-- **USLE: the divisors of the maximum-concentration cap are positive** for `0 ≤ maxConc` on an event day (`0 < qf`):
the flow in litres per day, and — whenever the cap is hit — the current fine sediment mass
`fine·area·1e-4·1e3` by which the allowed mass is divided. (For `maxConc < 0` the cap can be hit with a zero current
mass and the code divides by zero: excluded by hypothesis, see `usle_fine_fraction`.) -/
theorem usle_cap_divisor_pos (p : UsleFine.Params ℝ) (qf fine : ℝ)
    (hmax : 0 ≤ p.maxConc) (hq : 0 < qf) :
    0 < UsleFine.litresPerDay qf ∧
    ((fine * p.area * Units.squareMetresToHectares * Units.tonnesToKg * Units.kgToMilligram) / UsleFine.litresPerDay qf
        > p.maxConc →
      0 < fine * p.area * Units.squareMetresToHectares * Units.tonnesToKg) := by
  simp only [usle_litresPerDay, squareMetresToHectares_eq, tonnesToKg_eq, kgToMilligram_eq, gt_iff_lt]
  have hl : 0 < qf * 86400000 := by positivity
  refine ⟨hl, fun h => ?_⟩
  have hc : 0 < fine * p.area * (1 / 10000) * 1000 * 1000000 / (qf * 86400000) := lt_of_le_of_lt hmax h
  have hn : 0 < fine * p.area * (1 / 10000) * 1000 * 1000000 := (div_pos_iff_of_pos_right hl).1 hc
  linarith

/-- **USLE: generated fine + coarse material is split by the fine fraction** `KLSC_Fine / KLSC` of the eroded soil:
`generatedFine · KLSC = (generatedFine + generatedCoarse) · KLSC_Fine`, with or without the concentration cap, for a
positive time step and `0 ≤ maxConc`. The ℝ proof uses neither hypothesis (the identity survives `x/0 = 0`); they are
what makes every divisor on the path non-zero (`usle_cap_divisor_pos`: litres per day on an event day, the current fine
mass where the cap is hit; the time step), hence what the identity needs in float64: without `0 ≤ maxConc` the cap
branch can divide by a zero mass and float64 gives NaN. -/
theorem usle_fine_fraction (p : UsleFine.Params ℝ) (i : UsleFine.In ℝ)
    (hts : 0 < p.timeStepInSeconds) (hmax : 0 ≤ p.maxConc) :
    (UsleFine.step p i).generatedLoadFine * i.klsc =
      ((UsleFine.step p i).generatedLoadFine + (UsleFine.step p i).generatedLoadCoarse) * i.klscFine := by
  have _hne : p.timeStepInSeconds ≠ 0 := ne_of_gt hts
  by_cases hc : 0 < i.qf ∧ 0 < UsleFine.rFactor p i.rain i.doy * i.klsc
  · have _hdiv := usle_cap_divisor_pos p i.qf (UsleFine.rFactor p i.rain i.doy * i.klscFine) hmax hc.1
    obtain ⟨adj, hadj, _⟩ := usle_adjustedRates p i.qf (UsleFine.rFactor p i.rain i.doy * i.klscFine)
      (UsleFine.rFactor p i.rain i.doy * i.klsc - UsleFine.rFactor p i.rain i.doy * i.klscFine)
    rw [usle_step_eq, if_pos hc, hadj]
    ring
  · rw [usle_step_eq, if_neg hc]
    ring

/-- **USLE: zero driver ⇒ zero load**, for a positive time step. Without quickflow, without erosive rainfall
(`rain ≤ RainThreshold`) or with `KLSC = 0`, the quick loads and the generated loads are zero and the total fine load
is the dry-weather load alone. The coarse quick load and the generated loads are computed as `0 / Δt`, which in float64 is
0 only for `Δt ≠ 0` (`0/0 = NaN`): hence the hypothesis. The ℝ proof does not use it (`usle_zero_driver_dt0` is the same
branch for every Δt; note on divisors in OW/Proofs/C16Lemmas.lean). -/
theorem usle_zero_driver (p : UsleFine.Params ℝ) (i : UsleFine.In ℝ) (hts : 0 < p.timeStepInSeconds)
    (h : i.qf ≤ 0 ∨ ¬ p.rainThreshold < i.rain ∨ i.klsc = 0) :
    (UsleFine.step p i).quickLoadFine = 0 ∧ (UsleFine.step p i).quickLoadCoarse = 0 ∧
    (UsleFine.step p i).generatedLoadFine = 0 ∧ (UsleFine.step p i).generatedLoadCoarse = 0 ∧
    (UsleFine.step p i).totalFineLoad = (UsleFine.step p i).slowLoadFine ∧ (UsleFine.step p i).totalCoarseLoad = 0 := by
  have _hne : p.timeStepInSeconds ≠ 0 := ne_of_gt hts
  rw [usle_step_eq, if_neg (usle_no_event p i h)]
  simp only [zero_div, zero_add, add_zero, and_self]

/-- USLE, the no-event branch as the code writes it, for every Δt: the fine quick load is the literal 0 and the other
three are the quotient `0 / timeStepInSeconds`. Over ℝ that quotient is 0 also for `Δt = 0`, so this says no less than
`usle_zero_driver` without its hypothesis; the form is what carries over to float64, where `0 / 0` is NaN. -/
theorem usle_zero_driver_dt0 (p : UsleFine.Params ℝ) (i : UsleFine.In ℝ)
    (h : i.qf ≤ 0 ∨ ¬ p.rainThreshold < i.rain ∨ i.klsc = 0) :
    (UsleFine.step p i).quickLoadFine = 0 ∧
    (UsleFine.step p i).quickLoadCoarse = 0 / p.timeStepInSeconds ∧
    (UsleFine.step p i).generatedLoadFine = 0 / p.timeStepInSeconds ∧
    (UsleFine.step p i).generatedLoadCoarse = 0 / p.timeStepInSeconds := by
  rw [usle_step_eq, if_neg (usle_no_event p i h)]
  exact ⟨rfl, rfl, rfl, rfl⟩

/-- the slow (dry-weather) load is zero without baseflow -/
theorem usle_zero_baseflow (p : UsleFine.Params ℝ) (i : UsleFine.In ℝ) (h : i.sf = 0) :
    (UsleFine.step p i).slowLoadFine = 0 := by
  rw [(usle_totals p i).2.2.2, h]; ring

/-- **USLE: non-negative drivers ⇒ non-negative loads**: for non-negative flows, KLSC values with
`KLSC_Fine ≤ KLSC`, and non-negative area, maxConc, delivery ratios and DWC (positive time step), all eight outputs are
non-negative — whatever the sign of the erosivity `R` (so also for `η > 1`). -/
theorem usle_nonneg (p : UsleFine.Params ℝ) (i : UsleFine.In ℝ)
    (hts : 0 < p.timeStepInSeconds) (harea : 0 ≤ p.area) (hmax : 0 ≤ p.maxConc) (hdwc : 0 ≤ p.dwc)
    (hhf : 0 ≤ p.usleHSDRFine) (hhc : 0 ≤ p.usleHSDRCoarse)
    (hsf : 0 ≤ i.sf) (hk : 0 ≤ i.klsc) (hkf0 : 0 ≤ i.klscFine) (hkf1 : i.klscFine ≤ i.klsc) :
    0 ≤ (UsleFine.step p i).quickLoadFine ∧ 0 ≤ (UsleFine.step p i).slowLoadFine ∧
    0 ≤ (UsleFine.step p i).quickLoadCoarse ∧ 0 ≤ (UsleFine.step p i).slowLoadCoarse ∧
    0 ≤ (UsleFine.step p i).totalFineLoad ∧ 0 ≤ (UsleFine.step p i).totalCoarseLoad ∧
    0 ≤ (UsleFine.step p i).generatedLoadFine ∧ 0 ≤ (UsleFine.step p i).generatedLoadCoarse := by
  have hS : 0 ≤ p.dwc * i.sf * (1 / 1000) := by positivity
  by_cases hc : 0 < i.qf ∧ 0 < UsleFine.rFactor p i.rain i.doy * i.klsc
  · rw [usle_step_eq, if_pos hc]
    generalize UsleFine.rFactor p i.rain i.doy = r at hc ⊢
    obtain ⟨adj, hadj, hadj0⟩ := usle_adjustedRates p i.qf (r * i.klscFine) (r * i.klsc - r * i.klscFine)
    rw [hadj]
    have hrpos : 0 < r := lt_of_not_ge fun hh => not_lt.mpr (mul_nonpos_of_nonpos_of_nonneg hh hk) hc.2
    have hF : 0 ≤ r * i.klscFine := mul_nonneg hrpos.le hkf0
    have hC : 0 ≤ r * i.klsc - r * i.klscFine := sub_nonneg.mpr (mul_le_mul_of_nonneg_left hkf1 hrpos.le)
    have ha := hadj0 hmax hc.1 hF harea
    obtain ⟨e1, e3⟩ := usle_load_nonneg hF ha harea hhf hts
    obtain ⟨e2, e4⟩ := usle_load_nonneg hC ha harea hhc hts
    exact ⟨e1, hS, e2, le_rfl, add_nonneg e1 hS, add_nonneg e2 le_rfl, e3, e4⟩
  · rw [usle_step_eq, if_neg hc]
    simp only [zero_div, zero_add, add_zero, le_refl, true_and, and_true]
    exact ⟨hS, hS⟩

/-- **USLE, whole series**: every timestep satisfies the total / delivered / fine-fraction identities and the
zero-driver rule (positive time step, `0 ≤ maxConc`: see `usle_fine_fraction`). -/
theorem usle_spec (p : UsleFine.Params ℝ) (hts : 0 < p.timeStepInSeconds) (hmax : 0 ≤ p.maxConc)
    (xs : List (UsleFine.In ℝ)) :
    List.Forall₂ (fun (i : UsleFine.In ℝ) (o : UsleFine.Out ℝ) =>
        o.totalFineLoad = o.quickLoadFine + o.slowLoadFine ∧
        o.totalCoarseLoad = o.quickLoadCoarse + o.slowLoadCoarse ∧
        o.slowLoadFine = p.dwc * i.sf * (1 / 1000) ∧
        o.quickLoadFine = o.generatedLoadFine * (p.usleHSDRFine * (1 / 100)) ∧
        o.quickLoadCoarse = o.generatedLoadCoarse * (p.usleHSDRCoarse * (1 / 100)) ∧
        o.generatedLoadFine * i.klsc = (o.generatedLoadFine + o.generatedLoadCoarse) * i.klscFine ∧
        ((i.qf ≤ 0 ∨ ¬ p.rainThreshold < i.rain ∨ i.klsc = 0) →
          o.quickLoadFine = 0 ∧ o.quickLoadCoarse = 0 ∧ o.generatedLoadFine = 0 ∧ o.generatedLoadCoarse = 0))
      xs (UsleFine.run p xs) := by
  unfold UsleFine.run
  apply forall₂_map
  intro i
  obtain ⟨a, b, _, c⟩ := usle_totals p i
  obtain ⟨d, e⟩ := usle_delivered p hts i
  refine ⟨a, b, c, d, e, usle_fine_fraction p i hts hmax, fun h => ?_⟩
  obtain ⟨z1, z2, z3, z4, _⟩ := usle_zero_driver p i hts h
  exact ⟨z1, z2, z3, z4⟩

/-- **USLE, whole series**: non-negative loads for non-negative drivers and parameters. -/
theorem usle_series_nonneg (p : UsleFine.Params ℝ) (xs : List (UsleFine.In ℝ))
    (hts : 0 < p.timeStepInSeconds) (harea : 0 ≤ p.area) (hmax : 0 ≤ p.maxConc) (hdwc : 0 ≤ p.dwc)
    (hhf : 0 ≤ p.usleHSDRFine) (hhc : 0 ≤ p.usleHSDRCoarse) :
    List.Forall₂ (fun (i : UsleFine.In ℝ) (o : UsleFine.Out ℝ) =>
        0 ≤ i.sf → 0 ≤ i.klsc → 0 ≤ i.klscFine → i.klscFine ≤ i.klsc →
        0 ≤ o.quickLoadFine ∧ 0 ≤ o.slowLoadFine ∧ 0 ≤ o.quickLoadCoarse ∧ 0 ≤ o.slowLoadCoarse ∧
        0 ≤ o.totalFineLoad ∧ 0 ≤ o.totalCoarseLoad ∧ 0 ≤ o.generatedLoadFine ∧ 0 ≤ o.generatedLoadCoarse)
      xs (UsleFine.run p xs) := by
  unfold UsleFine.run
  apply forall₂_map
  intro i h1 h2 h3 h4
  exact usle_nonneg p i hts harea hmax hdwc hhf hhc h1 h2 h3 h4

/-- a dry day (rain 0 below the threshold 5) has zero generated load, by `usle_zero_driver` -/
example (p : UsleFine.Params ℝ) (hts : 0 < p.timeStepInSeconds) (h : p.rainThreshold = 5) :
    (UsleFine.step p ⟨1, 1, 2, 0.5, 0.1, 0, 100⟩).generatedLoadFine = 0 :=
  (usle_zero_driver p ⟨1, 1, 2, 0.5, 0.1, 0, 100⟩ hts (Or.inr (Or.inl (by rw [h]; norm_num)))).2.2.1
example : ∃ p : UsleFine.Params ℝ, 0 < p.timeStepInSeconds ∧ 0 ≤ p.area ∧ 0 ≤ p.maxConc ∧ 0 ≤ p.dwc :=
  ⟨⟨800, 1500, 5, 0.05, 1.5, 0.5, 1, 1, 1, 20, 0.3, 2, 40, 1e6, 500, 10, 5, 86400⟩, by norm_num, by norm_num, by norm_num, by norm_num⟩

/-- erosivity for `η = 0`, `β = 1`: `R = α·rain` above the threshold -/
noncomputable def usleP (maxConc : ℝ) : UsleFine.Params ℝ :=
  ⟨800, 1500, 5, 2, 1, 0, 1, 1, 1, 20, 0.3, 2, 40, 1e6, maxConc, 10, 5, 86400⟩
/-- one event day: quickflow 1 m³/s, rain 20 mm, KLSC 0.5 with 0.1 fine -/
noncomputable def usleI : UsleFine.In ℝ := ⟨1, 1, 20, 0.5, 0.1, 0, 100⟩
/-- the erosivity of that day is `2·(1 + 0·cos …)·20^1 = 40` -/
theorem usle_example_R (m : ℝ) : UsleFine.rFactor (usleP m) usleI.rain usleI.doy = 40 := by
  simp only [UsleFine.rFactor, usleP, usleI, realnum]
  norm_num

/-- the day is an event (`0 < qf`, `0 < R·KLSC = 20`), whatever `maxConc` -/
theorem usle_example_event (m : ℝ) :
    0 < usleI.qf ∧ 0 < UsleFine.rFactor (usleP m) usleI.rain usleI.doy * usleI.klsc := by
  rw [usle_example_R]; norm_num [usleI]
/-- fine-sediment concentration of the day: 4 t/ha on 100 ha in 86.4 ML = 4629.6 mg/L: above `maxConc = 500` (cap
branch), below `maxConc = 10000` (uncapped branch) -/
theorem usle_example_conc (m : ℝ) :
    (UsleFine.rFactor (usleP m) usleI.rain usleI.doy * usleI.klscFine) * (usleP m).area * Units.squareMetresToHectares *
      Units.tonnesToKg * Units.kgToMilligram / UsleFine.litresPerDay usleI.qf = 125000 / 27 := by
  rw [usle_example_R, usle_litresPerDay, squareMetresToHectares_eq, tonnesToKg_eq, kgToMilligram_eq]
  norm_num [usleI, usleP]
/-- `usle_nonneg` APPLIED on the event branch without cap (`maxConc = 10000 > 4629.6`) and with the cap hit
(`maxConc = 500 < 4629.6`): all eight outputs are non-negative -/
example (m : ℝ) (hm : m = 10000 ∨ m = 500) :
    0 ≤ (UsleFine.step (usleP m) usleI).quickLoadFine ∧ 0 ≤ (UsleFine.step (usleP m) usleI).generatedLoadCoarse := by
  have h := usle_nonneg (usleP m) usleI (by norm_num [usleP]) (by norm_num [usleP])
    (by rcases hm with h | h <;> simp only [usleP, h] <;> norm_num) (by norm_num [usleP]) (by norm_num [usleP])
    (by norm_num [usleP]) (by norm_num [usleI]) (by norm_num [usleI]) (by norm_num [usleI]) (by norm_num [usleI])
  exact ⟨h.1, h.2.2.2.2.2.2.2⟩

/-- the two branches really differ on that day: with the cap hit the generated fine load is the allowed mass
`500 mg/L · 86.4e6 L / 1e6 / 86400 s = 0.5 kg/s`, without cap it is `4 t/ha · 100 ha · 1000 / 86400 s = 125/27 kg/s` -/
example : (UsleFine.step (usleP 500) usleI).generatedLoadFine = 1 / 2 ∧
    (UsleFine.step (usleP 10000) usleI).generatedLoadFine = 125 / 27 := by
  have hev := usle_example_event 500
  have hev' := usle_example_event 10000
  have hR := usle_example_R 500
  have hR' := usle_example_R 10000
  simp only [usle_step_eq]
  rw [if_pos hev, if_pos hev']
  simp only [hR, hR', UsleFine.adjustedRates, usle_litresPerDay, squareMetresToHectares_eq, tonnesToKg_eq, kgToMilligram_eq, gt_iff_lt]
  norm_num [usleI, usleP]

end OW.Props.C16
