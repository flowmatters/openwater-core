import OW.Proofs.C16Lemmas
import OW.Kernels.C16.Conversions
/-!
C16 — pass-through, sum, gate, scaling, delivery-ratio and depth-to-rate models are the identity, sum, mask or
linear map they name, with the documented unit factors. All statements are about the whole output series, for every
input series and every parameter value, at `α := ℝ` (exact arithmetic). Early-return branches (`if scale == 0.0 { return }`)
are covered: the untouched zero-initialised output equals the linear map with factor 0. `depthToRate_linear` carries
`0 < Δt` without using it: note on divisors in OW/Proofs/C16Lemmas.lean.
-/
namespace OW.Props.C16
open OW OW.Kernels OW.C16

/-- `MG_PER_LITRE_TO_KG_PER_M3 = MILLIGRAM_TO_KG / LITRES_TO_CUBIC_METRES = 1e-6 / 1e-3 = 1e-3`. -/
theorem mgPerLitre_factor :
    (Units.mgPerLitreToKgPerM3 : ℝ) = Units.milligramToKg / Units.litresToCubicMetres ∧
    (Units.mgPerLitreToKgPerM3 : ℝ) = 1 / 1000 := by
  rw [mgPerLitreToKgPerM3_eq, milligramToKg_eq, litresToCubicMetres_eq]; norm_num

/-- The remaining constants of `conv/units` and `conv/rough` used by the C16 kernels have their documented values
(`CUBIC_METRES_PER_SECOND_TO_MEGA_LITRES_PER_DAY = (60·60·24)·1e-3`, `SECONDS_PER_DAY = 24·60·60`, …). -/
theorem unit_constants :
    (Units.millimetresToMetres : ℝ) = 1 / 1000 ∧ (Units.metresToMillimetres : ℝ) = 1000 ∧
    (Units.tonnesToKg : ℝ) = 1000 ∧ (Units.kgToMilligram : ℝ) = 1000000 ∧ (Units.milligramToKg : ℝ) = 1 / 1000000 ∧
    (Units.cubicMetresToLitres : ℝ) = 1000 ∧ (Units.megaLitresToLitres : ℝ) = 1000000 ∧
    (Units.percentToProportion : ℝ) = 1 / 100 ∧ (Units.squareMetresToHectares : ℝ) = 1 / 10000 ∧
    (Units.secondsPerDay : ℝ) = 24 * 60 * 60 ∧
    (Units.cumecsToMegaLitresPerDay : ℝ) = (60 * 60 * 24) * (1 / 1000) ∧ (Units.daysPerYear : ℝ) = 365 + 1 / 4 := by
  rw [millimetresToMetres_eq, metresToMillimetres_eq, tonnesToKg_eq, kgToMilligram_eq, milligramToKg_eq,
    cubicMetresToLitres_eq, megaLitresToLitres_eq, percentToProportion_eq, squareMetresToHectares_eq, secondsPerDay_eq,
    cumecsToMegaLitresPerDay_eq, daysPerYear_eq]
  norm_num

/-- **ApplyScalingFactor is the linear map `x ↦ x·scale`** on the whole series, for every scale — including
`scale = 0`, where the kernel returns early and the output stays as allocated (all zeros = `x·0`). -/
theorem applyScaling_linear (scale : ℝ) (input : List ℝ) :
    Scaling.run scale input = input.map (fun x => x * scale) :=
  early_return_zero scale _ input _ rfl fun h x => by rw [h, mul_zero]

/-- the early return relies on zero-initialised outputs: with `scale = 0` the kernel writes nothing -/
theorem applyScaling_zero (input : List ℝ) : Scaling.run 0 input = zeros input.length := by
  unfold Scaling.run
  rw [if_pos ((feq_zero 0).mpr rfl)]

/-- **DeliveryRatio: delivered load = generated load × delivery ratio.** The catalogue model `DeliveryRatio` runs the
same kernel (`applyScaling`) as `ApplyScalingFactor`, with its parameter `fraction` as the factor. -/
theorem deliveryRatio_linear (fraction : ℝ) (input : List ℝ) :
    (Scaling.deliveryRatio (α := ℝ)).run = (Scaling.model (α := ℝ)).run ∧
    ((Scaling.deliveryRatio (α := ℝ)).run [fraction] [input] []).map (·.outputs) =
      .ok [input.map (fun x => x * fraction)] := by
  refine ⟨rfl, ?_⟩
  simp only [Scaling.deliveryRatio, Scaling.mk, applyScaling_linear, Except.map]

/-- the conversion factor of DepthToRate is the documented `1e-3 · area / Δt` (mm → m, × m², per second) -/
theorem depthToRate_factor (deltaT area : ℝ) :
    DepthToRate.conversion deltaT area = (1 / 1000) * area / deltaT := by
  unfold DepthToRate.conversion; rw [millimetresToMetres_eq]

/-- **DepthToRate is the linear map `x ↦ x · (1e-3·area/Δt)`** on the whole series, for every area (including
`area = 0`: early return, zero-initialised output) and every time step `Δt > 0`. -/
theorem depthToRate_linear (deltaT area : ℝ) (_hdt : 0 < deltaT) (input : List ℝ) :
    DepthToRate.run deltaT area input = input.map (fun x => x * ((1 / 1000) * area / deltaT)) := by
  rw [← depthToRate_factor]
  exact early_return_zero area _ input _ rfl fun h x => by rw [depthToRate_factor, h]; ring

/-- **Input is the identity** on the series. -/
theorem input_identity (input : List ℝ) : InputNode.run input = input := rfl

/-- **Sum is the element-wise sum** of its two input series. -/
theorem sum_is_sum (i1 i2 : List ℝ) : Sum.run i1 i2 = List.zipWith (· + ·) i1 i2 := by
  exact List.map_zip_eq_zipWith

/-- **Gate is the mask** `outgoing = incoming` where `trigger > 0`, `0` elsewhere. -/
theorem gate_is_mask (trigger incoming : List ℝ) :
    Gate.run trigger incoming = List.zipWith (fun t i => if 0 < t then i else 0) trigger incoming := by
  refine Eq.trans (List.map_congr_left fun x _ => ?_)
    (List.map_zip_eq_zipWith (f := fun x : ℝ × ℝ => if 0 < x.1 then x.2 else 0))
  simp only [Gate.step, realnum, RealNum.sci_zero]

example : Scaling.run (2:ℝ) [1, 3] = [1 * 2, 3 * 2] := applyScaling_linear 2 [1, 3]
example : DepthToRate.run (86400:ℝ) 1000000 [10] = [10 * ((1 / 1000) * 1000000 / 86400)] :=
  depthToRate_linear 86400 1000000 (by norm_num) [10]
example : Gate.run [(1:ℝ), 0, -1] [5, 6, 7] = [5, 0, 0] := by
  rw [gate_is_mask]; norm_num [List.zipWith]
example : Sum.run [(1:ℝ), 2] [10, 20] = [11, 22] := by
  rw [sum_is_sum]; norm_num [List.zipWith]

end OW.Props.C16
