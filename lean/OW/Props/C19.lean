import OW.Proofs.Dates
import OW.Spec.Calendar
import OW.Kernels.DateGenerator
/-!
C19 — the date generator follows the proleptic Gregorian calendar.
Only property theorems and the lemmas they need. Core Lean only
(`omega`, a 12-way case split on the month for the two table facts `daysInMonth_spec` and `daysBefore_succ`, and an
induction over the loop of `_dayOfYear`). No bound on the year or on the run length.
-/
namespace OW.Props.C19
open OW.Dates OW.Spec.Calendar

/-- The code's leap-year test is the Gregorian rule, for every integer year. -/
theorem leapYear_iff (y : Int) : leapYear y = true ↔ isLeap y := by
  unfold leapYear isLeap
  by_cases a : y % 4 = 0 <;> by_cases b : y % 100 = 0 <;> by_cases c : y % 400 = 0 <;>
    simp [tmod_zero_iff, a, b, c, bne_iff_ne] <;> omega

theorem month_cases {m : Int} (h1 : 1 ≤ m) (h2 : m ≤ 12) :
    m = 1 ∨ m = 2 ∨ m = 3 ∨ m = 4 ∨ m = 5 ∨ m = 6 ∨ m = 7 ∨ m = 8 ∨ m = 9 ∨ m = 10 ∨ m = 11 ∨ m = 12 := by
  omega

theorem monthLen_pos (m y : Int) : 1 ≤ monthLen m y := by
  unfold monthLen; split <;> (try split) <;> omega

/-- `daysInMonth` returns the Gregorian month length for every month 1..12 (and does not panic). -/
theorem daysInMonth_spec (m y : Int) (h1 : 1 ≤ m) (h2 : m ≤ 12) :
    daysInMonth m y = some (monthLen m y) := by
  -- only February looks at the year; the other eleven months are read off the table
  by_cases hm : m = 2
  · subst hm
    by_cases l : isLeap y
    · simp [daysInMonth, monthLen, l, (leapYear_iff y).mpr l]
    · have : leapYear y = false := Bool.eq_false_iff.mpr (mt (leapYear_iff y).mp l)
      simp [daysInMonth, monthLen, dimTable, l, this]
  · rcases month_cases h1 h2 with h | h | h | h | h | h | h | h | h | h | h | h <;> subst h <;>
      simp [daysInMonth, monthLen, dimTable] at hm ⊢

theorem daysBefore_succ (m y : Int) (h1 : 1 ≤ m) (h2 : m < 12) :
    daysBefore (m + 1) y = daysBefore m y + monthLen m y := by
  have h2' : m ≤ 12 := by omega
  by_cases l : isLeap y <;>
  rcases month_cases h1 h2' with h | h | h | h | h | h | h | h | h | h | h | h <;> subst h <;>
    simp [daysBefore, monthLen, l] at * 

/-- the loop of `_dayOfYear` started at month `mi` with `m − mi` iterations left adds the lengths of the months `mi … m − 1` -/
theorem doyLoop_spec (y m : Int) (hm : m ≤ 12) :
    ∀ (fuel : Nat) (mi acc : Int), 1 ≤ mi → mi ≤ m → fuel = (m - mi).toNat →
      doyLoop y m fuel mi acc = some (acc + daysBefore m y - daysBefore mi y) := by
  intro fuel
  induction fuel with
  | zero =>
    intro mi acc _ h2 hf
    have : mi = m := by omega
    subst this
    simp only [doyLoop, Int.add_sub_cancel]
  | succ f ih =>
    intro mi acc h1 h2 hf
    have hlt : mi < m := by omega
    rw [doyLoop, if_pos hlt, daysInMonth_spec mi y h1 (by omega)]
    simp only
    rw [ih (mi + 1) _ (by omega) (by omega) (by omega), daysBefore_succ mi y h1 (by omega)]
    congr 1
    omega

theorem daysBefore_one (y : Int) : daysBefore 1 y = 0 := by simp [daysBefore]

/-- `_dayOfYear` = days before the month + day of month, for every month 1..12. -/
theorem dayOfYear_spec (d m y : Int) (h1 : 1 ≤ m) (h2 : m ≤ 12) :
    dayOfYear d m y = some (daysBefore m y + d) := by
  rw [dayOfYear, doyLoop_spec y m h2 _ 1 0 (Int.le_refl 1) h1 rfl, daysBefore_one]
  simp only [Int.zero_add, Int.sub_zero]

/-- ordinal of 1 January -/
def jan1 (y : Int) : Int := ordinal 1 1 y

/-! ### The calendar as a positional system

`ordinal d m y = jan1 y + daysBefore m y + (d − 1)`: start of the year, start of the month within the year, day within the
month. The year blocks `[jan1 y, jan1 (y+1))` and, inside a year, the month blocks follow one another (`jan1_succ`,
`daysBefore_succ`); everything below — the three carries of the loop body, uniqueness of the date of an ordinal — is linear
arithmetic over these equations and never looks at the floor divisions of `ordinal` again. -/

theorem ordinal_eq (d m y : Int) : ordinal d m y = jan1 y + daysBefore m y + (d - 1) := by
  unfold jan1 ordinal
  rw [daysBefore_one]
  omega

/-- length of year `y`: what lies before December, and December -/
theorem jan1_succ (y : Int) : jan1 (y + 1) = jan1 y + daysBefore 12 y + 31 := by
  unfold jan1 ordinal daysBefore isLeap
  simp
  omega

theorem jan1_mono {a b : Int} (h : a ≤ b) : jan1 a ≤ jan1 b := by
  unfold jan1 ordinal daysBefore; simp; omega

theorem daysBefore_mono (y : Int) {a b : Int} (ha : 1 ≤ a) (hb : b ≤ 12) (h : a ≤ b) :
    daysBefore a y ≤ daysBefore b y := by
  obtain ⟨k, rfl⟩ : ∃ k : Nat, b = a + k := ⟨(b - a).toNat, by omega⟩
  induction k with
  | zero => simp
  | succ k ih =>
    have := ih (by omega) (by omega)
    have hs := daysBefore_succ (a + k) y (by omega) (by omega)
    have hml := monthLen_pos (a + k) y
    have e : a + ((k + 1 : Nat) : Int) = a + k + 1 := by omega
    rw [e, hs]; omega

/-- One step. From a valid date the loop body does not
panic, emits the current date with its day of year, and moves to the valid date whose ordinal is
one larger. -/
theorem step_spec (t : Date) (hv : Valid t.d t.m t.y) :
    ∃ t', step t = some (⟨t.d, t.m, t.y, ordinal t.d t.m t.y - jan1 t.y + 1⟩, t') ∧
      Valid t'.d t'.m t'.y ∧ ordinal t'.d t'.m t'.y = ordinal t.d t.m t.y + 1 := by
  obtain ⟨h1, h2, h3, h4⟩ := hv
  have hdoy : ordinal t.d t.m t.y - jan1 t.y + 1 = daysBefore t.m t.y + t.d := by rw [ordinal_eq]; omega
  simp only [step, dayOfYear_spec t.d t.m t.y h1 h2, daysInMonth_spec t.m t.y h1 h2, hdoy]
  refine ⟨_, rfl, ?_⟩
  simp only [ordinal_eq]
  by_cases hd : t.d + 1 > monthLen t.m t.y
  · by_cases hm : t.m + 1 > 12
    · -- 31 December: the year carries
      have hm12 : t.m = 12 := by omega
      simp only [hd, hm, if_true]
      rw [hm12, show monthLen 12 t.y = 31 by simp [monthLen]] at hd h4
      refine ⟨⟨by omega, by omega, by omega, monthLen_pos _ _⟩, ?_⟩
      rw [jan1_succ, daysBefore_one, hm12]; omega
    · -- last day of another month: the month carries
      simp only [hd, hm, if_true, if_false]
      refine ⟨⟨by omega, by omega, by omega, monthLen_pos _ _⟩, ?_⟩
      rw [daysBefore_succ t.m t.y h1 (by omega)]; omega
  · have hm : ¬ t.m > 12 := by omega
    simp only [hd, hm, if_false]
    exact ⟨⟨h1, h2, by omega, by omega⟩, by omega⟩

/-- From any valid start date and for any number of ticks `n`, the generator
does not panic and its `k`-th emitted row is a valid date whose ordinal is `ordinal start + k`,
with `dayOfYear` = ordinal − ordinal of 1 January of that year + 1. -/
theorem generator_spec (n : Nat) (t : Date) (hv : Valid t.d t.m t.y) :
    ∃ rows, run n t = some rows ∧ rows.length = n ∧
      ∀ k (hk : k < rows.length),
        Valid rows[k].date rows[k].month rows[k].year ∧
        ordinal rows[k].date rows[k].month rows[k].year = ordinal t.d t.m t.y + k ∧
        rows[k].doy = ordinal rows[k].date rows[k].month rows[k].year - jan1 rows[k].year + 1 := by
  induction n generalizing t with
  | zero => exact ⟨[], rfl, rfl, fun k hk => absurd hk (Nat.not_lt_zero k)⟩
  | succ n ih =>
    obtain ⟨t', hs, hv', ho⟩ := step_spec t hv
    obtain ⟨rows, hr, hl, hrows⟩ := ih t' hv'
    refine ⟨⟨t.d, t.m, t.y, ordinal t.d t.m t.y - jan1 t.y + 1⟩ :: rows, by simp [run, hs, hr], by simp [hl], ?_⟩
    intro k hk
    cases k with
    | zero => exact ⟨hv, by simp, by simp⟩
    | succ k =>
      have hk' : k < rows.length := by simpa using hk
      obtain ⟨a, b, c⟩ := hrows k hk'
      refine ⟨by simpa using a, ?_, by simpa using c⟩
      simp only [List.getElem_cons_succ]
      rw [b, ho]; omega

/-! ### Uniqueness: the ordinal identifies a valid date, so "the day with ordinal o" is unique -/

theorem valid_in_year {d m y : Int} (hv : Valid d m y) :
    jan1 y ≤ ordinal d m y ∧ ordinal d m y < jan1 (y + 1) := by
  obtain ⟨h1, h2, h3, h4⟩ := hv
  have hlo := daysBefore_mono y (Int.le_refl 1) h2 h1
  rw [ordinal_eq, jan1_succ, daysBefore_one] at *
  refine ⟨by omega, ?_⟩
  by_cases hm : m = 12
  · subst hm; have : monthLen 12 y = 31 := by simp [monthLen]
    omega
  · have hs := daysBefore_succ m y h1 (by omega)
    have := daysBefore_mono y (a := m + 1) (b := 12) (by omega) (Int.le_refl 12) (by omega)
    omega

/-- two valid dates with the same ordinal are the same date. -/
theorem ordinal_inj {d m y d' m' y' : Int} (hv : Valid d m y) (hv' : Valid d' m' y')
    (h : ordinal d m y = ordinal d' m' y') : d = d' ∧ m = m' ∧ y = y' := by
  have a := valid_in_year hv
  have a' := valid_in_year hv'
  have hy : y = y' := by
    rcases Int.lt_trichotomy y y' with hlt | heq | hgt
    · have := jan1_mono (a := y + 1) (b := y') (by omega); omega
    · exact heq
    · have := jan1_mono (a := y' + 1) (b := y) (by omega); omega
  subst hy
  obtain ⟨h1, h2, h3, h4⟩ := hv
  obtain ⟨h1', h2', h3', h4'⟩ := hv'
  rw [ordinal_eq, ordinal_eq] at h
  have hm : m = m' := by
    rcases Int.lt_trichotomy m m' with hlt | heq | hgt
    · have hs := daysBefore_succ m y h1 (by omega)
      have := daysBefore_mono y (a := m + 1) (b := m') (by omega) h2' (by omega)
      omega
    · exact heq
    · have hs := daysBefore_succ m' y h1' (by omega)
      have := daysBefore_mono y (a := m' + 1) (b := m) (by omega) h2 (by omega)
      omega
  subst hm
  exact ⟨by omega, rfl, rfl⟩

section Model
open OW OW.Kernels

/-- **model_spec — the catalogue model `DateGenerator` on integer-valued parameters.** In any arithmetic in which `int(·)` of
an integer-valued number gives the integer back (`htrunc`; true at ℝ — `OW.Props.C19Model` — and of float64 below 2⁵³), with
parameters `day = d`, `month = m`, `year = y` forming a valid date and ANY tick series, `DateGenerator.model.run` does not panic
and its four output series (date, month, year, dayOfYear) are `rows.map ofInt` of exactly the rows of `generator_spec`: one
row per tick, the `k`-th being the valid date with ordinal `ordinal start + k` and its day of year. -/
theorem model_spec {α : Type} [Num α] (htrunc : ∀ n : Int, Num.toInt (Num.ofInt n : α) = n)
    (d m y : Int) (hv : Valid d m y) (tick : List α) :
    ∃ rows : List Row, run tick.length ⟨d, m, y⟩ = some rows ∧ rows.length = tick.length ∧
      (DateGenerator.model (α := α)).run [Num.ofInt d, Num.ofInt m, Num.ofInt y] [tick] [] =
        .ok { outputs := [rows.map (fun r => Num.ofInt r.date), rows.map (fun r => Num.ofInt r.month),
                          rows.map (fun r => Num.ofInt r.year), rows.map (fun r => Num.ofInt r.doy)], states := [] } ∧
      ∀ k (hk : k < rows.length),
        Valid rows[k].date rows[k].month rows[k].year ∧
        ordinal rows[k].date rows[k].month rows[k].year = ordinal d m y + k ∧
        rows[k].doy = ordinal rows[k].date rows[k].month rows[k].year - jan1 rows[k].year + 1 := by
  obtain ⟨rows, hr, hl, hrows⟩ := generator_spec tick.length ⟨d, m, y⟩ hv
  refine ⟨rows, hr, hl, ?_, hrows⟩
  simp only [DateGenerator.model, htrunc, hr]

end Model

example : Valid 28 2 1900 ∧ Valid 29 2 2000 ∧ ¬ Valid 29 2 1900 := by decide
example : run 3 ⟨28, 2, 1900⟩ = some [⟨28, 2, 1900, 59⟩, ⟨1, 3, 1900, 60⟩, ⟨2, 3, 1900, 61⟩] := by decide
example : run 2 ⟨31, 12, 2000⟩ = some [⟨31, 12, 2000, 366⟩, ⟨1, 1, 2001, 1⟩] := by decide
/-- the code panics on month 13 (index out of range) — the model shows it as `none` -/
example : run 1 ⟨1, 13, 2000⟩ = none := by decide
/-- ordinal matches the usual convention: 0001-01-01 is day 1, 2000-01-01 is day 730120 -/
example : ordinal 1 1 1 = 1 ∧ ordinal 1 1 2000 = 730120 := by decide

end OW.Props.C19
