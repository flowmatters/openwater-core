import OW.Proofs.JsonGlue
import OW.Proofs.JsonEncode
/-!
C17 — the JSON single-model runner is equivalent to a direct run and, unless the named model's own code panics on the
request, always answers.

The property theorems, with the lemmas stated in their terms (`get_padded`, `nesting_eq`, `eff_shapes`, `respond_of_err`,
`KernelOK.on`) and the support of the examples; the other lemmas are in `OW/Proofs/Json*.lean`. The model the theorems are about is
`OW/Sim/Json.lean` (`jsonSafeValue`, `jsonSafeArray` on the n-d array model; `respond` = `RunSingleModelJSON` after
`Decode`, with `Initialise` and `encodeResults`), tied to /repo/io/json/json.go, /repo/sim/single.go and the `ow-single`
binary by the differential correspondence families JSA and JSON. `α` is any number type with the float64 predicates of
`JNum` (the driver runs the model at `Float`). The model kernel is the abstract table `Kernel α`; `respond cat K split`
takes ONE `K` for the whole catalogue `cat`: read it as the kernel of the model the request names. A hypothesis on `K` for
EVERY description of `cat` can therefore be met only if the descriptions agree in the number of outputs — all of them for
`KernelOK` (`respond_total`), those with the same numbers of parameters and of inputs for `KernelOKShaped`
(`respond_total_shaped`); the totality statement that applies to the real catalogue is `respond_total_request`. `Initialise` fills its `1 × nIn × T` array row by row on plain lists (`setRow`, `OW/Sim/Json.lean`);
only `encodeResults` and `JsonSafeArray` run on the n-d array model.
-/
namespace OW.Props.C17
open OW.Nd OW.Sim.Json

section
variable {α : Type} [JNum α]

/-- `JsonSafeValue`: NaN, +Inf, -Inf become exactly the strings `NaN`, `+Inf`, `-Inf`; every other number is kept. -/
theorem jsonSafeValue_spec (x : α) :
    jsonSafeValue x =
      if JNum.isNaN x then .str "NaN"
      else if JNum.isPosInf x then .str "+Inf"
      else if JNum.isNegInf x then .str "-Inf"
      else .num x := by
  unfold jsonSafeValue sprintNonFinite isInf0
  cases JNum.isNaN x <;> cases JNum.isPosInf x <;> cases JNum.isNegInf x <;> simp

omit [JNum α] in
/-- the elements `JsonSafeArray(view, sd)` reads exist: an in-bounds tail padded with zeros is an in-bounds index -/
theorem get_padded {h : Heap α} {a : Arr} (hr : Reach a.v) (ok : ArrOK h a) {sd : Nat} (hsd : sd < a.v.dims.length)
    {tail : Idx} (hb : InBounds tail (a.v.dims.drop sd)) : ∃ x, Nd.get h a (uniform sd 0 ++ tail) = .ok x := by
  obtain ⟨x, _, hx⟩ :=
    get_addr (reach_geo hr) ok (inBounds_pad sd a.v.dims tail (reach_geo hr).pos_dims hb (Nat.le_of_lt hsd))
  exact ⟨x, hx⟩

/-- `nesting_spec` with the elements written out: `view[0,…,0,i_sd,…,i_last]` as `Get` returns them (`JNum.zero` stands
in for indices outside the view, which `nest` never asks for). -/
theorem nesting_eq {h : Heap α} {a : Arr} (hr : Reach a.v) (ok : ArrOK h a) (sd : Nat) (hsd : sd < a.v.dims.length) :
    jsonSafeArray h a (sd : Int) = .ok (nest (a.v.dims.drop sd) fun tail =>
      match Nd.get h a (uniform sd 0 ++ tail) with
      | .ok x => x
      | .error _ => JNum.zero) := by
  have geo := reach_geo hr
  refine jsonSafeArrayF_spec h a.v.ndims a sd _ geo.regular hsd (Nat.le_add_left _ _)
    (fun d hd => by have := geo.pos_dims d (List.mem_of_mem_drop hd); omega) fun tail hb => ?_
  obtain ⟨x, hx⟩ := get_padded hr ok hsd hb
  simp only [hx]

/-- **nesting_spec.** For every reachable view (root array or any chain of in-bounds, possibly stepped slices) held in
a storage that covers it, and every valid shift dimension `sd`, `JsonSafeArray(view, sd)` does not panic and returns
the nesting shaped like the extents from `sd` on (`nest`: one array level per extent, row-major order) of the
elements `view[0,…,0,i_sd,…,i_last]`, each passed through `JsonSafeValue` (non-finite → the three strings). -/
theorem nesting_spec {h : Heap α} {a : Arr} (hr : Reach a.v) (ok : ArrOK h a) (sd : Nat) (hsd : sd < a.v.dims.length) :
    ∃ g : Idx → α,
      (∀ tail, InBounds tail (a.v.dims.drop sd) → Nd.get h a (uniform sd 0 ++ tail) = .ok (g tail)) ∧
      jsonSafeArray h a (sd : Int) = .ok (nest (a.v.dims.drop sd) g) := by
  refine ⟨_, fun tail hb => ?_, nesting_eq hr ok sd hsd⟩
  obtain ⟨x, hx⟩ := get_padded hr ok hsd hb
  simp only [hx]

/-- `nest` of a rank-1 shape is the list of the converted elements; of a rank-2 shape the list of converted rows
(the JSON arrays are nested exactly like the dimensions). -/
theorem nest_rank1 (d : Int) (g : Idx → α) :
    nest [d] g = (List.range d.toNat).map fun (i : Nat) => jsonSafeValue (g [(i : Int)]) := rfl

theorem nest_rank2 (d e : Int) (g : Idx → α) :
    nest [d, e] g = (List.range d.toNat).map fun (i : Nat) =>
      JVal.arr ((List.range e.toNat).map fun (j : Nat) => jsonSafeValue (g [(i : Int), (j : Int)])) := rfl

/-- a shift dimension outside `[0, rank)` panics (index out of range in `Len`) -/
theorem shiftDim_out_of_range {h : Heap α} {a : Arr} (hne : a.v.dims ≠ []) (sd : Int)
    (hsd : sd < 0 ∨ (a.v.dims.length : Int) ≤ sd) : jsonSafeArray h a sd = .error "index-out-of-range" := by
  unfold jsonSafeArray
  obtain ⟨n, hn⟩ : ∃ n, a.v.ndims = n + 1 := by
    refine ⟨a.v.dims.length - 1, ?_⟩
    have : a.v.dims.length ≠ 0 := fun h0 => hne (List.length_eq_zero_iff.mp h0)
    simp only [View.ndims]; omega
  rw [hn]
  unfold jsonSafeArrayF
  have : lenI a.v sd = oob := by
    unfold lenI
    rcases hsd with h | h
    · rw [if_pos h]
    · rw [if_neg (by omega)]
      unfold View.len
      have : a.v.dims[sd.toNat]? = none := List.getElem?_eq_none (by omega)
      rw [this]
  simp only [this, bind, Except.bind, oob]

example : jsonSafeArray (α := α) [[JNum.zero, JNum.zero]] ⟨rootView [2] 0, 0, 0, 2, false⟩ 0 =
    .ok [jsonSafeValue JNum.zero, jsonSafeValue JNum.zero] :=
  jsa_rank1 (h := [[JNum.zero, JNum.zero]]) (sid := 0) rfl 0 2 (Nat.le_refl 2)

/-- **warnings_complete.** For a request naming a catalogued model whose supplied series all have `T` values (at least
one supplied) and whose `InitialiseStates` does not panic, `Initialise` returns
* the parameter column = named value, default otherwise (`effParams`),
* the input block = supplied series, `T` zeros otherwise (`effInputs`),
* the warnings = the empty first line (`make([]string, 1)`), then exactly one line per described parameter the request
  does not name (`<name> not found, using default=<%f>`), in description order, then exactly one line per described
  input it does not supply (`Missing input: <name>, using 0`), in description order — and nothing else. -/
theorem warnings_complete (cat : String → Option (ModelDesc α)) (K : Kernel α) (m : ParsedRequest α)
    (desc : ModelDesc α) (T : Nat)
    (hname : m.name ≠ "") (hcat : cat m.name = some desc)
    (hinit : K.init (effParams m.parameters desc.params) = .ok ())
    (hlen : LengthsAre m.inputs T desc.inputs) (hsome : ¬ NoneSupplied m.inputs desc.inputs) :
    initialise cat K m = .ok desc (effParams m.parameters desc.params) (effInputs m.inputs T desc.inputs)
      ([""] ++ paramWarnings m.parameters desc.params ++ inputWarnings m.inputs desc.inputs) :=
  (initialise_inputs cat K hname hcat hinit).2.1 T hsome hlen

/-- the two line formats -/
theorem log_line_formats (p : ParamDesc α) (n : String) :
    paramLine p = p.name ++ " not found, using default=" ++ JNum.fmt6 p.default ∧
    inputLine n = "Missing input: " ++ n ++ ", using 0" := ⟨rfl, rfl⟩

/-- one output / state row as JSON: the array of its values, each through `JsonSafeValue` -/
def rowJson (o : List α) : JVal α := .arr (o.map jsonSafeValue)

/-- the response document for a completed run: the log, the outputs (an object keyed by output name when split, else
the `[nOut][T]` nested array) and ALL final states (an object keyed by state name when split and the state row is as
wide as the list of names, else the plain array) -/
def resultDoc (logs : List String) (desc : ModelDesc α) (split : Bool) (outs : List (List α)) (states : List α) :
    JVal α :=
  document (some logs)
    (if split = true then .obj desc.outputs (outs.map rowJson) else .arr (outs.map rowJson))
    (if split = true ∧ states.length = desc.states.length then .obj desc.states (states.map jsonSafeValue)
     else .arr (states.map jsonSafeValue))

/-- a problem report: the log line(s), `Outputs` and `States` null -/
def problemDoc (logs : List String) : JVal α := document (some logs) .null .null

/-- **encode_spec.** `encodeResults` on the arrays of a completed run (outputs `1×nOut×T` holding the rectangular block
`outs`, states `1×W`) never panics and writes `resultDoc` — for every `nOut`, `T`, `W`, zero included. All the n-d array
plumbing (`MustReshape`, row `Slice`s, `JsonSafeArray`) is covered. -/
theorem encode_spec (logs : List String) (hl : logs ≠ []) (desc : ModelDesc α) (split : Bool) (T : Nat)
    (outs : List (List α)) (states : List α)
    (hrows : outs.length = desc.outputs.length) (hrect : ∀ o ∈ outs, o.length = T)
    (hno : desc.outputs.Nodup) (hns : desc.states.Nodup) :
    encodeResults (logged logs) (some (outs, states)) T desc split = .ok (resultDoc logs desc split outs states) := by
  have hlg : logged logs = some logs := by
    cases logs with
    | nil => exact absurd rfl hl
    | cons _ _ => rfl
  simp only [encodeResults, encodeOutputs_spec outs T desc.outputs split hrect hrows.symm hno,
    encodeStates_spec states desc.states split hns, bind, Except.bind, pure, Except.pure, hlg, resultDoc]
  rfl

/-- **respond_eq_direct.** For every request that names a catalogued model, supplies at least one of its inputs and
only series of one length `T`: the runner writes exactly one document and returns; the document's outputs and final
states are those of the DIRECT one-cell run (`K.run`) on the parameter column "named value, default otherwise"
(`effParams`) and the input block "supplied series, `T` zeros otherwise" (`effInputs`) — bit for bit, non-finite values as
the three strings, nested like the dimensions — and its log is the empty first line followed by exactly one line per
defaulted parameter and one per zero-filled input, in description order. Parameters and inputs may come in any order,
with duplicates (first wins) and unknown names (ignored); the `States` of the request are not used (as in the code).
Hypotheses on the kernel: it does not panic on this call and returns one row of `T` values per described output. -/
theorem respond_eq_direct (cat : String → Option (ModelDesc α)) (K : Kernel α) (split : Bool) (m : ParsedRequest α)
    (desc : ModelDesc α) (T : Nat) (outs : List (List α)) (states : List α)
    (hname : m.name ≠ "") (hcat : cat m.name = some desc)
    (hinit : K.init (effParams m.parameters desc.params) = .ok ())
    (hlen : LengthsAre m.inputs T desc.inputs) (hsome : ¬ NoneSupplied m.inputs desc.inputs)
    (hrun : K.run (effParams m.parameters desc.params) (effInputs m.inputs T desc.inputs) = .ok outs states)
    (hrows : outs.length = desc.outputs.length) (hrect : ∀ o ∈ outs, o.length = T)
    (hno : desc.outputs.Nodup) (hns : desc.states.Nodup) :
    respond cat K split (.inl m) =
      { written := [resultDoc ([""] ++ paramWarnings m.parameters desc.params ++ inputWarnings m.inputs desc.inputs)
                      desc split outs states],
        ending := .returned } := by
  have hT := effInputs_headD_length hlen hsome
  unfold respond
  simp only [warnings_complete cat K m desc T hname hcat hinit hlen hsome, hT, hrun, finish]
  rw [encode_spec _ (by simp) desc split T outs states hrows hrect hno hns]

/-- an error returned by `Initialise` is logged and reported with null results -/
theorem respond_of_err (cat : String → Option (ModelDesc α)) (K : Kernel α) (split : Bool) {m : ParsedRequest α}
    {msg : String} (h : initialise cat K m = .err msg) :
    respond cat K split (.inl m) = { written := [problemDoc [msg]], ending := .returned } := by
  simp only [respond, h]
  rfl

/-- the problem reports of the glue, exactly: decoder error, no name, unknown model — one document with the message
as its only log line and null results -/
theorem problem_reports (cat : String → Option (ModelDesc α)) (K : Kernel α) (split : Bool) :
    (∀ msg, respond cat K split (.inr msg) = { written := [problemDoc [msg]], ending := .returned }) ∧
    (∀ m : ParsedRequest α, m.name = "" →
      respond cat K split (.inl m) = { written := [problemDoc ["No model name provided"]], ending := .returned }) ∧
    (∀ m : ParsedRequest α, m.name ≠ "" → cat m.name = none →
      respond cat K split (.inl m) =
        { written := [problemDoc ["Unknown model: " ++ m.name]], ending := .returned }) := by
  exact ⟨fun msg => rfl, fun m hn => respond_of_err cat K split (initialise_noname cat K hn),
    fun m hn hc => respond_of_err cat K split (initialise_unknown cat K hn hc)⟩

/-- no usable input, or supplied series of unequal lengths (catalogued model, `InitialiseStates` does not panic): one
problem report, null results, the call returns -/
theorem input_problems_reported (cat : String → Option (ModelDesc α)) (K : Kernel α) (split : Bool)
    (m : ParsedRequest α) (desc : ModelDesc α) (hname : m.name ≠ "") (hcat : cat m.name = some desc)
    (hinit : K.init (effParams m.parameters desc.params) = .ok ()) :
    (NoneSupplied m.inputs desc.inputs →
      respond cat K split (.inl m) = { written := [problemDoc ["No inputs provided"]], ending := .returned }) ∧
    ((¬ ∃ T, LengthsAre m.inputs T desc.inputs) →
      ∃ msg, respond cat K split (.inl m) = { written := [problemDoc [msg]], ending := .returned }) := by
  obtain ⟨ha, _, he⟩ := initialise_inputs cat K hname hcat hinit
  exact ⟨fun h => respond_of_err cat K split (ha h), fun h => (he h).imp fun _ => respond_of_err cat K split⟩

/-- what ONE request needs of the kernel: on the parameter column and the input block that THIS request leads to
(`effParams` = named value, default otherwise; `effInputs` = supplied series, `T` zeros otherwise, for the common length
`T` of the supplied series), `InitialiseStates` and `Run` do not panic and `Run` fills one row of `T` values per described
output; output and state names are distinct. Nothing is asked about any other parameter column or input block. -/
structure KernelOKOn (K : Kernel α) (m : ParsedRequest α) (desc : ModelDesc α) : Prop where
  init : K.init (effParams m.parameters desc.params) = .ok ()
  run : ∀ T, LengthsAre m.inputs T desc.inputs → ¬ NoneSupplied m.inputs desc.inputs →
    ∃ outs states, K.run (effParams m.parameters desc.params) (effInputs m.inputs T desc.inputs) = .ok outs states ∧
      outs.length = desc.outputs.length ∧ ∀ o ∈ outs, o.length = T
  outputs_nodup : desc.outputs.Nodup
  states_nodup : desc.states.Nodup

/-- the shape of what `Initialise` hands to `Run`: as many parameters as described, one row per described input, all rows
of the common length `T` -/
theorem eff_shapes (m : ParsedRequest α) (desc : ModelDesc α) (T : Nat) (hlen : LengthsAre m.inputs T desc.inputs) :
    (effParams m.parameters desc.params).length = desc.params.length ∧
    (effInputs m.inputs T desc.inputs).length = desc.inputs.length ∧
    ∀ r ∈ effInputs m.inputs T desc.inputs, r.length = T :=
  ⟨by simp [effParams], by simp [effInputs], List.forall_mem_map.mpr fun n hn => effInput_length (hlen n hn)⟩

/-- **initialise_ok_shape.** Whenever `Initialise` succeeds, what it returns is determined by the request: the model is
the catalogued one, the parameter column is `effParams` (so `params.length = desc.params.length`), and there is a common
length `T` of the supplied series (at least one supplied) with the input block `effInputs … T`
(`inputs.length = desc.inputs.length`, every row of length `T`). -/
theorem initialise_ok_shape (cat : String → Option (ModelDesc α)) (K : Kernel α) (m : ParsedRequest α)
    {desc : ModelDesc α} {params : List α} {inputs : List (List α)} {warnings : List String}
    (h : initialise cat K m = .ok desc params inputs warnings) :
    cat m.name = some desc ∧ params = effParams m.parameters desc.params ∧
    ∃ T, LengthsAre m.inputs T desc.inputs ∧ ¬ NoneSupplied m.inputs desc.inputs ∧
      inputs = effInputs m.inputs T desc.inputs ∧
      warnings = [""] ++ paramWarnings m.parameters desc.params ++ inputWarnings m.inputs desc.inputs ∧
      params.length = desc.params.length ∧ inputs.length = desc.inputs.length ∧ ∀ r ∈ inputs, r.length = T := by
  rcases initialise_classify cat K m with ⟨msg, e⟩ | ⟨d, _, hc, ⟨cls, _, e⟩ | ⟨T, _, hlen, hnone, e⟩⟩
  · rw [e] at h
    cases h
  · rw [e] at h
    cases h
  · rw [e] at h
    cases h
    obtain ⟨s1, s2, s3⟩ := eff_shapes m desc T hlen
    exact ⟨hc, rfl, T, hlen, hnone, rfl, rfl, s1, s2, s3⟩

/-- **respond_total_request.** EVERY request — whatever the bytes decoded to, or the decoder's error — makes the
runner write exactly one JSON document and return, provided the named model's own code does not panic ON
THIS REQUEST (`KernelOKOn`: the parameter column and input block the request leads to). So the statement says
something for GR4J with a valid `x4` although GR4J panics for `x4 = 0`. No crash state is reachable through the glue
(no name, unknown model, no inputs, unequal lengths, missing or superfluous or duplicated parameters and inputs, any
series length including 0, any state-row width). -/
theorem respond_total_request (cat : String → Option (ModelDesc α)) (K : Kernel α) (split : Bool)
    (req : ParsedRequest α ⊕ String)
    (hK : ∀ m, req = .inl m → ∀ desc, cat m.name = some desc → KernelOKOn K m desc) :
    ∃ doc, respond cat K split req = { written := [doc], ending := .returned } := by
  cases req with
  | inr msg => exact ⟨_, rfl⟩
  | inl m =>
    rcases initialise_classify cat K m with ⟨msg, e⟩ | ⟨desc, hn, hc, ⟨cls, hi, _⟩ | ⟨T, hi, hlen, hnone, _⟩⟩
    · exact ⟨_, respond_of_err cat K split e⟩
    · rw [(hK m rfl desc hc).init] at hi
      cases hi
    · have ok := hK m rfl desc hc
      obtain ⟨outs, states, hrun, hrows, hrect⟩ := ok.run T hlen hnone
      exact ⟨_, respond_eq_direct cat K split m desc T outs states hn hc hi hlen hnone hrun hrows hrect
        ok.outputs_nodup ok.states_nodup⟩

/-- the kernel does not panic on any parameter column and input block OF THE DESCRIBED SHAPE (as many parameters as
described, one row per described input, rectangular). It implies `KernelOKOn` for every request (`eff_shapes`), as
`KernelOK` does (`KernelOK.on`); neither of the two is derived from the other here (`KernelOK` would give it only for a
description that has an input: with `inputs = []` and an output the output rows would have every length `T` at once, and
no kernel satisfies it) -/
structure KernelOKShaped (K : Kernel α) (desc : ModelDesc α) : Prop where
  init : ∀ p, p.length = desc.params.length → K.init p = .ok ()
  run : ∀ p ins T, p.length = desc.params.length → ins.length = desc.inputs.length → (∀ r ∈ ins, r.length = T) →
    ∃ outs states, K.run p ins = .ok outs states ∧ outs.length = desc.outputs.length ∧ ∀ o ∈ outs, o.length = T
  outputs_nodup : desc.outputs.Nodup
  states_nodup : desc.states.Nodup

/-- **respond_total_shaped**: totality for kernels that do not panic on well-shaped calls (corollary of
`respond_total_request` through `eff_shapes`) -/
theorem respond_total_shaped (cat : String → Option (ModelDesc α)) (K : Kernel α) (split : Bool)
    (hK : ∀ name desc, cat name = some desc → KernelOKShaped K desc) (req : ParsedRequest α ⊕ String) :
    ∃ doc, respond cat K split req = { written := [doc], ending := .returned } := by
  apply respond_total_request
  intro m _ desc hc
  have ok := hK _ _ hc
  refine ⟨ok.init _ (by simp [effParams]), fun T hlen _ => ?_, ok.outputs_nodup, ok.states_nodup⟩
  obtain ⟨s1, s2, s3⟩ := eff_shapes m desc T hlen
  exact ok.run _ _ T s1 s2 s3

/-- what the kernel must not do for the runner to be able to answer EVERY request: `InitialiseStates` and `Run` never
panic, on ANY parameter column and input block, and `Run` fills one row per described output with one value per time step.
(Much more than any one request needs — GR4J does not satisfy it, because `x4 = 0` panics: see `KernelOKOn` /
`respond_total_request` for the per-request form.) -/
structure KernelOK (K : Kernel α) (desc : ModelDesc α) : Prop where
  init : ∀ p, K.init p = .ok ()
  run : ∀ p ins, ∃ outs states, K.run p ins = .ok outs states ∧ outs.length = desc.outputs.length ∧
    ∀ o ∈ outs, o.length = (ins.headD []).length
  outputs_nodup : desc.outputs.Nodup
  states_nodup : desc.states.Nodup

/-- `KernelOK` (all columns, all blocks) implies `KernelOKOn` for every request -/
theorem KernelOK.on {K : Kernel α} {desc : ModelDesc α} (ok : KernelOK K desc) (m : ParsedRequest α) :
    KernelOKOn K m desc := by
  refine ⟨ok.init _, fun T hlen hsome => ?_, ok.outputs_nodup, ok.states_nodup⟩
  have hT := effInputs_headD_length hlen hsome
  obtain ⟨outs, states, h1, h2, h3⟩ := ok.run (effParams m.parameters desc.params) (effInputs m.inputs T desc.inputs)
  exact ⟨outs, states, h1, h2, fun o ho => by rw [h3 o ho, hT]⟩

/-- **respond_total (global form, a corollary of `respond_total_request`).** If the catalogued models' code never panics
on ANY parameter column and input block (`KernelOK`), every request gets exactly one document and the call returns.
This form says nothing for a model one of whose parameter columns panics (GR4J, DateGenerator: known finding
KF-C17-kernel-panic); the per-request statement is `respond_total_request`. -/
theorem respond_total (cat : String → Option (ModelDesc α)) (K : Kernel α) (split : Bool)
    (hK : ∀ name desc, cat name = some desc → KernelOK K desc) (req : ParsedRequest α ⊕ String) :
    ∃ doc, respond cat K split req = { written := [doc], ending := .returned } :=
  respond_total_request cat K split req (fun m _ _ hc => (hK _ _ hc).on m)

/-- the crash states of the model are exactly the kernel's: a panic in `InitialiseStates` (calling goroutine: the
deferred `encodeResults` writes a document with a null log first), a panic of `Run` in the calling goroutine (document
with the warnings, null results), a panic in a goroutine started by `Run` (the process dies, nothing is written) -/
theorem kernel_crash_states (cat : String → Option (ModelDesc α)) (K : Kernel α) (split : Bool) (m : ParsedRequest α)
    (desc : ModelDesc α) (T : Nat) (hname : m.name ≠ "") (hcat : cat m.name = some desc)
    (hlen : LengthsAre m.inputs T desc.inputs) (hsome : ¬ NoneSupplied m.inputs desc.inputs) :
    (∀ cls, K.init (effParams m.parameters desc.params) = .error cls →
      respond cat K split (.inl m) = { written := [document none .null .null], ending := .panicked cls }) ∧
    (K.init (effParams m.parameters desc.params) = .ok () →
      (∀ cls, K.run (effParams m.parameters desc.params) (effInputs m.inputs T desc.inputs) = .died cls →
        respond cat K split (.inl m) = { written := [], ending := .died cls }) ∧
      (∀ cls, K.run (effParams m.parameters desc.params) (effInputs m.inputs T desc.inputs) = .panic cls →
        respond cat K split (.inl m) =
          { written := [problemDoc ([""] ++ paramWarnings m.parameters desc.params ++ inputWarnings m.inputs desc.inputs)],
            ending := .panicked cls })) := by
  constructor
  · intro cls hi
    simp [respond, initialise_panic cat K hname hcat hi, finish, encodeResults, logged]
  · intro hinit
    have hw := warnings_complete cat K m desc T hname hcat hinit hlen hsome
    constructor
    · intro cls hr
      simp only [respond, hw, hr]
    · intro cls hr
      simp only [respond, hw, hr, finish, encodeResults]
      simp [logged, problemDoc]

section Example
/-- a toy number type: 0 = zero, 1 = NaN, 2 = +Inf, 3 = -Inf, others finite -/
instance : JNum Nat where
  zero := 0
  isNaN x := x == 1
  isPosInf x := x == 2
  isNegInf x := x == 3
  fmt6 x := toString x ++ ".000000"

def toyDesc : ModelDesc Nat :=
  { params := [⟨"a", 7⟩, ⟨"b", 9⟩], inputs := ["rain", "pet"], states := ["s"], outputs := ["q", "e"] }

/-- a kernel that echoes: outputs = the two input rows, state = first parameter -/
def toyKernel : Kernel Nat :=
  { init := fun _ => .ok (), run := fun p ins => .ok ins [p.headD 0] }

def toyReq : ParsedRequest Nat :=
  { name := "Toy", inputs := [⟨"pet", some [1, 2, 3]⟩], states := [], parameters := [⟨"b", 5⟩, ⟨"zz", 1⟩] }

/-- the hypotheses of `respond_eq_direct` are satisfiable, and the response is what the statement says: default for `a`
logged, `rain` zero-filled and logged, NaN / +Inf / -Inf in the supplied series come back as the three strings -/
example : respond (fun n => if n = "Toy" then some toyDesc else none) toyKernel true (.inl toyReq) =
    { written := [document (some ["", "a not found, using default=7.000000", "Missing input: rain, using 0"])
        (.obj ["q", "e"] [.arr [.num 0, .num 0, .num 0], .arr [.str "NaN", .str "+Inf", .str "-Inf"]])
        (.obj ["s"] [.num 7])],
      ending := .returned } := by
  have h := respond_eq_direct (fun n => if n = "Toy" then some toyDesc else none) toyKernel true toyReq toyDesc 3
    [[0, 0, 0], [1, 2, 3]] [7] (by decide) rfl rfl
    (by intro n hn vs hv
        simp only [toyDesc, List.mem_cons, List.mem_nil_iff, or_false] at hn
        rcases hn with rfl | rfl
        · simp [toyReq, findInput] at hv
        · simp [toyReq, findInput] at hv; subst hv; rfl)
    (by intro hnone; have := hnone "pet" (by simp [toyDesc]); simp [toyReq, findInput] at this)
    (by rfl) rfl (by intro o ho; simp at ho; rcases ho with rfl | rfl <;> rfl) (by decide) (by decide)
  rw [h]
  rfl

/-- `KernelOK` is satisfiable, and with it the hypothesis of `respond_total` for a catalogue of ONE model (the one `K` of
`respond_total` has to be `KernelOK` for every catalogued description: models with different numbers of outputs exclude
each other): the echo kernel on a description with two inputs
and two outputs — for input blocks of two rows, which is what `Initialise` builds for it -/
def toyKernel2 : Kernel Nat :=
  { init := fun _ => .ok (),
    run := fun p ins => .ok [ins.headD [], List.replicate (ins.headD []).length 0] [p.headD 0] }

example : KernelOK toyKernel2 toyDesc :=
  ⟨fun _ => rfl, fun p ins => ⟨_, _, rfl, rfl, by intro o ho; simp at ho; rcases ho with rfl | rfl <;> simp⟩,
   by decide, by decide⟩

/-- … and a request with no inputs at all gets its single problem report -/
example : respond (fun n => if n = "Toy" then some toyDesc else none) toyKernel2 true
    (.inl { name := "Toy", inputs := [], states := [], parameters := [] }) =
    { written := [problemDoc ["No inputs provided"]], ending := .returned } := by
  rfl


/-- a kernel that panics on SOME parameter column (first parameter 0 — like GR4J's `x4 = 0`): `KernelOK` fails for it, yet
`KernelOKOn` holds for the request `toyReq` (first parameter defaulted to 7), so `respond_total_request` applies to that
request and the global `respond_total` does not -/
def toyKernel3 : Kernel Nat :=
  { init := fun p => if p.headD 0 = 0 then .error "index-out-of-range" else .ok (),
    run := fun p ins => if p.headD 0 = 0 then .died "index-out-of-range"
      else .ok [ins.headD [], List.replicate (ins.headD []).length 0] [p.headD 0] }

example : ¬ KernelOK toyKernel3 toyDesc := fun h => by
  have := h.init [0]
  simp [toyKernel3] at this

theorem toy3_on : KernelOKOn toyKernel3 toyReq toyDesc := by
  refine ⟨rfl, fun T hlen _ => ?_, by decide, by decide⟩
  have hT : T = 3 := (hlen "pet" (by simp [toyDesc]) [1, 2, 3] rfl).symm
  subst hT
  exact ⟨_, _, rfl, rfl, by intro o ho; simp at ho; rcases ho with rfl | rfl <;> rfl⟩

example : ∃ doc, respond (fun n => if n = "Toy" then some toyDesc else none) toyKernel3 true (.inl toyReq) =
    { written := [doc], ending := .returned } :=
  respond_total_request _ toyKernel3 true (.inl toyReq) (fun m hm desc hc => by
    cases hm
    have : desc = toyDesc := by simp [toyReq] at hc; exact hc.symm
    subst this
    exact toy3_on)

/-- `initialise_ok_shape` on that request: two parameters, two input rows of three values -/
example : ∃ params inputs warnings,
    initialise (fun n => if n = "Toy" then some toyDesc else none) toyKernel3 toyReq = .ok toyDesc params inputs warnings ∧
    params.length = 2 ∧ inputs.length = 2 ∧ ∀ r ∈ inputs, r.length = 3 :=
  ⟨[7, 5], [[0, 0, 0], [1, 2, 3]], _, rfl, rfl, rfl, by intro r hr; simp at hr; rcases hr with rfl | rfl <;> rfl⟩

/-- storage 0 = `arange(24)` over the toy number type (1 = NaN, 2 = +Inf, 3 = -Inf) -/
def hJ : Heap Nat := [List.range 24]
/-- the `2×3×4` root over it: element `[i,j,k] = 12i + 4j + k` -/
def aJ : Arr := ⟨rootView [2, 3, 4] 0, 0, 0, 24, false⟩
/-- `aJ.slice([0,0,1],[2,2,2],[1,2,2])`: sliced AND stepped, rank 3: element `[i,j,k] = 12i + 8j + 1 + 2k` -/
def sJ : Arr := { aJ with v := ⟨[2, 3, 4], [2, 2, 2], 1, [12, 4, 1], [1, 2, 2], [12, 8, 2]⟩ }
theorem okJ : SliceOK aJ.v.dims [0, 0, 1] [2, 2, 2] (stepOr aJ.v.dims.length (some [1, 2, 2])) := by
  simp [aJ, rootView, stepOr, SliceOK]
theorem reach_aJ : Reach aJ.v := .root (dims := [2, 3, 4]) (by simp) (by simp [Pos]) rfl
theorem slice_sJ : slice aJ [0, 0, 1] [2, 2, 2] (some [1, 2, 2]) = .ok sJ := by decide
theorem reach_sJ : Reach sJ.v := .slice reach_aJ okJ rfl
theorem arrOK_aJ : ArrOK hJ aJ := ⟨⟨_, rfl, by decide⟩, by decide, by decide, by decide⟩
theorem arrOK_sJ : ArrOK hJ sJ := arrOK_aJ.slice slice_sJ

/-- **`nesting_eq` (the explicit form of `nesting_spec`) APPLIED to a rank-3 sliced-and-stepped view, shift dimension 1 (a
rank-2 nesting)**: the result is the `2×2` nesting of the elements `sJ[0, j, k]` = 1, 3, 9, 11 of the root, i.e. — in the toy number type — NaN, -Inf, 9,
11: rows nested like the dimensions, non-finite values as the strings. -/
example : jsonSafeArray hJ sJ 1 =
    .ok [.arr [.str "NaN", .str "-Inf"], .arr [.num 9, .num 11]] := by
  exact (nesting_eq (α := Nat) reach_sJ arrOK_sJ 1 (by decide)).trans rfl

/-- **The same with shift dimension 0 (a rank-3 nesting)**: two planes of two rows of two
values, `sJ[i,j,k] = 12i + 8j + 1 + 2k`. -/
example : jsonSafeArray hJ sJ 0 =
    .ok [.arr [.arr [.str "NaN", .str "-Inf"], .arr [.num 9, .num 11]],
         .arr [.arr [.num 13, .num 15], .arr [.num 21, .num 23]]] := by
  exact (nesting_eq (α := Nat) reach_sJ arrOK_sJ 0 (by decide)).trans rfl

end Example

end
end OW.Props.C17
