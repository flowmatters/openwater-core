import OW.Props.C04
/-!
C04 — the `states = none` entry of `OW.Sim.run`. It stands for what the CALLERS of a generated wrapper do when they have no states:
`states = model.InitialiseStates(nCells)` and then `Run(inputs, states, outputs)` (libopenwater/single.go, sim/single.go,
cmd/ows-ensemble/main.go). The generated `Run` itself has no nil branch: its first statement is `states.Len(…)`.

`single_cell_eq` / `single_cell_eq_of_column` take the state array as given (`x.states = some states`). Here the other
entry is reduced to it: a `Run` without a state array IS the `Run` on the array that `InitialiseStates(nCells)` builds
(`run_nil_states`), so every cell of it equals the single-cell `Run` started from THAT cell's row of the initial array
(`single_cell_eq_init`). What is deliberately not claimed here: that this row equals what `InitialiseStates(1)` would build for
the cell alone — the generated code sizes every row from cell 0's parameters (known findings
KF-C05-GR4J-InitialiseStates-row-width, KF-C05-Lag-InitialiseStates-row-width for the models whose state width depends on a
parameter); the statement is about the row the code really hands to the cell. For initial rows of one width it is that row:
`OW/Props/C04InitRows.lean`.
-/
namespace OW.Props.C04
open OW OW.Sim

variable {α : Type} [Num α]

/-- the run without a state array (`states = none`: the callers' `InitialiseStates(nCells)` then `Run`) = `Run` on the array
`InitialiseStates(nCells)` builds: same result, same error / panic class, for every kernel, spec, parameter array and shape. -/
theorem run_nil_states (km : KModel α) (spec : ParamSpec) (x : RunIn α) (hx : x.states = none)
    (lay : List (Nat × Nat)) (hl : layout spec x.params = .ok lay)
    (sts : List (List α)) (hi : initStates km spec lay x.params x.nCells = .ok sts) :
    run km spec x = run km spec { x with states := some sts } := by
  simp only [run_eq, startStates, hx, hl, hi, bind, Except.bind, pure, Except.pure]

/-- a `Run` without a state array that fails in `InitialiseStates` fails with that class before any cell runs -/
theorem run_nil_states_error (km : KModel α) (spec : ParamSpec) (x : RunIn α) (hx : x.states = none)
    (lay : List (Nat × Nat)) (hl : layout spec x.params = .ok lay)
    (e : String) (hi : initStates km spec lay x.params x.nCells = .error e) :
    run km spec x = .error e := by
  simp only [run_eq, startStates, hx, hl, hi, bind, Except.bind]

/-- **single_cell_eq for `states = none`** (any spec, the column given). Let the N-cell `Run` WITHOUT a state array
succeed with `out`. Then `InitialiseStates(nCells)` succeeded with an array `sts`, and for every cell `i` of it there are
its initial state row `st = sts[i]`, its output rows, input block and parameter column `p` such that for EVERY one-cell
parameter array that decodes to `p`, `Run` with ONE cell on that array, the one block, the one state row `st` and the
one cell's output rows succeeds and returns exactly cell `i`'s part of `out`. -/
theorem single_cell_eq_init (km : KModel α) (spec : ParamSpec) (x : RunIn α) (hx : x.states = none)
    (out : RunOut α) (h : run km spec x = .ok out) :
    ∃ (lay : List (Nat × Nat)) (sts : List (List α)),
      layout spec x.params = .ok lay ∧ initStates km spec lay x.params x.nCells = .ok sts ∧
      ∀ i, i < sts.length →
        ∃ (p st : List α) (orow blk : List (List α)) (s' : List α) (o' : List (List α)),
          cellParams spec lay x.params i = .ok p ∧
          sts[i]? = some st ∧ x.outputs[i]? = some orow ∧ x.inputs[i % x.inputs.length]? = some blk ∧
          out.states[i]? = some s' ∧ out.outputs[i]? = some o' ∧
          ∀ (params₁ : List (List α)) (lay₁ : List (Nat × Nat)), layout spec params₁ = .ok lay₁ →
            cellParams spec lay₁ params₁ 0 = .ok p →
            run km spec { params := params₁, inputs := [blk], states := some [st], nCells := 1, outputs := [orow] } =
              .ok { outputs := [o'], states := [s'] } := by
  obtain ⟨lay, sts, hl, hi, -⟩ := (run_ok_iff km spec x out).mp h
  simp only [startStates, hx] at hi
  refine ⟨lay, sts, hl, hi, fun i hlt => ?_⟩
  rw [run_nil_states km spec x hx lay hl sts hi] at h
  obtain ⟨lay', p, st, orow, blk, s', o', hl', hp, rest⟩ :=
    single_cell_eq_of_column km spec { x with states := some sts } sts rfl out h i hlt
  cases hl.symm.trans hl'
  exact ⟨p, st, orow, blk, s', o', hp, rest⟩

/-! ### non-vacuity: the registry kernel `RunoffCoefficient` (no states: rows of width 0) without a state array -/
example (a u v e : α) :
    run (Kernels.Coeff.model (α := α)) [none]
      { params := [[a]], inputs := [[[u, v]]], states := none, nCells := 1, outputs := [[[e, e, e]]] } =
    run (Kernels.Coeff.model (α := α)) [none]
      { params := [[a]], inputs := [[[u, v]]], states := some [[]], nCells := 1, outputs := [[[e, e, e]]] } :=
  run_nil_states _ _ _ rfl [(0, 1)] rfl [[]] rfl

end OW.Props.C04
