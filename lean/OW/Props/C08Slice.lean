import OW.Props.C08
import OW.Props.C01
import OW.Proofs.C08Slice
/-!
C08 — `Load` with a selection IS the in-memory `Slice` (OW/Nd, properties C01/C02) of the loaded full array.

`load_selection` (T2) describes the result of `Load` with a selection in the file model's own words (row-major gather
at the index sets `selIdx`). Here the same result is tied to the n-d array model: load the FULL dataset (T2, first
clause: shape `s`, elements `v`) into a fresh root array, slice it in memory with
`Slice(loc = starts, dims = counts, step = steps)` (`nil` entry: start 0, step 1), and read the slice element by element
in row-major order — that is exactly the array `Load` with the selection returns.
-/
namespace OW.Props.C08
open OW.Nd OW.Sim.H5 OW.Proofs.C08H5

/-- T2' (`Nd.slice` corollary of `load_selection`). Let the file hold a dataset `(s, v)` at `path` with all extents ≥ 1
and `v` as long as the shape says; let `sel` be a well-formed selection (one entry per dimension, `nil` or
`[start, stop, step]`, `start ≥ 0`, `step ≥ 1`, any stop, at least one entry non-nil) that selects AT LEAST ONE index in
every dimension. Let `full = freshArr h v s` be the array `Load()` without a selection returns (a fresh Go-backed root
of shape `s` on the new storage `v`, heap `h ++ [v]`, for any heap `h`). Then
* `Load()` with the selection returns some `(ns, vals)`;
* `(starts, ns, steps)` is an in-bounds slice request on `full` (`SliceOK`) and `full.Slice(starts, ns, steps)` returns
  a view `b` of shape `ns` (`starts/steps` = `selStart/selStep` of the entries: `[start, _, step]`, `nil` ↦ 0 / 1);
* `vals` is exactly `b` read element by element in row-major order (`getAll … (rowMajor ns)`), i.e. the loaded array
  and the in-memory slice have the same shape and the same element at every index.
Selections that select NOTHING in some dimension (stop ≤ start, start beyond the extent) are outside this corollary:
`Load` returns an array with a zero extent (T2 covers it), which is not a `Reach`-able view of OW/Nd. -/
theorem load_selection_eq_nd_slice {t : Tree} {path : String} {p : Path} {s : List Nat} {v : List Int}
    (hod : openDataset t path = .ok (p, s, v)) (hv : v.length = prodN s) (hs1 : ∀ e ∈ s, 1 ≤ e)
    (sel : Sel) (hl : sel.length = s.length) (hsome : sel.any Option.isSome = true)
    (hok : ∀ x ∈ sel, SelDimOK x) (hne : ∀ l ∈ selIdx sel s, l ≠ []) (h : Heap Int) :
    ∃ ns vals b,
      load false (some t) path none = .ok (uintsToInts s, v) ∧
      load false (some t) path (some sel) = .ok (ns, vals) ∧
      SliceOK (uintsToInts s) (sel.map selStart) ns (sel.map selStep) ∧
      slice (OW.NdC02.freshArr h v (uintsToInts s)) (sel.map selStart) ns (some (sel.map selStep)) = .ok b ∧
      b.v.dims = ns ∧
      OW.NdC02.getAll (h ++ [v]) b (OW.NdC02.rowMajor ns) = .ok vals := by
  obtain ⟨hfull, hload⟩ := load_selection hod hv sel hl hsome hok
  have hso := selOK_of hl hok
  obtain ⟨e1, e2, -, -⟩ := selIdx_eq_trip hso
  set ns : Idx := castL ((trip sel s).map (·.2.2)) with hns
  have hsok : SliceOK (castL s) (sel.map selStart) ns (sel.map selStep) := sliceOK_sel hso hne
  have hsne : s ≠ [] := by
    rintro rfl
    rw [List.length_eq_zero_iff.mp hl] at hsome
    simp at hsome
  obtain ⟨hFr, hFok, hFg⟩ := fresh_dataset hsne hs1 hv h
  obtain ⟨b, hb, -, -, hbd⟩ := OW.Props.C01.slice_arr_total (step := some (sel.map selStep)) hFr hFok hsok
  refine ⟨ns, (cartesian (selIdx sel s)).map (fun c => v.getD (ravelN c s) 0), b, hfull, ?_, hsok, hb, hbd, ?_⟩
  · rw [hload, ← e2]; rfl
  -- element by element: both lists are images of the grid of the counts
  rw [e1, cartesian_tripCoords, hns, ← grid_castL, List.map_map]
  refine Nd.getAll_map _ _ _ fun i hi => ?_
  have hci := (inBounds_castL _ _).mpr (mem_grid.mp hi)
  have hpt := hsok.inBounds hci
  rw [affine_sel hso] at hpt
  rw [(OW.Props.C01.get_slice (h ++ [v]) hFr (step := some (sel.map selStep)) hsok hb _ hci.length).1]
  exact (affine_sel hso i).symm ▸ hFg _ ((inBounds_castL _ _).mp hpt)

/-- T2' instance: rows 0 and 2, columns 1 and 3 of a 3×4 dataset `0 … 11` — `Slice([0,1], [2,2], [2,2])` of the full
array (every hypothesis is met: the selection picks two indices in each dimension) -/
example : selIdx [some [0, 9, 2], some [1, 4, 2]] [3, 4] = [[0, 2], [1, 3]] ∧
    [some [0, 9, 2], some [1, 4, 2]].map selStart = [0, 1] ∧
    [some [0, 9, 2], some [1, 4, 2]].map selStep = [2, 2] ∧
    loadSubset false [some [0, 9, 2], some [1, 4, 2]] [3, 4] [0, 1, 2, 3, 4, 5, 6, 7, 8, 9, 10, 11] =
      .ok ([2, 2], [1, 3, 9, 11]) ∧
    (do let b ← slice (OW.NdC02.freshArr ([] : Heap Int) [0, 1, 2, 3, 4, 5, 6, 7, 8, 9, 10, 11] [3, 4])
                  [0, 1] [2, 2] (some [2, 2])
        OW.NdC02.getAll [[0, 1, 2, 3, 4, 5, 6, 7, 8, 9, 10, 11]] b (OW.NdC02.rowMajor [2, 2])) = .ok [1, 3, 9, 11] := by
  decide

end OW.Props.C08
