import OW.Proofs.Simhyd
import OW.Proofs.GR4JBudget
import OW.Proofs.GR4JModel
import OW.Proofs.Sacramento
import OW.Kernels.Coeff
/-!
C10 — rainfall-runoff models never create water and keep stores within bounds.

Kernel models: OW/Kernels/{Coeff,Surm,Simhyd,GR4J,Sacramento}.lean (mirrors of models/rr/*.go, tied to the Go code on
every run by the K correspondence). Theorems are over exact real arithmetic (`Num ℝ`), parameters in their
physically meaningful ranges, rainfall and PET non-negative, initial state = the model's own or any state satisfying
the invariant. The divisors that are parameters are proved non-zero from the parameter ranges (`*_divisors_pos`); GR4J's two
production-store divisors `1 + c·tanh` are ≥ 1 inside the proof of `RR.GR4J.frac_lipschitz`, not in a statement of their own.
"No water created" is stated for every prefix of every run: Σ runoff ≤ Σ rainfall + storage₀ (SIMHYD: Σ (runoff + AET), with
the AET a ghost output of the model that the Go code does not report; GR4J with x2 > 0: plus the imported groundwater).
-/
namespace OW.Props.C10
open OW OW.Kernels

/-- a two-day series used by the non-vacuity examples: a wet day with PET, then a dry day -/
def demoSeries : List (ℝ × ℝ) := [(10, 2), (0, 3)]

theorem demoSeries_nonneg : ∀ x ∈ demoSeries, 0 ≤ x.1 ∧ 0 ≤ x.2 :=
  List.forall_iff_forall_mem.mp ⟨by norm_num, by norm_num⟩

/-- a series with zero PET (GR4J closed balance) -/
def demoSeriesNoPet : List (ℝ × ℝ) := [(10, 0), (0, 0), (25, 0)]

theorem demoSeriesNoPet_ok : ∀ x ∈ demoSeriesNoPet, 0 ≤ x.1 ∧ x.2 = 0 :=
  List.forall_iff_forall_mem.mp ⟨by norm_num, by norm_num, by norm_num⟩

/-- the only reported component is the total: runoff_t = coeff · rain_t (any coeff) -/
theorem coeff_components_sum (c : ℝ) (rain : List ℝ) : Coeff.run c rain = rain.map (fun r => c * r) := rfl

/-- 0 ≤ coeff ≤ 1, rain ≥ 0: every output is non-negative and at most that day's rainfall -/
theorem coeff_bounds (c : ℝ) (hc0 : 0 ≤ c) (hc1 : c ≤ 1) (rain : List ℝ) (hr : ∀ r ∈ rain, 0 ≤ r) :
    List.Forall₂ (fun r q => 0 ≤ q ∧ q ≤ r) rain (Coeff.run c rain) :=
  List.forall₂_map_right_iff.2 (List.forall₂_same.2 fun r hr' =>
    ⟨mul_nonneg hc0 (hr r hr'), mul_le_of_le_one_left (hr r hr') hc1⟩)

/-- for every prefix: cumulative runoff ≤ cumulative rainfall (the model has no store) -/
theorem coeff_no_water_created (c : ℝ) (hc1 : c ≤ 1) (rain : List ℝ) (hr : ∀ r ∈ rain, 0 ≤ r)
    (n : ℕ) : ((Coeff.run c rain).take n).sum ≤ (rain.take n).sum := by
  rw [coeff_components_sum, ← List.map_take]
  exact (List.sum_le_sum fun r hr' => mul_le_of_le_one_left (hr r (List.mem_of_mem_take hr')) hc1).trans_eq
    (congrArg List.sum (List.map_id _))

example : (0 : ℝ) ≤ 0.35 ∧ (0.35 : ℝ) ≤ 1 ∧ ∀ r ∈ [(12 : ℝ), 0, 3.5], 0 ≤ r :=
  ⟨by norm_num, by norm_num, List.forall_iff_forall_mem.mp ⟨by norm_num, by norm_num, by norm_num⟩⟩

/-- runoff = quickflow + baseflow on every step of every run (any parameters, any inputs, any state) -/
theorem surm_components_sum (p : Surm.Params ℝ) (s : Surm.State ℝ) (xs : List (ℝ × ℝ)) :
    ∀ o ∈ (Surm.run p s xs).2, o.runoff = o.quickflow + o.baseflow :=
  scan_out (step := Surm.step p) (P := fun o => o.runoff = o.quickflow + o.baseflow) fun _ _ => rfl

/-- the only divisor of the loop body is smax -/
theorem surm_divisors_pos (p : Surm.Params ℝ) (hp : RR.Surm.ParamsOk p) : p.smax ≠ 0 :=
  (RR.Surm.divisors_pos p hp).ne'

/-- **Invariant.** Parameters in range (fractions in [0,1], smax ≥ 10 mm), rain/PET ≥ 0, initial stores within
bounds: after every run 0 ≤ soil store ≤ smax, groundwater ≥ 0, and every output (runoff, quickflow, baseflow,
reported store) is non-negative with runoff = quickflow + baseflow. -/
theorem surm_invariant (p : Surm.Params ℝ) (hp : RR.Surm.ParamsOk p) (s : Surm.State ℝ) (hs : RR.Surm.Inv p s)
    (xs : List (ℝ × ℝ)) (hx : ∀ x ∈ xs, 0 ≤ x.1 ∧ 0 ≤ x.2) :
    RR.Surm.Inv p (Surm.run p s xs).1 ∧ ∀ o ∈ (Surm.run p s xs).2, RR.Surm.OutOk o := by
  have h := (RR.Surm.budget p hp).run xs s hs fun x h => (hx x h).1
  exact ⟨h.1, h.2.2⟩

/-- **Budget invariant.** cumulative runoff + water held ≤ cumulative rainfall + water held initially
(water held = (1 − fimp)·(soil store + groundwater), per unit catchment area). -/
theorem surm_budget (p : Surm.Params ℝ) (hp : RR.Surm.ParamsOk p) (s : Surm.State ℝ) (hs : RR.Surm.Inv p s)
    (xs : List (ℝ × ℝ)) (hx : ∀ x ∈ xs, 0 ≤ x.1 ∧ 0 ≤ x.2) :
    ((Surm.run p s xs).2.map (·.runoff)).sum + RR.Surm.stor p (Surm.run p s xs).1 ≤
      (xs.map (·.1)).sum + RR.Surm.stor p s :=
  ((RR.Surm.budget p hp).run xs s hs fun x h => (hx x h).1).2.1

/-- **No water created**, every prefix: Σ_{t<n} runoff ≤ Σ_{t<n} rain + initial storage. -/
theorem surm_no_water_created (p : Surm.Params ℝ) (hp : RR.Surm.ParamsOk p) (s : Surm.State ℝ)
    (hs : RR.Surm.Inv p s) (xs : List (ℝ × ℝ)) (hx : ∀ x ∈ xs, 0 ≤ x.1 ∧ 0 ≤ x.2) (n : ℕ) :
    (((Surm.run p s xs).2.take n).map (·.runoff)).sum ≤ ((xs.take n).map (·.1)).sum + RR.Surm.stor p s :=
  (RR.Surm.budget p hp).take xs s hs (fun x h => (hx x h).1) n

/-- non-vacuity: a parameter set in range, the model's own (empty) initial state -/
example : RR.Surm.ParamsOk ⟨0.3, 120, 0.05, 0.4, 0.1, 0.5, 150, 3, 2⟩ ∧
    RR.Surm.Inv ⟨0.3, 120, 0.05, 0.4, 0.1, 0.5, 150, 3, 2⟩ ⟨0, 0, 0⟩ := by
  refine ⟨by constructor <;> norm_num, ?_⟩
  unfold RR.Surm.Inv; norm_num

/-- the hypotheses of the SURM theorems are met by a concrete non-trivial run (rain on day 1, both prefixes) -/
example : (((Surm.run ⟨0.3, 120, 0.05, 0.4, 0.1, 0.5, 150, 3, 2⟩ ⟨0, 0, 0⟩ demoSeries).2.take 2).map (·.runoff)).sum ≤
    ((demoSeries.take 2).map (·.1)).sum + RR.Surm.stor ⟨0.3, 120, 0.05, 0.4, 0.1, 0.5, 150, 3, 2⟩ ⟨0, 0, 0⟩ :=
  surm_no_water_created _ (by constructor <;> norm_num) _ (by unfold RR.Surm.Inv; norm_num) _ demoSeries_nonneg 2

theorem simhyd_components_sum (p : Simhyd.Params ℝ) (s : Simhyd.State ℝ) (xs : List (ℝ × ℝ)) :
    ∀ o ∈ (Simhyd.run p s xs).2, o.runoff = o.quickflow + o.baseflow :=
  scan_out (step := Simhyd.step p) (P := fun o => o.runoff = o.quickflow + o.baseflow) fun _ _ => by
    simp only [Simhyd.step]; ring

/-- the only divisor of the loop body is the soil moisture store capacity -/
theorem simhyd_divisors_pos (p : Simhyd.Params ℝ) (hp : RR.Simhyd.ParamsOk p) : p.smsc ≠ 0 :=
  RR.Simhyd.divisors_pos p hp

/-- **Invariant.** Parameters in range, rain/PET ≥ 0, initial stores within bounds: after every run
0 ≤ soil store ≤ capacity, groundwater ≥ 0; every output is non-negative, the reported store lies in [0, capacity]
and runoff = quickflow + baseflow. -/
theorem simhyd_invariant (p : Simhyd.Params ℝ) (hp : RR.Simhyd.ParamsOk p) (s : Simhyd.State ℝ)
    (hs : RR.Simhyd.Inv p s) (xs : List (ℝ × ℝ)) (hx : ∀ x ∈ xs, 0 ≤ x.1 ∧ 0 ≤ x.2) :
    RR.Simhyd.Inv p (Simhyd.run p s xs).1 ∧ ∀ o ∈ (Simhyd.run p s xs).2, RR.Simhyd.OutOk p o := by
  have h := (RR.Simhyd.budget p hp).run xs s hs hx
  exact ⟨h.1, h.2.2⟩

/-- **Exact balance.** Σ runoff + Σ evapotranspiration + water held = Σ rainfall + water held initially, where
evapotranspiration is the `totalEt` of the source (impervious + interception + soil ET; computed by the model as
a ghost output, the Go code has the line commented out) and water held = perviousFraction·(soil store + groundwater). -/
theorem simhyd_balance (p : Simhyd.Params ℝ) (hp : RR.Simhyd.ParamsOk p) (s : Simhyd.State ℝ)
    (hs : RR.Simhyd.Inv p s) (xs : List (ℝ × ℝ)) (hx : ∀ x ∈ xs, 0 ≤ x.1 ∧ 0 ≤ x.2) :
    ((Simhyd.run p s xs).2.map (fun o => o.runoff + o.aet)).sum + RR.Simhyd.stor p (Simhyd.run p s xs).1 =
      (xs.map (·.1)).sum + RR.Simhyd.stor p s :=
  ((RR.Simhyd.balance p hp).run xs s hs hx).2

/-- **No water created**, every prefix: Σ_{t<n} (runoff + evapotranspiration) ≤ Σ_{t<n} rain + initial storage;
in particular Σ runoff alone (evapotranspiration is non-negative, `simhyd_invariant`). -/
theorem simhyd_no_water_created (p : Simhyd.Params ℝ) (hp : RR.Simhyd.ParamsOk p) (s : Simhyd.State ℝ)
    (hs : RR.Simhyd.Inv p s) (xs : List (ℝ × ℝ)) (hx : ∀ x ∈ xs, 0 ≤ x.1 ∧ 0 ≤ x.2) (n : ℕ) :
    (((Simhyd.run p s xs).2.take n).map (fun o => o.runoff + o.aet)).sum ≤
      ((xs.take n).map (·.1)).sum + RR.Simhyd.stor p s :=
  (RR.Simhyd.budget p hp).take xs s hs hx n

example : RR.Simhyd.ParamsOk ⟨0.3, 1, 200, 3, 0.1, 0.9, 1.5, 0.2, 320⟩ ∧
    RR.Simhyd.Inv ⟨0.3, 1, 200, 3, 0.1, 0.9, 1.5, 0.2, 320⟩ ⟨0, 0, 0⟩ := by
  refine ⟨by constructor <;> norm_num, ?_⟩
  unfold RR.Simhyd.Inv; norm_num

example : ((Simhyd.run ⟨0.3, 1, 200, 3, 0.1, 0.9, 1.5, 0.2, 320⟩ ⟨0, 0, 0⟩ demoSeries).2.map
      (fun o => o.runoff + o.aet)).sum +
      RR.Simhyd.stor ⟨0.3, 1, 200, 3, 0.1, 0.9, 1.5, 0.2, 320⟩
        (Simhyd.run ⟨0.3, 1, 200, 3, 0.1, 0.9, 1.5, 0.2, 320⟩ ⟨0, 0, 0⟩ demoSeries).1 =
    (demoSeries.map (·.1)).sum + RR.Simhyd.stor ⟨0.3, 1, 200, 3, 0.1, 0.9, 1.5, 0.2, 320⟩ ⟨0, 0, 0⟩ :=
  simhyd_balance _ (by constructor <;> norm_num) _ (by unfold RR.Simhyd.Inv; norm_num) _ demoSeries_nonneg

/-- **Unit hydrographs.** For every x4 > 0 the ordinates of UH1 (length ⌈x4⌉) and UH2 (length ⌈2·x4⌉) built by
the code are non-negative. -/
theorem uh_nonneg (x4 : ℝ) (hx : 0 < x4) :
    (∀ u ∈ GR4J.uh1 x4 ⌈x4⌉₊, 0 ≤ u) ∧ (∀ u ∈ GR4J.uh2 x4 ⌈2 * x4⌉₊, 0 ≤ u) :=
  ⟨(RR.GR4J.uh1_spec x4 hx).2.2, (RR.GR4J.uh2_spec x4 hx).2.2⟩

/-- … and sum to one (nothing is lost or created by the routing delay). -/
theorem uh_sum_one (x4 : ℝ) (hx : 0 < x4) :
    (GR4J.uh1 x4 ⌈x4⌉₊).sum = 1 ∧ (GR4J.uh2 x4 ⌈2 * x4⌉₊).sum = 1 :=
  ⟨(RR.GR4J.uh1_spec x4 hx).2.1, (RR.GR4J.uh2_spec x4 hx).2.1⟩

example : (0 : ℝ) < 0.5 ∧ (0 : ℝ) < 3.7 := by constructor <;> norm_num

/-- the divisors of the day loop that are stated here: x1, x3, x4 (parameters) and `(1 + (R/x3)⁴)^(1/4)` (≥ 1). The other two,
`1 + (S/x1)·tanh` and `1 + (1−S/x1)·tanh`, are ≥ 1 for a production store within [0, x1] (`0 ≤ c` from `RR.GR4J.Ps_coeff` /
`Es_coeff`, `0 ≤ tanh` from `tanh_cap_bounds`); that is a step of the proof of `RR.GR4J.frac_lipschitz`, not a statement. -/
theorem gr4j_divisors_pos (x1 x3 x4 : ℝ) (hp : RR.GR4J.ParamsOk x1 x3 x4) (r : ℝ) (hr : 0 ≤ r) :
    x1 ≠ 0 ∧ x3 ≠ 0 ∧ x4 ≠ 0 ∧ 1 ≤ (1 + (r / x3) ^ 4) ^ ((1 : ℝ) / 4) :=
  ⟨hp.x1pos.ne', hp.x3pos.ne', hp.x4pos.ne',
    Real.one_le_rpow (le_add_of_nonneg_right (pow_nonneg (div_nonneg hr hp.x3pos.le) 4)) (by norm_num)⟩

/-- runoff = routed flow Qr + direct flow Qd on every day of every run (the two reported-by-the-source branches) -/
theorem gr4j_components_sum (x1 x2 x3 x4 : ℝ) (n1 n2 : ℕ) (s : GR4J.State ℝ) (xs : List (ℝ × ℝ)) :
    ∀ o ∈ (GR4J.run x1 x2 x3 x4 n1 n2 s xs).2, o.runoff = o.qr + o.qd :=
  scan_out (step := GR4J.step x1 x2 x3 _ _) (P := fun o => o.runoff = o.qr + o.qd) fun _ _ => rfl

/-- **Invariant** (any exchange coefficient x2). x1, x3, x4 > 0, rain/PET ≥ 0, initial state within bounds:
after every run 0 ≤ S ≤ x1, 0 ≤ R ≤ x3, all water in transit in the unit hydrographs ≥ 0, and every day's runoff,
Qr, Qd are non-negative. -/
theorem gr4j_invariant (x1 x2 x3 x4 : ℝ) (hp : RR.GR4J.ParamsOk x1 x3 x4) (s : GR4J.State ℝ)
    (hs : RR.GR4J.Inv x1 x3 x4 s) (xs : List (ℝ × ℝ)) (hx : ∀ x ∈ xs, 0 ≤ x.1 ∧ 0 ≤ x.2) :
    RR.GR4J.Inv x1 x3 x4 (GR4J.run x1 x2 x3 x4 ⌈x4⌉₊ ⌈2 * x4⌉₊ s xs).1 ∧
    ∀ o ∈ (GR4J.run x1 x2 x3 x4 ⌈x4⌉₊ ⌈2 * x4⌉₊ s xs).2, RR.GR4J.OutOk o := by
  have h := (RR.GR4J.budget_exchange x1 x2 x3 x4 hp).run xs s hs hx
  exact ⟨h.1, fun o ho => (h.2.2 o ho).1⟩

/-- **Budget invariant** (x2 ≤ 0: a positive exchange coefficient imports groundwater by design):
cumulative runoff + water held ≤ cumulative rainfall + water held initially, where water held =
S + R + water in transit in both unit hydrographs. -/
theorem gr4j_budget (x1 x2 x3 x4 : ℝ) (hp : RR.GR4J.ParamsOk x1 x3 x4) (hx2 : x2 ≤ 0) (s : GR4J.State ℝ)
    (hs : RR.GR4J.Inv x1 x3 x4 s) (xs : List (ℝ × ℝ)) (hx : ∀ x ∈ xs, 0 ≤ x.1 ∧ 0 ≤ x.2) :
    ((GR4J.run x1 x2 x3 x4 ⌈x4⌉₊ ⌈2 * x4⌉₊ s xs).2.map (·.runoff)).sum +
        RR.GR4J.stor (GR4J.run x1 x2 x3 x4 ⌈x4⌉₊ ⌈2 * x4⌉₊ s xs).1 ≤
      (xs.map (·.1)).sum + RR.GR4J.stor s :=
  ((RR.GR4J.budget x1 x2 x3 x4 hp hx2).run xs s hs hx).2.1

/-- **No water created**, every prefix (x2 ≤ 0): Σ_{t<n} runoff ≤ Σ_{t<n} rain + initial storage. -/
theorem gr4j_no_water_created (x1 x2 x3 x4 : ℝ) (hp : RR.GR4J.ParamsOk x1 x3 x4) (hx2 : x2 ≤ 0)
    (s : GR4J.State ℝ) (hs : RR.GR4J.Inv x1 x3 x4 s) (xs : List (ℝ × ℝ)) (hx : ∀ x ∈ xs, 0 ≤ x.1 ∧ 0 ≤ x.2)
    (n : ℕ) :
    (((GR4J.run x1 x2 x3 x4 ⌈x4⌉₊ ⌈2 * x4⌉₊ s xs).2.take n).map (·.runoff)).sum ≤
      ((xs.take n).map (·.1)).sum + RR.GR4J.stor s :=
  (RR.GR4J.budget x1 x2 x3 x4 hp hx2).take xs s hs hx n

/-- **Closed balance.** Zero exchange coefficient and zero PET: rainfall equals runoff plus the change in
production store, routing store and unit-hydrograph stores, exactly:
Σ rain = Σ runoff + (S + R + ΣUH)_final − (S + R + ΣUH)_initial. -/
theorem gr4j_closed_balance (x1 x3 x4 : ℝ) (hp : RR.GR4J.ParamsOk x1 x3 x4) (s : GR4J.State ℝ)
    (hs : RR.GR4J.Inv x1 x3 x4 s) (xs : List (ℝ × ℝ)) (hx : ∀ x ∈ xs, 0 ≤ x.1 ∧ x.2 = 0) :
    (xs.map (·.1)).sum =
      ((GR4J.run x1 0 x3 x4 ⌈x4⌉₊ ⌈2 * x4⌉₊ s xs).2.map (·.runoff)).sum +
        (RR.GR4J.stor (GR4J.run x1 0 x3 x4 ⌈x4⌉₊ ⌈2 * x4⌉₊ s xs).1 - RR.GR4J.stor s) := by
  have h := ((RR.GR4J.balance_closed x1 x3 x4 hp).run xs s hs hx).2
  unfold GR4J.run
  linarith

/-- non-vacuity: parameters in the documented ranges; the model's own initial state satisfies the invariant,
holds no water, and has the unit-hydrograph lengths the theorems are stated for -/
example : RR.GR4J.ParamsOk 350 90 1.7 ∧ RR.GR4J.Inv 350 90 1.7 (GR4J.initState (1.7 : ℝ)).1 ∧
    RR.GR4J.stor (GR4J.initState (1.7 : ℝ)).1 = 0 ∧ (GR4J.initState (1.7 : ℝ)).2.1 = ⌈(1.7 : ℝ)⌉₊ := by
  have hp : RR.GR4J.ParamsOk 350 90 1.7 := by constructor <;> norm_num
  exact ⟨hp, (RR.GR4J.init_inv 350 90 1.7 hp).1, (RR.GR4J.init_inv 350 90 1.7 hp).2,
    RR.GR4J.init_n1 1.7⟩

/-- the GR4J theorems applied to a concrete run from the model's own initial state: losing catchment (x2 = −1)
for the budget, x2 = 0 and zero PET for the closed balance -/
example : (((GR4J.run 350 (-1) 90 1.7 ⌈(1.7 : ℝ)⌉₊ ⌈2 * (1.7 : ℝ)⌉₊ (GR4J.initState (1.7 : ℝ)).1 demoSeries).2.take 1).map
      (·.runoff)).sum ≤ ((demoSeries.take 1).map (·.1)).sum + RR.GR4J.stor (GR4J.initState (1.7 : ℝ)).1 :=
  gr4j_no_water_created 350 (-1) 90 1.7 (by constructor <;> norm_num) (by norm_num) _
    (RR.GR4J.init_inv 350 90 1.7 (by constructor <;> norm_num)).1 _ demoSeries_nonneg 1

example : (demoSeriesNoPet.map (·.1)).sum =
    ((GR4J.run 350 0 90 1.7 ⌈(1.7 : ℝ)⌉₊ ⌈2 * (1.7 : ℝ)⌉₊ (GR4J.initState (1.7 : ℝ)).1 demoSeriesNoPet).2.map (·.runoff)).sum +
      (RR.GR4J.stor (GR4J.run 350 0 90 1.7 ⌈(1.7 : ℝ)⌉₊ ⌈2 * (1.7 : ℝ)⌉₊ (GR4J.initState (1.7 : ℝ)).1 demoSeriesNoPet).1 -
        RR.GR4J.stor (GR4J.initState (1.7 : ℝ)).1) :=
  gr4j_closed_balance 350 90 1.7 (by constructor <;> norm_num) _
    (RR.GR4J.init_inv 350 90 1.7 (by constructor <;> norm_num)).1 _ demoSeriesNoPet_ok

/-! ### GR4J with a positive exchange coefficient (x2 > 0, documented range up to 5)

For `x2 > 0` the property's "never create water" is FALSE for GR4J, by design of the published model: the exchange term
`ech = x2·(R/x3)^3.5` is then an IMPORT of groundwater, added to the routing store and to the direct branch. What holds
for every x2 is the budget with that import on the right-hand side (`gr4j_budget_exchange`,
`gr4j_no_water_created_exchange`); for `x2 ≥ 0` and zero PET it closes exactly (`gr4j_closed_balance_exchange`); and
`gr4j_positive_x2_creates_water` / `gr4j_positive_x2_counterexample` show that the import cannot be dropped. -/

/-- **Budget with the imported water, any x2.** Cumulative runoff + water held ≤ cumulative rainfall + water held
initially + Σ 2·max(0, ech_t), where `ech_t = x2·(R_t/x3)^3.5` is the exchange term of day t (ghost output `ech`; it
enters the routing store and the direct-flow branch, hence the factor 2). For `x2 ≤ 0` the last sum is zero and this is
`gr4j_budget`. -/
theorem gr4j_budget_exchange (x1 x2 x3 x4 : ℝ) (hp : RR.GR4J.ParamsOk x1 x3 x4) (s : GR4J.State ℝ)
    (hs : RR.GR4J.Inv x1 x3 x4 s) (xs : List (ℝ × ℝ)) (hx : ∀ x ∈ xs, 0 ≤ x.1 ∧ 0 ≤ x.2) :
    ((GR4J.run x1 x2 x3 x4 ⌈x4⌉₊ ⌈2 * x4⌉₊ s xs).2.map (·.runoff)).sum +
        RR.GR4J.stor (GR4J.run x1 x2 x3 x4 ⌈x4⌉₊ ⌈2 * x4⌉₊ s xs).1 ≤
      (xs.map (·.1)).sum + RR.GR4J.stor s +
        ((GR4J.run x1 x2 x3 x4 ⌈x4⌉₊ ⌈2 * x4⌉₊ s xs).2.map (fun o => 2 * max 0 o.ech)).sum := by
  have h := ((RR.GR4J.budget_exchange x1 x2 x3 x4 hp).run xs s hs hx).2.1
  rw [RR.list_sum_map_sub] at h
  unfold GR4J.run
  linarith

/-- **No water created beyond the import**, every prefix, any x2:
Σ_{t<n} runoff ≤ Σ_{t<n} rain + initial storage + Σ_{t<n} 2·max(0, ech_t). -/
theorem gr4j_no_water_created_exchange (x1 x2 x3 x4 : ℝ) (hp : RR.GR4J.ParamsOk x1 x3 x4)
    (s : GR4J.State ℝ) (hs : RR.GR4J.Inv x1 x3 x4 s) (xs : List (ℝ × ℝ)) (hx : ∀ x ∈ xs, 0 ≤ x.1 ∧ 0 ≤ x.2)
    (n : ℕ) :
    (((GR4J.run x1 x2 x3 x4 ⌈x4⌉₊ ⌈2 * x4⌉₊ s xs).2.take n).map (·.runoff)).sum ≤
      ((xs.take n).map (·.1)).sum + RR.GR4J.stor s +
        (((GR4J.run x1 x2 x3 x4 ⌈x4⌉₊ ⌈2 * x4⌉₊ s xs).2.take n).map (fun o => 2 * max 0 o.ech)).sum := by
  have h := (RR.GR4J.budget_exchange x1 x2 x3 x4 hp).take xs s hs hx n
  rw [RR.list_sum_map_sub] at h
  unfold GR4J.run
  linarith

/-- **Closed balance of a gaining catchment** (`x2 ≥ 0`, zero PET): rainfall plus the imported groundwater `Σ 2·ech_t`
equals runoff plus the change in storage, exactly. -/
theorem gr4j_closed_balance_exchange (x1 x2 x3 x4 : ℝ) (hp : RR.GR4J.ParamsOk x1 x3 x4) (hx2 : 0 ≤ x2)
    (s : GR4J.State ℝ) (hs : RR.GR4J.Inv x1 x3 x4 s) (xs : List (ℝ × ℝ)) (hx : ∀ x ∈ xs, 0 ≤ x.1 ∧ x.2 = 0) :
    (xs.map (·.1)).sum + ((GR4J.run x1 x2 x3 x4 ⌈x4⌉₊ ⌈2 * x4⌉₊ s xs).2.map (fun o => 2 * o.ech)).sum =
      ((GR4J.run x1 x2 x3 x4 ⌈x4⌉₊ ⌈2 * x4⌉₊ s xs).2.map (·.runoff)).sum +
        (RR.GR4J.stor (GR4J.run x1 x2 x3 x4 ⌈x4⌉₊ ⌈2 * x4⌉₊ s xs).1 - RR.GR4J.stor s) := by
  have h := ((RR.GR4J.balance_exchange x1 x2 x3 x4 hp hx2).run xs s hs hx).2
  rw [RR.list_sum_map_sub] at h
  unfold GR4J.run
  linarith

/-- **A positive x2 creates water (every parameter set, every wet routing store).** `x2 > 0`, any state within the
invariant whose routing store is not empty, one day without rain and without PET: runoff + water held afterwards is
STRICTLY larger than the water held before — by exactly `2·x2·(R/x3)^3.5`. So the budget invariant of `gr4j_budget`
fails at every such step: the hypothesis `x2 ≤ 0` there cannot be dropped. -/
theorem gr4j_positive_x2_creates_water (x1 x2 x3 x4 : ℝ) (hp : RR.GR4J.ParamsOk x1 x3 x4) (hx2 : 0 < x2)
    (s : GR4J.State ℝ) (hs : RR.GR4J.Inv x1 x3 x4 s) (hR : 0 < s.R) :
    (GR4J.step x1 x2 x3 (GR4J.uh1 x4 ⌈x4⌉₊) (GR4J.uh2 x4 ⌈2 * x4⌉₊) s (0, 0)).2.runoff +
      RR.GR4J.stor (GR4J.step x1 x2 x3 (GR4J.uh1 x4 ⌈x4⌉₊) (GR4J.uh2 x4 ⌈2 * x4⌉₊) s (0, 0)).1 =
        RR.GR4J.stor s + 2 * (x2 * (s.R / x3) ^ (3.5 : ℝ)) ∧
    RR.GR4J.stor s <
      (GR4J.step x1 x2 x3 (GR4J.uh1 x4 ⌈x4⌉₊) (GR4J.uh2 x4 ⌈2 * x4⌉₊) s (0, 0)).2.runoff +
      RR.GR4J.stor (GR4J.step x1 x2 x3 (GR4J.uh1 x4 ⌈x4⌉₊) (GR4J.uh2 x4 ⌈2 * x4⌉₊) s (0, 0)).1 := by
  have h := ((RR.GR4J.balance_exchange x1 x2 x3 x4 hp hx2.le).step_ok s (0, 0) hs ⟨le_refl _, rfl⟩).2
  have he : (GR4J.step x1 x2 x3 (GR4J.uh1 x4 ⌈x4⌉₊) (GR4J.uh2 x4 ⌈2 * x4⌉₊) s (0, 0)).2.ech =
      x2 * (s.R / x3) ^ (3.5 : ℝ) := rfl
  have hpos : 0 < x2 * (s.R / x3) ^ (3.5 : ℝ) :=
    mul_pos hx2 (Real.rpow_pos_of_pos (div_pos hR hp.x3pos) _)
  simp only at h
  constructor <;> linarith

/-- the exchange term reaches the outlet the same day through the direct branch: on every day of every run
`runoff_t ≥ ech_t = x2·(R_t/x3)^3.5` (any x2) -/
theorem gr4j_runoff_ge_exchange (x1 x2 x3 x4 : ℝ) (hp : RR.GR4J.ParamsOk x1 x3 x4) (s : GR4J.State ℝ)
    (hs : RR.GR4J.Inv x1 x3 x4 s) (xs : List (ℝ × ℝ)) (hx : ∀ x ∈ xs, 0 ≤ x.1 ∧ 0 ≤ x.2) :
    ∀ o ∈ (GR4J.run x1 x2 x3 x4 ⌈x4⌉₊ ⌈2 * x4⌉₊ s xs).2, o.ech ≤ o.runoff :=
  fun o ho => (((RR.GR4J.budget_exchange x1 x2 x3 x4 hp).run xs s hs hx).2.2 o ho).2

/-- **Counter-example to "Σ runoff ≤ Σ rain + initial storage" for x2 > 0** (x1 = 1, x2 = 5, x3 = 1, x4 = 1: all
inside the documented ranges; a state within the invariant: routing store full, everything else empty, holding 1 mm;
one day without rain or PET): the runoff of that day is at least 5 mm = 0 mm of rain + 1 mm held + 4 mm created.
(The exchange imports 5 mm into the direct branch, which reaches the outlet the same day, and 5 mm into the routing
store.) From the model's own EMPTY initial state the same happens as soon as rain has filled the routing store; the
general statement is `gr4j_positive_x2_creates_water`. -/
theorem gr4j_positive_x2_counterexample :
    RR.GR4J.ParamsOk 1 1 1 ∧ RR.GR4J.Inv 1 1 1 ⟨0, 1, [0, 0], [0]⟩ ∧
    (([(0, 0)] : List (ℝ × ℝ)).map (·.1)).sum + RR.GR4J.stor (⟨0, 1, [0, 0], [0]⟩ : GR4J.State ℝ) + 4 ≤
      ((GR4J.run 1 5 1 1 ⌈(1 : ℝ)⌉₊ ⌈2 * (1 : ℝ)⌉₊ ⟨0, 1, [0, 0], [0]⟩ [(0, 0)]).2.map (·.runoff)).sum := by
  have hp : RR.GR4J.ParamsOk 1 1 1 := by constructor <;> norm_num
  have hc1 : ⌈(1 : ℝ)⌉₊ = 1 := by simp
  have hc2 : ⌈2 * (1 : ℝ)⌉₊ = 2 := by
    rw [mul_one]; exact_mod_cast Nat.ceil_natCast (R := ℝ) 2
  have hinv : RR.GR4J.Inv 1 1 1 ⟨0, 1, [0, 0], [0]⟩ := by
    refine ⟨le_refl _, by norm_num, by norm_num, le_refl _, ?_, ?_, ?_, ?_⟩
    · intro q hq; simp at hq; rw [hq]
    · intro q hq; simp at hq; rw [hq]
    · show ([0] : List ℝ).length = ⌈(1 : ℝ)⌉₊; rw [hc1]; rfl
    · show ([0, 0] : List ℝ).length = ⌈2 * (1 : ℝ)⌉₊; rw [hc2]; rfl
  have hstor : RR.GR4J.stor (⟨0, 1, [0, 0], [0]⟩ : GR4J.State ℝ) = 1 := by
    simp [RR.GR4J.stor]
  refine ⟨hp, hinv, ?_⟩
  have hge := ((RR.GR4J.budget_exchange 1 5 1 1 hp).step_ok ⟨0, 1, [0, 0], [0]⟩ (0, 0) hinv ⟨le_refl _, le_refl _⟩).2.2.2
  have he : (GR4J.step (1 : ℝ) 5 1 (GR4J.uh1 1 ⌈(1 : ℝ)⌉₊) (GR4J.uh2 1 ⌈2 * (1 : ℝ)⌉₊) ⟨0, 1, [0, 0], [0]⟩ (0, 0)).2.ech =
      5 := by
    show (5 : ℝ) * ((1 : ℝ) / 1) ^ (3.5 : ℝ) = 5
    rw [div_one, Real.one_rpow, mul_one]
  have hrun : (GR4J.run (1 : ℝ) 5 1 1 ⌈(1 : ℝ)⌉₊ ⌈2 * (1 : ℝ)⌉₊ ⟨0, 1, [0, 0], [0]⟩ [(0, 0)]).2 =
      [(GR4J.step (1 : ℝ) 5 1 (GR4J.uh1 1 ⌈(1 : ℝ)⌉₊) (GR4J.uh2 1 ⌈2 * (1 : ℝ)⌉₊) ⟨0, 1, [0, 0], [0]⟩ (0, 0)).2] := rfl
  rw [hrun, hstor]
  simp only [List.map_cons, List.map_nil, List.sum_cons, List.sum_nil, add_zero]
  linarith

/-- non-vacuity of the exchange budget: a gaining catchment (x2 = +2) from the model's own initial state -/
example : (((GR4J.run 350 2 90 1.7 ⌈(1.7 : ℝ)⌉₊ ⌈2 * (1.7 : ℝ)⌉₊ (GR4J.initState (1.7 : ℝ)).1 demoSeries).2.take 2).map
      (·.runoff)).sum ≤ ((demoSeries.take 2).map (·.1)).sum + RR.GR4J.stor (GR4J.initState (1.7 : ℝ)).1 +
      (((GR4J.run 350 2 90 1.7 ⌈(1.7 : ℝ)⌉₊ ⌈2 * (1.7 : ℝ)⌉₊ (GR4J.initState (1.7 : ℝ)).1 demoSeries).2.take 2).map
        (fun o => 2 * max 0 o.ech)).sum :=
  gr4j_no_water_created_exchange 350 2 90 1.7 (by constructor <;> norm_num) _
    (RR.GR4J.init_inv 350 90 1.7 (by constructor <;> norm_num)).1 _ demoSeries_nonneg 2

/-! ### the runs of these theorems are the runs of the catalogued models (`KModel.run`) -/

/-- **GR4J: `model.init` then `model.run` is `GR4J.run … ⌈x4⌉₊ ⌈2·x4⌉₊ initState`.** The theorems above fix the
unit-hydrograph lengths to ⌈x4⌉ and ⌈2·x4⌉, while `GR4J.model.run` takes n1, n2 from cells 2 and 3 of the state row
(`int(states[2])`, `int(states[3])`): for every x4 > 0 the row written by `InitialiseStates` carries exactly these
lengths, the adapter does not panic, and the result is the output series / packed final state of that run
(`packedResult`: outputs = [runoff series], states = `pack` of the final state with the same n1, n2). -/
theorem gr4j_model_run_init (x1 x2 x3 x4 : ℝ) (hx4 : 0 < x4) (rain pet : List ℝ) :
    ((GR4J.model (α := ℝ)).init [x1, x2, x3, x4] >>= fun row =>
        (GR4J.model (α := ℝ)).run [x1, x2, x3, x4] [rain, pet] row) =
      .ok { outputs := [(GR4J.run x1 x2 x3 x4 ⌈x4⌉₊ ⌈2 * x4⌉₊ (GR4J.initState x4).1 (rain.zip pet)).2.map (·.runoff)],
            states := GR4J.pack (GR4J.run x1 x2 x3 x4 ⌈x4⌉₊ ⌈2 * x4⌉₊ (GR4J.initState x4).1 (rain.zip pet)).1
              ⌈x4⌉₊ ⌈2 * x4⌉₊,
            tags := GR4J.dedup ((GR4J.run x1 x2 x3 x4 ⌈x4⌉₊ ⌈2 * x4⌉₊ (GR4J.initState x4).1 (rain.zip pet)).2.flatMap
                (·.tags)) ++ ["n1=" ++ toString ⌈x4⌉₊, "n2=" ++ toString ⌈2 * x4⌉₊] } :=
  RR.GR4J.model_run_init x1 x2 x3 x4 hx4 rain pet

/-- `model.run` on the packed row of ANY state within the invariant (its unit-hydrograph stores then have the lengths ⌈x4⌉,
⌈2·x4⌉) is `GR4J.run … ⌈x4⌉₊ ⌈2·x4⌉₊` on that state, to which the invariant / budget theorems apply. The final state of
that run is again within the invariant (`gr4j_invariant`), so this applies call by call along a chain; that the row a call
RETURNS is such a packed row is `OW.Props.C15.model_run_chain`. -/
theorem gr4j_model_run_chain (x1 x2 x3 x4 : ℝ) (hx4 : 0 < x4) (st : GR4J.State ℝ) (hst : RR.GR4J.Inv x1 x3 x4 st)
    (rain pet : List ℝ) :
    (GR4J.model (α := ℝ)).run [x1, x2, x3, x4] [rain, pet] (GR4J.pack st ⌈x4⌉₊ ⌈2 * x4⌉₊) =
      .ok (RR.GR4J.packedResult x1 x2 x3 x4 ⌈x4⌉₊ ⌈2 * x4⌉₊ st rain pet) :=
  have ⟨_, _, _, _, _, _, h9, h1⟩ := hst
  RR.GR4J.model_run_pack x1 x2 x3 x4 _ _ (RR.GR4J.uh_lengths_pos hx4).1 (RR.GR4J.uh_lengths_pos hx4).2 st h1 h9 rain pet

/-- RunoffCoefficient: `model.run` on the parameter column `[coeff]`, the rainfall series and the empty state row is
`Coeff.run coeff rain` (one output, no state) -/
theorem coeff_model_run (c : ℝ) (rain : List ℝ) :
    (Coeff.model (α := ℝ)).init [c] = .ok [] ∧
    (Coeff.model (α := ℝ)).run [c] [rain] [] = .ok { outputs := [Coeff.run c rain], states := [] } := ⟨rfl, rfl⟩

/-- SURM: `model.init` is the empty state row `[0, 0, 0]` and `model.run` on a parameter column, the two input series
and a state row is `Surm.run` on the zipped inputs (outputs runoff, quickflow, baseflow, store; final states) -/
theorem surm_model_run (p : Surm.Params ℝ) (rain pet : List ℝ) (s gw tot : ℝ) :
    (Surm.model (α := ℝ)).init [p.bfac, p.coeff, p.dseep, p.fcFrac, p.fimp, p.rfac, p.smax, p.sq, p.thres] =
      .ok [0, 0, 0] ∧
    (Surm.model (α := ℝ)).run [p.bfac, p.coeff, p.dseep, p.fcFrac, p.fimp, p.rfac, p.smax, p.sq, p.thres] [rain, pet]
        [s, gw, tot] =
      .ok { outputs := [(Surm.run p ⟨s, gw, tot⟩ (rain.zip pet)).2.map (·.runoff),
                        (Surm.run p ⟨s, gw, tot⟩ (rain.zip pet)).2.map (·.quickflow),
                        (Surm.run p ⟨s, gw, tot⟩ (rain.zip pet)).2.map (·.baseflow),
                        (Surm.run p ⟨s, gw, tot⟩ (rain.zip pet)).2.map (·.store)],
            states := [(Surm.run p ⟨s, gw, tot⟩ (rain.zip pet)).1.sms, (Surm.run p ⟨s, gw, tot⟩ (rain.zip pet)).1.gw,
                       (Surm.run p ⟨s, gw, tot⟩ (rain.zip pet)).1.total],
            tags := Surm.dedup ((Surm.run p ⟨s, gw, tot⟩ (rain.zip pet)).2.flatMap (·.tags)) } := ⟨rfl, rfl⟩

/-- SIMHYD: the same bridge (`model.init` = `[0, 0, 0]`; `model.run` = `Simhyd.run` on the zipped inputs) -/
theorem simhyd_model_run (p : Simhyd.Params ℝ) (rain pet : List ℝ) (s gw tot : ℝ) :
    (Simhyd.model (α := ℝ)).init [p.baseflowCoefficient, p.imperviousThreshold, p.infiltrationCoefficient,
        p.infiltrationShape, p.interflowCoefficient, p.perviousFraction, p.risc, p.rechargeCoefficient, p.smsc] =
      .ok [0, 0, 0] ∧
    (Simhyd.model (α := ℝ)).run [p.baseflowCoefficient, p.imperviousThreshold, p.infiltrationCoefficient,
        p.infiltrationShape, p.interflowCoefficient, p.perviousFraction, p.risc, p.rechargeCoefficient, p.smsc]
        [rain, pet] [s, gw, tot] =
      .ok { outputs := [(Simhyd.run p ⟨s, gw, tot⟩ (rain.zip pet)).2.map (·.runoff),
                        (Simhyd.run p ⟨s, gw, tot⟩ (rain.zip pet)).2.map (·.quickflow),
                        (Simhyd.run p ⟨s, gw, tot⟩ (rain.zip pet)).2.map (·.baseflow),
                        (Simhyd.run p ⟨s, gw, tot⟩ (rain.zip pet)).2.map (·.store)],
            states := [(Simhyd.run p ⟨s, gw, tot⟩ (rain.zip pet)).1.sms,
                       (Simhyd.run p ⟨s, gw, tot⟩ (rain.zip pet)).1.gw,
                       (Simhyd.run p ⟨s, gw, tot⟩ (rain.zip pet)).1.total],
            tags := Simhyd.dedup ((Simhyd.run p ⟨s, gw, tot⟩ (rain.zip pet)).2.flatMap (·.tags)) } := ⟨rfl, rfl⟩

/-! ## Sacramento

The model mirrors models/rr/sacramento.go with its two clamps: the ADIMP saturation ratio at 0 and `fracp` at 1.
Here: the statements that need NO hypothesis on the stores — components, the channel stage (runoff, baseflow, channel
evaporation non-negative, `sacramento_channel_nonneg`), the normalised unit hydrograph.
The state invariant through the drainage-and-percolation loop, non-negativity of every output and the water budget for
every prefix of every run are proved in OW/Props/C10Sacramento.lean (`sacramento_invariant`, `sacramento_store_bounds`,
`sacramento_outputs_nonneg`, `sacramento_adimc_capacity`, `sacramento_budget`, `sacramento_no_water_created`,
`sacramento_oracle_end_budget`, `sacramento_oracle_prefix_budget`, `sacramento_runoff_le_rain`) under `RR.Sac.ParamsOk`,
`InOk` / `InOkPet` and, for a non-initial state row, `RowInv`; the hypotheses that cannot be dropped carry proved
counter-examples there.
-/

/-- runoff = surfaceRunoff + baseflow and actualET = e1 + … + e5 on every step of every run (any parameters, inputs, state) -/
theorem sacramento_components_sum (p : Sacramento.Params ℝ) (s : Sacramento.State ℝ) (xs : List (ℝ × ℝ)) :
    ∀ o ∈ (Sacramento.run p s xs).2, o.runoff = o.surfaceRunoff + o.baseflow ∧
      o.actualET = o.e1 + o.e2 + o.e3 + o.e4 + o.e5 :=
  scan_out (step := Sacramento.step p _)
    (P := fun o => o.runoff = o.surfaceRunoff + o.baseflow ∧ o.actualET = o.e1 + o.e2 + o.e3 + o.e4 + o.e5)
    fun s x => ⟨RR.Sac.step_components p _ s x, RR.Sac.step_aet_parts p _ s x⟩

/-- **Channel stage, any state.** PET ≥ 0 and sarva ≥ 0 only (no hypothesis on the other parameters or on the stores):
on every step of every run total runoff ≥ 0, baseflow ≥ 0 and the channel evaporation e4 ≥ 0, whatever the stores did.
(The rest of the invariant — surfaceRunoff, imperviousRunoff, e1, e2, e3, e5 ≥ 0 and the store bounds — is
`OW.Props.C10Sacramento.sacramento_invariant` / `sacramento_outputs_nonneg`, under `ParamsOk`.) -/
theorem sacramento_channel_nonneg (p : Sacramento.Params ℝ) (hsarva : 0 ≤ p.sarva) (s : Sacramento.State ℝ)
    (xs : List (ℝ × ℝ)) (hx : ∀ x ∈ xs, 0 ≤ x.2) :
    ∀ o ∈ (Sacramento.run p s xs).2, 0 ≤ o.runoff ∧ 0 ≤ o.baseflow ∧ 0 ≤ o.e4 :=
  (scan_inv (step := Sacramento.step p _) (Inv := fun _ => True) (Ok := fun x => 0 ≤ x.2)
    (P := fun o => 0 ≤ o.runoff ∧ 0 ≤ o.baseflow ∧ 0 ≤ o.e4)
    (fun s x _ hx => ⟨trivial, RR.Sac.channel_nonneg p _ s.qq x.2 _ hx hsarva⟩) trivial hx).2

/-- the five unit-hydrograph proportions are normalised by their sum (the divisor, positive by hypothesis):
the weights are non-negative and sum to one, so the routing delay neither creates nor loses water -/
theorem sacramento_uh_normalised (p : Sacramento.Params ℝ) (h1 : 0 ≤ p.uh1) (h2 : 0 ≤ p.uh2) (h3 : 0 ≤ p.uh3)
    (h4 : 0 ≤ p.uh4) (h5 : 0 ≤ p.uh5) (hs : 0 < p.uh1 + p.uh2 + p.uh3 + p.uh4 + p.uh5) :
    (Sacramento.makeUnitHydrograph p).sum = 1 ∧ ∀ d ∈ Sacramento.makeUnitHydrograph p, 0 ≤ d := by
  obtain ⟨d0, d1, d2, d3, d4, h, k0, k1, k2, k3, k4, hsum⟩ := RR.Sac.uh_list p h1 h2 h3 h4 h5 hs
  rw [h]
  refine ⟨?_, List.forall_iff_forall_mem.mp ⟨k0, k1, k2, k3, k4⟩⟩
  simp only [List.sum_cons, List.sum_nil, add_zero]
  linarith

example : (0 : ℝ) ≤ 0.8 ∧ (0 : ℝ) < 0.8 + 0.1 + 0.05 + 0.03 + 0.02 := by constructor <;> norm_num

end OW.Props.C10
