import OW.Proofs.NdZip
import OW.Proofs.NdSlice
/-!
C02 — bulk array operations equal their element-by-element, row-major definition; contiguity; integer helpers.

Only the property theorems (helper lemmas are in `OW/Proofs/NdInts.lean`, `NdContig.lean`, `NdBulk.lean`, `NdUnroll.lean`, `NdApply.lean`, `NdSlice.lean`, `NdZip.lean`). The model the theorems are about is
`OW/Nd/{Ints,View,Array}.lean` (tied to /repo/data by the differential correspondence check).
Go `int` is `Int` (no overflow); all element types are covered by polymorphism in `α`.
-/
namespace OW.Props.C02
open OW.Nd

/-! ## Part A — integer index helpers (`data/sliceops.go`, `data/arraysint.go`) -/

/-- A1. `Product` as the Go loop computes it (left fold from 1) is the product of the list. -/
theorem productL_eq (ix : Idx) : productL ix = product ix := by
  unfold productL; rw [Nd.foldl_mul_eq]; omega

/-- A1. The element count of a shape with all extents ≥ 1 is ≥ 1. -/
theorem product_pos {l : Idx} (h : Pos l) : 1 ≤ product l := Nd.product_pos h

example : productL [2, 3, 4] = 24 ∧ product [2, 3, 4] = 24 := by decide +kernel

/-- A2. `Offsets(dims)` for non-empty `dims` succeeds and returns the row-major strides:
same length, entry `i` is the product of the extents after `i`; recursively
`offsets (d :: ds) = Π ds :: offsets ds`. An empty `dims` panics (index out of range). -/
theorem offsets_spec (dims : Idx) (hne : dims ≠ []) :
    offsets dims = .ok (offsetsT dims) ∧ (offsetsT dims).length = dims.length ∧
    (∀ i, i < dims.length → (offsetsT dims)[i]? = some (product (dims.drop (i + 1)))) ∧
    (∀ d ds, offsetsT (d :: ds) = product ds :: offsetsT ds) ∧
    offsets [] = .error "index-out-of-range" :=
  ⟨Nd.offsets_ok hne, offsetsT_length dims, Nd.offsetsT_getElem? dims, offsetsT_cons, rfl⟩

example : offsets [2, 3, 4] = .ok [12, 4, 1] := by decide +kernel

/-- A3. Mixed-radix bijection. For extents ≥ 1 and `0 ≤ k < Π dims`,
`IDivMod(k, Offsets(dims), dims)` succeeds and is the row-major multi-index `unravel k dims` of rank `k`:
it is in bounds and its row-major rank is `k`; conversely every in-bounds index is the `unravel` of its rank. -/
theorem idivmod_rowmajor {dims : Idx} (hd : Pos dims) :
    (∀ k, 0 ≤ k → k < product dims →
      idivmod k (offsetsT dims) dims = .ok (unravel k dims) ∧
      InBounds (unravel k dims) dims ∧ ravel (unravel k dims) dims = k) ∧
    (∀ i, InBounds i dims → unravel (ravel i dims) dims = i ∧ 0 ≤ ravel i dims ∧ ravel i dims < product dims) :=
  ⟨fun _ h0 h1 => ⟨Nd.idivmod_rowmajor' hd h0 h1, unravel_inBounds _ _ hd h0 h1, Nd.ravel_unravel_lt h0 h1⟩,
   fun _ h => ⟨Nd.unravel_ravel h, ravel_bounds h⟩⟩

/-- A3 (beyond the range). For any `k ≥ 0`, `IDivMod` yields the digits of `k mod Π dims` (it wraps, never fails). -/
theorem idivmod_wraps {dims : Idx} (hd : Pos dims) {k : Int} (h0 : 0 ≤ k) :
    idivmod k (offsetsT dims) dims = .ok (unravel (k % product dims) dims) := Nd.idivmod_offsetsT hd h0

example : idivmod 17 (offsetsT [2, 3, 4]) [2, 3, 4] = .ok [1, 1, 1] ∧ unravel 17 [2, 3, 4] = [1, 1, 1]
    ∧ ravel [1, 1, 1] [2, 3, 4] = 17 := by decide +kernel

/-- A4. One `Increment(v, dims)` on an in-bounds index succeeds, stays in bounds, and advances the row-major
rank by one modulo the element count (the last index wraps to all zeros). -/
theorem increment_rowmajor {v dims : Idx} (h : InBounds v dims) :
    ∃ v', increment v dims = .ok v' ∧ InBounds v' dims ∧ ravel v' dims = (ravel v dims + 1) % product dims :=
  Nd.increment_spec h

/-- A4. Iterating `Increment` `k` times from the all-zeros index gives the row-major index of rank `k`
(= `IDivMod(k, Offsets(dims), dims)`), for every `k < Π dims`. -/
theorem increment_iter {dims : Idx} (hd : Pos dims) (k : Nat) (hk : (k : Int) < product dims) :
    NdC02.incrN dims k (uniform dims.length 0) = .ok (unravel k dims) ∧
    idivmod k (offsetsT dims) dims = .ok (unravel k dims) := by
  have h := Nd.incrN_spec k (Nd.inBounds_zeros hd) (by rw [Nd.ravel_zeros]; omega)
  rw [Nd.ravel_zeros, Int.zero_add] at h
  exact ⟨h, Nd.idivmod_rowmajor' hd (by omega) hk⟩

example : increment [0, 2, 3] [2, 3, 4] = .ok [1, 0, 0] ∧ increment [1, 2, 3] [2, 3, 4] = .ok [0, 0, 0] := by decide +kernel
example : NdC02.incrN [2, 3, 4] 17 [0, 0, 0] = .ok [1, 1, 1] := by decide +kernel

/-- A5. `Multiply(lhs, rhs)` is the pointwise product when `rhs` is at least as long as `lhs`
(in particular for equal lengths), and panics when `rhs` is shorter. -/
theorem multiply_spec (a b : Idx) :
    (a.length ≤ b.length → multiply a b = .ok (List.zipWith (· * ·) a b)) ∧
    (b.length < a.length → multiply a b = .error "index-out-of-range") :=
  ⟨fun h => by rw [multiply_ok a b h, Nd.mulL_eq_zipWith], Nd.multiply_short⟩

/-- A5. `dotProduct(lhs, rhs)` is `Σ lhs[i]·rhs[i]` when `rhs` is at least as long as `lhs`, and panics when shorter. -/
theorem dotProduct_spec (a b : Idx) :
    (a.length ≤ b.length → dotProduct a b = .ok (List.zipWith (· * ·) a b).sum) ∧
    (b.length < a.length → dotProduct a b = .error "index-out-of-range") :=
  ⟨fun h => by rw [dotProduct_ok a b h, Nd.dot_eq_sum], Nd.dotProduct_short⟩

example : multiply [1, 2, 3] [4, 5, 6] = .ok [4, 10, 18] ∧ dotProduct [1, 2, 3] [4, 5, 6] = .ok 32 := by decide +kernel

/-- A5. `Maximum(vector)` of a non-empty list is a member of the list and an upper bound of it;
the empty list panics. -/
theorem maximum_spec :
    (∀ v vs, ∃ m, maximum (v :: vs) = .ok m ∧ m ∈ v :: vs ∧ ∀ x ∈ v :: vs, x ≤ m) ∧
    maximum [] = .error "index-out-of-range" :=
  ⟨fun v vs => ⟨_, rfl, Nd.foldl_max_spec vs v⟩, rfl⟩

/-- A5. `Argmax(vector)` of a non-empty list is the LEAST index of a maximal element: `0 ≤ r < len`,
`vector[r]` is an upper bound of the list, and every earlier element is strictly smaller.
The empty list panics. -/
theorem argmax_spec :
    (∀ v vs, ∃ r m, argmax (v :: vs) = .ok r ∧ 0 ≤ r ∧ r < (v :: vs).length ∧
      (v :: vs)[r.toNat]? = some m ∧ (∀ x ∈ v :: vs, x ≤ m) ∧
      ∀ j : Nat, (j : Int) < r → ∀ x, (v :: vs)[j]? = some x → x < m) ∧
    argmax [] = .error "index-out-of-range" := by
  refine ⟨fun v vs => ?_, rfl⟩
  obtain ⟨m, h0, h1, hm, hub, hlt⟩ :=
    Nd.argmaxLoop_spec vs [v] v 0 ⟨Int.le_refl 0, Int.zero_lt_one, rfl, by simp, fun j hj => by omega⟩
  exact ⟨_, m, rfl, h0, h1, hm, hub, hlt⟩

example : argmax [1, 5, 2, 5] = .ok 1 ∧ maximum [1, 5, 2, 5] = .ok 5 := by decide +kernel

/-! ## Part B — contiguity (`Contiguous()` of `data/arrays.go`) -/

/-- B1. For every view reachable by in-bounds slicing of a root (any rank, stepped or not),
`Contiguous()` does not panic, and it reports `true` exactly when the elements are adjacent in storage in
row-major order: the element of row-major rank `k` is at address `Start + k`, for every `0 ≤ k < size`. -/
theorem contiguous_iff {v : View} (h : Reach v) :
    (v.contiguous = .ok true ↔
      ∀ k, 0 ≤ k → k < v.size → v.index (unravel k v.dims) = .ok (v.start + k)) ∧
    (∀ e, v.contiguous ≠ .error e) := by
  have g := reach_geo h
  refine ⟨⟨fun hc k => Nd.contig_index g hc, fun ha => Nd.contiguous_of_addr g fun idx ib => ?_⟩, fun e he => ?_⟩
  · have ⟨r0, r1⟩ := ravel_bounds ib
    have := ha (ravel idx v.dims) r0 r1
    rw [Nd.unravel_ravel ib, index_addr g _ (Nat.le_of_eq ib.length)] at this
    exact Except.ok.inj this
  · obtain ⟨b, hb⟩ := g.contiguous_total
    rw [hb] at he
    cases he

/-- B1 (arithmetic form). `Contiguous()` is true exactly when every dimension with more than one element has
cumulative step 1 and all later dimensions are taken whole (`Nd.Dense`). -/
theorem contiguous_dense {v : View} (h : Reach v) :
    (Nd.Dense v.dims v.orig v.step → v.contiguous = .ok true) ∧
    (¬ Nd.Dense v.dims v.orig v.step → v.contiguous = .ok false) :=
  Nd.contiguous_eq (reach_geo h)

/-! ## Part C — bulk operations (`data/arrays_go.go`, `data/cdata/arrays_c.go`, `data/arrayops.go`)

Reference semantics (`OW/Proofs/NdBulk.lean`): `NdC02.rowMajor dims` is the list of multi-indices of ranks
`0, 1, …, size-1` in row-major order; `NdC02.getAll h a idxs` is the sequential `Get` over a list of indices;
`NdC02.setAll h a idxs xs` the sequential `Set`. `ArrOK h a` (`OW/Proofs/NdCells.lean`) are the window
conditions: the storage exists, `0 ≤ base`, `base + len ≤` storage length, the allocated shape fits in `len`
(and in the `1<<30` C array type). -/

section
variable {α : Type}

/-- C1. `Unroll()` of a reachable, well-windowed array never panics and returns exactly the elements visited one by
one in row-major order (`getAll` over `rowMajor`; pointwise: entry `k` is `Get(unravel k dims)`).
Go back-end: a contiguous view is returned as an ALIAS of the window `[base+start, base+start+size)` of the same
storage (no copy), a non-contiguous view as a fresh slice. C back-end: always a fresh slice. -/
theorem unroll_spec (h : Heap α) (a : Arr) (hr : Reach a.v) (ok : ArrOK h a) :
    ∃ sl vals, unroll h a = .ok sl ∧ sliceVals h sl = .ok vals ∧
      NdC02.getAll h a (NdC02.rowMajor a.v.dims) = .ok vals ∧ vals.length = a.v.size.toNat ∧
      (∀ k : Nat, (k : Int) < a.v.size → ∃ x, vals[k]? = some x ∧ get h a (unravel (k : Int) a.v.dims) = .ok x) ∧
      (a.isC = false → a.v.contiguous = .ok true → sl = .alias a.sid (a.base + a.v.start) a.v.size) ∧
      (a.isC = false → a.v.contiguous = .ok false → sl = .fresh vals) ∧
      (a.isC = true → sl = .fresh vals) := by
  have g := reach_geo hr
  obtain ⟨vals, hv, hl⟩ := Nd.elems_ok g ok
  obtain ⟨sl, hu, hs, h1, h2, h3⟩ := Nd.unroll_ok g ok hv
  exact ⟨sl, vals, hu, hs, hv, hl, Nd.elems_getElem hv, h1, h2, h3⟩

/-- C2 (dead branch). The "Special case 1D" branch of `Reshape` is unreachable for reachable views: its guard
`Maximum(Dims) == 1` (with a 1-D new shape) forces a single-element view, which `Contiguous()` reports as
contiguous — so the earlier `contiguous || !reshapeToSeries` branch is always the one taken. -/
theorem reshape_special_dead {v : View} (hr : Reach v) (hm : maximum v.dims = .ok 1) :
    v.size = 1 ∧ v.contiguous = .ok true :=
  Nd.max_one_contig (reach_geo hr) hm

/-- C2. `Reshape(newShape)` on a reachable, well-windowed array:
* returns the error `"size-mismatch"` (heap untouched) exactly when `Π newShape ≠ size`; it returns no other error value;
* otherwise, for a non-empty shape with extents ≥ 1, it succeeds with an array `b` whose view is a ROOT view of shape
  `newShape`, and element `k` (row-major) of `b` is element `k` (row-major) of `a`, for every `0 ≤ k < size`;
* contiguous view: the heap is unchanged and `b` ALIASES the storage of `a` (Go: `Impl` re-based to
  `base + start`, length `size`; C: same pointer, root view starting at `Start`);
* non-contiguous view (either back-end): `b` is Go-backed on a FRESH storage holding the row-major elements;
* a Go-backed result is again reachable and well-windowed (so all theorems apply to it). -/
theorem reshape_spec (h : Heap α) (a : Arr) (hr : Reach a.v) (ok : ArrOK h a) (s : Idx) :
    (product s ≠ a.v.size → reshape h a s = .ok (h, .inl "size-mismatch")) ∧
    (∀ h' m, reshape h a s = .ok (h', .inl m) → product s ≠ a.v.size ∧ m = "size-mismatch" ∧ h' = h) ∧
    (product s = a.v.size → s ≠ [] → Pos s → ∃ h' b, reshape h a s = .ok (h', .inr b) ∧
      b.v = rootView s (if a.isC = true ∧ a.v.contiguous = .ok true then a.v.start else 0) ∧
      (∀ k, 0 ≤ k → k < a.v.size →
        ∃ x, get h a (unravel k a.v.dims) = .ok x ∧ get h' b (unravel k s) = .ok x) ∧
      (a.v.contiguous = .ok true →
        h' = h ∧ b = (if a.isC = true then NdC02.cAliasArr a s else NdC02.aliasArr a s)) ∧
      (a.v.contiguous = .ok false → ∃ vals, NdC02.getAll h a (NdC02.rowMajor a.v.dims) = .ok vals ∧
        h' = h ++ [vals] ∧ b = NdC02.freshArr h vals s) ∧
      (b.isC = false → Reach b.v ∧ ArrOK h' b)) := by
  have g := reach_geo hr
  have hmis := Nd.reshape_mismatch h a s
  obtain ⟨c, hc⟩ := g.contiguous_total
  refine ⟨hmis, ?_, ?_⟩
  · intro h' m hres
    by_cases hsz : product s = a.v.size
    · -- once the sizes agree every return of `Reshape` is an array (`reshape_eq`), whatever the shape
      exfalso
      rw [Nd.reshape_eq g hsz hc] at hres
      split at hres
      · obtain ⟨v, _, e⟩ := Except.bind_eq_ok.mp hres
        cases e
      · obtain ⟨u, _, e⟩ := Except.bind_eq_ok.mp hres
        rcases implOf h u with ⟨h2, sid, base, len⟩
        obtain ⟨v, _, e⟩ := Except.bind_eq_ok.mp e
        cases e
    · rw [hmis hsz] at hres
      simp only [Except.ok.injEq, Prod.mk.injEq, Sum.inl.injEq] at hres
      exact ⟨hsz, hres.2.symm, hres.1.symm⟩
  · intro hsz hs hp
    cases c with
    | false =>
      obtain ⟨vals, hv, hl⟩ := Nd.elems_ok g ok
      have hl' : (vals.length : Int) = product s := by
        have := Nd.product_pos g.pos_dims
        rw [hl, hsz]; simp only [View.size]; omega
      refine ⟨_, _, Nd.reshape_copy g hs hsz hc hv, ?_, ?_, ?_, fun _ => ⟨vals, hv, rfl, rfl⟩, fun _ =>
        ⟨Nd.reach_root hs hp, Nd.arrOK_fresh h vals hl'⟩⟩
      · have : ¬ (a.isC = true ∧ a.v.contiguous = .ok true) := by rw [hc]; simp
        rw [if_neg this]; rfl
      · intro k k0 k1
        have hk : ((k.toNat : Nat) : Int) = k := by omega
        obtain ⟨x, hx1, hx2⟩ := Nd.elems_getElem hv k.toNat (by rw [hk]; exact k1)
        rw [hk] at hx2
        refine ⟨x, hx2, ?_⟩
        have := Nd.get_fresh (h := h) hs hp hl' k.toNat (by rw [hk, hsz]; exact k1) hx1
        rwa [hk] at this
      · intro h1; rw [hc] at h1; exact absurd h1 (by simp)
    | true =>
      have e := Nd.reshape_contig g ok hs hsz hc
      unfold NdC02.reshapedArr at e
      refine ⟨_, _, e, ?_, fun k k0 k1 => ?_, fun _ => ⟨rfl, rfl⟩, ?_, fun hb => ?_⟩
      · cases hC : a.isC
        · rw [if_neg (by simp), if_neg (by simp)]; rfl
        · rw [if_pos rfl, if_pos ⟨rfl, hc⟩]; rfl
      · obtain ⟨x, _, hx⟩ := get_addr g ok (unravel_inBounds _ _ g.pos_dims k0 k1)
        refine ⟨x, hx, ?_⟩
        split
        · rw [Nd.get_cAlias g hc hsz k0 k1, hx]
        · rw [Nd.get_alias g ok hc hs hp hsz k0 k1, hx]
      · intro h1; rw [hc] at h1; exact absurd h1 (by simp)
      · cases hC : a.isC
        · rw [if_neg (by simp)]
          exact ⟨Nd.reach_root hs hp, Nd.arrOK_alias g ok hc hsz⟩
        · rw [hC, if_pos rfl] at hb
          exact absurd (hb.symm.trans hC) (by simp)

/-- C2. `ReshapeFast(newShape)` returns the error `"not-contiguous"` exactly on non-contiguous views (checked
before anything else, heap untouched), and otherwise behaves exactly as `Reshape`. -/
theorem reshapeFast_spec (h : Heap α) (a : Arr) (hr : Reach a.v) (ok : ArrOK h a) (s : Idx) :
    (a.v.contiguous = .ok false → reshapeFast h a s = .ok (h, .inl "not-contiguous")) ∧
    (a.v.contiguous = .ok true → reshapeFast h a s = reshape h a s) ∧
    (∀ h', reshapeFast h a s = .ok (h', .inl "not-contiguous") → a.v.contiguous = .ok false) := by
  refine ⟨Nd.reshapeFast_noncontig s, Nd.reshapeFast_contig s, ?_⟩
  intro h' hres
  obtain ⟨c, hc⟩ := (reach_geo hr).contiguous_total
  cases c with
  | false => exact hc
  | true =>
    rw [Nd.reshapeFast_contig s hc] at hres
    have := ((reshape_spec h a hr ok s).2.1 h' _ hres).2.1
    exact absurd this (by decide)

/-- C2. `MustReshape` is `Reshape` with the returned error turned into a panic. -/
theorem mustReshape_spec (h : Heap α) (a : Arr) (s : Idx) :
    (∀ h' b, reshape h a s = .ok (h', .inr b) → mustReshape h a s = .ok (h', b)) ∧
    (∀ h' m, reshape h a s = .ok (h', .inl m) → mustReshape h a s = .error m) := by
  constructor <;> intro h' x hres <;> simp [mustReshape, hres, bind, Except.bind, pure, Except.pure]

/-- C3. `Maximum()` / `Minimum()` (strict comparison `better v res`, e.g. `v > res`) of a reachable, well-windowed
array never panic and equal the left fold of "keep the better one" over the row-major element list, starting from
the first element (for a total order: the max / min of the elements; ties keep the earliest). -/
theorem extremum_spec (better : α → α → Bool) (h : Heap α) (a : Arr) (hr : Reach a.v) (ok : ArrOK h a) :
    ∃ v0 rest, NdC02.getAll h a (NdC02.rowMajor a.v.dims) = .ok (v0 :: rest) ∧
      extremum better h a = .ok ((v0 :: rest).foldl (fun res v => if better v res then v else res) v0) := by
  have g := reach_geo hr
  obtain ⟨vals, hv, hl⟩ := Nd.elems_ok g ok
  have := Nd.product_pos g.pos_dims
  cases vals with
  | nil => simp at hl; omega
  | cons v0 rest => exact ⟨v0, rest, hv, Nd.extremum_eq g better hv⟩

/-- C3. The whole-array helpers of `data/arrayops.go` (scale, add-to, apply-function; modelled by
`zipWithInto f`: `dest[k] = f dest[k] source[k]`, including the write-back `storeUnrolled` through a flat reshaped
view) on reachable, well-windowed arrays of the same shape held in DIFFERENT storages: for every contiguity
combination of source and destination and for both back-ends (Go/C, for either array) the call never panics and
the resulting heap is exactly the one obtained by visiting the elements one by one in row-major order
(`setAll` over `rowMajor`) with the values `f dest_k source_k` computed from the pre-state.
Pointwise: destination element `k` becomes `f dest_k source_k` for every `k`; the source is unchanged; no storage
changes length. -/
theorem zipWithInto_spec (f : α → α → α) (h : Heap α) (dest source : Arr) (hrd : Reach dest.v) (hrs : Reach source.v)
    (okd : ArrOK h dest) (oks : ArrOK h source) (hdims : source.v.dims = dest.v.dims)
    (hsid : dest.sid ≠ source.sid) :
    ∃ dv sv h', NdC02.getAll h dest (NdC02.rowMajor dest.v.dims) = .ok dv ∧
      NdC02.getAll h source (NdC02.rowMajor dest.v.dims) = .ok sv ∧
      zipWithInto f h dest source = .ok h' ∧
      NdC02.setAll h dest (NdC02.rowMajor dest.v.dims) (List.zipWith f dv sv) = .ok h' ∧
      (∀ k : Nat, (k : Int) < dest.v.size → ∃ dx sx,
        get h dest (unravel (k : Int) dest.v.dims) = .ok dx ∧ get h source (unravel (k : Int) dest.v.dims) = .ok sx ∧
        get h' dest (unravel (k : Int) dest.v.dims) = .ok (f dx sx)) ∧
      (∀ j, InBounds j source.v.dims → get h' source j = get h source j) ∧
      SameShape h h' ∧ ArrOK h' dest ∧ ArrOK h' source := by
  have gd := reach_geo hrd
  have gs := reach_geo hrs
  obtain ⟨dv, hdv, _⟩ := Nd.elems_ok gd okd
  obtain ⟨sv, hsv, _⟩ := Nd.elems_ok gs oks
  rw [hdims] at hsv
  have b := Nd.bulk_zipWithInto f gd gs okd oks hdims hsid hdv hsv
  obtain ⟨h', hres, hseq, ss, hpt, hoth⟩ := b.spec gd okd
  refine ⟨dv, sv, h', hdv, hsv, hres, hseq, fun k hk => ?_, fun j hj => hoth gs oks (fun e => hsid e.symm) hj, ss,
    okd.sameShape ss, oks.sameShape ss⟩
  obtain ⟨dx, hdx1, hdx2⟩ := Nd.elems_getElem hdv k hk
  obtain ⟨sx, hsx1, hsx2⟩ := Nd.elems_getElem (a := source) (hdims ▸ hsv) k (hdims ▸ hk)
  rw [hdims] at hsx2
  exact ⟨dx, sx, hdx2, hsx2, hpt (Nd.rowMajor_getElem? hk) (by simp [List.getElem?_zipWith, hdx1, hsx1])⟩

/-- C3. `Apply(loc, dim, step, vals)` on a reachable, well-windowed Go-backed array, for a run that lies inside the
array (`SliceOK`: `0 ≤ loc`, `step ≥ 1`, `vals` non-empty, last written index in bounds): whichever path the
contiguity test of the target slice selects, the result is the element loop
`Set(loc[dim ↦ loc[dim] + i·step], vals[i])`, `i = 0, 1, …` (`setAll` over `runIdxs`). In particular the contiguous
fast path (block copy `writeRun` into the aliased window) and the element loop produce the same heap. -/
theorem apply_paths_agree (h : Heap α) (a : Arr) (hr : Reach a.v) (ok : ArrOK h a) (hgo : a.isC = false)
    (loc : Idx) (dim step : Int) (vals : List α) (h0 : 0 ≤ dim) (h1 : dim < a.v.dims.length)
    (hok : SliceOK a.v.dims loc (NdC02.applyDims a dim vals.length) (NdC02.applySteps a dim step)) :
    ∃ start sl, loc[dim.toNat]? = some start ∧
      slice a loc (NdC02.applyDims a dim vals.length) (some (NdC02.applySteps a dim step)) = .ok sl ∧
      -- the result, whichever path is taken, is the element loop
      apply h a loc dim step vals =
        NdC02.setAll h a (NdC02.runIdxs loc dim.toNat start step 0 vals.length) vals ∧
      apply.go a loc step dim.toNat start h 0 vals =
        NdC02.setAll h a (NdC02.runIdxs loc dim.toNat start step 0 vals.length) vals ∧
      -- fast path taken iff the slice is contiguous, and then it is the block write
      (sl.v.contiguous = .ok true →
        apply h a loc dim step vals = .ok (writeRun h a.sid (a.base + sl.v.start).toNat vals) ∧
        apply.go a loc step dim.toNat start h 0 vals = .ok (writeRun h a.sid (a.base + sl.v.start).toNat vals)) ∧
      (sl.v.contiguous = .ok false → apply h a loc dim step vals = apply.go a loc step dim.toNat start h 0 vals) := by
  have g := reach_geo hr
  have hd : dim.toNat < a.v.dims.length := by omega
  obtain ⟨start, hl, b⟩ := Nd.bulk_apply_req g ok h0 h1 hok
  obtain ⟨hsl, gsl, _⟩ := sliceOK_dstSlice g (step := some (NdC02.applySteps a dim step)) hok
  have hloop := Nd.apply_go_eq a loc step dim.toNat start vals h 0
  refine ⟨start, _, hl, hsl, b.eq, hloop, fun hc => ?_, fun hc => ?_⟩
  · have hfast := Nd.apply_fast_ok g ok hgo hd hok hc
    rw [Int.toNat_of_nonneg h0] at hfast
    exact ⟨hfast, hloop.trans (b.eq.symm.trans hfast)⟩
  · have hslow := Nd.apply_slow h hd step vals hl (.inr ⟨_, hsl, hc⟩)
    rw [Int.toNat_of_nonneg h0] at hslow
    exact hslow.trans hloop.symm

/-- C3 (C back-end). `Apply` on a C-backed array is the element loop (there is no fast path). -/
theorem apply_c_loop (h : Heap α) (a : Arr) (hC : a.isC = true) (loc : Idx) (dim step start : Int) (vals : List α)
    (h0 : 0 ≤ dim) (h1 : dim < a.v.dims.length) (hl : loc[dim.toNat]? = some start) :
    apply h a loc dim step vals = NdC02.setAll h a (NdC02.runIdxs loc dim.toNat start step 0 vals.length) vals :=
  Nd.apply_c_spec hC h0 h1 hl

/-- C3. `ApplySlice(loc, step, src)` for a reachable destination and source (window conditions, an in-bounds
request, **source and destination in different storages** — in the overlapping case the fast path is a `memmove`
and the loop a sequential copy, which genuinely differ, so it is excluded by hypothesis): on every path — Go
contiguous fast path `copy(slice.Unroll(), vals.Unroll())` with an aliased or a gathered source, Go element loop,
C element loop — the resulting heap is the one of the element loop `copyLoop` on the destination sub-array `sl`,
which is the sequential `Set` of the source's row-major elements (read in the pre-state) over the row-major indices
of `sl`. Pointwise: element `k` of `sl` becomes element `k` of the source; the source is unchanged. -/
theorem applySlice_paths_agree (h : Heap α) (a src : Arr) (hr : Reach a.v) (ok : ArrOK h a) (hrs : Reach src.v)
    (oks : ArrOK h src) (hsid : src.sid ≠ a.sid) (loc : Idx) (step : Option Idx)
    (okS : SliceOK a.v.dims loc src.v.dims (stepOr a.v.dims.length step)) :
    ∃ sl vals h', slice a loc src.v.dims step = .ok sl ∧ Reach sl.v ∧ sl.v.dims = src.v.dims ∧
      NdC02.getAll h src (NdC02.rowMajor src.v.dims) = .ok vals ∧
      applySlice h a loc step src = .ok h' ∧
      copyLoop h sl src src.v.dims = .ok h' ∧
      NdC02.setAll h sl (NdC02.rowMajor src.v.dims) vals = .ok h' ∧
      (∀ k : Nat, (k : Int) < src.v.size → ∃ x, get h src (unravel (k : Int) src.v.dims) = .ok x ∧
        get h' sl (unravel (k : Int) src.v.dims) = .ok x) ∧
      (∀ j, InBounds j src.v.dims → get h' src j = get h src j) ∧ SameShape h h' := by
  have g := reach_geo hr
  have gs := reach_geo hrs
  obtain ⟨vals, hv, _⟩ := Nd.elems_ok gs oks
  obtain ⟨hslice, gS, _⟩ := sliceOK_dstSlice g okS
  have okSl := arrOK_dstSlice ok loc src.v.dims step
  have b := bulk_applySlice g ok gs oks hsid okS hv
  obtain ⟨h', hres, hseq, ss, hpt, hoth⟩ := b.spec gS okSl
  refine ⟨_, vals, h', hslice, .slice hr okS (g.regular.sliceInto_eq loc src.v.dims step okS.lengths.1 okS.lengths.2.2), rfl, hv,
    hres, (copyLoop_eq (dst := dstSlice a loc src.v.dims step) gs hsid oks rfl hv).trans hseq, hseq, fun k hk => ?_,
    fun j hj => hoth gs oks hsid hj, ss⟩
  obtain ⟨x, hx1, hx2⟩ := Nd.elems_getElem hv k hk
  exact ⟨x, hx2, hpt (Nd.rowMajor_getElem? hk) hx1⟩

/-- C3. `CopyFrom(other)` for two reachable, well-windowed arrays of the same shape in different storages: never
panics; the resulting heap is exactly the sequential `a.Set(idx, other.Get(idx))` over the row-major indices (values
read in the pre-state), whichever path (`copy` of unrolled slices, or the element loop) is taken and for both
back-ends; afterwards element `k` of `a` is element `k` of `other` for every `k`, and `other` is unchanged. -/
theorem copyFrom_spec (h : Heap α) (a other : Arr) (hr : Reach a.v) (ok : ArrOK h a) (hro : Reach other.v)
    (oko : ArrOK h other) (hsid : other.sid ≠ a.sid) (hshape : other.v.dims = a.v.dims) :
    ∃ vals h', NdC02.getAll h other (NdC02.rowMajor a.v.dims) = .ok vals ∧
      copyFrom h a other = .ok h' ∧
      copyLoop h a other a.v.dims = .ok h' ∧
      NdC02.setAll h a (NdC02.rowMajor a.v.dims) vals = .ok h' ∧
      (∀ k : Nat, (k : Int) < a.v.size → ∃ x, get h other (unravel (k : Int) a.v.dims) = .ok x ∧
        get h' a (unravel (k : Int) a.v.dims) = .ok x) ∧
      (∀ j, InBounds j other.v.dims → get h' other j = get h other j) ∧ SameShape h h' := by
  have g := reach_geo hr
  have gs := reach_geo hro
  obtain ⟨vals, hv, _⟩ := Nd.elems_ok gs oko
  obtain ⟨h', hres, hseq, ss, hpt, hoth⟩ := (Nd.bulk_copyFrom g ok gs oko hsid hshape hv).spec g ok
  have hloop := copyLoop_eq (dst := a) gs hsid oko (by rw [hshape]) hv
  have hel := fun k hk => (Nd.elems_getElem hv k hk).imp fun x hx => And.intro hx.2 (hpt (Nd.rowMajor_getElem? hk) hx.1)
  rw [hshape] at hv hloop hel hseq
  exact ⟨vals, h', hv, hres, hloop.trans hseq, hseq, hel, fun j hj => hoth gs oko hsid hj, ss⟩

end

/-! ## Non-vacuity: the hypotheses are met, and the operations are evaluated, on concrete views -/
namespace Ex

/-- storage 0: a 3×4 array `0..11`; storage 1: a 3×2 array `100..600` -/
def heap : Heap Int := [[0, 1, 2, 3, 4, 5, 6, 7, 8, 9, 10, 11], [100, 200, 300, 400, 500, 600]]
/-- the 3×4 root on storage 0 (Go-backed) -/
def root : Arr := { v := rootView [3, 4] 0, sid := 0, base := 0, len := 12, isC := false }
/-- the 3×2 root on storage 1 (Go-backed) and the same buffer seen as a C array -/
def small : Arr := { v := rootView [3, 2] 0, sid := 1, base := 0, len := 6, isC := false }
def smallC : Arr := { small with isC := true }
/-- a row-gapped slice `[0:3, 1:3]`, a column `[0:3, 2]` (1-wide dimension), a stepped slice `[0:3:2, 0:4:2]`,
whole rows `[1:3, :]`, a single element `[1, 2]` -/
def rowGap : Arr := { root with v := sliceView root.v [0, 1] [3, 2] none }
def col : Arr := { root with v := sliceView root.v [0, 2] [3, 1] none }
def stepped : Arr := { root with v := sliceView root.v [0, 0] [2, 2] (some [2, 2]) }
def rows : Arr := { root with v := sliceView root.v [1, 0] [2, 4] none }
def single : Arr := { root with v := sliceView root.v [1, 2] [1, 1] none }

theorem reach_root : Reach root.v := Nd.reach_root (by decide) (by simp [Pos])
theorem reach_small : Reach small.v := Nd.reach_root (by decide) (by simp [Pos])
theorem reach_rowGap : Reach rowGap.v := .slice reach_root (loc := [0, 1]) (dims := [3, 2]) (step := none)
  (by simp only [root, rootView, SliceOK, stepOr, uniform, List.replicate, List.length]; decide) rfl
theorem reach_col : Reach col.v := .slice reach_root (loc := [0, 2]) (dims := [3, 1]) (step := none)
  (by simp only [root, rootView, SliceOK, stepOr, uniform, List.replicate, List.length]; decide) rfl
theorem reach_stepped : Reach stepped.v := .slice reach_root (loc := [0, 0]) (dims := [2, 2]) (step := some [2, 2])
  (by simp only [root, rootView, SliceOK, stepOr]; decide) rfl
theorem reach_rows : Reach rows.v := .slice reach_root (loc := [1, 0]) (dims := [2, 4]) (step := none)
  (by simp only [root, rootView, SliceOK, stepOr, uniform, List.replicate, List.length]; decide) rfl
theorem reach_single : Reach single.v := .slice reach_root (loc := [1, 2]) (dims := [1, 1]) (step := none)
  (by simp only [root, rootView, SliceOK, stepOr, uniform, List.replicate, List.length]; decide) rfl

theorem ok_root : ArrOK heap root := ⟨⟨_, rfl, by decide⟩, by decide, by decide, nofun⟩
theorem ok_small : ArrOK heap small := ⟨⟨_, rfl, by decide⟩, by decide, by decide, nofun⟩
theorem ok_smallC : ArrOK heap smallC := ⟨⟨_, rfl, by decide⟩, by decide, by decide, fun _ => by decide⟩
theorem ok_rowGap : ArrOK heap rowGap := ⟨⟨_, rfl, by decide⟩, by decide, by decide, nofun⟩

-- B1: verdicts of `Contiguous()`
example : rowGap.v.contiguous = .ok false ∧ col.v.contiguous = .ok false ∧ stepped.v.contiguous = .ok false ∧
    rows.v.contiguous = .ok true ∧ single.v.contiguous = .ok true ∧ root.v.contiguous = .ok true := by decide +kernel
-- B1 applied: the whole rows `[1:3, :]` are the 8 cells from address 4
example : ∀ k, 0 ≤ k → k < 8 → rows.v.index (unravel k [2, 4]) = .ok (4 + k) :=
  (contiguous_iff reach_rows).1.mp rfl
-- B1 applied: the column is not adjacent in storage
example : ¬ ∀ k, 0 ≤ k → k < col.v.size → col.v.index (unravel k col.v.dims) = .ok (col.v.start + k) :=
  fun hall => absurd ((contiguous_iff reach_col).1.mpr hall) (by decide)

-- C1: Unroll gathers a gapped / stepped view row-major, aliases a contiguous Go view, copies a C view
example : (unroll heap rowGap >>= sliceVals heap) = .ok [1, 2, 5, 6, 9, 10] := by decide +kernel
example : (unroll heap stepped >>= sliceVals heap) = .ok [0, 2, 8, 10] := by decide +kernel
example : (unroll heap col >>= sliceVals heap) = .ok [2, 6, 10] := by decide +kernel
example : unroll heap rows = .ok (.alias 0 4 8) := rfl
example : unroll heap single = .ok (.alias 0 6 1) := rfl
example : unroll heap smallC = .ok (.fresh [100, 200, 300, 400, 500, 600]) := rfl

-- C2: Reshape
example : reshape heap rows [3] = .ok (heap, .inl "size-mismatch") := by decide +kernel
example : reshapeFast heap rowGap [6] = .ok (heap, .inl "not-contiguous") := by decide +kernel
example : reshape heap rows [8] = .ok (heap, .inr (NdC02.aliasArr rows [8])) := by decide +kernel
example : reshape heap rowGap [2, 3] =
    .ok (heap ++ [[1, 2, 5, 6, 9, 10]], .inr (NdC02.freshArr heap [1, 2, 5, 6, 9, 10] [2, 3])) := by decide +kernel
example : reshape heap smallC [6] = .ok (heap, .inr (NdC02.cAliasArr smallC [6])) := by decide +kernel

-- C3: Maximum / Minimum of a stepped view
example : extremum (fun v r => decide (v > r)) heap stepped = .ok 10 ∧
    extremum (fun v r => decide (v < r)) heap stepped = .ok 0 := by decide +kernel

-- C3: add-to, every contiguity / back-end combination used below has source and destination in different storages
example : zipWithInto (· + ·) heap rowGap small =
    .ok [[0, 101, 202, 3, 4, 305, 406, 7, 8, 509, 610, 11], [100, 200, 300, 400, 500, 600]] := by decide +kernel
example : zipWithInto (· + ·) heap small rowGap =
    .ok [[0, 1, 2, 3, 4, 5, 6, 7, 8, 9, 10, 11], [101, 202, 305, 406, 509, 610]] := by decide +kernel
example : zipWithInto (· + ·) heap smallC rowGap =
    .ok [[0, 1, 2, 3, 4, 5, 6, 7, 8, 9, 10, 11], [101, 202, 305, 406, 509, 610]] := by decide +kernel
example : zipWithInto (fun _ s => 2 * s) heap rowGap smallC =
    .ok [[0, 200, 400, 3, 4, 600, 800, 7, 8, 1000, 1200, 11], [100, 200, 300, 400, 500, 600]] := by decide +kernel

-- C3: Apply — a row segment takes the fast path, a column segment the element loop
example : apply heap root [1, 1] 1 1 [70, 71, 72] =
    .ok [[0, 1, 2, 3, 4, 70, 71, 72, 8, 9, 10, 11], [100, 200, 300, 400, 500, 600]] := by decide +kernel
example : apply heap root [0, 1] 0 1 [70, 71, 72] =
    .ok [[0, 70, 2, 3, 4, 71, 6, 7, 8, 72, 10, 11], [100, 200, 300, 400, 500, 600]] := by decide +kernel
example : SliceOK root.v.dims [1, 1] (NdC02.applyDims root 1 3) (NdC02.applySteps root 1 1) := by
  simp [root, rootView, NdC02.applyDims, NdC02.applySteps, uniform, SliceOK]

-- C3: CopyFrom / ApplySlice into a gapped view
example : copyFrom heap rowGap small =
    .ok [[0, 100, 200, 3, 4, 300, 400, 7, 8, 500, 600, 11], [100, 200, 300, 400, 500, 600]] := by decide +kernel
example : applySlice heap root [0, 2] none small =
    .ok [[0, 1, 100, 200, 4, 5, 300, 400, 8, 9, 500, 600], [100, 200, 300, 400, 500, 600]] := by decide +kernel

-- the theorems instantiated (hypotheses discharged) on these arrays
example := unroll_spec heap rowGap reach_rowGap ok_rowGap
example := reshape_spec heap rowGap reach_rowGap ok_rowGap [2, 3]
example := extremum_spec (fun v r => decide (v > r)) heap rowGap reach_rowGap ok_rowGap
example := zipWithInto_spec (· + ·) heap rowGap small reach_rowGap reach_small ok_rowGap ok_small rfl (by decide)
example := zipWithInto_spec (· + ·) heap smallC rowGap reach_small reach_rowGap ok_smallC ok_rowGap rfl (by decide)
example := copyFrom_spec heap rowGap small reach_rowGap ok_rowGap reach_small ok_small (by decide) rfl
example := applySlice_paths_agree heap root small reach_root ok_root reach_small ok_small (by decide) [0, 2] none
  (by simp only [root, small, rootView, SliceOK, stepOr, uniform, List.replicate, List.length]; decide)
example := apply_paths_agree heap root reach_root ok_root rfl [1, 1] 1 1 [70, 71, 72] (by decide) (by decide)
  (by simp [root, rootView, NdC02.applyDims, NdC02.applySteps, uniform, SliceOK])
example := contiguous_dense reach_stepped


/-! ### why the two-array theorems exclude overlapping storages (same `sid`)

`r4` is a 4-element root, `hi = r4[1:4]`, `lo = r4[0:3]` overlap in storage 0. -/
def heap4 : Heap Int := [[1, 2, 3, 4]]
def r4 : Arr := { v := rootView [4] 0, sid := 0, base := 0, len := 4, isC := false }
def hi : Arr := { r4 with v := sliceView r4.v [1] [3] none }
def lo : Arr := { r4 with v := sliceView r4.v [0] [3] none }

/-- `zipWithInto_spec` needs `dest.sid ≠ source.sid`: on overlapping views the running sum sees its own writes
(`2+1, 3+3, 4+6`), which is not `f dest_k source_k` of the pre-state (`2+1, 3+2, 4+3`). -/
example : zipWithInto (· + ·) heap4 hi lo = .ok [[1, 3, 6, 10]] ∧
    NdC02.setAll heap4 hi (NdC02.rowMajor [3]) (List.zipWith (· + ·) [2, 3, 4] [1, 2, 3]) = .ok [[1, 3, 5, 7]] := by
  decide +kernel

/-- `applySlice_paths_agree` / `copyFrom_spec` need `src.sid ≠ a.sid`: on overlapping views the Go fast path is a
`memmove` (`1 1 2 3`) while the element loop — the only path of the C back-end — propagates the first element
(`1 1 1 1`). -/
example : copyFrom heap4 hi lo = .ok [[1, 1, 2, 3]] ∧
    copyFrom heap4 { hi with isC := true } { lo with isC := true } = .ok [[1, 1, 1, 1]] ∧
    copyLoop heap4 hi lo [3] = .ok [[1, 1, 1, 1]] := by decide +kernel

/-! ### why `zipWithInto_spec` assumes IDENTICAL shapes (`hdims`) -/

/-- **zipWithInto_shape_mismatch_paths_differ.** Off the hypothesis `source.v.dims = dest.v.dims` of `zipWithInto_spec` the
two paths of `data/arrayops.go` pair DIFFERENT elements: the contiguous fast path pairs flat positions (`dest[k] ↔ source[k]`
of the unrolled slices), the general path pairs multi-indices (`dest[i,j] ↔ source[i,j]`). A `2×3` source `0 … 5` applied
(`ApplyFunc1`-style, `f _ s = s`) to a contiguous `2×2` destination gives `[0,1,2,3]`; to the same `2×2` destination as a
gapped view of a `2×3` root gives `[0,1,3,4]`. (Every caller in the repository passes arrays of equal shape.) -/
theorem zipWithInto_shape_mismatch_paths_differ :
    let h : Heap Int := [[9, 9, 9, 9], [9, 9, 9, 9, 9, 9], [0, 1, 2, 3, 4, 5]]
    let src : Arr := ⟨rootView [2, 3] 0, 2, 0, 6, false⟩
    let dContig : Arr := ⟨rootView [2, 2] 0, 0, 0, 4, false⟩
    let dRoot : Arr := ⟨rootView [2, 3] 0, 1, 0, 6, false⟩
    let dGap : Arr := { dRoot with v := sliceView dRoot.v [0, 0] [2, 2] none }
    zipWithInto (fun _ s => s) h dContig src = .ok [[0, 1, 2, 3], [9, 9, 9, 9, 9, 9], [0, 1, 2, 3, 4, 5]] ∧
    zipWithInto (fun _ s => s) h dGap src = .ok [[9, 9, 9, 9], [0, 1, 9, 3, 4, 9], [0, 1, 2, 3, 4, 5]] := by decide +kernel

/-! ### why the success clause of `reshape_spec` assumes `s ≠ []` and extents `≥ 1` -/

/-- **reshape_nil.** `Reshape([]int{})` of a single-element view (element count `Π [] = 1` matches) does not return an
error value: it PANICS (index out of range in `Offsets`), on both back-ends. -/
theorem reshape_nil {α : Type} {h : Heap α} {a : Arr} (hr : Reach a.v) (ok : ArrOK h a) (hsz : product [] = a.v.size) :
    reshape h a [] = .error "index-out-of-range" :=
  NdC02.reshape_nil (reach_geo hr) ok hsz

example : reshape heap single [] = .error "index-out-of-range" :=
  reshape_nil reach_single ⟨⟨_, rfl, by decide⟩, by decide, by decide, nofun⟩ (by decide)

/-! ### the integer helpers outside their specified range: Go's truncated division -/

/-- `IDivMod` on a NEGATIVE `k` (outside `idivmod_rowmajor` / `idivmod_wraps`, which need `0 ≤ k`) follows Go's truncated
`/` and `%`: digits of mixed sign, not the mathematical residues. `Increment` beyond in-bounds indices and `Offsets` on
non-positive extents are likewise outside the specs (`increment_rowmajor` needs `InBounds`, `offsets_spec` is unconditional
on `dims ≠ []`). -/
example : idivmod (-5) (offsetsT [2, 3]) [2, 3] = .ok [-1, -2] ∧ unravel ((-5) % product [2, 3]) [2, 3] = [0, 1] := by decide +kernel

end Ex

end OW.Props.C02
