import OW.Props.C06
/-!
C06 — the arithmetic laws behind the hot-start continuity of GR4J and StorageTrapAll, isolated.

`OW.Props.C06.hotstart_GR4J` and `hotstart_StorageTrapAll_of_add_zero` take their law as a hypothesis. Here:
* the laws are `Prop`-valued classes over `Num α` (`IntRoundTripLaw`, `AddZeroLaw`) with instances at `ℝ`, so that
  `hotstart_GR4J_lawful` / `hotstart_StorageTrapAll_lawful` hold for EVERY arithmetic that satisfies them;
* GR4J needs its law only for the two store sizes, which are bounded by the length of the state row:
  `hotstart_GR4J_bounded` (IEEE doubles round-trip every integer up to 2⁵³, i.e. every state row that fits in memory);
* StorageTrapAll needs NO law if the conclusion is stated up to the one operation that differs: over ANY `Num α` the one-call
  outputs are element-wise equal to the split-run outputs or to them before `+ 0.0` (`hotstart_StorageTrapAll_upto_add_zero`;
  in IEEE arithmetic `y + 0.0` and `y` differ only in the sign of a zero).
Nothing about `Float` itself can be PROVED in Lean (its operations are opaque); the classes say exactly which law an arithmetic
must satisfy, and the KSPLIT correspondence runs the same model at `Float` against the real code.
-/
set_option linter.unusedVariables false -- for `hotstart_StorageTrapAll_upto_add_zero` alone: see its docstring
namespace OW.Props.C06
open OW OW.Kernels

variable {α : Type} [Num α]

/-- arithmetic law: a natural number written into a state row and read back with `int(…)` is unchanged -/
class IntRoundTripLaw (α : Type) [Num α] : Prop where
  roundTrip : ∀ n : Nat, Num.toInt (Num.ofNat n : α) = (n : Int)

/-- arithmetic law: adding the literal `0.0` on the right changes nothing -/
class AddZeroLaw (α : Type) [Num α] : Prop where
  add_zero : ∀ y : α, y + 0.0 = y

instance : IntRoundTripLaw ℝ := ⟨intRoundTrip_real⟩
instance : AddZeroLaw ℝ := ⟨fun y => by norm_num⟩

theorem hotstart_GR4J_lawful [IntRoundTripLaw α] : HotStart (GR4J.model (α := α)) :=
  hotstart_GR4J IntRoundTripLaw.roundTrip

theorem hotstart_StorageTrapAll_lawful [AddZeroLaw α] : HotStart (StorageTrapAll.model (α := α)) :=
  hotstart_StorageTrapAll_of_add_zero AddZeroLaw.add_zero

/-- **GR4J, bounded law.** The round trip is needed only for the two store sizes `n1`, `n2`, and `n1 + n2 + 4` is at most the
length of the state row: hot-start continuity holds for every call whose arithmetic round-trips the integers up to the length of
ITS state row (the side condition is `IntRoundTripUpToRow`, OW/Proofs/HotStartGR4J.lean, written out). -/
theorem hotstart_GR4J_bounded :
    HotStartWhen (GR4J.model (α := α)) (fun _ st _ => ∀ n : Nat, n ≤ st.length → Num.toInt (Num.ofNat n : α) = (n : Int)) :=
  restartableWhen_GR4J.hotStartWhen

def UpToAddZero (y y' : α) : Prop := y' = y ∨ y' = y + 0.0

def SeriesUpToAddZero (u v : List (List α)) : Prop := List.Forall₂ (List.Forall₂ UpToAddZero) u v

theorem SeriesUpToAddZero.eq_of_law [AddZeroLaw α] {u v : List (List α)} (h : SeriesUpToAddZero u v) : u = v := by
  have e : ∀ y y' : α, UpToAddZero y y' → y = y' :=
    fun y y' h => h.elim Eq.symm fun h => by rw [h, AddZeroLaw.add_zero]
  have h' := List.Forall₂.imp (fun _ _ hl => List.Forall₂.imp e hl) h
  simp only [List.forall₂_eq_eq_eq] at h'
  exact h'

/-- **StorageTrapAll, ANY arithmetic, no law.** If both calls of a split run succeed, the one-call run succeeds, its final state
row is that of the second call, and its outputs are, element by element, the concatenated outputs of the split run or those
outputs before `+ 0.0` (the only place: the first trapped value of the second call, to which the re-set stored mass `0.0` is
added). `n₁ n₂ ha hb` are not used: the hypotheses are those of `HotStart`. -/
theorem hotstart_StorageTrapAll_upto_add_zero
    (p : List α) (a b : List (List α)) (st : List α) (n₁ n₂ : Nat) (o₁ o₂ : KOut α)
    (hl : a.length = b.length) (ha : AllLen n₁ a) (hb : AllLen n₂ b)
    (h₁ : (StorageTrapAll.model (α := α)).run p a st = .ok o₁)
    (h₂ : (StorageTrapAll.model (α := α)).run p b o₁.states = .ok o₂) :
    ∃ o, (StorageTrapAll.model (α := α)).run p (catSeries a b) st = .ok o ∧
      SeriesUpToAddZero o.outputs (catSeries o₁.outputs o₂.outputs) ∧ o.states = o₂.states :=
  storageTrapAll_split UpToAddZero (fun _ => Or.inl rfl) (fun _ => Or.inr rfl) p a b st o₁ o₂ hl h₁ h₂

/-- the law-based statement is the corollary: with `AddZeroLaw` the relation is equality -/
theorem hotstart_StorageTrapAll_from_upto [AddZeroLaw α] : HotStart (StorageTrapAll.model (α := α)) := by
  intro p a b st n₁ n₂ o₁ o₂ hl ha hb h₁ h₂
  obtain ⟨o, ho, hrel, hst⟩ := hotstart_StorageTrapAll_upto_add_zero p a b st n₁ n₂ o₁ o₂ hl ha hb h₁ h₂
  exact ⟨o, ho, hrel.eq_of_law, hst⟩

/-- the hypotheses (four equally long series per part — `AllLen` — and two successful calls) are satisfiable over any
arithmetic: a 2-step part, then a 1-step part from the returned state row -/
example (s x x' y u v w : α) :
    AllLen 2 [[x, x'], [u, u], [v, v], [w, w]] ∧ AllLen 1 [[y], [u], [v], [w]] ∧
    ∃ o₁ o₂, (StorageTrapAll.model (α := α)).run [] [[x, x'], [u, u], [v, v], [w, w]] [s] = .ok o₁ ∧
      (StorageTrapAll.model (α := α)).run [] [[y], [u], [v], [w]] o₁.states = .ok o₂ :=
  ⟨List.forall_iff_forall_mem.mp ⟨rfl, rfl, rfl, rfl⟩, List.forall_iff_forall_mem.mp ⟨rfl, rfl, rfl, rfl⟩, _, _, rfl, rfl⟩

/-- and the relation is not trivially true: it pins the outputs down to the split-run values up to `+ 0.0` -/
example (y : α) : UpToAddZero y (y + 0.0) := Or.inr rfl

example : IntRoundTripLaw ℝ := inferInstance
example : HotStart (GR4J.model (α := ℝ)) := hotstart_GR4J_lawful
example : HotStart (StorageTrapAll.model (α := ℝ)) := hotstart_StorageTrapAll_lawful

/-- the bounded law holds at ℝ for every state row -/
example (st : List ℝ) : ∀ n : Nat, n ≤ st.length → Num.toInt (Num.ofNat n : ℝ) = (n : Int) := fun n _ => RealNum.toInt_natCast n

end OW.Props.C06
