import OW.Proofs.C08H5
import OW.Proofs.C08Defs
import OW.Proofs.C08Lock
import OW.Props.C02
import OW.Gen.IoLockGraph
/-!
C08 — HDF5 array I/O round-trips and addresses exactly the selected region; every call into the (non-thread-safe)
library is made while holding the package lock, writers exclusively.

Only the property theorems about ONE call: T1–T5' (what `sliceSize`, `makeHyperslab`, `Load`, `Write`, `WriteSlice`,
`Create` do), T8 (sources with a zero extent), T6 (the lock). T2' is in `OW/Props/C08Slice.lean`, T7 (sequences of calls)
in `OW/Props/C08Seq.lean`, T9 (persistence across calls on other paths) in `OW/Props/C08Persist.lean`; the numbers are
those of these four files. Helper lemmas: `OW/Proofs/C08H5.lean`, `OW/Proofs/C08Lock.lean`; definitions used in the
statements besides the model's: `OW/Proofs/C08Defs.lean`. The source views of `Write` / `WriteSlice` are those of the n-d
array model: `Reach`, `Pos` (`OW/Nd/WF.lean`), `ArrOK` (`OW/Proofs/NdCells.lean`), `reach_geo` (`OW/Proofs/NdGeo.lean`),
and `unroll_spec` of C02.
The theorems are about

* `OW/Sim/H5.lean` — the model of `io/hdf5.go` (= every instantiation in `io/gen-hdf5.go`), `io/hdf5_util.go`,
  `conv/slices.go` over an abstract file and the SPECIFICATION of the library (regular hyperslabs, H5Dread/H5Dwrite),
  tied to the real code on every run by the H5U / H5 correspondence (real `io` compiled against the library model
  `/verif/harness/hdf5stub`, which implements the same specification);
* `OW/Sim/LockCheck.lean` + `OW/Gen/IoLockGraph.lean` — the call graph of package io, REGENERATED from the Go sources
  on every run.

`narrow = false` in the theorems: the element types float64, float32, int32, uint32, int64, uint64. For `int` and
`uint` the round trip is FALSE on the real code (known finding KF-C08-int-width, witness `narrow_roundtrip_loses_elements`).
`sliceSize` rounds up, as `io/hdf5_util.go` does (`sliceSizeFloor_drops_last`: what the rounding-down quotient
`sliceSizeFloor` would lose). `sync.RWMutex` and libhdf5 itself are trusted / modelled.
-/
namespace OW.Props.C08
open OW.Nd OW.Sim.H5 OW.Proofs.C08H5

/-- T1. For every start, stop, extent and every step ≥ 1, `sliceSize` returns the number of indices
`start, start+step, start+2·step, …` that lie below `min(stop, extent)`: `k < n ↔ start + k·step < min(stop, extent)`.
(Go `int` as ℤ; holds for stop beyond the extent, stop ≤ start, start beyond the extent.) -/
theorem sliceSize_spec (start stop step extent : Int) (hs : 1 ≤ step) :
    ∃ n : Int, sliceSize [start, stop, step] extent = .ok n ∧ 0 ≤ n ∧
      ∀ k : Int, 0 ≤ k → (k < n ↔ start + k * step < min stop extent) :=
  OW.Proofs.C08H5.sliceSize_spec start stop step extent hs

/-- T1 (why the quotient has to round up). The rounding-down form `sliceSizeFloor` loses the last index: for
`[0, 5, 2]` on an extent 5 it returns 2 although the indices 0, 2, 4 are all below `min(5, 5)`. -/
theorem sliceSizeFloor_drops_last :
    sliceSizeFloor [0, 5, 2] 5 = .ok 2 ∧ (0 + 2 * 2 < min (5 : Int) 5) ∧ sliceSize [0, 5, 2] 5 = .ok 3 := by
  decide

/-- T1'. For a well-formed selection (`nil`, or `[start, stop, step]` with `start ≥ 0`, `step ≥ 1`, one entry per
dimension) `makeHyperslab` does not panic and its (offset, stride, count, block) select, by the HDF5 definition
`offset + k·stride + b (k < count, b < block)`, exactly the property's indices `start, start+step, … < min(stop, extent)`
of every dimension (all of `0 … extent-1` for a nil entry). -/
theorem makeHyperslab_spec (sel : Sel) (s : List Nat) (hl : sel.length = s.length) (hok : ∀ x ∈ sel, SelDimOK x) :
    ∃ slab, makeHyperslab sel (uintsToInts s) = .ok slab ∧
      (zip4 slab.offset slab.stride slab.count slab.block).map
        (fun (p : Nat × Nat × Nat × Nat) => dimCoords p.1 p.2.1 p.2.2.1 p.2.2.2) = selIdx sel s := by
  have h := slabDims_eq (selOK_of hl hok) []
  simp only [List.nil_append, List.length_nil] at h
  refine ⟨_, by simp only [makeHyperslab, h, bind, Except.bind, pure, Except.pure]; rfl, ?_⟩
  rw [zip4_map, List.map_map, (selIdx_eq_trip (selOK_of hl hok)).1]
  simp only [Function.comp_def, dimCoords_block1]
  rfl

/-- what `specIdx` (the property's "start, start+step, … < min(stop, extent)") is, as a closed form -/
theorem specIdx_spec {a b st : Int} (e : Nat) (ha : 0 ≤ a) (hs : 1 ≤ st) :
    ∃ c : Nat, specIdx e (some [a, b, st]) = (List.range c).map (fun k => a.toNat + k * st.toNat) ∧
      ∀ k : Nat, k < c ↔ a.toNat + k * st.toNat < min b.toNat e := by
  obtain ⟨c, -, h1, h2⟩ := specIdx_some (b := b) e ha hs
  exact ⟨c, h1, h2⟩

/-- T2. Let the file hold a dataset of shape `s` with row-major elements `v` at `path`. Then `Load()` without a
selection returns `(s, v)`, and `Load()` with a well-formed selection `sel` (one entry per dimension, at least one
non-nil; stop may exceed the extent, may be ≤ start, start may exceed the extent) returns the array
* whose shape is, per dimension, the NUMBER of indices `start, start+step, … < min(stop, extent)` (all for nil), and
* whose row-major elements are the elements of the full array at exactly those indices, in row-major order
  (`cartesian (selIdx sel s)` = all index combinations, last dimension fastest; `ravelN c s` = the row-major position
  of coordinate `c` in the full array).
That this is `Slice` of the loaded full array in memory with `start/step` and that count: `load_selection_eq_nd_slice`
(`OW/Props/C08Slice.lean`). -/
theorem load_selection {t : Tree} {path : String} {p : Path} {s : List Nat} {v : List Int}
    (hod : openDataset t path = .ok (p, s, v)) (hv : v.length = prodN s)
    (sel : Sel) (hl : sel.length = s.length) (hsome : sel.any Option.isSome = true)
    (hok : ∀ x ∈ sel, SelDimOK x) :
    load false (some t) path none = .ok (uintsToInts s, v) ∧
    load false (some t) path (some sel) =
      .ok ((selIdx sel s).map (fun l => ((l.length : Nat) : Int)),
           (cartesian (selIdx sel s)).map (fun c => v.getD (ravelN c s) 0)) := by
  refine ⟨load_full hod hv, ?_⟩
  have hne : sel ≠ [] := by rintro rfl; simp at hsome
  simp only [load, hod, hsome, if_true, Option.getD_some]
  exact loadSubset_spec sel s v hl hne hok

/-- The source of `Write` / `WriteSlice`, a reachable view on a well-windowed storage: `Unroll()` hands the library its
elements in row-major order, as many as its extents (all ≥ 1) say (C02 `unroll_spec`). -/
theorem source_spec (h : Heap Int) (a : Arr) (hr : Reach a.v) (ok : ArrOK h a) :
    ∃ vals, unrollVals h a = .ok vals ∧ OW.NdC02.getAll h a (OW.NdC02.rowMajor a.v.dims) = .ok vals ∧
      vals.length = prodN (intsToUints a.v.dims) ∧ Pos a.v.dims := by
  obtain ⟨sl, vals, hu, hsv, hga, hlen, -⟩ := OW.Props.C02.unroll_spec h a hr ok
  have hpos : Pos a.v.dims := (reach_geo hr).pos_dims
  have hn := prodN_intsToUints fun x hx => Int.le_trans (by decide) (hpos x hx)
  refine ⟨vals, by simp [unrollVals, hu, hsv, bind, Except.bind], hga, ?_, hpos⟩
  simp only [View.size] at hlen
  omega

/-- What a `Write(data)` that returns nil leaves behind, for a reachable source view on a well-windowed storage and any
well-formed file state: a well-formed file that holds, at the path named, a dataset of the view's shape with exactly its
elements in row-major order (uses C02 `unroll_spec`). T3 and its versions across a history read this off. -/
theorem write_ok (h : Heap Int) (a : Arr) (hr : Reach a.v) (ok : ArrOK h a)
    (d d' : Disk) (path : String) (wf : DiskWF d)
    (hw : write false h a d path = (d', .ok ())) :
    ∃ vals t1 p s, OW.NdC02.getAll h a (OW.NdC02.rowMajor a.v.dims) = .ok vals ∧ d' = some t1 ∧ WF t1 ∧
      openDataset t1 path = .ok (p, s, vals) ∧ uintsToInts s = a.v.dims := by
  obtain ⟨vals, huv, hga, hlen, hpos⟩ := source_spec h a hr ok
  have hnn : ∀ x ∈ a.v.dims, 0 ≤ x := fun x hx => Int.le_trans (by decide) (hpos x hx)
  obtain ⟨t0, wf0, hopen⟩ : ∃ t0, WF t0 ∧ openW d true = (some t0, .ok t0) := by
    cases d with
    | none => exact ⟨[], wf_nil, rfl⟩
    | some t => exact ⟨t, wf t rfl, rfl⟩
  unfold write at hw
  rw [hopen] at hw
  simp only at hw
  split at hw
  · simp at hw
  · split at hw
    · simp at hw
    · simp at hw
    · rename_i t1 p hoc
      obtain ⟨hp, hpne, s, v0, hfind, hs, -⟩ := openOrCreate_ok hoc
      replace hs := hs hnn
      obtain ⟨ext, he, hwe⟩ := openOrCreate_append t0 path a.v.dims
      rw [hoc] at he
      obtain rfl : t1 = t0 ++ ext := he
      have wf1 := wf_append wf0 hwe
      rw [huv] at hw
      simp only [hfind] at hw
      have hv0 : v0.length = prodN s := wf_of_find wf1 hfind
      have hvl : vals.length = v0.length := by rw [hlen, hv0, ← hs, intsToUints_uintsToInts]
      rw [show packBuf false vals = vals from rfl, h5write_all v0 vals s hv0 hvl] at hw
      simp only [Prod.mk.injEq, and_true] at hw
      exact ⟨vals, _, p, s, hga, hw.symm, wf_setVals wf1 hfind hvl,
        openDataset_eq.mpr ⟨hp, hpne, find_setVals_self vals hfind⟩, hs⟩

/-- T3. For EVERY source view reachable by in-bounds slicing of a root array (any rank, any layout: contiguous,
stepped, column, nested) on a well-windowed storage, and every file state: if `Write(data)` returns nil then `Load()`
of the same reference returns the shape of the view and exactly its elements in row-major order
(`getAll … (rowMajor dims)` = `Get` at every index in row-major order).
Datasets keep "as many elements as the shape says" (`WF`), so the theorem applies along any sequence of calls. -/
theorem write_load_roundtrip (h : Heap Int) (a : Arr) (hr : Reach a.v) (ok : ArrOK h a)
    (d d' : Disk) (path : String) (wf : ∀ t, d = some t → WF t)
    (hw : write false h a d path = (d', .ok ())) :
    ∃ vals, OW.NdC02.getAll h a (OW.NdC02.rowMajor a.v.dims) = .ok vals ∧
      load false d' path none = .ok (a.v.dims, vals) ∧ (∀ t', d' = some t' → WF t') := by
  obtain ⟨vals, t1, p, s, hga, rfl, wf1, hod, hs⟩ := write_ok h a hr ok d d' path wf hw
  refine ⟨vals, hga, ?_, fun t' ht' => Option.some.inj ht' ▸ wf1⟩
  rw [load_full hod (wf_of_find wf1 (openDataset_eq.mp hod).2.2), hs]

/-- T4. Let the file hold a dataset `(s, v)` at `path`, `data` be any reachable source view and `loc` a location
such that the block `loc + [0, shape(data))` lies inside the dataset (same rank; `BlockIn` on the `uint` conversions the
code performs — a negative `loc` converts to a huge offset and is never inside). Then `WriteSlice(data, loc)` returns
nil and the file afterwards differs from the file before in the elements of that dataset only, where for EVERY
coordinate `c` of the dataset: the element is the row-major element `c − loc` of `data` if `c` lies in the block and is
unchanged otherwise. No other object of the file changes; the dataset keeps its shape. -/
theorem writeSlice_footprint (h : Heap Int) (a : Arr) (hr : Reach a.v) (ok : ArrOK h a)
    {t : Tree} {path : String} {p : Path} {s : List Nat} {v : List Int}
    (hod : openDataset t path = .ok (p, s, v)) (wf : WF t)
    (loc : Idx) (hb : BlockIn (intsToUints loc) (intsToUints a.v.dims) s) :
    ∃ vals v', OW.NdC02.getAll h a (OW.NdC02.rowMajor a.v.dims) = .ok vals ∧
      writeSlice false h a (some t) path loc = (some (setVals t p v'), .ok ()) ∧
      find (setVals t p v') p = some (.ds s v') ∧ v'.length = v.length ∧
      (∀ c, CoordIn c s → v'[ravelN c s]? =
        if inBlock c (intsToUints loc) (intsToUints a.v.dims) = true
        then vals[ravelN (List.zipWith (· - ·) c (intsToUints loc)) (intsToUints a.v.dims)]?
        else v[ravelN c s]?) ∧
      (∀ q, q ≠ p → find (setVals t p v') q = find t q) ∧ WF (setVals t p v') := by
  obtain ⟨vals, huv, hga, hvals, hpos⟩ := source_spec h a hr ok
  obtain ⟨hp, hpne, hfind⟩ := openDataset_eq.mp hod
  have hv : v.length = prodN s := wf_of_find wf hfind
  have hdpos : ∀ d ∈ intsToUints a.v.dims, 1 ≤ d := by
    intro d hd
    obtain ⟨x, hx, rfl⟩ := List.mem_map.mp hd
    have := hpos x hx
    rw [toUint_nonneg (by omega)]; omega
  obtain ⟨hl1, hl2, -⟩ := block_sel _ _ s hb hdpos
  obtain ⟨v', hw, hvl, hpt⟩ := h5write_block s _ _ v vals hb hdpos hv hvals
  refine ⟨vals, v', hga, ?_, find_setVals_self v' hfind, hvl, hpt,
    fun q hq => find_setVals_other t p q v' hq, wf_setVals wf hfind hvl⟩
  rw [writeSlice_eq false huv hod (by simpa [intsToUints] using hl1) (by simpa [intsToUints] using hl2)
    (reach_geo hr).dims_ne, if_neg fun h0 => absurd (hdpos 0 h0) (by decide), show packBuf false vals = vals from rfl, hw]

/-- T5. If a dataset exists at `path`: `Create` with the SAME shape returns nil and leaves the file as it is;
`Create` with a DIFFERENT shape returns the error "Cannot resize datasets" and leaves the file as it is. -/
theorem create_existing {t : Tree} {path : String} {p : Path} {s : List Nat} {v : List Int}
    (hod : openDataset t path = .ok (p, s, v)) (shape : Idx) :
    (uintsToInts s = shape → create (some t) path shape = (some t, .ok ())) ∧
    (uintsToInts s ≠ shape → create (some t) path shape = (some t, .err "shape")) := by
  constructor <;> intro hs <;> simp [create, openW, openOrCreate, hod, hs]

/-- T5'. `Create` of a path at which nothing exists yet (in a file that exists) makes a dataset of that shape that
reads as zeros, leaves every object that existed unchanged, and keeps the file well-formed (`WF`: every dataset holds
as many elements as its shape says — the hypothesis of T3/T4 on the file). Extents may be 0 (`0 ≤ x`): ow-sim creates
`count × 0 × 0` datasets from a generation in which the model has no cell (`gen.Count == 0`,
cmd/ow-sim/simulation_model_reference.go); such a dataset reads as the empty list. -/
theorem create_new {t t' : Tree} {path : String} {shape : Idx} (hpos : ∀ x ∈ shape, 0 ≤ x)
    (hno : ∀ p s v, openDataset t path ≠ .ok (p, s, v))
    (hc : create (some t) path shape = (some t', .ok ())) :
    load false (some t') path none = .ok (shape, List.replicate (product shape).toNat 0) ∧
    (∀ r, find t r ≠ none → find t' r = find t r) ∧ (WF t → WF t') := by
  unfold create at hc
  simp only [openW] at hc
  split at hc
  · simp at hc
  · simp at hc
  · rename_i t1 p hoc
    simp only [Prod.mk.injEq, Option.some.injEq, and_true] at hc
    subst hc
    obtain ⟨h1, h2, s, v, h3, -, hz⟩ := openOrCreate_ok hoc
    obtain ⟨rfl, rfl⟩ := hz hno
    obtain ⟨ext, he, hwe⟩ := openOrCreate_append t path shape
    rw [hoc] at he
    obtain rfl : t1 = t ++ ext := he
    refine ⟨?_, fun r hr => find_append_of_ne_none ext hr, fun wf => wf_append wf hwe⟩
    have hn : prodN (intsToUints shape) = (product shape).toNat := by
      have := prodN_intsToUints hpos
      omega
    rw [load_full (openDataset_eq.mpr ⟨h1, h2, h3⟩) (by simp), uintsToInts_intsToUints hpos, hn]

/-! Arrays with a zero extent.

`Reach` (the source views of T3/T4) has all extents ≥ 1. ow-sim does handle arrays with a zero extent: a generation in
which the model has no cell (`gen.Count == 0`) gets `data.NewArray3DFloat64(0, 0, 0)`
(cmd/ow-sim/simulation_model_reference.go:167), its dataset is created with `Create([count, 0, 0])` (T5' covers it:
`0 ≤ x`) and written with `WriteSlice(inputs, [loc, 0, 0])`.
The two theorems below say what the MODEL does for such sources; agreement with the Go code for them is checked by the H5
correspondence, which draws sources with a zero extent (checks/C08.py). In io/hdf5.go: `Write` evaluates `data.Get(data.NewIndex(0))` = `Impl[0]` on an empty slice before
`openOrCreateDataset`; `WriteSlice` passes a block with a 0 to `SelectHyperslab` (HDF5: selection "none") and writes 0
elements. -/

theorem product_zero_of_mem (l : Idx) (h : (0 : Int) ∈ l) : product l = 0 := by
  obtain ⟨s, t, rfl⟩ := List.append_of_mem h
  simp [OW.NdC02.product_append]

/-- T8a. `Write` of a freshly allocated Go-backed array (`NewArray(dims)`) with a zero extent PANICS with
index-out-of-range (at `data.Get(data.NewIndex(0))`), after the file has been opened — a file that did not exist has
been created (empty) — and before any dataset is opened or created: the file is otherwise untouched. -/
theorem write_empty_panics (narrow : Bool) (h h' : Heap Int) (dims : Idx) (a : Arr) (hne : dims ≠ [])
    (h0 : (0 : Int) ∈ dims) (hna : newArray 0 h dims = .ok (h', a)) (d : Disk) (path : String) :
    ∃ t0, openW d true = (some t0, .ok t0) ∧
      write narrow h' a d path = (some t0, .panic "index-out-of-range") := by
  have hp : product dims = 0 := product_zero_of_mem dims h0
  have hroot : View.root dims = .ok (rootView dims 0) := root_eq dims 0 hne
  have ha : a = { v := rootView dims 0, sid := h.length, base := 0, len := 0, isC := false } ∧ h' = h ++ [[]] := by
    simp only [newArray, hp, alloc, fromStore, storeOf, bind, Except.bind, pure, Except.pure] at hna
    simp [hroot] at hna
    exact ⟨hna.2.symm, hna.1.symm⟩
  obtain ⟨rfl, rfl⟩ := ha
  have hget : get (h ++ [[]]) { v := rootView dims 0, sid := h.length, base := 0, len := 0, isC := false }
      ((rootView dims 0).newIndex 0) = oob := by
    have hix : View.indexAux ((rootView dims 0).newIndex 0) (rootView dims 0).offStep =
        .ok (dot ((rootView dims 0).newIndex 0) (rootView dims 0).offStep) :=
      indexAux_ok _ _ (by simp [View.newIndex, View.ndims, rootView, uniform, offsetsT_length])
    unfold Nd.get
    simp [View.index, hix, readAt, storeOf, bind, Except.bind, pure, Except.pure]
  obtain ⟨t0, ht0⟩ : ∃ t0, openW d true = (some t0, .ok t0) := by
    cases d with
    | none => exact ⟨[], rfl⟩
    | some t => exact ⟨t, rfl⟩
  refine ⟨t0, ht0, ?_⟩
  unfold write
  rw [ht0]
  simp only [hget, oob]

/-- T8b. `WriteSlice(data, loc)` of ANY source whose shape has a zero extent (same rank as `loc` and as
the dataset at `path`) and whose `Unroll()` returns: the block contains a 0, the library selects nothing, 0 elements are
transferred — the call returns nil and the file is EXACTLY as before. (`Unroll()` does return for the root arrays
ow-sim uses: examples in `Ex`, `OW/Props/C08Seq.lean`.) -/
theorem writeSlice_empty_noop (narrow : Bool) (h : Heap Int) (a : Arr)
    (h0 : (0 : Int) ∈ a.v.dims) {vals : List Int} (hu : unrollVals h a = .ok vals)
    {t : Tree} {path : String} {p : Path} {s : List Nat} {v : List Int}
    (hod : openDataset t path = .ok (p, s, v)) (loc : Idx) (hl : loc.length = s.length)
    (hd : a.v.dims.length = s.length) :
    writeSlice narrow h a (some t) path loc = (some t, .ok ()) := by
  obtain ⟨-, -, hfind⟩ := openDataset_eq.mp hod
  have hz : (0 : Nat) ∈ intsToUints a.v.dims := by
    simp only [intsToUints, List.mem_map]
    exact ⟨0, h0, by simp [toUint]⟩
  rw [writeSlice_eq narrow hu hod hl hd (List.ne_nil_of_mem h0), if_pos hz, prodN_eq_zero _ hz]
  have hw : h5write v s .none 0 (packBuf narrow vals) = .ok v := by
    simp [h5write, npoints, selValid, linear, scatter]
  rw [hw]
  simp only [setVals_same hfind]

open OW.Sim.LockCheck in
/-- T6. Soundness of the checker, for ALL graphs: if `lockCheck G = true` then no function touches the lock
irregularly, and along EVERY call path `i₀ → i₁ → … → iₙ` of `G` that starts at an exported function, for every
library call of the last function: the strongest lock acquired (at function entry, released by a deferred call, hence
held during the whole body and all callees) by a function on the path is at least shared (`1`), and exclusive (`2`)
if the call can modify a file. -/
theorem lockCheck_sound (G : Graph) (h : lockCheck G = true) :
    (∀ f ∈ G, f.irregular = false) ∧
    ∀ (path : List Nat) (i0 : Nat) (e : Fn), IsPath G path → path.head? = some i0 → G[i0]? = some e →
      e.exported = true →
      ∀ (k : Nat) (f : Fn), path.getLast? = some k → G[k]? = some f →
        ∀ l ∈ f.lib, need l.2 ≤ heldRank G path := by
  have hv : verify G (solve G) = true := h
  constructor
  · intro f hf
    obtain ⟨i, hi, rfl⟩ := List.mem_iff_getElem.mp hf
    obtain ⟨c, ok⟩ := OW.Proofs.C08Lock.ok_of_verify hv (List.getElem?_eq_getElem hi)
    exact ok.regular
  · intro path i0 e hp hh he hexp k f hk hf l hl
    cases path with
    | nil => simp at hh
    | cons i rest =>
      simp only [List.head?_cons, Option.some.injEq] at hh
      subst hh
      obtain ⟨c, ok⟩ := OW.Proofs.C08Lock.ok_of_verify hv he
      have hc0 : c = 0 := ok.entry hexp
      have := OW.Proofs.C08Lock.path_need hv rest i 0 hp
        (fun c' hc' => Nat.le_of_eq ((Option.some.inj (hc'.symm.trans ok.ctx_eq)).trans hc0)) k f hk hf l hl
      simpa using this

open OW.Sim.LockCheck in
/-- T6 (in words of locks). Under `lockCheck G = true`, on every call path from an exported function to a library
call some function on the path holds the package lock, and for a mutating call some function on the path holds it
exclusively. -/
theorem lockCheck_sound_locks (G : Graph) (h : lockCheck G = true)
    (path : List Nat) (i0 : Nat) (e : Fn) (hp : IsPath G path) (hh : path.head? = some i0) (he : G[i0]? = some e)
    (hexp : e.exported = true) (k : Nat) (f : Fn) (hk : path.getLast? = some k) (hf : G[k]? = some f)
    (name : String) (mutating : Bool) (hl : (name, mutating) ∈ f.lib) :
    (∃ i ∈ path, ∃ g, G[i]? = some g ∧ g.lock ≠ .none) ∧
    (mutating = true → ∃ i ∈ path, ∃ g, G[i]? = some g ∧ g.lock = .exclusive) := by
  have hn := (lockCheck_sound G h).2 path i0 e hp hh he hexp k f hk hf _ hl
  constructor
  · obtain ⟨i, hi, g, hg, hr⟩ := OW.Proofs.C08Lock.le_heldRank (G := G) path 1 (by omega) (by simp only [need] at hn; split at hn <;> omega)
    refine ⟨i, hi, g, hg, ?_⟩
    intro h0; rw [h0] at hr; simp [Lock.rank] at hr
  · intro hm
    subst hm
    obtain ⟨i, hi, g, hg, hr⟩ := OW.Proofs.C08Lock.le_heldRank (G := G) path 2 (by omega) (by simpa [need] using hn)
    refine ⟨i, hi, g, hg, ?_⟩
    cases hgl : g.lock <;> rw [hgl] at hr <;> simp [Lock.rank] at hr ⊢

/-- T6 (instance). The call graph of package io extracted from the CURRENT sources passes the check
(kernel evaluation on the regenerated data; the evaluation itself is the last line of the generated file
`OW/Gen/IoLockGraph.lean`, so that a failing graph is reported against the generated facts). -/
theorem current_graph_ok : OW.Sim.LockCheck.lockCheck OW.Gen.ioLockGraph = true := OW.Gen.ioLockGraph_ok

/-- KF-C08-int-width (witness). With the 8-byte Go element types `int`/`uint`, gonum creates a 4-byte dataset
(H5T_NATIVE_INT/UINT) and transfers with the dataset's type as memory type: writing `[1,2,3,4]` to a new 4-element
dataset and reading it back into a fresh array gives `[1,2,0,0]`. -/
theorem narrow_roundtrip_loses_elements :
    (do let f ← h5write [0, 0, 0, 0] [4] .all 4 (packBuf true [1, 2, 3, 4])
        let b ← h5read f [4] .all 4 (zeroBuf true 4)
        pure (unpackBuf true b) : Except String (List Int)) = .ok [1, 2, 0, 0] := by
  decide

/-- `sliceSize_spec`: stop beyond the extent, step 3 with a remainder -/
example : sliceSize [1, 99, 3] 9 = .ok 3 := by decide

/-- `makeHyperslab`: a nil dimension and a stepped one -/
example : makeHyperslab [none, some [1, 9, 2]] [2, 6] =
    .ok { offset := [0, 1], stride := [1, 2], count := [2, 3], block := [1, 1] } := by decide

/-- `load_selection` (through `loadSubset`): rows all, columns 1,3,5 of a 2×6 dataset -/
example : loadSubset false [none, some [1, 9, 2]] [2, 6] [0, 1, 2, 3, 4, 5, 10, 11, 12, 13, 14, 15] =
    .ok ([2, 3], [1, 3, 5, 11, 13, 15]) := by decide

/-- the property's index set of that selection -/
example : selIdx [none, some [1, 9, 2]] [2, 6] = [[0, 1], [1, 3, 5]] := by decide

/-- `writeSlice_footprint` (through the library model): a 2×2 block at (1,1) of a 3×4 dataset -/
example : h5write (List.replicate 12 0) [3, 4] (.hyper [1, 1] [1, 1] [1, 1] [2, 2]) 4 [7, 8, 9, 10] =
    .ok [0, 0, 0, 0, 0, 7, 8, 0, 0, 9, 10, 0] := by decide

/-- a block that does not fit is refused by the library (and `WriteSlice` swallows that error: `writeSlice` returns
`.ok ()` with the file unchanged) -/
example : h5write (List.replicate 12 0) [3, 4] (.hyper [2, 3] [1, 1] [1, 1] [2, 2]) 4 [7, 8, 9, 10] = .error "sel" := by
  decide

/-- the lock checker rejects a graph whose exported writer takes only the shared lock, and one whose exported
function reaches the library without any lock -/
example : OW.Sim.LockCheck.lockCheck
    [{ name := "W", exported := true, lock := .shared, irregular := false, lib := [("Dataset.Write", true)], calls := [] }] = false := by
  decide
example : OW.Sim.LockCheck.lockCheck
    [{ name := "E", exported := true, lock := .none, irregular := false, lib := [], calls := [1] },
     { name := "helper", exported := false, lock := .none, irregular := false, lib := [("hdf5.OpenFile", false)], calls := [] }] = false := by
  decide
example : OW.Sim.LockCheck.lockCheck
    [{ name := "E", exported := true, lock := .exclusive, irregular := false, lib := [], calls := [1] },
     { name := "helper", exported := false, lock := .none, irregular := false, lib := [("Dataset.Write", true)], calls := [] }] = true := by
  decide

/-- lock helpers taking a closure (`func withLock(body func()) { lock(); defer unlock(); body() }`, any name): the
extractor makes the function literal handed to the helper a node of its own, called BY THE HELPER (whose parameter is
call-only), so it inherits the helper's lock and nothing from the function it is written in. The thin exported wrapper
`Load`, the helper, the literal and the unexported body `load` pass … -/
example : OW.Sim.LockCheck.lockCheck
    [{ name := "Load", exported := true, lock := .none, irregular := false, lib := [], calls := [3] },
     { name := "Load.func1", exported := false, lock := .none, irregular := false, lib := [], calls := [2] },
     { name := "load", exported := false, lock := .none, irregular := false, lib := [("hdf5.OpenFile", false)], calls := [] },
     { name := "withReadLock", exported := false, lock := .shared, irregular := false, lib := [], calls := [1] }] = true := by
  decide
/-- … a shared-lock helper around a mutating body does not … -/
example : OW.Sim.LockCheck.lockCheck
    [{ name := "Write", exported := true, lock := .none, irregular := false, lib := [], calls := [3] },
     { name := "Write.func1", exported := false, lock := .none, irregular := false, lib := [], calls := [2] },
     { name := "write", exported := false, lock := .none, irregular := false, lib := [("Dataset.Write", true)], calls := [] },
     { name := "withReadLock", exported := false, lock := .shared, irregular := false, lib := [], calls := [1] }] = false := by
  decide
/-- … nor does a literal that is stored and called later (the extractor marks it an entry point: no lock guaranteed),
nor a helper that releases the lock before it calls the body (`irregular`) -/
example : OW.Sim.LockCheck.lockCheck
    [{ name := "Load", exported := true, lock := .none, irregular := false, lib := [], calls := [3] },
     { name := "Load.func1", exported := true, lock := .none, irregular := false, lib := [], calls := [2] },
     { name := "load", exported := false, lock := .none, irregular := false, lib := [("hdf5.OpenFile", false)], calls := [] },
     { name := "withReadLock", exported := false, lock := .shared, irregular := false, lib := [], calls := [] }] = false := by
  decide
example : OW.Sim.LockCheck.lockCheck
    [{ name := "Load", exported := true, lock := .none, irregular := false, lib := [], calls := [3] },
     { name := "Load.func1", exported := false, lock := .none, irregular := false, lib := [], calls := [2] },
     { name := "load", exported := false, lock := .none, irregular := false, lib := [("hdf5.OpenFile", false)], calls := [] },
     { name := "withReadLock", exported := false, lock := .shared, irregular := true, lib := [], calls := [1] }] = false := by
  decide

/-- The lock check accepts a function that holds the SHARED lock and calls a function that takes the EXCLUSIVE lock
(here an exported reader `R` calling an unexported writer `W` that makes a mutating library call): T6 holds for it —
at the library call the exclusive lock "is held" — but with Go's non-reentrant `sync.RWMutex` the call `mu.Lock()`
inside `mu.RLock()` never returns (self-deadlock). The same goes for exclusive → exclusive and shared → shared
(with a writer queued in between). This is a LIVENESS defect, outside the stated safety clause "every library call is
made while holding the lock, writers exclusively"; no function of the current package io nests lock-taking functions
(`Exists` takes no lock itself and calls the shared-lock listers one after the other). -/
example : OW.Sim.LockCheck.lockCheck
    [{ name := "R", exported := true, lock := .shared, irregular := false, lib := [], calls := [1] },
     { name := "W", exported := false, lock := .exclusive, irregular := false, lib := [("Dataset.Write", true)], calls := [] }] = true := by
  decide

end OW.Props.C08
