import OW.Proofs.NdHist
import OW.Proofs.NdChain
/-!
C01 — array slices are live strided views that compose, with exact write footprints.

Theorems about the model `OW/Nd` of /repo/data/arrays.go, arrays_go.go, data/cdata/arrays_c.go (Go and C storage
back-ends), for every rank, every chain of nested in-bounds slices (stepped or not) and every element type `α`.
Go `int` is `Int` (overflow out of scope). Vocabulary: `OW/Nd/WF.lean` (`Reach`, `SliceOK`, `InBounds`, `affine`,
`stepOr`), `OW/Proofs/NdDot.lean` (`dot`, `mulL`), `OW/Proofs/NdGeo.lean` (`Geo`), `OW/Proofs/NdChain.lean` (`sliceChain`, `ChainOK`,
`chainIndex`),
`OW/Proofs/NdCells.lean` (`ArrOK`, `cell`, `SameShape`), `OW/Proofs/NdBulk.lean` (`setSeq`), `OW/Proofs/NdApply.lean` (`runPairs`),
`OW/Proofs/NdHist.lean` (`WriteOp`, `setMany`, `sameCell`, `readBack`).
-/
namespace OW.Props.C01
open OW.Nd

/-! ### T1 — a slice is an affine re-indexing of its parent -/

/-- **slice_index.** For a reachable view `v` and an in-bounds slice request that succeeds (it always does: `slice_total`),
element `i` of the slice is element `loc + i ⊙ step` of the parent — as an identity between addresses, for EVERY
index `i` of the slice's rank (in bounds or not), any rank, `step = nil` meaning all ones (of `ok` only the ranks are used). -/
theorem slice_index {v w : View} {loc dims : Idx} {step : Option Idx} (hv : Reach v)
    (ok : SliceOK v.dims loc dims (stepOr v.dims.length step))
    (h : v.sliceInto loc dims step = .ok w) (i : Idx) (hi : i.length = dims.length) :
    w.index i = v.index (affine loc i (stepOr v.dims.length step)) := by
  obtain ⟨hl, hd, hs⟩ := ok.lengths
  rw [(reach_geo hv).regular.sliceInto_eq loc dims step hl hs] at h
  cases h
  exact (reach_geo hv).regular.sliceView_index hl hd hs i hi

/-- **slice_total.** An in-bounds slice request on a reachable view never panics; the result is reachable, has the
requested extents, and keeps the allocated shape. -/
theorem slice_total {v : View} {loc dims : Idx} {step : Option Idx} (hv : Reach v)
    (ok : SliceOK v.dims loc dims (stepOr v.dims.length step)) :
    ∃ w, v.sliceInto loc dims step = .ok w ∧ Reach w ∧ w.dims = dims ∧ w.orig = v.orig := by
  have e := (reach_geo hv).regular.sliceInto_eq loc dims step ok.lengths.1 ok.lengths.2.2
  exact ⟨_, e, .slice hv ok e, rfl, rfl⟩

/-- **slice_index_inbounds.** In-bounds indices of the slice are mapped to in-bounds indices of the parent, and both
address the same element (neither `Index` panics). -/
theorem slice_index_inbounds {v w : View} {loc dims : Idx} {step : Option Idx} (hv : Reach v)
    (ok : SliceOK v.dims loc dims (stepOr v.dims.length step))
    (h : v.sliceInto loc dims step = .ok w) {i : Idx} (hi : InBounds i dims) :
    InBounds (affine loc i (stepOr v.dims.length step)) v.dims ∧
      ∃ p, w.index i = .ok p ∧ v.index (affine loc i (stepOr v.dims.length step)) = .ok p ∧
        0 ≤ p ∧ p < product v.orig := by
  have hb := ok.inBounds hi
  obtain ⟨p, hp, h0, hlt⟩ := Nd.index_inbounds (reach_geo hv) hb
  exact ⟨hb, p, by rw [slice_index hv ok h i hi.length, hp], hp, h0, hlt⟩

/-- **chain_index.** For every chain of nested in-bounds slices (any depth, stepped or not) of a reachable view:
no step of the chain panics, the innermost view is reachable with the extents of the last request, and its element
`i` is the element of the outermost parent at the composed affine index `chainIndex` — for every `i` of the rank. -/
theorem chain_index {v : View} (hv : Reach v) (c : List SliceReq) (ok : ChainOK v.dims c) :
    ∃ w, sliceChain v c = .ok w ∧ Reach w ∧ w.dims = chainDims v.dims c ∧
      ∀ i : Idx, i.length = v.dims.length → w.index i = v.index (chainIndex v.dims.length c i) := by
  induction c generalizing v with
  | nil => exact ⟨v, rfl, hv, rfl, fun i _ => rfl⟩
  | cons r rest ih =>
    obtain ⟨loc, dims, step⟩ := r
    obtain ⟨ok1, ok2⟩ := ok
    obtain ⟨w1, hw1, hr1, hd1, _⟩ := slice_total hv ok1
    obtain ⟨w, hw, hr, hd, hidx⟩ := ih hr1 (by rw [hd1]; exact ok2)
    have hlen : dims.length = v.dims.length := ok1.lengths.2.1
    refine ⟨w, ?_, hr, by rw [hd, hd1]; rfl, fun i hi => ?_⟩
    · simp only [sliceChain, hw1, bind, Except.bind]
      exact hw
    · rw [hidx i (by rw [hd1, hlen, hi]), hd1, hlen]
      have hl := chainIndex_length dims rest i ok2 (by rw [hlen, hi])
      rw [hlen] at hl
      exact slice_index hv ok1 hw1 _ (by rw [hl, hlen])

/-! ### T2 — addresses: `Index` is a bijection on a root and injective into the root's range on every reachable view -/

/-- **index_closed_form.** For a reachable view and any `loc` of the view's rank, `Index` does not panic and equals
`Start + Σ locᵢ·Stepᵢ·Offsetᵢ`, where `Offset` are the row-major strides of the allocated shape. -/
theorem index_closed_form {v : View} (hv : Reach v) (loc : Idx) (hloc : loc.length = v.dims.length) :
    v.index loc = .ok (v.start + dot loc (mulL v.step v.offset)) ∧ v.offset = offsetsT v.orig :=
  ⟨by rw [index_addr (reach_geo hv) loc (Nat.le_of_eq hloc), addr, (reach_geo hv).offStep_eq], (reach_geo hv).offset_eq⟩

/-- **root_index_bijection.** For a root array of shape `D` (non-empty, extents ≥ 1), `idx ↦ Index(idx)` is a
bijection between the in-bounds multi-indices and `[0, Π D)`: it is the row-major rank `ravel idx D` (in range), it is
injective, and every `k` in range is the address of the in-bounds index `unravel k D`. -/
theorem root_index_bijection {D : Idx} {v : View} (hne : D ≠ []) (hpos : Pos D) (h : View.root D = .ok v) :
    (∀ idx, InBounds idx D → v.index idx = .ok (ravel idx D) ∧ 0 ≤ ravel idx D ∧ ravel idx D < product D) ∧
    (∀ i j, InBounds i D → InBounds j D → v.index i = v.index j → i = j) ∧
    (∀ k, 0 ≤ k → k < product D → InBounds (unravel k D) D ∧ v.index (unravel k D) = .ok k) := by
  refine ⟨fun idx hi => ⟨root_index hne h idx hi.length, ravel_bounds hi⟩, fun i j hi hj e => ?_,
    fun k h0 hlt => ⟨unravel_inBounds k D hpos h0 hlt, ?_⟩⟩
  · rw [root_index hne h i hi.length, root_index hne h j hj.length] at e
    injection e with e
    exact ravel_inj hi hj e
  · rw [root_index hne h _ (unravel_length k D), ravel_unravel k D fun e => absurd e hne]

/-- **index_inbounds.** In-bounds indices of a reachable view (any chain of slices) are addressed, without panic,
inside the root's range `[0, Π OriginalDims)`. -/
theorem index_inbounds {v : View} (hv : Reach v) {i : Idx} (hi : InBounds i v.dims) :
    ∃ p, v.index i = .ok p ∧ 0 ≤ p ∧ p < product v.orig :=
  OW.Nd.index_inbounds (reach_geo hv) hi

/-- **index_inj.** Distinct in-bounds indices of a reachable view address distinct storage positions. -/
theorem index_inj {v : View} (hv : Reach v) {i j : Idx} (hi : InBounds i v.dims) (hj : InBounds j v.dims)
    (h : v.index i = v.index j) : i = j :=
  OW.Nd.index_inj (reach_geo hv) hi hj h

/-! ### T1 at the level of arrays — reading through a slice -/

/-- **get_slice.** "Element `i` of `slice(loc, dims, step)` is element `loc + i*step` of its parent": for an array
`a` of either back-end whose view is reachable, in the same heap, `Get` through the slice at `i` and `Get` through
the parent at `loc + i ⊙ step` are the same computation (same value, or the same panic), for every `i` of the
rank. The slice shares the parent's storage (`sid`, window, back-end), it is not a copy. -/
theorem get_slice {α : Type} (h : Heap α) {a b : Arr} {loc dims : Idx} {step : Option Idx} (hr : Reach a.v)
    (ok : SliceOK a.v.dims loc dims (stepOr a.v.dims.length step))
    (hs : slice a loc dims step = .ok b) (i : Idx) (hi : i.length = dims.length) :
    get h b i = get h a (affine loc i (stepOr a.v.dims.length step)) ∧
      b.sid = a.sid ∧ b.base = a.base ∧ b.len = a.len ∧ b.isC = a.isC := by
  obtain ⟨w, hw, rfl⟩ := slice_eq hs
  refine ⟨?_, rfl, rfl, rfl, rfl⟩
  unfold Nd.get
  rw [show ({ a with v := w } : Arr).v.index i = w.index i from rfl, slice_index hr ok hw i hi]
  rfl

/-- **get_slice_inbounds.** For an array satisfying the window conditions and an in-bounds `i`, neither side panics:
both return the storage cell at `base + Index_a(loc + i ⊙ step)`. -/
theorem get_slice_inbounds {α : Type} {h : Heap α} {a b : Arr} {loc dims : Idx} {step : Option Idx}
    (hr : Reach a.v) (hok : ArrOK h a) (ok : SliceOK a.v.dims loc dims (stepOr a.v.dims.length step))
    (hs : slice a loc dims step = .ok b) {i : Idx} (hi : InBounds i dims) :
    ∃ p x, a.v.index (affine loc i (stepOr a.v.dims.length step)) = .ok p ∧
      cell h a.sid (a.base + p).toNat = some x ∧ get h b i = .ok x ∧
      get h a (affine loc i (stepOr a.v.dims.length step)) = .ok x := by
  have hb := ok.inBounds hi
  obtain ⟨x, hc, hg⟩ := get_addr (reach_geo hr) hok hb
  exact ⟨_, x, index_addr (reach_geo hr) _ (Nat.le_of_eq hb.length), hc, by rw [(get_slice h hr ok hs i hi.length).1, hg], hg⟩

/-- **get_reads_cell.** `Get` through a reachable array at an in-bounds index never panics and returns the storage cell
`base + Index(i)` of storage `sid` — so every footprint theorem below, stated on storage cells, says what every view
overlapping the written cells reads afterwards. -/
theorem get_reads_cell {α : Type} {h : Heap α} {a : Arr} (hr : Reach a.v) (hok : ArrOK h a) {i : Idx}
    (hi : InBounds i a.v.dims) :
    ∃ p x, a.v.index i = .ok p ∧ 0 ≤ p ∧ p < product a.v.orig ∧
      cell h a.sid (a.base + p).toNat = some x ∧ get h a i = .ok x :=
  let ⟨x, hc, hg⟩ := get_addr (reach_geo hr) hok hi
  ⟨_, x, index_addr (reach_geo hr) i (Nat.le_of_eq hi.length), (addr_bounds (reach_geo hr) hi).1,
    (addr_bounds (reach_geo hr) hi).2, hc, hg⟩

/-- **slice_arr_total.** `Slice` with an in-bounds request never panics and preserves reachability and the window
conditions. -/
theorem slice_arr_total {α : Type} {h : Heap α} {a : Arr} {loc dims : Idx} {step : Option Idx}
    (hr : Reach a.v) (hok : ArrOK h a) (ok : SliceOK a.v.dims loc dims (stepOr a.v.dims.length step)) :
    ∃ b, slice a loc dims step = .ok b ∧ Reach b.v ∧ ArrOK h b ∧ b.v.dims = dims := by
  obtain ⟨w, hw, hrw, hd, _⟩ := slice_total hr ok
  have hs : slice a loc dims step = .ok { a with v := w } := by
    simp [slice, hw, bind, Except.bind, pure, Except.pure]
  exact ⟨_, hs, hrw, hok.slice hs, hd⟩

/-! ### T3 — write footprints -/

/-- **set_footprint.** `Set` through a reachable view at an in-bounds index never panics; afterwards the storage
`a.sid` equals the old one updated at position `base + Index(loc)` (an existing position) with `x`, every other
storage is unchanged, and the number of storages is unchanged. -/
theorem set_footprint {α : Type} {h : Heap α} {a : Arr} (hr : Reach a.v) (hok : ArrOK h a) {loc : Idx}
    (hloc : InBounds loc a.v.dims) (x : α) :
    ∃ p s h', a.v.index loc = .ok p ∧ 0 ≤ p ∧ h[a.sid]? = some s ∧ (a.base + p).toNat < s.length ∧
      set h a loc x = .ok h' ∧
      h'[a.sid]? = some (s.set (a.base + p).toNat x) ∧ (∀ t : Nat, t ≠ a.sid → h'[t]? = h[t]?) ∧
      h'.length = h.length := by
  have g := reach_geo hr
  obtain ⟨h0, hlt⟩ := addr_bounds g hloc
  have hp := index_addr g loc (Nat.le_of_eq hloc.length)
  have hset := set_addr g hok hloc x
  obtain ⟨s, hs, hl⟩ := hok.store
  have hb := hok.base_nonneg
  have hf := hok.fits
  refine ⟨_, s, _, hp, h0, hs, by omega, hset, ?_, fun t ht => ?_, (sameShape_setStore _ _ _ _).1⟩
  · rw [getElem?_setStore]; simp [hs]
  · rw [getElem?_setStore, if_neg (fun e : a.sid = t => ht e.symm)]

/-- **set_preserves.** `Set` (whenever it does not panic — no hypotheses) keeps the shape of the heap, hence the window
conditions of every array. -/
theorem set_preserves {α : Type} {h h' : Heap α} {a : Arr} {loc : Idx} {x : α} (hs : set h a loc x = .ok h') :
    SameShape h h' ∧ ∀ c : Arr, ArrOK h c → ArrOK h' c :=
  ⟨set_sameShape hs, fun _ hc => hc.sameShape (set_sameShape hs)⟩

/-- **apply_paths_agree.** `Apply(loc, dim, step, vals)` — the 1-D run write — on a reachable array satisfying the
window conditions, for an in-bounds run (`loc` in bounds, `step ≥ 1`, `vals` non-empty, last element
`loc[dim] + (len-1)·step` inside the extent): on EVERY path (contiguous fast path `copy(Impl[start:start+len], vals)` of
the Go back-end, element loop of the Go back-end, element loop of the C back-end) the result is that of the element
loop `Set(loc + k·step·e_dim, vals[k])`, `k = 0 … len-1` — the fast path never changes the answer. -/
theorem apply_paths_agree {α : Type} {h : Heap α} {a : Arr} (hr : Reach a.v) (hok : ArrOK h a) {loc : Idx} {d : Nat}
    {step : Int} {vals : List α} {D l : Int} (hloc : InBounds loc a.v.dims) (hD : a.v.dims[d]? = some D)
    (hl : loc[d]? = some l) (hne : vals ≠ []) (hstep : 1 ≤ step)
    (hlast : l + ((vals.length : Int) - 1) * step < D) :
    apply h a loc (d : Int) step vals = setSeq h a (runPairs loc d l step 0 vals) ∧
      ∃ h', apply h a loc (d : Int) step vals = .ok h' := by
  obtain ⟨hd, okS⟩ := run_sliceOK hloc hD hl hne hstep hlast
  have b := bulk_apply (reach_geo hr) hok hd okS hl
  obtain ⟨h', e, _⟩ := b.wrote (reach_geo hr) hok
  rw [runPairs_eq_zip, setSeq_zip]
  exact ⟨b.eq, h', e⟩

/-- **apply_footprint.** Under the hypotheses of `apply_paths_agree`, `Apply` never panics and changes exactly the
addressed elements: the heap keeps its shape; for every `k < len(vals)` the index `loc + k·step·e_dim` is in bounds and
the storage cell it addresses (`base + Index(·)` of storage `a.sid`) holds `vals[k]` afterwards; every other cell of
every storage is unchanged. Holds on the fast path, the loop path and for the C back-end alike. -/
theorem apply_footprint {α : Type} {h : Heap α} {a : Arr} (hr : Reach a.v) (hok : ArrOK h a) {loc : Idx} {d : Nat}
    {step : Int} {vals : List α} {D l : Int} (hloc : InBounds loc a.v.dims) (hD : a.v.dims[d]? = some D)
    (hl : loc[d]? = some l) (hne : vals ≠ []) (hstep : 1 ≤ step)
    (hlast : l + ((vals.length : Int) - 1) * step < D) :
    ∃ h', apply h a loc (d : Int) step vals = .ok h' ∧ SameShape h h' ∧
      (∀ (k : Nat) (hk : k < vals.length), InBounds (loc.set d (l + k * step)) a.v.dims ∧
        ∃ p, a.v.index (loc.set d (l + k * step)) = .ok p ∧
          cell h' a.sid (a.base + p).toNat = some vals[k]) ∧
      (∀ t q : Nat, (t ≠ a.sid ∨ ∀ k : Nat, k < vals.length →
          ∀ p, a.v.index (loc.set d (l + k * step)) = .ok p → q ≠ (a.base + p).toNat) →
        cell h' t q = cell h t q) := by
  have g := reach_geo hr
  obtain ⟨hd, okS⟩ := run_sliceOK hloc hD hl hne hstep hlast
  obtain ⟨h', he, w⟩ := apply_wrote g hok hd okS hl
  obtain ⟨hin, hout⟩ := w.footprint g
  exact ⟨h', he, w.shape, fun k hk => hin _ _ ⟨k, hk, rfl, rfl⟩,
    fun t q hne => hout t q (hne.imp id fun h2 i x ⟨k, hk, hi, _⟩ p hp => h2 k hk p (hi ▸ hp))⟩

/-- **apply_empty.** `Apply` with no values at an in-bounds `loc` (any `step`) changes nothing and does not panic, on
every path (the slice it builds has a zero extent; `Contiguous()` is total on it). -/
theorem apply_empty {α : Type} {h : Heap α} {a : Arr} (hr : Reach a.v) (hok : ArrOK h a) {loc : Idx} {d : Nat}
    (step : Int) (hloc : InBounds loc a.v.dims) (hd : d < a.v.dims.length) :
    apply h a loc (d : Int) step ([] : List α) = .ok h :=
  apply_nil (reach_geo hr) hok step hloc hd

/-- **applySlice_footprint.** `ApplySlice(loc, step, src)` — the sub-array write — for a reachable destination `a`
and a reachable source `src`, both satisfying the window conditions, an in-bounds request
(`SliceOK a.dims loc src.dims step`) and **source and destination in different storages (`src.sid ≠ a.sid`; the
overlapping case is excluded: there the fast path is a `memmove` and the loop a sequential copy, which differ)**:
on every path (Go contiguous fast path `copy(slice.Unroll(), vals.Unroll())` with either an aliasing or a gathered
source, Go element loop, C element loop) `ApplySlice` never panics, the heap keeps its shape, and afterwards
* for every in-bounds `i` of the source, the destination cell addressed by `loc + i ⊙ step` holds the source's element
  `i` (as read before the call),
* every other cell of every storage — in particular the whole source storage — is unchanged. -/
theorem applySlice_footprint {α : Type} {h : Heap α} {a src : Arr} (hr : Reach a.v) (hok : ArrOK h a)
    (hrs : Reach src.v) (hoks : ArrOK h src) (hdisj : src.sid ≠ a.sid) {loc : Idx} {step : Option Idx}
    (okS : SliceOK a.v.dims loc src.v.dims (stepOr a.v.dims.length step)) :
    ∃ h', applySlice h a loc step src = .ok h' ∧ SameShape h h' ∧
      (∀ i, InBounds i src.v.dims → ∃ p x, a.v.index (affine loc i (stepOr a.v.dims.length step)) = .ok p ∧
        get h src i = .ok x ∧ cell h' a.sid (a.base + p).toNat = some x) ∧
      (∀ t q : Nat, (t ≠ a.sid ∨ ∀ i, InBounds i src.v.dims →
          ∀ p, a.v.index (affine loc i (stepOr a.v.dims.length step)) = .ok p → q ≠ (a.base + p).toNat) →
        cell h' t q = cell h t q) := by
  have g := reach_geo hr
  have gs := reach_geo hrs
  obtain ⟨h', he, w⟩ := applySlice_wrote g hok gs hoks hdisj okS
  obtain ⟨hin, hout⟩ := w.footprint g
  refine ⟨h', he, w.shape, fun i hi => ?_,
    fun t q hne => hout t q (hne.imp id fun h2 i' x ⟨i, ⟨hi, _⟩, e⟩ p hp => h2 i hi p (e ▸ hp))⟩
  obtain ⟨x, _, gx⟩ := get_addr gs hoks hi
  obtain ⟨_, p, hp, hc⟩ := hin _ x ⟨i, ⟨hi, gx⟩, rfl⟩
  exact ⟨p, x, hp, gx, hc⟩

/-- **applySlice_source_unchanged.** Under the hypotheses of `applySlice_footprint`, every element of the source reads
the same after the call as before. -/
theorem applySlice_source_unchanged {α : Type} {h : Heap α} {a src : Arr} (hr : Reach a.v) (hok : ArrOK h a)
    (hrs : Reach src.v) (hoks : ArrOK h src) (hdisj : src.sid ≠ a.sid) {loc : Idx} {step : Option Idx}
    (okS : SliceOK a.v.dims loc src.v.dims (stepOr a.v.dims.length step)) :
    ∃ h', applySlice h a loc step src = .ok h' ∧ ∀ i, InBounds i src.v.dims → get h' src i = get h src i := by
  obtain ⟨h', he, w⟩ := applySlice_wrote (reach_geo hr) hok (reach_geo hrs) hoks hdisj okS
  exact ⟨h', he, fun i hi => (w.visible (reach_geo hr) hok (reach_geo hrs) hoks hi).2 (.inl hdisj)⟩

/-- **copyFrom_footprint.** `CopyFrom(other)` for two reachable arrays of the same shape in different storages
(**overlapping storages excluded by hypothesis**): never panics, keeps the heap's shape, afterwards the storage cell of
the destination's element `i` (`base + Index_a(i)`) holds element `i` of `other` for every in-bounds `i`, and every
other cell of every storage (in particular all of `other`'s storage) is unchanged. -/
theorem copyFrom_footprint {α : Type} {h : Heap α} {a src : Arr} (hr : Reach a.v) (hok : ArrOK h a)
    (hrs : Reach src.v) (hoks : ArrOK h src) (hdisj : src.sid ≠ a.sid) (hshape : src.v.dims = a.v.dims) :
    ∃ h', copyFrom h a src = .ok h' ∧ SameShape h h' ∧
      (∀ i, InBounds i a.v.dims → ∃ p x, a.v.index i = .ok p ∧ get h src i = .ok x ∧
        cell h' a.sid (a.base + p).toNat = some x) ∧
      (∀ t q : Nat, (t ≠ a.sid ∨ ∀ i, InBounds i a.v.dims → ∀ p, a.v.index i = .ok p → q ≠ (a.base + p).toNat) →
        cell h' t q = cell h t q) := by
  have g := reach_geo hr
  have gs := reach_geo hrs
  obtain ⟨h', he, w⟩ := copyFrom_wrote g hok gs hoks hdisj hshape
  obtain ⟨hin, hout⟩ := w.footprint g
  refine ⟨h', he, w.shape, fun i hi => ?_,
    fun t q hne => hout t q (hne.imp id fun h2 i x ⟨hi, _⟩ p hp => h2 i hi p hp)⟩
  obtain ⟨x, _, gx⟩ := get_addr gs hoks (hshape ▸ hi)
  obtain ⟨_, p, hp, hc⟩ := hin i x ⟨hi, gx⟩
  exact ⟨p, x, hp, gx, hc⟩

/-! ### T4 — a write is visible through every overlapping view -/

/-- **write_visible.** After `Set(loc, x)` through view `a`, `Get(j)` through ANY reachable array `b` on the same
storage (any chain of slices, any window) at an in-bounds `j` returns `x` if `j` addresses the written storage
position (`b.base + Index_b(j) = a.base + Index_a(loc)`) and the value it returned before the write otherwise.
Nothing panics. -/
theorem write_visible {α : Type} {h : Heap α} {a b : Arr} (ha : Reach a.v) (hb : Reach b.v)
    (oka : ArrOK h a) (okb : ArrOK h b) (hsid : b.sid = a.sid) {loc j : Idx}
    (hloc : InBounds loc a.v.dims) (hj : InBounds j b.v.dims) (x : α) :
    ∃ h' pa pb, set h a loc x = .ok h' ∧ a.v.index loc = .ok pa ∧ b.v.index j = .ok pb ∧
      get h' b j = if b.base + pb = a.base + pa then .ok x else get h b j := by
  have ga := reach_geo ha
  obtain ⟨pb, hpb, hitV, missV⟩ := (wrote_set ga oka hloc x).visible_index ga oka (reach_geo hb) okb hj
  have hpa := index_addr ga loc (Nat.le_of_eq hloc.length)
  refine ⟨_, _, pb, set_addr ga oka hloc x, hpa, hpb, ?_⟩
  by_cases e : b.base + pb = a.base + addr a.v loc
  · rw [if_pos e]
    exact hitV loc x ⟨rfl, rfl⟩ _ hpa hsid e
  · rw [if_neg e]
    refine missV (Or.inr fun i y t pa hp => ?_)
    rw [t.1, hpa] at hp
    exact Except.ok.inj hp ▸ e

/-- **write_visible_same_window.** The usual case: `b` has the same `Impl` window as `a` (both were sliced, through
any chains, from one array). Then `Get_b(j)` after `Set_a(loc, x)` is `x` if `Index_b(j) = Index_a(loc)`, and what it was
before otherwise. -/
theorem write_visible_same_window {α : Type} {h : Heap α} {a b : Arr} (ha : Reach a.v) (hb : Reach b.v)
    (oka : ArrOK h a) (okb : ArrOK h b) (hsid : b.sid = a.sid) (hbase : b.base = a.base) {loc j : Idx}
    (hloc : InBounds loc a.v.dims) (hj : InBounds j b.v.dims) (x : α) :
    ∃ h' pa pb, set h a loc x = .ok h' ∧ a.v.index loc = .ok pa ∧ b.v.index j = .ok pb ∧
      get h' b j = if pb = pa then .ok x else get h b j := by
  obtain ⟨h', pa, pb, h1, h2, h3, h4⟩ := write_visible ha hb oka okb hsid hloc hj x
  refine ⟨h', pa, pb, h1, h2, h3, ?_⟩
  rw [h4, hbase]
  simp only [Int.add_right_inj]

/-- **write_visible_self.** Reading back through the writing view: `Get_a(j)` after `Set_a(loc, x)` is `x` if `j = loc`,
and what it was before otherwise (uses injectivity of `Index` on in-bounds indices). -/
theorem write_visible_self {α : Type} {h : Heap α} {a : Arr} (ha : Reach a.v) (oka : ArrOK h a) {loc j : Idx}
    (hloc : InBounds loc a.v.dims) (hj : InBounds j a.v.dims) (x : α) [DecidableEq Idx] :
    ∃ h', set h a loc x = .ok h' ∧ get h' a j = if j = loc then .ok x else get h a j := by
  have ga := reach_geo ha
  obtain ⟨hitV, missV⟩ := (wrote_set ga oka hloc x).visible ga oka ga oka hj
  refine ⟨_, set_addr ga oka hloc x, ?_⟩
  by_cases e : j = loc
  · rw [if_pos e]
    exact hitV loc x ⟨rfl, rfl⟩ rfl (e ▸ rfl)
  · rw [if_neg e]
    exact missV (.inr fun i y t heq => e (addr_inj ga hj (t.1 ▸ hloc) (Int.add_left_cancel (t.1 ▸ heq))))

/-- **interleaved_writes_visible_partial.** (`_partial`: the histories are sequences of `Set` ONLY — `WriteOp` is one `Set`
request. The same conclusion for histories whose writes are any of `Set | Apply | ApplySlice | CopyFrom` is
`C01Bulk.interleaved_bulk_writes_visible`, with source and destination of a two-array write in different storages.)
All interleavings of reads and `Set`s through any views: after ANY sequence of
`Set`s, each through its own reachable array (any chain of slices, any storage, either back-end) at an in-bounds
index, nothing has panicked, the heap has kept its shape (so every array keeps its window conditions), and a `Get`
through ANY reachable array `b` at an in-bounds `j` returns the value of the LAST write of the sequence that addressed
the same storage cell (`sameCell`: same storage and `b.base + Index_b(j) = a.base + Index_a(loc)`), or — if there is
none — what it returned before the sequence. Reads do not change the heap, so this covers reads placed after every
prefix of the writes. -/
theorem interleaved_writes_visible_partial {α : Type} (ops : List (WriteOp α)) (h : Heap α)
    (hops : ∀ op ∈ ops, Reach op.arr.v ∧ ArrOK h op.arr ∧ InBounds op.loc op.arr.v.dims) :
    ∃ h', setMany h ops = .ok h' ∧ SameShape h h' ∧
      ∀ (b : Arr) (j : Idx), Reach b.v → ArrOK h b → InBounds j b.v.dims →
        get h' b j = readBack ops b j (get h b j) := by
  obtain ⟨h', e, s, v⟩ := runOps_visible (ops.map WriteOp.toWOp) h (fun op hm => by
    obtain ⟨w, hw, rfl⟩ := List.mem_map.mp hm
    exact hops w hw)
  rw [runOps_sets] at e
  exact ⟨h', e, s, fun b j rb okb hj => by rw [v b j rb okb hj, readBackOps_sets]⟩

/-- the address used by `sameCell` is the one `Index` returns -/
theorem sameCell_iff {α : Type} (op : WriteOp α) (b : Arr) (j : Idx) (ha : Reach op.arr.v) (hb : Reach b.v)
    (hloc : InBounds op.loc op.arr.v.dims) (hj : InBounds j b.v.dims) :
    sameCell op b j ↔ b.sid = op.arr.sid ∧
      ∃ pa pb, op.arr.v.index op.loc = .ok pa ∧ b.v.index j = .ok pb ∧ b.base + pb = op.arr.base + pa := by
  have e1 := index_addr (reach_geo ha) op.loc (by rw [hloc.length])
  have e2 := index_addr (reach_geo hb) j (by rw [hj.length])
  constructor
  · rintro ⟨h1, h2⟩; exact ⟨h1, _, _, e1, e2, h2⟩
  · rintro ⟨h1, pa, pb, h2, h3, h4⟩
    rw [e1] at h2; rw [e2] at h3
    injection h2 with h2; injection h3 with h3
    subst h2 h3
    exact ⟨h1, h4⟩

/-! ### window conditions: established by the constructors, preserved by every operation -/

/-- **window_conditions_preserved.** The window conditions `ArrOK` of an array depend on the heap only through its
shape (number and lengths of storages): they are preserved by `Slice` (same heap, new view), and — for every array —
by any heap change that keeps the shape, which `Set` always does (`set_preserves`) and `Apply`, `ApplySlice`,
`CopyFrom` do under the hypotheses of their footprint theorems (`SameShape` is part of each conclusion). -/
theorem window_conditions_preserved {α : Type} {h h' : Heap α} {a b : Arr} {loc dims : Idx} {step : Option Idx} :
    (ArrOK h a → slice a loc dims step = .ok b → ArrOK h b) ∧ (SameShape h h' → ArrOK h a → ArrOK h' a) :=
  ⟨fun ok hs => ok.slice hs, fun s ok => ok.sameShape s⟩

/-- **constructors_ok.** The arrays made by `NewArray`, `arrayFromSlice` (Go back-end) and `New<T>CArray` (C back-end)
on a non-empty shape with extents ≥ 1 are reachable roots satisfying the window conditions (for the two `from…`
constructors: provided the given storage holds `Π dims` elements; for C additionally `Π dims ≤ 1<<30`). -/
theorem constructors_ok {α : Type} (zero : α) (h : Heap α) {dims : Idx} (hne : dims ≠ []) (hpos : Pos dims) :
    (∃ a, newArray zero h dims = .ok (h ++ [List.replicate (product dims).toNat zero], a) ∧ a.sid = h.length ∧
        a.v.dims = dims ∧ Reach a.v ∧ ArrOK (h ++ [List.replicate (product dims).toNat zero]) a) ∧
    (∀ sid s, h[sid]? = some s → product dims ≤ s.length →
        ∃ a, fromStore h sid dims = .ok a ∧ a.sid = sid ∧ a.v.dims = dims ∧ Reach a.v ∧ ArrOK h a) ∧
    (∀ sid s, h[sid]? = some s → product dims ≤ s.length → product dims ≤ 1073741824 →
        ∃ a, fromC h sid dims = .ok a ∧ a.sid = sid ∧ a.v.dims = dims ∧ Reach a.v ∧ ArrOK h a) := by
  refine ⟨?_, fun sid s hs hf => ?_, fun sid s hs hf hb => ?_⟩
  · obtain ⟨a, h1, rfl, h3, h4⟩ := arrOK_newArray zero h hne hpos
    exact ⟨_, h1, rfl, rfl, h3, h4⟩
  · obtain ⟨a, h1, rfl, h3, h4⟩ := arrOK_fromStore hne hpos hs hf
    exact ⟨_, h1, rfl, rfl, h3, h4⟩
  · obtain ⟨a, h1, rfl, h3, h4⟩ := arrOK_fromC hne hpos hs hf hb
    exact ⟨_, h1, rfl, rfl, h3, h4⟩

/-! ### Non-vacuity: `arange(24)` → `slice([1],[10],[2])` → `slice([2],[3],[3])`, and a stepped 2-D chain -/

section Examples

/-- storage 0 = `arange(24)` -/
def h24 : Heap Int := [(List.range 24).map Int.ofNat]
def a24 : Arr := ⟨rootView [24] 0, 0, 0, 24, false⟩
/-- `a24.slice([1],[10],[2])`: elements 1,3,…,19 -/
def s1 : Arr := { a24 with v := ⟨[24], [10], 1, [1], [2], [2]⟩ }
/-- `s1.slice([2],[3],[3])`: elements 5,11,17 -/
def s2 : Arr := { a24 with v := ⟨[24], [3], 5, [1], [6], [6]⟩ }

example : fromStore h24 0 [24] = .ok a24 := by decide
example : slice a24 [1] [10] (some [2]) = .ok s1 ∧ slice s1 [2] [3] (some [3]) = .ok s2 := by decide

theorem ok1 : SliceOK a24.v.dims [1] [10] (stepOr a24.v.dims.length (some [2])) := by simp [a24, rootView, stepOr]
theorem ok2 : SliceOK s1.v.dims [2] [3] (stepOr s1.v.dims.length (some [3])) := by simp [s1, stepOr]
theorem reach_a24 : Reach a24.v := .root (dims := [24]) (by simp) (by simp [Pos]) rfl
theorem reach_s1 : Reach s1.v := .slice reach_a24 ok1 rfl
theorem reach_s2 : Reach s2.v := .slice reach_s1 ok2 rfl
theorem arrOK_a24 : ArrOK h24 a24 := ⟨⟨_, rfl, by decide⟩, by decide, by decide, by decide⟩
theorem arrOK_s1 : ArrOK h24 s1 := arrOK_a24.slice (loc := [1]) (dims := [10]) (step := some [2]) rfl
theorem arrOK_s2 : ArrOK h24 s2 := arrOK_s1.slice (loc := [2]) (dims := [3]) (step := some [3]) rfl

/-- `slice_index` instantiated on the nested stepped slice: element 2 of `s2` is element `2 + 2·3 = 8` of `s1`,
which is element `1 + 8·2 = 17` of the root -/
example : s2.v.index [2] = s1.v.index (affine [2] [2] [3]) := slice_index reach_s1 ok2 rfl [2] rfl
example : s2.v.index [2] = .ok 17 ∧ s1.v.index [8] = .ok 17 ∧ affine [2] [2] [3] = [8] := by decide

/-- `chain_index` instantiated: the chain does not panic, ends in `s2.v`, and the composed index of `[2]` is `[17]` -/
example : ChainOK a24.v.dims [([1], [10], some [2]), ([2], [3], some [3])] := ⟨ok1, ok2, trivial⟩
example : sliceChain a24.v [([1], [10], some [2]), ([2], [3], some [3])] = .ok s2.v ∧
    chainIndex 1 [([1], [10], some [2]), ([2], [3], some [3])] [2] = [17] ∧
    (∀ k ∈ [0, 1, 2], s2.v.index [k] = a24.v.index (chainIndex 1 [([1], [10], some [2]), ([2], [3], some [3])] [k])) := by
  decide

/-- `get_slice` instantiated: the slice reads 5, 11, 17 — the parent's elements at 2, 5, 8 -/
example : (get h24 s2 [1]) = get h24 s1 (affine [2] [1] [3]) :=
  (get_slice h24 reach_s1 ok2 (by decide) [1] rfl).1
example : [get h24 s2 [0], get h24 s2 [1], get h24 s2 [2]] = [.ok 5, .ok 11, .ok 17] ∧
    [get h24 s1 [2], get h24 s1 [5], get h24 s1 [8]] = [.ok 5, .ok 11, .ok 17] := by decide

/-- `set_footprint` / `write_visible` instantiated: writing 99 at `s2[1]` changes exactly storage position 11;
it is seen through `a24` at `[11]` and through `s1` at `[5]`, and nowhere else -/
example : set h24 s2 [1] 99 = .ok [((List.range 24).map Int.ofNat).set 11 99] := by decide
example : ∃ h', set h24 s2 [1] 99 = .ok h' ∧ get h' a24 [11] = .ok 99 ∧ get h' s1 [5] = .ok 99 ∧
    get h' s1 [4] = .ok 9 ∧ get h' s2 [0] = .ok 5 ∧ get h' s2 [2] = .ok 17 := ⟨_, rfl, by decide⟩
example : ∃ h' pa pb, set h24 s2 [1] 99 = .ok h' ∧ s2.v.index [1] = .ok pa ∧ s1.v.index [5] = .ok pb ∧
    get h' s1 [5] = if pb = pa then .ok 99 else get h24 s1 [5] :=
  write_visible_same_window reach_s2 reach_s1 arrOK_s2 arrOK_s1 rfl rfl (by simp [s2]) (by simp [s1]) 99

/-- `root_index_bijection` on the shape `[2, 3]` (the constructor's root view) -/
example := root_index_bijection (D := [2, 3]) (v := rootView [2, 3] 0) (by simp) (by simp [Pos]) rfl
example : (rootView [2, 3] 0).index [1, 2] = .ok 5 ∧ ravel [1, 2] [2, 3] = 5 ∧ unravel 5 [2, 3] = [1, 2] := by decide

/-- `index_inbounds` / `index_inj` / `get_reads_cell` on the nested stepped slice `s2` (elements 5, 11, 17 of 24) -/
example : ∃ p, s2.v.index [2] = .ok p ∧ 0 ≤ p ∧ p < product s2.v.orig := index_inbounds reach_s2 (by simp [s2])
example (h : s2.v.index [0] = s2.v.index [2]) : ([0] : Idx) = [2] := index_inj reach_s2 (by simp [s2]) (by simp [s2]) h
example : s2.v.index [0] ≠ s2.v.index [2] := by decide
example : ∃ p x, s2.v.index [1] = .ok p ∧ 0 ≤ p ∧ p < product s2.v.orig ∧
    cell h24 s2.sid (s2.base + p).toNat = some x ∧ get h24 s2 [1] = .ok x :=
  get_reads_cell reach_s2 arrOK_s2 (by simp [s2])

/-- `set_preserves` on the write of 99 at `s2[1]`; `apply_empty` on `s1` (no values, any step: nothing changes) -/
example := set_preserves (h := h24) (a := s2) (loc := [1]) (x := (99 : Int)) (h' := [((List.range 24).map Int.ofNat).set 11 99])
  (by decide)
example : apply h24 s1 [3] ((0 : Nat) : Int) 7 ([] : List Int) = .ok h24 :=
  apply_empty reach_s1 arrOK_s1 7 (by simp [s1]) (by simp [s1])

/-- `constructors_ok` on the shape `[2, 3]` over the heap `h24` (a fresh zero storage; the existing storage 0 as a Go
slice and as a C buffer) -/
example := constructors_ok (0 : Int) h24 (dims := [2, 3]) (by simp) (by simp [Pos])
example : ∃ a, fromC h24 0 [2, 3] = .ok a ∧ a.sid = 0 ∧ a.v.dims = [2, 3] ∧ Reach a.v ∧ ArrOK h24 a :=
  (constructors_ok (0 : Int) h24 (dims := [2, 3]) (by simp) (by simp [Pos])).2.2 0 _ rfl (by decide) (by decide)

/-- `SliceInto` composed as in an earlier version of /repo/data/arrays.go: `Start` from `Offset` instead of `OffsetStep`,
and the parent's step multiplied into `Offset` as well as into `Step`, hence applied twice. -/
def sliceIntoOld (v : View) (loc dims : Idx) (step : Option Idx) : R View := do
  let d ← dotProduct loc v.offset
  let off ← multiply v.offset v.step
  let st ← match step with
    | none => pure v.step
    | some s => multiply v.step s
  let os ← multiply st off
  pure { orig := v.orig, dims := dims, start := v.start + d, offset := off, step := st, offStep := os }

/-- **old_composition_counterexample.** With the composition `sliceIntoOld` the same nested slice addresses element 27 of a
24-element array (a panic in Go), where the affine law requires element 17. -/
theorem old_composition_counterexample :
    (do let w1 ← sliceIntoOld a24.v [1] [10] (some [2])
        let w2 ← sliceIntoOld w1 [2] [3] (some [3])
        w2.index [2]) = .ok 27 ∧
    (do let w1 ← a24.v.sliceInto [1] [10] (some [2])
        let w2 ← w1.sliceInto [2] [3] (some [3])
        w2.index [2]) = .ok 17 := by decide

/-- a rank-2 instance with `step = nil` on the inner slice: `[4,6]` → `slice([1,0],[2,3],[1,2])` → `slice([0,1],[2,2],nil)`;
element `[1,1]` of the innermost view is root element `[2,4]` = address 16 -/
example : ∃ r w1 w2, View.root [4, 6] = .ok r ∧ r.sliceInto [1, 0] [2, 3] (some [1, 2]) = .ok w1 ∧
    w1.sliceInto [0, 1] [2, 2] none = .ok w2 ∧ SliceOK r.dims [1, 0] [2, 3] (stepOr 2 (some [1, 2])) ∧
    SliceOK w1.dims [0, 1] [2, 2] (stepOr 2 none) ∧
    w2.index [1, 1] = .ok 16 ∧ r.index [2, 4] = .ok 16 ∧
    chainIndex 2 [([1, 0], [2, 3], some [1, 2]), ([0, 1], [2, 2], none)] [1, 1] = [2, 4] :=
  ⟨_, _, _, rfl, rfl, rfl, by simp [stepOr], by simp [stepOr, uniform], by decide, by decide, by decide⟩

/-- `interleaved_writes_visible_partial` instantiated: three writes through three different views of one storage; position 11
is written twice (through `s2[1]` then through `s1[5]`) — every view reads the last value -/
def ops3 : List (WriteOp Int) := [⟨s2, [1], 99⟩, ⟨s1, [5], 77⟩, ⟨a24, [3], 55⟩]
example : ∃ h', setMany h24 ops3 = .ok h' ∧ SameShape h24 h' ∧
    ∀ (b : Arr) (j : Idx), Reach b.v → ArrOK h24 b → InBounds j b.v.dims →
      get h' b j = readBack ops3 b j (get h24 b j) :=
  interleaved_writes_visible_partial ops3 h24 (by
    intro op ho
    simp only [ops3, List.mem_cons, List.not_mem_nil, or_false] at ho
    rcases ho with rfl | rfl | rfl
    · exact ⟨reach_s2, arrOK_s2, by simp [s2]⟩
    · exact ⟨reach_s1, arrOK_s1, by simp [s1]⟩
    · exact ⟨reach_a24, arrOK_a24, by simp [a24, rootView]⟩)
example : ∃ h', setMany h24 ops3 = .ok h' ∧ get h' a24 [11] = .ok 77 ∧ get h' s2 [1] = .ok 77 ∧
    get h' s1 [1] = .ok 55 ∧ get h' s1 [4] = .ok 9 ∧
    readBack ops3 s2 [1] (get h24 s2 [1]) = .ok 77 ∧ readBack ops3 s1 [4] (get h24 s1 [4]) = .ok 9 :=
  ⟨_, rfl, by decide⟩

/-- a `4 × 6` array of zeros in storage 0, and a `2 × 3` source `[[1,2,3],[4,5,6]]` in storage 1 -/
def hB : Heap Int := [List.replicate 24 0, [1, 2, 3, 4, 5, 6]]
def a46 : Arr := ⟨rootView [4, 6] 0, 0, 0, 24, false⟩
def c46 : Arr := { a46 with isC := true }
def src23 : Arr := ⟨rootView [2, 3] 0, 1, 0, 6, false⟩

theorem reach_a46 : Reach a46.v := .root (dims := [4, 6]) (by simp) (by simp [Pos]) rfl
theorem reach_src23 : Reach src23.v := .root (dims := [2, 3]) (by simp) (by simp [Pos]) rfl
theorem arrOK_a46 : ArrOK hB a46 := ⟨⟨_, rfl, by decide⟩, by decide, by decide, by decide⟩
theorem arrOK_c46 : ArrOK hB c46 := ⟨⟨_, rfl, by decide⟩, by decide, by decide, by decide⟩
theorem arrOK_src23 : ArrOK hB src23 := ⟨⟨_, rfl, by decide⟩, by decide, by decide, by decide⟩

/-- `apply_footprint` / `apply_paths_agree` instantiated: a stepped run along the last axis (loop path), a unit-step run
along the last axis (contiguous fast path) and a run along the first axis; Go and C back-ends give the same heap -/
example : ∃ h', apply hB a46 [1, 1] (1 : Nat) 2 [7, 8, 9] = .ok h' ∧ SameShape hB h' :=
  let ⟨h', e, s, _⟩ := apply_footprint (l := 1) (D := 6) reach_a46 arrOK_a46 (by simp [a46, rootView]) rfl rfl
    (by simp) (by decide) (by decide)
  ⟨h', e, s⟩
example : apply hB a46 [1, 1] 1 2 [7, 8, 9] =
    .ok [[0,0,0,0,0,0, 0,7,0,8,0,9, 0,0,0,0,0,0, 0,0,0,0,0,0], [1, 2, 3, 4, 5, 6]] ∧
    apply hB a46 [2, 1] 1 1 [7, 8, 9] =
    .ok [[0,0,0,0,0,0, 0,0,0,0,0,0, 0,7,8,9,0,0, 0,0,0,0,0,0], [1, 2, 3, 4, 5, 6]] ∧
    apply hB a46 [0, 2] 0 1 [7, 8, 9, 6] =
    .ok [[0,0,7,0,0,0, 0,0,8,0,0,0, 0,0,9,0,0,0, 0,0,6,0,0,0], [1, 2, 3, 4, 5, 6]] ∧
    apply hB c46 [1, 1] 1 2 [7, 8, 9] = apply hB a46 [1, 1] 1 2 [7, 8, 9] ∧
    apply hB c46 [2, 1] 1 1 [7, 8, 9] = apply hB a46 [2, 1] 1 1 [7, 8, 9] := by
  -- each program is evaluated once: the C back-end results are compared with the values `?e1`, `?e2`
  refine ⟨?e1, ?e2, ?_, Eq.trans ?_ (Eq.symm ?e1), Eq.trans ?_ (Eq.symm ?e2)⟩ <;> decide +kernel

/-- the hypothesis `1 ≤ step` of `apply_paths_agree` is needed: for `step = -1` (or `0`) `Contiguous()` only tests
`Step > 1`, so the Go back-end takes the fast path and writes FORWARD from `loc`, while the element loop (C back-end)
writes backward (or, for `step = 0`, repeatedly at `loc`). Outside the property's quantifier (steps ≥ 1). -/
example : apply h24 a24 [5] 0 (-1) [100, 101, 102] =
      .ok [((((List.range 24).map Int.ofNat).set 5 100).set 6 101).set 7 102] ∧
    apply h24 { a24 with isC := true } [5] 0 (-1) [100, 101, 102] =
      .ok [((((List.range 24).map Int.ofNat).set 5 100).set 4 101).set 3 102] := by decide +kernel

/-- `applySlice_footprint` instantiated: the `2 × 3` source written at `loc = [1,0]`, `step = [2,2]` lands at
`(1,0),(1,2),(1,4),(3,0),(3,2),(3,4)`; with `step = nil` at `loc = [2,3]` it is contiguous row by row only (loop path);
Go and C back-ends agree; the source storage is untouched -/
theorem okS_B : SliceOK a46.v.dims [1, 0] src23.v.dims (stepOr a46.v.dims.length (some [2, 2])) := by
  simp [a46, src23, rootView, stepOr]
example : ∃ h', applySlice hB a46 [1, 0] (some [2, 2]) src23 = .ok h' ∧ SameShape hB h' :=
  let ⟨h', e, s, _⟩ := applySlice_footprint reach_a46 arrOK_a46 reach_src23 arrOK_src23 (by decide) okS_B
  ⟨h', e, s⟩
example : applySlice hB a46 [1, 0] (some [2, 2]) src23 =
    .ok [[0,0,0,0,0,0, 1,0,2,0,3,0, 0,0,0,0,0,0, 4,0,5,0,6,0], [1, 2, 3, 4, 5, 6]] ∧
    applySlice hB a46 [2, 3] none src23 =
    .ok [[0,0,0,0,0,0, 0,0,0,0,0,0, 0,0,0,1,2,3, 0,0,0,4,5,6], [1, 2, 3, 4, 5, 6]] ∧
    applySlice hB c46 [1, 0] (some [2, 2]) src23 = applySlice hB a46 [1, 0] (some [2, 2]) src23 ∧
    applySlice hB c46 [2, 3] none src23 = applySlice hB a46 [2, 3] none src23 := by
  refine ⟨?e1, ?e2, Eq.trans ?_ (Eq.symm ?e1), Eq.trans ?_ (Eq.symm ?e2)⟩ <;> decide +kernel

/-- the fast path of `ApplySlice` (destination contiguous: a full-width block of rows) with a contiguous (aliased) and
with a gathered source: `[4,6]` ← rows 1..2 from a `2 × 6` source -/
example : let hS : Heap Int := [List.replicate 24 0, (List.range 12).map Int.ofNat]
    let s26 : Arr := ⟨rootView [2, 6] 0, 1, 0, 12, false⟩
    applySlice hS a46 [1, 0] none s26 =
      .ok [[0,0,0,0,0,0, 0,1,2,3,4,5, 6,7,8,9,10,11, 0,0,0,0,0,0], (List.range 12).map Int.ofNat] ∧
    applySlice hS c46 [1, 0] none s26 = applySlice hS a46 [1, 0] none s26 ∧
    applySlice hS a46 [1, 0] none { s26 with isC := true } = applySlice hS a46 [1, 0] none s26 := by
  refine ⟨?e, Eq.trans ?_ (Eq.symm ?e), Eq.trans ?_ (Eq.symm ?e)⟩ <;> decide +kernel +revert

/-- `copyFrom_footprint` instantiated on two `2 × 3` arrays in different storages -/
example : let hC : Heap Int := [List.replicate 6 0, [1, 2, 3, 4, 5, 6]]
    let d23 : Arr := ⟨rootView [2, 3] 0, 0, 0, 6, false⟩
    copyFrom hC d23 src23 = .ok [[1, 2, 3, 4, 5, 6], [1, 2, 3, 4, 5, 6]] := by decide +kernel

/-- the exclusion `src.sid ≠ a.sid` of `applySlice_footprint` is needed: copying elements `0..2` of a storage onto
elements `1..3` of the SAME storage, the Go fast path (`copy` = memmove) gives `0 0 1 2`, the element loop of the C
back-end gives `0 0 0 0` -/
example : let a : Arr := ⟨rootView [6] 0, 0, 0, 24, false⟩
    let s : Arr := ⟨⟨[6], [3], 0, [1], [1], [1]⟩, 0, 0, 24, false⟩
    (do let h' ← applySlice h24 a [1] none s; (List.range 4).mapM (fun k => get h' a [Int.ofNat k])) = .ok [0, 0, 1, 2] ∧
    (do let h' ← applySlice h24 { a with isC := true } [1] none s
        (List.range 4).mapM (fun k => get h' a [Int.ofNat k])) = .ok [0, 0, 0, 0] := by decide +kernel

end Examples

end OW.Props.C01
