import OW.Props.C19
import OW.Proofs.RealNum
import Mathlib.Algebra.Order.Floor.Ring
import Mathlib.Tactic.NormNum
/-!
C19, model level at `α := ℝ` — the catalogue model `DateGenerator` takes its start date as three FLOAT parameters and
truncates them with `int(·)`; its outputs are the integers of `OW.Dates.run` converted back. For integer-valued parameters
the four float output series are `rows.map ofInt` of the rows of `generator_spec` (`model_spec` of OW.Props.C19 with its
truncation hypothesis discharged at ℝ). Non-integer parameters are truncated toward zero first (29.9 → 29);
`int(NaN)` / `int(±Inf)` are implementation-defined in Go and outside every statement here.
-/
namespace OW.Props.C19
open OW OW.Kernels OW.Dates OW.Spec.Calendar

/-- `int(float64(n)) = n` at ℝ: truncation toward zero of an integer-valued real gives the integer back -/
theorem toInt_ofInt_real (n : Int) : Num.toInt (Num.ofInt n : ℝ) = n :=
  RealNum.toInt_intCast n

/-- **model_spec_real — `DateGenerator.model.run` on integer-valued parameters.** For integers `d m y` forming a valid date and
any tick series, the catalogue model run at ℝ with parameters `(d:ℝ), (m:ℝ), (y:ℝ)` does not panic and returns the four series
`rows.map (↑·.date)`, `rows.map (↑·.month)`, `rows.map (↑·.year)`, `rows.map (↑·.doy)`, where `rows` are the rows of
`generator_spec`: one per tick, the `k`-th the valid Gregorian date with ordinal `ordinal start + k` and its day of year. -/
theorem model_spec_real (d m y : Int) (hv : Valid d m y) (tick : List ℝ) :
    ∃ rows : List Row, run tick.length ⟨d, m, y⟩ = some rows ∧ rows.length = tick.length ∧
      (DateGenerator.model (α := ℝ)).run [(d:ℝ), (m:ℝ), (y:ℝ)] [tick] [] =
        .ok { outputs := [rows.map (fun r => (r.date:ℝ)), rows.map (fun r => (r.month:ℝ)),
                          rows.map (fun r => (r.year:ℝ)), rows.map (fun r => (r.doy:ℝ))], states := [] } ∧
      ∀ k (hk : k < rows.length),
        Valid rows[k].date rows[k].month rows[k].year ∧
        ordinal rows[k].date rows[k].month rows[k].year = ordinal d m y + k ∧
        rows[k].doy = ordinal rows[k].date rows[k].month rows[k].year - jan1 rows[k].year + 1 :=
  model_spec (α := ℝ) toInt_ofInt_real d m y hv tick

/-- the parameters are truncated toward zero first: 28.9 / 2.5 / 1900.99 start on 28 Feb 1900 -/
example : Num.toInt (28.9 : ℝ) = 28 ∧ Num.toInt (2.5 : ℝ) = 2 ∧ Num.toInt (1900.99 : ℝ) = 1900 := by
  refine ⟨?_, ?_, ?_⟩ <;>
  · show (if (0:ℝ) ≤ _ then ⌊_⌋ else ⌈_⌉) = _
    rw [if_pos (by norm_num)]
    rw [Int.floor_eq_iff]; constructor <;> norm_num

/-- non-vacuity: three ticks from 28 Feb 1900 (not a leap year) — 28 Feb, 1 Mar, 2 Mar; day of year 59, 60, 61 -/
example (a b c : ℝ) : (DateGenerator.model (α := ℝ)).run [28, 2, 1900] [[a, b, c]] [] =
    .ok { outputs := [[28, 1, 2], [2, 3, 3], [1900, 1900, 1900], [59, 60, 61]], states := [] } := by
  obtain ⟨rows, hr, _, hrun, _⟩ := model_spec_real 28 2 1900 (by decide) [a, b, c]
  have hrows : rows = [⟨28, 2, 1900, 59⟩, ⟨1, 3, 1900, 60⟩, ⟨2, 3, 1900, 61⟩] := by
    have : run 3 ⟨28, 2, 1900⟩ = some [⟨28, 2, 1900, 59⟩, ⟨1, 3, 1900, 60⟩, ⟨2, 3, 1900, 61⟩] := by decide
    simp only [List.length_cons, List.length_nil] at hr
    rw [this] at hr
    exact (Option.some.inj hr).symm
  subst hrows
  have e : ([28, 2, 1900] : List ℝ) = [((28:Int):ℝ), ((2:Int):ℝ), ((1900:Int):ℝ)] := by norm_num
  rw [e, hrun]
  norm_num

end OW.Props.C19
