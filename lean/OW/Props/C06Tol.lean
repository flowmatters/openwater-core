import OW.Proofs.HotStartStorageRouting
/-!
C06 — StorageRouting, the tolerance clause ("to within the solver's own mass-balance tolerance"): what is PROVED.

Proved (ℝ): the FIRST timestep after a cut, `storageRouting_split_tol_step_partial`; its docstring gives the full statement
`storageRouting_split_tol` (NOT proved) and what is missing. For whole runs the clause is checked by the KSPLIT oracle only.
-/
namespace OW.Props.C06
open OW OW.Kernels OW.Kernels.StorageRouting OW.Proofs.StorageRouting

attribute [-simp] OW.RealNum.ofNat_eq

/-- **StorageRouting, tolerance clause — PARTIAL: the first timestep after a cut.**

Full statement (NOT proved): `storageRouting_split_tol` — for every split, at every timestep after the cut, storage and outflow
of the split run and of the one-call run differ by at most a bound f(massBalanceLimit, Δt), given that every solve of both runs
ends within the tolerance. What is missing: the propagation through the LATER timesteps — after the first one the two runs carry
different storages, so one needs that one routing step does not expand a storage difference (the exact implicit step is
non-expansive for a non-decreasing index storage, but each solve adds up to 2·tolerance, so the honest bound grows with the
number of timesteps after the cut), and the monotonicity of `SIndex` (hypothesis `hmono` here; it holds when the switch between
the linear extension and the power law is continuous) would have to be proved from the parameter ranges.

Proved (ℝ): two `calcOutflow` calls with the SAME inflow, lateral flow, previous storage, evaporation and routing constants but
DIFFERENT seeds `prevQi` (and different dead `prevOutflow`) — which by `storageRouting_split` (OW/Props/C06.lean) / `storageRouting_step_reads` (OW/Proofs/ScanShapes.lean) is
exactly how the one-call run and the second call of a split run enter the first timestep after the cut. If bias < 0.999,
Δt > 0, `SIndex` is non-decreasing, and whenever a call exits through the root finder its result closes the balance within
`massBalanceLimit` (the `prev-qi` and `mid-qi` exits check that themselves; for `root` see C11 `root_converges_partial`), then
the two reported storages differ by less than 2·massBalanceLimit and the two outflows by less than 2·massBalanceLimit/Δt. -/
theorem storageRouting_split_tol_step_partial
    (inflow lateral bias prevQi prevQi' po po' prevStorage ner area dead dur rp rc ql kl ko : ℝ) (r r' : CO ℝ)
    (hb : bias < 0.999) (hd : 0 < dur)
    (hmono : ∀ a b : ℝ, a ≤ b →
      sIndex (mkCtx inflow lateral bias prevStorage ner area dead dur rp rc ql kl ko) a ≤
      sIndex (mkCtx inflow lateral bias prevStorage ner area dead dur rp rc ql kl ko) b)
    (h : calcOutflow inflow lateral bias prevQi po prevStorage ner area dead dur rp rc ql kl ko = .ok r)
    (h' : calcOutflow inflow lateral bias prevQi' po' prevStorage ner area dead dur rp rc ql kl ko = .ok r')
    (hroot : r.tag = "root" →
      |(rr (mkCtx inflow lateral bias prevStorage ner area dead dur rp rc ql kl ko) r.qi).massBalance| < massBalanceLimit)
    (hroot' : r'.tag = "root" →
      |(rr (mkCtx inflow lateral bias prevStorage ner area dead dur rp rc ql kl ko) r'.qi).massBalance| < massBalanceLimit) :
    |r.storage - r'.storage| < 2 * massBalanceLimit ∧ |r.outflow - r'.outflow| < 2 * massBalanceLimit / dur := by
  have hpos : (0:ℝ) < 2 * massBalanceLimit := by have := mbl_pos; linarith
  have hposd : (0:ℝ) < 2 * massBalanceLimit / dur := div_pos hpos hd
  have same : r.storage = r'.storage → r.outflow = r'.outflow →
      |r.storage - r'.storage| < 2 * massBalanceLimit ∧ |r.outflow - r'.outflow| < 2 * massBalanceLimit / dur := by
    intro e1 e2
    rw [e1, e2, sub_self, sub_self, abs_zero]
    exact ⟨hpos, hposd⟩
  generalize hc : mkCtx inflow lateral bias prevStorage ner area dead dur rp rc ql kl ko = c at hmono hroot hroot'
  have hcb : c.bias = bias := by rw [← hc]; rfl
  have hcd : c.duration = dur := by rw [← hc]; rfl
  -- the tests before `solve` do not read the seed: both calls leave through the same exit
  rw [calcOutflow_real hc] at h h'
  split_ifs at h h'
  · cases h
    cases h'
    exact same rfl rfl
  · cases h
    cases h'
    exact same rfl rfl
  · cases h
    cases h'
    exact same rfl rfl
  -- both calls reach `solve`
  rcases solve_shape c _ _ _ r h hroot with ⟨o1, s1, m1⟩ | ⟨m1, q, hq, o1, s1⟩ <;>
    rcases solve_shape c _ _ _ r' h' hroot' with ⟨o2, s2, m2⟩ | ⟨m2, q', hq', o2, s2⟩
  · exact same (by rw [s1, s2]) (by rw [o1, o2])
  · exact absurd m1 (not_lt.mpr m2)
  · exact absurd m2 (not_lt.mpr m1)
  · rw [o1, o2, s1, s2, ← hcd]
    exact two_index_flows c q q' (by rw [hcb]; exact hb) (by rw [hcd]; exact hd) hmono hq hq'

/-- non-vacuity, on the numbers of `hotstart_StorageRouting_counterexample` (k = 1 s, Δt = 1 s, power 1, no bias; storage 1 m³,
inflow 1.0005 m³/s): seed 1 (one-call run, exit `prev-qi`, storage 1) against seed 0 (second call of the split run, exit `mid-qi`,
storage 1.00025): all hypotheses hold, and the difference 0.00025 is indeed below 2e-3. -/
example : |(1:ℝ) - 4001 / 4000| < 2 * massBalanceLimit ∧ |(2001 / 2000 : ℝ) - 4001 / 4000| < 2 * massBalanceLimit / 1 := by
  have hmono : ∀ a b : ℝ, a ≤ b →
      sIndex (mkCtx (2001 / 2000) 0 0 1 0 0 0 1 1 1 0 1 0) a ≤ sIndex (mkCtx (2001 / 2000 : ℝ) 0 0 1 0 0 0 1 1 1 0 1 0) b := by
    intro a b hab
    have e : mkCtx (2001 / 2000 : ℝ) 0 0 1 0 0 0 1 1 1 0 1 0 = srCtx (2001 / 2000) 1 := rfl
    rw [e, srCtx_sIndex, srCtx_sIndex]
    exact max_le_max hab le_rfl
  have := storageRouting_split_tol_step_partial (2001 / 2000) 0 0 1 0 1 0 1 0 0 0 1 1 1 0 1 0 _ _ (by norm_num) (by norm_num)
    hmono (sr_calc_B 1) (sr_calc_C 0) (by intro h; exact absurd h (by decide)) (by intro h; exact absurd h (by decide))
  simpa using this

end OW.Props.C06
