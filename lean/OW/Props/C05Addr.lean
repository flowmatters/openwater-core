import OW.Props.C05
import OW.Proofs.C05Addr
/-!
C05 at ADDRESS level — the footprints of the per-cell goroutines are DERIVED from the storage positions the template's
views address, and composed with the interleaving theorems.

`OW.Props.C05` proves schedule independence for tasks whose footprints are ASSERTED (`OW.Sim.CellTasks`: cell `i` touches
the abstract locations `st i`, `out i`, distinct for distinct `i` by construction). Here the task of cell `i` is the goroutine
body of the VIEW-LEVEL wrapper model (`OW.Sim.WrapperNd.cellStepNd`: `Slice … MustReshape` chains on the n-d array model,
`Get1`/`Set1` through the views), the shared memory is the heap itself, addressed by `(storage id, position)`, and

* item 1, `cell_step_footprint`: what the step WRITES lies in `writesA c i` (row `i` of states, rows `(i,·,·)` of outputs:
  `write_footprint_rows`), what it READS in that set plus the parameters and inputs windows `roA c`, which it does not
  write (`cell_step_leaves_readonly`);
* item 2, `cells_write_sets_disjoint`, from `C04Nd.views_disjoint`: for `i ≠ j` the write sets are disjoint and cell `j` reads
  nothing cell `i` writes;
* item 3, `cells_any_interleaving_addr` (`pool_…` for the worker pool): `C05.disjoint_interleaving` over these addresses with
  `stepA`, whose `frame`/`loc` obligations are the two halves of item 1 — every interleaving ends in the heap of the
  sequential `runNd`, which denotes the list-level `runCells` result (`cells_any_interleaving_addr_runCells`);
* `addr_footprint_refines_rows`: the map address ↦ abstract location sends the derived footprints into the footprint
  `[st i, out i]` that `OW.Sim.CellTasks.cellStepM` declares — the assertion is a theorem.

Items 1 and 2 restate, under the names the documents cite, lemmas of OW/Proofs/C05Foot.lean and C05Addr.lean
(`write_footprint_rows` = `mem_writesA` ∧ `mem_writesA_iff_writeFoot`, `read_only_region` = `mem_roA` ∧
`readOnlyFoot_of_mem_roA`, `cell_step_footprint` = the two fields of `cellFoot`, `cells_write_sets_disjoint` = `writes_avoid`).

Hypotheses, all explicit in `Cfg.OK` / `Cfg.Sep` (OW/Proofs/C05Foot.lean): root arrays (`RootOn`: non-negative `Impl`
offsets, extents ≥ 1), `N ≤ M`, `T ≤ T'`, STORAGE DISJOINTNESS (states ≠ outputs; parameters, inputs ∉ {states, outputs}),
ROW WIDTH (`OK.fits`: the kernel's state vector fits the cell's row, its series fit the output rows), scalar parameters
only (the scope of `wrapperNd_refines`).
-/
namespace OW.Props.C05Addr
open OW OW.Nd OW.Sim OW.Sim.WrapperNd OW.WrapperNd OW.Sim.Interleave OW.C05Addr

section
variable {α : Type} [Num α] {c : Cfg} {km : KModel α} {h0 : Heap α}

omit [Num α] in
/-- **write_footprint_rows.** The write set `writesA c i` is row `i` of states and rows `(i, o, ·)` of outputs, address for
address — and that is `C04Nd.WriteFoot … i`, the positions which `C04Nd.cell_views_states` and
`C04Nd.cell_views_outputs` prove the state view and the output views of cell `i` to alias. -/
theorem write_footprint_rows (ok : c.OK km h0) (i : Nat) (a : Addr) :
    (a ∈ writesA c i ↔ (a.1 = c.S.sid ∧ ∃ s, s < c.nS ∧ a.2 = c.sb + i * c.nS + s) ∨
      (a.1 = c.O.sid ∧ ∃ o t, o < c.nO ∧ t < c.T' ∧ a.2 = c.ob + (i * c.nO + o) * c.T' + t)) ∧
    (a ∈ writesA c i ↔ C04Nd.WriteFoot c.S c.O (c.nS : Int) (c.nO : Int) (c.T' : Int) (i : Int) a.1 a.2) :=
  ⟨mem_writesA, mem_writesA_iff_writeFoot ok.hsb ok.hob i a⟩

/-- **read_only_region.** `roA c` is the window of the parameters array in its storage and the window of the inputs array
in its storage (inside `C04Nd.ReadOnlyFoot`). -/
theorem read_only_region (a : Addr) :
    (a ∈ roA c ↔ (a.1 = c.P.sid ∧ c.pb ≤ a.2 ∧ a.2 < c.pb + c.rows * c.nSets) ∨
      (a.1 = c.I.sid ∧ c.ib ≤ a.2 ∧ a.2 < c.ib + c.nIn * (c.nI * c.T))) ∧
    (a ∈ roA c → C04Nd.ReadOnlyFoot c.P c.I a.1) :=
  ⟨mem_roA, readOnlyFoot_of_mem_roA⟩

/-- **cell_step_footprint** (item 1). The goroutine body of cell `i < N` on the template's views (`cellStepNd`), started
in ANY heap `h` of the shape of `h0`:
* WRITES ⊆ `writesA c i`: if it returns `h'`, then `h'` has the shape of `h` and every address outside `writesA c i` holds
  what it held before (from the frame conjunct of `C04Nd.wrapperNd_refines`);
* READS ⊆ `roA c ∪ writesA c i`: started in any other heap `g` that agrees with `h` on these addresses, it panics with the
  same error, or returns a heap that agrees with `h'` on everything it writes. Whatever else is in the heap — other cells'
  rows, rows `≥ N`, other storages — has no influence on the step. -/
theorem cell_step_footprint (ok : c.OK km h0) {i : Nat} (hi : i < c.N) {h : Heap α} (hs : SameShape h0 h) :
    (∀ h', cellStepNd km.run c.nP c.nI h c.P c.I c.S c.O c.rd (i : Int) = .ok h' →
      SameShape h h' ∧ ∀ a : Addr, a ∉ writesA c i → cell h' a.1 a.2 = cell h a.1 a.2) ∧
    (∀ g, SameShape h0 g → (∀ a : Addr, a ∈ roA c ++ writesA c i → cell h a.1 a.2 = cell g a.1 a.2) →
      (∀ e, cellStepNd km.run c.nP c.nI h c.P c.I c.S c.O c.rd (i : Int) = .error e →
        cellStepNd km.run c.nP c.nI g c.P c.I c.S c.O c.rd (i : Int) = .error e) ∧
      (∀ h', cellStepNd km.run c.nP c.nI h c.P c.I c.S c.O c.rd (i : Int) = .ok h' →
        ∃ g', cellStepNd km.run c.nP c.nI g c.P c.I c.S c.O c.rd (i : Int) = .ok g' ∧
          ∀ a : Addr, a ∈ writesA c i → cell g' a.1 a.2 = cell h' a.1 a.2)) :=
  ⟨fun _ hstep => (cellFoot ok hi).frame hs hstep, fun _ hg hag => (cellFoot ok hi).loc hs hg hag⟩

/-- **cell_step_leaves_readonly.** Under storage disjointness the step writes nothing it shares with other cells: every
address of the parameters and inputs windows holds afterwards what it held before ("which nothing writes"). -/
theorem cell_step_leaves_readonly (ok : c.OK km h0) (sep : c.Sep) {i : Nat} (hi : i < c.N) {h h' : Heap α}
    (hs : SameShape h0 h) (hstep : cellStepNd km.run c.nP c.nI h c.P c.I c.S c.O c.rd (i : Int) = .ok h')
    (a : Addr) (ha : a ∈ roA c) : cell h' a.1 a.2 = cell h a.1 a.2 := by
  refine ((cell_step_footprint ok hi hs).1 h' hstep).2 a (fun hw => ?_)
  rcases mem_roA.mp ha with ⟨hu, _⟩ | ⟨hu, _⟩ <;> rcases mem_writesA.mp hw with ⟨hu', _⟩ | ⟨hu', _⟩
  · exact sep.hps (hu.symm.trans hu')
  · exact sep.hpo (hu.symm.trans hu')
  · exact sep.his (hu.symm.trans hu')
  · exact sep.hio (hu.symm.trans hu')

omit [Num α] in
/-- **cells_write_sets_disjoint** (item 2). Under STORAGE DISJOINTNESS — `ok.hso : states.sid ≠ outputs.sid` and `sep`: the
parameters' and the inputs' storage differ from the states' and from the outputs' storage (the hypotheses of
`C04Nd.views_disjoint`; non-negative offsets and extents ≥ 1 are part of `RootOn`) — for cells `i ≠ j`: no address is written
by both, and nothing cell `i` writes is read by cell `j` (neither in `j`'s own rows nor in the read-only region; the first
conjunct follows from the second). Derived from `C04Nd.views_disjoint` through `mem_writesA_iff_writeFoot` (`writes_avoid`).
Of `ok` only the geometry is used (`rs`, `ro`, `hsb`, `hob`, `hso`). ROW WIDTH (`ok.fits`) is not: it is what makes
`writesA c i` (row `i` only) the write set of cell `i`, and is used in `cell_step_footprint`.
`stepA_noConflict` is the same fact in the vocabulary of `OW.Sim.Interleave`. -/
theorem cells_write_sets_disjoint (ok : c.OK km h0) (sep : c.Sep) {i j : Nat} (hij : i ≠ j) (a : Addr)
    (ha : a ∈ writesA c i) : a ∉ writesA c j ∧ a ∉ roA c ++ writesA c j :=
  ⟨fun h => writes_avoid ok sep hij a ha (List.mem_append_right _ h), writes_avoid ok sep hij a ha⟩

theorem stepA_noConflict (ok : c.OK km h0) (sep : c.Sep) (i j : Nat) (hij : i ≠ j) :
    NoConflict (stepA c km h0 ok i) (stepA c km h0 ok j) :=
  ⟨writes_avoid ok sep hij, writes_avoid ok sep (Ne.symm hij)⟩

/-- **cells_any_interleaving_addr** (item 3). The shared memory is the heap itself, addressed by `(storage id, position)`
(`m` is any memory that holds the cells of `h0`: `rebuild h0 m = h0`, e.g. `memOfHeap d h0`); the task of cell `i` is the ONE
step `stepA … i` = the view-level goroutine body `cellStepNd` with the DERIVED footprint of item 1 (its `frame` and `loc`
obligations are `cell_step_footprint`'s two halves, proved, not declared). If the sequential `Run` of the view-level model
succeeds (`runNd … h0 = .ok h'`: preamble, then cells `0 … N-1` in order), then EVERY interleaving of the `N` per-cell tasks —
every schedule — ends in a memory that denotes exactly that heap `h'`. Through `C05.family_any_interleaving`
(`C05.disjoint_interleaving` for one step per index), whose hypothesis is `stepA_noConflict`, i.e.
`cells_write_sets_disjoint`. -/
theorem cells_any_interleaving_addr (ok : c.OK km h0) (sep : c.Sep) (m : Mem Addr α) (hm : rebuild h0 m = h0)
    {h' : Heap α} (hrun : runNd km.run c.nP c.nI h0 c.P c.I c.S c.O = .ok h')
    (sched : Sched Addr α) (hi : Interleaving (cellTasksA c km h0 ok) sched) :
    rebuild h0 (runSched sched m) = h' := by
  rw [C05.family_any_interleaving _ (stepA_noConflict ok sep) c.N sched hi]
  exact seq_eq_runNd ok m hm hrun

/-- … in permutation form: the cells' steps in ANY order (any permutation of `0 … N-1`) -/
theorem cells_schedule_independent_addr (ok : c.OK km h0) (sep : c.Sep) (m : Mem Addr α) (hm : rebuild h0 m = h0)
    {h' : Heap α} (hrun : runNd km.run c.nP c.nI h0 c.P c.I c.S c.O = .ok h')
    (perm : List Nat) (hp : perm.Perm (List.range c.N)) :
    rebuild h0 (runList (perm.map (stepA c km h0 ok)) m) = h' := by
  rw [C05.perm_runList (stepA c km h0 ok) (stepA_noConflict ok sep) hp
    (hp.nodup_iff.mpr List.nodup_range)]
  exact seq_eq_runNd ok m hm hrun

/-- **pool_cells_any_interleaving_addr.** The bounded worker pool at address level: `groups[w]` are the cell indices worker
`w` received, together exactly `0 … N-1`, each once. Every interleaving of the workers (a worker's task = the address-level
steps of its cells, one after the other) ends in the heap of the sequential `runNd`. -/
theorem pool_cells_any_interleaving_addr (ok : c.OK km h0) (sep : c.Sep) (m : Mem Addr α) (hm : rebuild h0 m = h0)
    {h' : Heap α} (hrun : runNd km.run c.nP c.nI h0 c.P c.I c.S c.O = .ok h')
    (groups : List (List Nat)) (hp : groups.flatten.Perm (List.range c.N)) (sched : Sched Addr α)
    (hi : Interleaving (groups.map (C05.workerTask (cellTasksA c km h0 ok))) sched) :
    rebuild h0 (runSched sched m) = h' := by
  rw [C05.family_pool_any_interleaving _ (stepA_noConflict ok sep) c.N groups hp sched hi]
  exact seq_eq_runNd ok m hm hrun

/-- `C04Nd.runNd_refines` on the storages of `h0` -/
theorem runNd_of_runCells (ok : c.OK km h0) (sep : c.Sep) {ss : List (List α)} {os : List (List (List α))}
    (hrun : runCells km (List.replicate c.nP none) ((List.range c.nP).map fun j => (j, 1))
      (mat (stor h0 c.P.sid) c.pb c.rows c.nSets) (cube (stor h0 c.I.sid) c.ib c.nIn c.nI c.T) 0
      (mat (stor h0 c.S.sid) c.sb c.N c.nS) (cube (stor h0 c.O.sid) c.ob c.M c.nO c.T') = .ok (ss, os)) :
    ∃ h', runNd km.run c.nP c.nI h0 c.P c.I c.S c.O = .ok h' ∧
      mat (stor h' c.S.sid) c.sb c.N c.nS = ss ∧ cube (stor h' c.O.sid) c.ob c.M c.nO c.T' = os ∧
      (∀ u, u ≠ c.S.sid → u ≠ c.O.sid → h'[u]? = h0[u]?) := by
  obtain ⟨h', sst', ost', hnd, _, hS, hO, hoth, hss, hos, _, _⟩ :=
    C04Nd.runNd_refines km ok.rp ok.ri ok.rs ok.ro ok.hpb ok.hib ok.hsb ok.hob (getElem?_stor ok.rp.ok)
      (getElem?_stor ok.ri.ok) (getElem?_stor ok.rs.ok) (getElem?_stor ok.ro.ok) ok.hso sep.hps sep.hpo
      sep.his sep.hio ok.hnP ok.hNM ok.hT ok.fits hrun
  exact ⟨h', hnd, (stor_of_some hS).symm ▸ hss, (stor_of_some hO).symm ▸ hos, hoth⟩

/-- the hypothesis `runNd … = .ok h'` of `cells_any_interleaving_addr` is met whenever the list-level `runCells` succeeds
(`C04Nd.runNd_refines`) -/
theorem runNd_ok_of_runCells (ok : c.OK km h0) (sep : c.Sep) {ss : List (List α)} {os : List (List (List α))}
    (hrun : runCells km (List.replicate c.nP none) ((List.range c.nP).map fun j => (j, 1))
      (mat (stor h0 c.P.sid) c.pb c.rows c.nSets) (cube (stor h0 c.I.sid) c.ib c.nIn c.nI c.T) 0
      (mat (stor h0 c.S.sid) c.sb c.N c.nS) (cube (stor h0 c.O.sid) c.ob c.M c.nO c.T') = .ok (ss, os)) :
    ∃ h', runNd km.run c.nP c.nI h0 c.P c.I c.S c.O = .ok h' :=
  let ⟨h', hnd, _⟩ := runNd_of_runCells ok sep hrun
  ⟨h', hnd⟩

/-- **cells_any_interleaving_addr_runCells.** The same with the hypothesis and the result of `C05.cells_any_interleaving`:
if the LIST-LEVEL vectorised run `runCells` on the row-major denotations of the storages succeeds with `(ss, os)`, then
every interleaving of the address-level per-cell steps ends in a heap whose states storage denotes `ss` and whose outputs
storage denotes `os` (all `M` rows, `T'` timesteps), every other storage being the list it was. So the address-level
model and the asserted-footprint model of `OW.Sim.CellTasks` assign the same result to every schedule. (Composition with
`C04Nd.runNd_refines`.) -/
theorem cells_any_interleaving_addr_runCells (ok : c.OK km h0) (sep : c.Sep) (m : Mem Addr α) (hm : rebuild h0 m = h0)
    {ss : List (List α)} {os : List (List (List α))}
    (hrun : runCells km (List.replicate c.nP none) ((List.range c.nP).map fun j => (j, 1))
      (mat (stor h0 c.P.sid) c.pb c.rows c.nSets) (cube (stor h0 c.I.sid) c.ib c.nIn c.nI c.T) 0
      (mat (stor h0 c.S.sid) c.sb c.N c.nS) (cube (stor h0 c.O.sid) c.ob c.M c.nO c.T') = .ok (ss, os))
    (sched : Sched Addr α) (hi : Interleaving (cellTasksA c km h0 ok) sched) :
    mat (stor (rebuild h0 (runSched sched m)) c.S.sid) c.sb c.N c.nS = ss ∧
    cube (stor (rebuild h0 (runSched sched m)) c.O.sid) c.ob c.M c.nO c.T' = os ∧
    (∀ u, u ≠ c.S.sid → u ≠ c.O.sid → (rebuild h0 (runSched sched m))[u]? = h0[u]?) := by
  obtain ⟨h', hnd, hss, hos, hoth⟩ := runNd_of_runCells ok sep hrun
  rw [cells_any_interleaving_addr ok sep m hm hnd sched hi]
  exact ⟨hss, hos, hoth⟩

open OW.Sim.CellTasks in
/-- **addr_footprint_refines_rows.** The abstraction `absLoc` (a position of the states storage ↦ `st` of its row, a position
of the outputs storage ↦ `out` of its cell, anything else ↦ no location) sends the DERIVED address-level footprint of
cell `i`'s step into the footprint that `OW.Sim.CellTasks.cellStepM … i` DECLARES: every address the step writes is mapped
to `st i` or `out i`; every address it reads is mapped there or is a parameters/inputs position, which has no abstract
location (in `CellTasks` parameters and inputs are arguments, not addresses) and which no cell writes
(`cell_step_leaves_readonly`). With `cells_write_sets_disjoint` (distinct `i` ⇒ disjoint preimages) the assertion of
`CellTasks` — "`st i`, `out i` are distinct memory for distinct `i`, and are all cell `i` touches" — is a theorem about the
view-level model. -/
theorem addr_footprint_refines_rows (ok : c.OK km h0) (sep : c.Sep) (i : Nat) :
    (∀ a, a ∈ (stepA c km h0 ok i).writes → ∃ l, absLoc c a = some l ∧ l ∈ [CAddr.st i, CAddr.out i]) ∧
    (∀ a, a ∈ (stepA c km h0 ok i).foot →
      (∃ l, absLoc c a = some l ∧ l ∈ [CAddr.st i, CAddr.out i]) ∨ (a ∈ roA c ∧ absLoc c a = none)) := by
  refine ⟨fun a ha => absLoc_writes ok.hso ha, fun a ha => ?_⟩
  rcases List.mem_append.mp ha with ha | ha
  · exact Or.inr ⟨ha, absLoc_ro sep ha⟩
  · exact Or.inl (absLoc_writes ok.hso ha)

end

/-! ## Non-vacuity: the concrete heaps and kernels of `C04Nd.ExRefine` (parameters 3×2, inputs 2×2×3, states 3×2 / 3×3,
outputs 4×1×5 — oversized: 4 > 3 cells, 5 > 3 steps), for any element type -/
namespace Ex
open C04Nd.ExRefine OW.Sim.CellTasks
variable {α : Type} [Num α]

/-- the arrays of `C04Nd.ExRefine.heap`: storages 0 (parameters), 1 (inputs), 2 (states), 3 (outputs) -/
def cfg : Cfg :=
  { P := rootArr 0 [((3 : Nat) : Int), ((2 : Nat) : Int)] 6,
    I := rootArr 1 [((2 : Nat) : Int), ((2 : Nat) : Int), ((3 : Nat) : Int)] 12,
    S := rootArr 2 [((3 : Nat) : Int), ((2 : Nat) : Int)] 6,
    O := rootArr 3 [((4 : Nat) : Int), ((1 : Nat) : Int), ((5 : Nat) : Int)] 20,
    rows := 3, nSets := 2, nIn := 2, nI := 2, T := 3, N := 3, nS := 2, M := 4, nO := 1, T' := 5, nP := 3,
    pb := 0, ib := 0, sb := 0, ob := 0 }

omit [Num α] in
theorem cfg_ok (z : α) : cfg.OK (toyKm (α := α)) (heap z) where
  rp := root32 z rfl
  ri := root223 z rfl
  rs := root32 z rfl
  ro := root415 z rfl
  hpb := rfl
  hib := rfl
  hsb := rfl
  hob := rfl
  hso := by decide
  hnP := by decide
  hNM := by decide
  hT := by decide
  fits := toyKm_fits

theorem cfg_sep : cfg.Sep := ⟨by decide, by decide, by decide, by decide⟩

-- the footprints of cell 2, as addresses: state row 2 = positions 4, 5 of storage 2; output row (2,0,·) = positions
-- 10 … 14 of storage 3; the read-only region = all of storages 0 and 1
example : writesA cfg 2 = [(2, 4), (2, 5), (3, 10), (3, 11), (3, 12), (3, 13), (3, 14)] := by decide
example : roA cfg = (List.range 6).map (fun k => (0, k)) ++ (List.range 12).map (fun k => (1, k)) := by decide
example : absLoc cfg (2, 5) = some (CAddr.st 2) ∧ absLoc cfg (3, 12) = some (CAddr.out 2) ∧ absLoc cfg (1, 7) = none := by
  decide
/-- what `OW.Sim.CellTasks` declares for cell `i` -/
example (spec : ParamSpec) (lay : List (Nat × Nat)) (params : List (List α)) (inputs : List (List (List α))) (i : Nat) :
    (cellStepM toyKm spec lay params inputs i).writes = [CAddr.st i, CAddr.out i] ∧
    (cellStepM toyKm spec lay params inputs i).reads = [CAddr.st i, CAddr.out i] := ⟨rfl, rfl⟩

-- item 1 on cell 2
example (z : α) := write_footprint_rows (cfg_ok z) 2
example (z : α) := cell_step_footprint (cfg_ok z) (i := 2) (by decide) (SameShape.refl _)
-- the step of cell 2 does run on this heap (it is not the error branch that makes the statements true)
example (z : α) : ∃ h', cellStepNd (toyKm (α := α)).run cfg.nP cfg.nI (heap z) cfg.P cfg.I cfg.S cfg.O cfg.rd (2 : Nat) = .ok h' := by
  have hL : cellStepL cfg toyKm (heap z) 2 = .ok ([z, z], [[z, z, z, z, z]]) := by with_unfolding_all rfl
  obtain ⟨h', hstep, _⟩ := (step_spec (cfg_ok z) (SameShape.refl _) (i := 2) (by decide)).2 _ hL
  exact ⟨h', hstep⟩

-- item 2 on cells 0 and 2
example (z : α) := cells_write_sets_disjoint (cfg_ok z) cfg_sep (i := 0) (j := 2) (by decide)
example (z : α) := stepA_noConflict (cfg_ok z) cfg_sep 0 2 (by decide)
example (z : α) := addr_footprint_refines_rows (cfg_ok z) cfg_sep 2

/-- a schedule that is NOT the sequential one is an interleaving of the three address-level tasks: cell 2, cell 0, cell 1 -/
theorem sched_201 (z : α) : Interleaving (cellTasksA cfg toyKm (heap z) (cfg_ok z))
    [(2, stepA cfg toyKm (heap z) (cfg_ok z) 2), (0, stepA cfg toyKm (heap z) (cfg_ok z) 0),
     (1, stepA cfg toyKm (heap z) (cfg_ok z) 1)] := by
  have r3 : List.range cfg.N = [0, 1, 2] := by decide
  unfold cellTasksA
  rw [r3]
  refine Interleaving.step 2 _ [] rfl ?_
  refine Interleaving.step 0 _ [] rfl ?_
  refine Interleaving.step 1 _ [] rfl ?_
  exact Interleaving.done (by simp)

/-- item 3: all hypotheses are met (`toy_runCells`: the list-level run succeeds, hence `runNd` does), so for EVERY
interleaving — in particular `sched_201` — the final memory denotes the heap of the sequential `runNd` … -/
example (z : α) : ∃ h', runNd (toyKm (α := α)).run cfg.nP cfg.nI (heap z) cfg.P cfg.I cfg.S cfg.O = .ok h' ∧
    (∀ sched, Interleaving (cellTasksA cfg toyKm (heap z) (cfg_ok z)) sched →
      rebuild (heap z) (runSched sched (memOfHeap z (heap z))) = h') ∧
    rebuild (heap z) (runSched [(2, stepA cfg toyKm (heap z) (cfg_ok z) 2), (0, stepA cfg toyKm (heap z) (cfg_ok z) 0),
      (1, stepA cfg toyKm (heap z) (cfg_ok z) 1)] (memOfHeap z (heap z))) = h' := by
  obtain ⟨h', hnd⟩ := runNd_ok_of_runCells (cfg_ok z) cfg_sep (toy_runCells z)
  exact ⟨h', hnd, fun sched hi => cells_any_interleaving_addr (cfg_ok z) cfg_sep _ (rebuild_memOfHeap z _) hnd sched hi,
    cells_any_interleaving_addr (cfg_ok z) cfg_sep _ (rebuild_memOfHeap z _) hnd _ (sched_201 z)⟩

/-- … which denotes the list-level `runCells` result, and the permutation form -/
example (z : α) := cells_any_interleaving_addr_runCells (cfg_ok z) cfg_sep _ (rebuild_memOfHeap z _) (toy_runCells z) _
  (sched_201 z)
example (z : α) (h' : Heap α) (hnd : runNd (toyKm (α := α)).run cfg.nP cfg.nI (heap z) cfg.P cfg.I cfg.S cfg.O = .ok h') :=
  cells_schedule_independent_addr (cfg_ok z) cfg_sep _ (rebuild_memOfHeap z _) hnd [2, 0, 1] (by decide)

-- a pool of two workers: worker 0 gets cells 2 and 0, worker 1 gets cell 1
example (z : α) (h' : Heap α) (hnd : runNd (toyKm (α := α)).run cfg.nP cfg.nI (heap z) cfg.P cfg.I cfg.S cfg.O = .ok h') :=
  pool_cells_any_interleaving_addr (cfg_ok z) cfg_sep _ (rebuild_memOfHeap z _) hnd [[2, 0], [1]] (by decide)

/-! #### the same on a REGISTRY kernel: `OW.Kernels.Muskingum.model` (2 inputs, 3 states, 1 output) on `heapM` -/

def cfgM : Cfg := { cfg with S := rootArr 2 [((3 : Nat) : Int), ((3 : Nat) : Int)] 9, nS := 3 }

theorem cfgM_ok (z : α) : cfgM.OK (Kernels.Muskingum.model (α := α)) (heapM z) where
  rp := root32 z rfl
  ri := root223 z rfl
  rs := root33 z rfl
  ro := root415 z rfl
  hpb := rfl
  hib := rfl
  hsb := rfl
  hob := rfl
  hso := by decide
  hnP := by decide
  hNM := by decide
  hT := by decide
  fits := muskingum_fits 3

theorem cfgM_sep : cfgM.Sep := ⟨by decide, by decide, by decide, by decide⟩

example : writesA cfgM 1 = [(2, 3), (2, 4), (2, 5), (3, 5), (3, 6), (3, 7), (3, 8), (3, 9)] := by decide
example (z : α) := cell_step_footprint (cfgM_ok z) (i := 1) (by decide) (SameShape.refl _)
example (z : α) := cells_write_sets_disjoint (cfgM_ok z) cfgM_sep (i := 1) (j := 2) (by decide)
example (z : α) (h' : Heap α)
    (hnd : runNd (Kernels.Muskingum.model (α := α)).run cfgM.nP cfgM.nI (heapM z) cfgM.P cfgM.I cfgM.S cfgM.O = .ok h') :=
  cells_any_interleaving_addr (cfgM_ok z) cfgM_sep _ (rebuild_memOfHeap z (heapM z)) hnd
example (z : α) := addr_footprint_refines_rows (cfgM_ok z) cfgM_sep 1

end Ex

end OW.Props.C05Addr
