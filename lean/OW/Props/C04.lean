import OW.Proofs.Wrapper
import OW.Proofs.WrapperScalar
import OW.Kernels.Coeff
/-!
C04 — vectorised Run equals independent single-cell runs and touches nothing else.
Theorems about the wrapper semantics `OW.Sim.run` (core Lean only), for EVERY kernel model `km`,
every parameter layout `spec`, every number of cells, parameter sets, input blocks and series lengths.
-/
namespace OW.Props.C04
open OW OW.Sim

variable {α : Type} [Num α]

/-- **no input block = Go's integer divide by zero** (the goroutine computes `i % numInputSequences` before it decodes a parameter
or touches an array): the step fails; in particular a successful step had at least one block, so `i % nBlocks` is a block index -/
theorem cellStep_no_blocks (km : KModel α) (spec : ParamSpec) (lay : List (Nat × Nat)) (params : List (List α))
    (i : Nat) (st : List α) (orow : List (List α)) :
    cellStep km spec lay params [] i st orow = .error "int-div-zero" := rfl

/-- **run_decomposes / run_frame (rows).** If the vectorised run succeeds then it produced one state row per
cell, kept the number of output rows, cell `k`'s new state row and output rows are exactly `cellStep` applied to
ITS OWN state row and output rows with index `i + k` (so they do not depend on any other cell's rows — any order
of the cells gives the same result), and output rows of cells that do not run are untouched. -/
theorem runCells_spec (km : KModel α) (spec : ParamSpec) (lay : List (Nat × Nat)) (params : List (List α))
    (inputs : List (List (List α))) :
    ∀ (cells : List (List α)) (outs : List (List (List α))) (i : Nat) (ss : List (List α)) (os : List (List (List α))),
      runCells km spec lay params inputs i cells outs = .ok (ss, os) →
      ss.length = cells.length ∧ os.length = outs.length ∧ cells.length ≤ outs.length ∧
      (∀ k (hk : k < cells.length) (ho : k < outs.length),
          ∃ s' o', cellStep km spec lay params inputs (i + k) cells[k] outs[k] = .ok (s', o') ∧
            ss[k]? = some s' ∧ os[k]? = some o') ∧
      (∀ k, cells.length ≤ k → os[k]? = outs[k]?) :=
  fun cells outs i ss os => (runCells_ok_iff km spec lay params inputs cells outs i ss os).mp

/-- **Cell independence.** `cellStep` for cell `i` reads, of the state and output arrays, only its own rows; so
changing ANY other cell's state row or output rows (here: replacing the whole surrounding lists) cannot change
what cell `i` computes. Stated as: the result is a function of `(params, inputs, i, own state row, own output rows)`. -/
theorem cellStep_own_rows (km : KModel α) (spec : ParamSpec) (lay : List (Nat × Nat)) (params : List (List α))
    (inputs : List (List (List α))) (i : Nat) (st : List α) (orow : List (List α))
    (cells cells' : List (List α)) (outs outs' : List (List (List α))) (k : Nat)
    (h1 : cells[k]? = some st) (h1' : cells'[k]? = some st) (h2 : outs[k]? = some orow) (h2' : outs'[k]? = some orow) :
    (match cells[k]?, outs[k]? with
      | some a, some b => cellStep km spec lay params inputs i a b
      | _, _ => .error "none") =
    (match cells'[k]?, outs'[k]? with
      | some a, some b => cellStep km spec lay params inputs i a b
      | _, _ => .error "none") := by
  rw [h1, h1', h2, h2']

/-- **run_frame (timesteps).** A successful step of cell `i` IS a run of the kernel: there are the parameter column `p`
of the cell (`cellParams`), at least one input block, and a kernel result `r` with
`km.run p inputs[i % nBlocks] st = .ok r` — `r` is the kernel's result, not an arbitrary witness — such that
* the new state row is `st` overwritten by `r.states`: same length, columns `≥ r.states.length` untouched, columns
  below it are `r.states`;
* the new output rows are as many as before; row `o` is the old row overwritten by the kernel's series `o` (same length);
  every element at a timestep `t ≥` (length of the kernel's series `o`; `0` if the kernel returned fewer series) is
  untouched, and the elements below it (inside the row) are the kernel's. -/
theorem cellStep_frame (km : KModel α) (spec : ParamSpec) (lay : List (Nat × Nat)) (params : List (List α))
    (inputs : List (List (List α))) (i : Nat) (st : List α) (orow : List (List α)) (s' : List α) (o' : List (List α))
    (h : cellStep km spec lay params inputs i st orow = .ok (s', o')) :
    s'.length = st.length ∧ o'.length = orow.length ∧ inputs.length ≠ 0 ∧
    ∃ (p : List α) (r : KOut α), cellParams spec lay params i = .ok p ∧
      km.run p (inputs[i % inputs.length]?.getD []) st = .ok r ∧
      s' = overwrite st r.states ∧
      (∀ k, r.states.length ≤ k → s'[k]? = st[k]?) ∧
      (∀ k, k < r.states.length → k < st.length → s'[k]? = r.states[k]?) ∧
      (∀ o (ho : o < orow.length), o'[o]? = some (overwrite orow[o] (r.outputs[o]?.getD []))) ∧
      (∀ (o t : Nat), (r.outputs[o]?.getD []).length ≤ t → (o'[o]?).bind (·[t]?) = (orow[o]?).bind (·[t]?)) ∧
      (∀ (o t : Nat) (ho : o < orow.length), t < (r.outputs[o]?.getD []).length → t < orow[o].length →
        (o'[o]?).bind (·[t]?) = (r.outputs[o]?.getD [])[t]?) := by
  obtain ⟨hb, p, r, hp, hr, hso⟩ := cellStep_ok_iff.mp h
  cases hso
  have hrow := writeRows_getElem? orow r.outputs
  have hlen : (writeRows orow r.outputs).length = orow.length := by
    simpa only [List.length_map] using congrArg List.length (writeRows_shape orow r.outputs)
  refine ⟨overwrite_length _ _, hlen, hb, p, r, hp, hr, rfl, fun k hk => by rw [overwrite_getElem?, if_neg (by omega)],
    fun k hk hk' => by rw [overwrite_getElem?, if_pos ⟨hk, hk'⟩], hrow, fun o t ht => ?_, fun o t ho' ht ht' => ?_⟩
  · by_cases ho' : o < orow.length
    · rw [hrow o ho', List.getElem?_eq_getElem ho', Option.bind_some, Option.bind_some, overwrite_getElem?, if_neg (by omega)]
    · rw [List.getElem?_eq_none (by omega), List.getElem?_eq_none (by omega)]
  · rw [hrow o ho', Option.bind_some, overwrite_getElem?, if_pos ⟨ht, ht'⟩]

/-- **Cyclic reuse of input blocks**: cell `i` is run on input block `i % nBlocks` (when there are blocks). -/
theorem cellStep_input_block (km : KModel α) (spec : ParamSpec) (lay : List (Nat × Nat)) (params : List (List α))
    (inputs : List (List (List α))) (i : Nat) (st : List α) (orow : List (List α)) (p : List α)
    (hp : cellParams spec lay params i = .ok p) (hb : 0 < inputs.length) :
    cellStep km spec lay params inputs i st orow =
      (do let r ← km.run p (inputs[i % inputs.length]'(Nat.mod_lt _ hb)) st
          pure (overwrite st r.states,
            (orow.zip (r.outputs ++ List.replicate (orow.length - r.outputs.length) [])).map
              fun (old, new) => overwrite old new)) := by
  rw [cellStep_of_column (by omega) hp, List.getElem?_eq_getElem (Nat.mod_lt _ hb)]
  rfl

/-- **param_decoding (scalars)**: for a model whose `n` parameters are all scalars and a parameter array with at
least `n` rows, the layout is row `j` for parameter `j`. -/
theorem layout_scalar (n : Nat) (params : List (List α)) (h : n ≤ params.length) :
    layout (List.replicate n none) params = .ok ((List.range n).map fun j => (j, 1)) := by
  unfold layout
  rw [layout_go_scalar params n 0 [] [] (by omega), List.range_eq_range']
  rfl

/-- **param_decoding (scalars)**: cell `i`'s parameter column is `parameters[j][i % nSets]`, `j = 0 … n-1`
(when there are fewer parameter sets than cells they repeat cyclically). -/
theorem cellParams_scalar (n : Nat) (params : List (List α)) (i : Nat)
    (h : ∀ j < n, (pick params i j).isSome) :
    cellParams (List.replicate n none) ((List.range n).map fun j => (j, 1)) params i =
      .ok ((List.range n).filterMap (pick params i)) := by
  exact (cellParams_scalar_iff n params i _).mpr (map_some_filterMap _ _ fun j hj => h j (List.mem_range.mp hj))

/-- **cellStep depends on the parameter array only through the cell's column and on the input array only through the
cell's block**: for ANY spec (tables included), if parameter array `params₁` with layout `lay₁` decodes, for its cell `0`,
to the column `params`/`lay` decode for cell `i`, then cell `i`'s step on the `nBlocks`-block input array equals cell
`0`'s step on the one-block array holding block `i % nBlocks`. -/
theorem cellStep_alone (km : KModel α) (spec : ParamSpec) (lay lay₁ : List (Nat × Nat)) (params params₁ : List (List α))
    (inputs : List (List (List α))) (i : Nat) (st : List α) (orow : List (List α)) (p : List α) (blk : List (List α))
    (hp : cellParams spec lay params i = .ok p) (hp₁ : cellParams spec lay₁ params₁ 0 = .ok p)
    (hblk : inputs[i % inputs.length]? = some blk) :
    cellStep km spec lay params inputs i st orow = cellStep km spec lay₁ params₁ [blk] 0 st orow := by
  have hb : inputs.length ≠ 0 := by
    intro h0
    rw [List.getElem?_eq_none (by omega)] at hblk
    cases hblk
  rw [cellStep_of_column hb hp, cellStep_of_column (by simp) hp₁, hblk]
  rfl

/-- **single_cell_eq (any spec, the column given).** Let the N-cell `Run` on given states succeed with `out`. For every
cell `i` that runs there are its state row `st`, its output rows `orow`, its input block `blk = inputs[i % nBlocks]` and
its parameter column `p`, and for EVERY one-cell parameter array `params₁` that `FindDimensions`/`ApplyParameters` decode
(for its only cell) to the same column `p`: `Run` with ONE cell on `params₁`, the one block `blk`, the one state row `st`
and the one cell's output rows `orow` succeeds and returns exactly cell `i`'s part of `out`. -/
theorem single_cell_eq_of_column (km : KModel α) (spec : ParamSpec) (x : RunIn α) (states : List (List α))
    (hx : x.states = some states) (out : RunOut α) (h : run km spec x = .ok out) (i : Nat) (hi : i < states.length) :
    ∃ (lay : List (Nat × Nat)) (p st : List α) (orow blk : List (List α)) (s' : List α) (o' : List (List α)),
      layout spec x.params = .ok lay ∧ cellParams spec lay x.params i = .ok p ∧
      states[i]? = some st ∧ x.outputs[i]? = some orow ∧ x.inputs[i % x.inputs.length]? = some blk ∧
      out.states[i]? = some s' ∧ out.outputs[i]? = some o' ∧
      ∀ (params₁ : List (List α)) (lay₁ : List (Nat × Nat)), layout spec params₁ = .ok lay₁ →
        cellParams spec lay₁ params₁ 0 = .ok p →
        run km spec { params := params₁, inputs := [blk], states := some [st], nCells := 1, outputs := [orow] } =
          .ok { outputs := [o'], states := [s'] } := by
  obtain ⟨lay, s0, hl, hs, hr⟩ := (run_ok_iff km spec x out).mp h
  simp only [startStates, hx] at hs
  cases hs
  obtain ⟨_, _, hle, hstep, _⟩ := runCells_spec km spec lay x.params x.inputs states x.outputs 0 _ _ hr
  have hio : i < x.outputs.length := by omega
  obtain ⟨s', o', hc, hs', ho'⟩ := hstep i hi hio
  rw [Nat.zero_add] at hc
  obtain ⟨hb, p, _, hp, _⟩ := cellStep_ok_iff.mp hc
  have hm : i % x.inputs.length < x.inputs.length := Nat.mod_lt _ (by omega)
  refine ⟨lay, p, states[i], x.outputs[i], x.inputs[i % x.inputs.length], s', o', hl, hp,
    List.getElem?_eq_getElem hi, List.getElem?_eq_getElem hio, List.getElem?_eq_getElem hm, hs', ho', ?_⟩
  intro params₁ lay₁ hl₁ hp₁
  rw [cellStep_alone km spec lay lay₁ x.params params₁ x.inputs i states[i] x.outputs[i] p _ hp hp₁
    (List.getElem?_eq_getElem hm)] at hc
  exact (run_ok_iff km spec _ _).mpr ⟨lay₁, [states[i]], hl₁, rfl, runCells_cons_ok_iff.mpr ⟨s', o', [], [], hc, rfl, rfl, rfl⟩⟩

/-- the column `p` as a parameter array with ONE parameter set: row `j` is `[p[j]]` -/
def oneSet (p : List α) : List (List α) := p.map fun v => [v]

omit [Num α] in
theorem pick_oneSet (p : List α) (j : Nat) : pick (oneSet p) 0 j = p[j]? := by
  unfold pick oneSet
  rw [List.getElem?_map]
  cases p[j]? <;> simp

theorem cellParams_oneSet (p : List α) :
    layout (List.replicate p.length none) (oneSet p) = .ok ((List.range p.length).map fun j => (j, 1)) ∧
    cellParams (List.replicate p.length none) ((List.range p.length).map fun j => (j, 1)) (oneSet p) 0 = .ok p := by
  refine ⟨layout_scalar p.length (oneSet p) (by simp [oneSet]), ?_⟩
  refine (cellParams_scalar_iff p.length (oneSet p) 0 p).mpr (List.ext_getElem? fun j => ?_)
  rw [funext (pick_oneSet p), List.getElem?_map, List.getElem?_map]
  by_cases hj : j < p.length
  · simp only [List.getElem?_range hj, List.getElem?_eq_getElem hj, Option.map_some]
  · rw [List.getElem?_eq_none (by omega), List.getElem?_eq_none (by simp only [List.length_range]; omega)]
    rfl

/-- **single_cell_eq** (specs with `n` scalar parameters). Let the vectorised `Run` on `N` cells (given states; a
parameter array with at least `n` rows, any number of parameter sets and input blocks, both reused cyclically; output
array possibly oversized) succeed with `out`. Then for every cell `i < N`: with `p` the cell's own parameter column
(`p[j] = parameters[j][i % nSets]`), `blk = inputs[i % nBlocks]` its input block, `st` its state row and `orow` its output
rows, `Run` ALONE — one cell, the one-set parameter array `oneSet p`, the one block `blk`, the one state row, the one
cell's output rows — succeeds and returns exactly cell `i`'s state row and output rows of `out`. -/
theorem single_cell_eq (km : KModel α) (n : Nat) (x : RunIn α) (states : List (List α)) (hx : x.states = some states)
    (hn : n ≤ x.params.length) (out : RunOut α) (h : run km (List.replicate n none) x = .ok out) (i : Nat)
    (hi : i < states.length) :
    ∃ (p st : List α) (orow blk : List (List α)) (s' : List α) (o' : List (List α)),
      p.length = n ∧ (∀ j, j < n → pick x.params i j = p[j]?) ∧
      states[i]? = some st ∧ x.outputs[i]? = some orow ∧ x.inputs[i % x.inputs.length]? = some blk ∧
      out.states[i]? = some s' ∧ out.outputs[i]? = some o' ∧
      run km (List.replicate n none)
          { params := oneSet p, inputs := [blk], states := some [st], nCells := 1, outputs := [orow] } =
        .ok { outputs := [o'], states := [s'] } := by
  obtain ⟨lay, p, st, orow, blk, s', o', hl, hp, h1, h2, h3, h4, h5, hall⟩ :=
    single_cell_eq_of_column km _ x states hx out h i hi
  rw [layout_scalar n x.params hn] at hl
  injection hl with hl
  subst hl
  obtain ⟨hlen, hpick⟩ := cellParams_scalar_length n x.params i p hp
  obtain ⟨q1, q2⟩ := cellParams_oneSet p
  rw [hlen] at q1 q2
  exact ⟨p, st, orow, blk, s', o', hlen, hpick, h1, h2, h3, h4, h5, hall (oneSet p) _ q1 q2⟩

section Example
example (km : KModel α) (spec : ParamSpec) :
    runCells km spec [] [] [] 0 [] [[[]]] = .ok ([], [[[]]]) := rfl

/-- the REGISTRY kernel `RunoffCoefficient` on 3 cells, 2 parameter sets (`a`, `b`), 2 input blocks of 2 timesteps, an
oversized output array (4 cell rows, 3 timesteps, sentinel `e`), over any arithmetic -/
def xC (a b u v w z e : α) : RunIn α :=
  { params := [[a, b]], inputs := [[[u, v]], [[w, z]]], states := some [[], [], []], nCells := 3,
    outputs := [[[e, e, e]], [[e, e, e]], [[e, e, e]], [[e, e, e]]] }

/-- the vectorised run succeeds: cells 0 and 2 use set 0 / block 0, cell 1 uses set 1 / block 1; timestep 2 of every row
and row 3 keep the sentinel -/
theorem xC_run (a b u v w z e : α) : run (Kernels.Coeff.model (α := α)) [none] (xC a b u v w z e) =
    .ok { outputs := [[[a * u, a * v, e]], [[b * w, b * z, e]], [[a * u, a * v, e]], [[e, e, e]]],
          states := [[], [], []] } := by
  simp [run, xC, layout, layout.go, runCells, cellStep, cellParams, cellParams.go, Kernels.Coeff.model, Kernels.Coeff.run,
    overwrite, bind, Except.bind, pure, Except.pure]

example (a b u v w z e : α) :=
  single_cell_eq (Kernels.Coeff.model (α := α)) 1 (xC a b u v w z e) [[], [], []] rfl (Nat.le_refl 1) _
    (xC_run a b u v w z e) 1 (by simp)

/-- the run ALONE of cell 1 of `xC` (its column `[b]` as a one-set array, its block, its rows) is what `single_cell_eq` says -/
example (a b u v w z e : α) : run (Kernels.Coeff.model (α := α)) [none]
    { params := oneSet [b], inputs := [[[w, z]]], states := some [[]], nCells := 1, outputs := [[[e, e, e]]] } =
    .ok { outputs := [[[b * w, b * z, e]]], states := [[]] } := rfl

example (a b u v w z e : α) (s' : List α) (o' : List (List α))
    (h : cellStep (Kernels.Coeff.model (α := α)) [none] [(0, 1)] [[a, b]] [[[u, v]], [[w, z]]] 1 [] [[e, e, e]] = .ok (s', o')) :=
  cellStep_frame _ _ _ _ _ _ _ _ _ _ h

example (km : KModel α) (a : α) : cellStep km [none] [(0, 1)] [[a]] [] 0 [] [] = .error "int-div-zero" := rfl
end Example

end OW.Props.C04
