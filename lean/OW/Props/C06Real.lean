import OW.Props.C06
import OW.Proofs.C12Fine
import OW.Proofs.HotStartSacramento
import OW.Proofs.HotStartStorageRouting
/-!
C06 at ℝ — the four stateful models for which `HotStart` is FALSE as stated (OW/Props/C06.lean): the counter-examples, each
an evaluation of the model on exact reals, and the partial theorems that are stated at ℝ only (Sacramento without spreading;
InstreamFineSediment with a non-negative maximum storage). Kept apart from C06.lean so that what builds on the
model-generic theorems (C06Laws, C14) does not wait for these evaluations; C06N uses them. The side condition
`SacramentoNoSpread` stands with the shape lemma that states it, in OW/Proofs/HotStartSacramento.lean.
-/
namespace OW.Props.C06
open OW OW.Kernels

section Sacramento

/-- Full statement (FALSE for the model and the code; known finding KF-C06-Sacramento-uh-buffer; counter-example
`hotstart_Sacramento_counterexample` below): `HotStart Sacramento.model`.
The unit-hydrograph delay buffer `qq` (the surface flow of the previous four steps still to be routed) is a local of the
kernel, zero at the start of every call and not in the state row: the flow in transit at a split point is lost.
Proved (ℝ): hot-start continuity when the unit hydrograph does not spread the flow over steps (uh2 = … = uh5 = 0), for
all other parameters, all series and every split point (`SacramentoNoSpread`, OW/Proofs/HotStartSacramento.lean). Two things are used: the outputs then do not depend on `qq`
(`OW.Proofs.SacHot.scan_nospread`), and the scaled lower-zone contents `alzfsc = lzfsc·(1+side)` re-derived from the state
row at the start of a call equal the carried ones (`OW.RR.Sac.Scaled`, `OW.Proofs.SacHot.stateOfRow_noQ`; exactly in ℝ; to one
rounding of `x/(1+side)·(1+side)` in floating point). -/
theorem hotstart_Sacramento_partial : HotStartWhen (Sacramento.model (α := ℝ)) SacramentoNoSpread :=
  restartableWhen_Sacramento.hotStartWhen

end Sacramento

section FineSediment
open OW.C12

/-- physically meaningful channel geometry: the maximum fine-sediment storage of the reach is not negative -/
def FineSedimentMaxStorageNonneg (p _st _s : List ℝ) : Prop :=
  ∀ bff vfl fpa lw ll ls bh pbh sbd mn vs vr dt : ℝ, p = [bff, vfl, fpa, lw, ll, ls, bh, pbh, sbd, mn, vs, vr, dt] →
    0 ≤ InstreamFineSediment.maxStorage (⟨bff, vfl, fpa, lw, ll, ls, bh, pbh, sbd, mn, vs, vr, dt⟩ : InstreamFineSediment.Params ℝ)

/-- the channel store handed over at a split point is never negative when the maximum storage is not negative
(`OW.C12.fine_run_store_nonneg`), so hot-start continuity holds for every split (ℝ) -/
theorem hotstart_InstreamFineSediment_real :
    HotStartWhen (InstreamFineSediment.model (α := ℝ)) FineSedimentMaxStorageNonneg := by
  intro p a b st n₁ n₂ o₁ o₂ hl ha hb h₁ h₂ hD
  refine hotstart_InstreamFineSediment_partial p a b st n₁ n₂ o₁ o₂ hl ha hb h₁ h₂ ?_
  unfold InstreamFineSediment.model at h₁
  dsimp only at h₁
  split at h₁
  case h_2 => cases h₁
  case h_1 bff vfl fpa lw ll ls bh pbh sbd mn vs vr dt a1 a2 a3 a4 a5 csf tsm =>
    cases h₁
    have hm := hD bff vfl fpa lw ll ls bh pbh sbd mn vs vr dt rfl
    cases hlum : InstreamFineSediment.lumped (⟨bff, vfl, fpa, lw, ll, ls, bh, pbh, sbd, mn, vs, vr, dt⟩ : InstreamFineSediment.Params ℝ) with
    | true => exact .inl ⟨bff, _, rfl, of_decide_eq_true hlum⟩
    | false =>
      right
      refine ⟨_, _, rfl, ?_⟩
      have := OW.C12.fine_run_store_nonneg _ hm hlum (csf, tsm) (zip5 a1 a2 a3 a4 a5)
      rw [RealNum.sci_zero]
      exact not_lt.mpr this
end FineSediment

section Dissolved
open OW.C12

/-- one decay step of the counter-example: stored mass 0, no point source, unit channel, uptake velocity 0, no outflow,
upstream load 1: everything goes downstream when the mean volume is positive (decay coefficient 0), and the fraction
exp(-1000) when it is zero (the "dry" decay coefficient 1000). -/
theorem dissolved_step_eval (pv vol : ℝ) :
    (InstreamDissolvedNutrient.step (α := ℝ) 0 0 1 1 1 0 86400 1 pv (1, 0, vol, 0)).2.downstream =
      if 0 < min 1 ((vol + pv) / 2) then 1 else Real.exp (-1000) := by
  unfold InstreamDissolvedNutrient.step
  simp only
  realnum
  norm_num
  rw [if_neg (not_le.mpr (Real.exp_pos _))]
  by_cases h : 0 < vol + pv <;> simp only [h, if_true, if_false, Real.exp_zero]

/-- every branch of the decay step stores the current reach volume as the next `prevVolume` -/
theorem dissolved_step_state {α} [Num α] (sm ps lh lw ll uv dur tsd pv up lat vol out : α) :
    (InstreamDissolvedNutrient.step sm ps lh lw ll uv dur tsd pv (up, lat, vol, out)).1 = vol := by
  unfold InstreamDissolvedNutrient.step
  simp only [apply_ite Prod.fst, ite_self]

theorem dissolved_run_on (dd psl lh lw ll uv dur sm v0 : ℝ) (up lat vt out fp : List ℝ) (hdd : ¬ dd < (0.5 : ℝ)) :
    ∃ tags, (InstreamDissolvedNutrient.model (α := ℝ)).run [dd, psl, lh, lw, ll, uv, dur] [up, lat, v0 :: vt, out, fp] [sm] =
      .ok (let r := scan (InstreamDissolvedNutrient.step sm (psl / 31557600) lh lw ll uv dur (86400 / dur)) v0 (zip4 up lat (v0 :: vt) out)
           { outputs := [r.2.map (fun o => o.decayed.getD Num.zero), r.2.map (·.downstream), zeros up.length,
                         r.2.map (fun o => o.pointSource.getD Num.zero)],
             states := [sm], tags := tags }) := by
  unfold InstreamDissolvedNutrient.model
  simp only
  rw [if_neg hdd]
  exact ⟨_, rfl⟩

/-- **Counter-example** (known finding KF-C06-InstreamDissolvedNutrientDecay-prevVolume), ℝ: decay enabled, unit channel,
uptake velocity 0, no outflow, upstream load 1 at both steps, reach volume 1 then 0. Uninterrupted run: the second step
averages the volumes 0 and 1 (`prevVolume = 1`), depth 0.5 > 0, nothing decays, 1 goes downstream. Split run: the second
call re-seeds `prevVolume` from its own first volume 0, depth 0, "dry" decay coefficient 1000, exp(-1000) goes downstream. -/
theorem hotstart_InstreamDissolvedNutrientDecay_counterexample :
    ¬ HotStart (InstreamDissolvedNutrient.model (α := ℝ)) := by
  have hdd : ¬ (1 : ℝ) < 0.5 := by norm_num
  obtain ⟨t1, h1⟩ := dissolved_run_on 1 0 1 1 1 0 86400 0 1 [1] [0] [] [0] [0] hdd
  obtain ⟨t2, h2⟩ := dissolved_run_on 1 0 1 1 1 0 86400 0 0 [1] [0] [] [0] [0] hdd
  obtain ⟨t3, h3⟩ := dissolved_run_on 1 0 1 1 1 0 86400 0 1 [1, 1] [0, 0] [0] [0, 0] [0, 0] hdd
  refine not_hotStart_of_runs (n₁ := 1) (n₂ := 1) h1 h2 h3 rfl (by decide) (by decide) fun ⟨hout, _⟩ => ?_
  simp only [catSeries, List.zipWith_cons_cons, List.zipWith_nil_right, List.cons.injEq, and_true] at hout
  have e := hout.2.1
  have c1 : (86400 : ℝ) / 86400 = 1 := by norm_num
  have c2 : (0 : ℝ) / 31557600 = 0 := by norm_num
  simp only [zip4, scan, List.map_cons, List.map_nil, c1, c2, dissolved_step_eval] at e
  rw [dissolved_step_state] at e
  have k1 : (0:ℝ) < min 1 ((0 + 1) / 2) := by norm_num
  have k2 : ¬ (0:ℝ) < min 1 ((0 + 0) / 2) := by norm_num
  simp only [List.cons_append, List.nil_append, List.cons.injEq, and_true, if_pos k1, if_neg k2] at e
  have : Real.exp (-1000) < 1 := by
    rw [← Real.exp_zero]; exact Real.exp_lt_exp.mpr (by norm_num)
  linarith [e.2]
end Dissolved

section SacramentoCounter
open OW.C12
attribute [-simp] OW.RealNum.ofNat_eq

/-- parameters of the counter-example: lzpk lzsk uzk uztwm uzfwm lztwm lzfsm lzfpm pfree rexp zperc side ssout pctim adimp
sarva rserv uh1..uh5: half of the area impervious, unit hydrograph (1/2, 1/2, 0, 0, 0) -/
noncomputable def sacP : Sacramento.Params ℝ :=
  ⟨1 / 100, 1 / 10, 3 / 10, 50, 40, 130, 25, 60, 1 / 10, 1, 40, 0, 0, 1 / 2, 0, 0, 0, 1, 1, 0, 0, 0⟩

/-- one step of the counter-example: upper-zone tension water `u` (2 mm of rain do not fill it: `u < 48`), everything else
empty, 2 mm of rain, no evaporation: 1 mm runs off the impervious half; `q1` is the flow of the previous step still in the
buffer, read only by the routed flow `max 0 (1/2 + q1/2)` -/
theorem sac_step_eval (u x0 q1 : ℝ) (hu0 : 0 ≤ u) (hu : u < 48) (hq : 0 ≤ q1) :
    ∃ tg, Sacramento.step sacP (Sacramento.consts sacP) ⟨u, 0, 0, 0, 0, u, 0, 0, [x0, q1, 0, 0, 0]⟩ (2, 0) =
      (⟨u + 2, 0, 0, 0, 0, u + 2, 0, 0, [1, 1, q1, 0, 0]⟩,
       ⟨0, 1 / 2 + q1 / 2, 1, 1 / 2 + q1 / 2, 0, 0, 0, 0, 0, 0, 0, tg⟩) := by
  obtain ⟨tg0, h0⟩ := OW.Proofs.SacHot.iiBody_idle sacP
    { dro := [1 / 2, 1 / 2, 0, 0, 0], saved := 0, alzfsm := 25, alzfpm := 60, pbase := 31 / 10 } (u + 2) (12 / 17) 1 (u + 2) 1
  simp only [sacP] at h0
  unfold Sacramento.step
  simp only [sacP, Sacramento.consts, Sacramento.makeUnitHydrograph]
  realnum
  have c1 : ¬ u < 0 := not_lt.mpr hu0
  have c2 : 2 + u - 50 < 0 := by linarith
  have c3 : ¬ u / 50 < 0 := not_lt.mpr (div_nonneg hu0 (by norm_num))
  have c4 : 2 + u < 50 := by linarith
  norm_num [c1, c2, c3, c4, min_eq_left hu0]
  simp only [h0, Sacramento.channel, Sacramento.convolve, List.zipWith, List.foldl, List.tail, List.dropLast]
  realnum
  norm_num
  rw [max_eq_right (by linarith)]
  ring

noncomputable def sacCol : List ℝ := [1 / 100, 1 / 10, 3 / 10, 50, 40, 130, 25, 60, 1 / 10, 1, 40, 0, 0, 1 / 2, 0, 0, 0, 1, 1, 0, 0, 0]

noncomputable def sacSt (u : ℝ) (qq : List ℝ) : Sacramento.State ℝ := ⟨u, 0, 0, 0, 0, u, 0, 0, qq⟩

theorem sac_run_eq (u : ℝ) (rain pet : List ℝ) :
    ∃ tg, (Sacramento.model (α := ℝ)).run sacCol [rain, pet] [u, 0, 0, 0, 0, u] =
      .ok (let r := Sacramento.run sacP (sacSt u [0, 0, 0, 0, 0]) (rain.zip pet)
           { outputs := [r.2.map (·.actualET), r.2.map (·.runoff), r.2.map (·.imperviousRunoff), r.2.map (·.surfaceRunoff),
                         r.2.map (·.baseflow)],
             states := [r.1.uztwc, r.1.uzfwc, r.1.lztwc, r.1.lzfpc, r.1.lzfsc, r.1.adimc],
             tags := tg }) := by
  have e : (⟨u, 0, 0, 0, 0, u, (0:ℝ) * (1.0 + 0), (0:ℝ) * (1.0 + 0), zeros 5⟩ : Sacramento.State ℝ) = sacSt u [0, 0, 0, 0, 0] := by
    simp only [sacSt, zeros, List.replicate, zero_mul]; rfl
  unfold Sacramento.model sacCol
  simp only
  realnum
  rw [e]
  exact ⟨_, rfl⟩

/-- **Counter-example** (known finding KF-C06-Sacramento-uh-buffer), ℝ: half of the catchment impervious, unit hydrograph
(1/2, 1/2), 2 mm of rain on each of two days, all stores empty. Day 1 routes half of the impervious runoff (0.5 mm) and
keeps the other half in the buffer. Uninterrupted run, day 2: 0.5 + 0.5 = 1 mm. Split run, day 2: the buffer starts
empty again, 0.5 mm — the water in transit at the split point is lost. -/
theorem hotstart_Sacramento_counterexample : ¬ HotStart (Sacramento.model (α := ℝ)) := by
  obtain ⟨t1, h1⟩ := sac_run_eq 0 [2] [0]
  obtain ⟨tw, hw⟩ := sac_run_eq 0 [2, 2] [0, 0]
  obtain ⟨ga, ea⟩ := sac_step_eval 0 0 0 le_rfl (by norm_num) le_rfl
  obtain ⟨gb, eb⟩ := sac_step_eval 2 0 0 (by norm_num) (by norm_num) le_rfl
  obtain ⟨gc, ec⟩ := sac_step_eval 2 1 1 (by norm_num) (by norm_num) zero_le_one
  have ra : Sacramento.run sacP (sacSt 0 [0, 0, 0, 0, 0]) [(2, 0)] = (sacSt 2 [1, 1, 0, 0, 0], [⟨0, 1 / 2 + 0 / 2, 1, 1 / 2 + 0 / 2, 0, 0, 0, 0, 0, 0, 0, ga⟩]) := by
    simp only [Sacramento.run, scan, sacSt, ea]; norm_num
  have rb : Sacramento.run sacP (sacSt 2 [0, 0, 0, 0, 0]) [(2, 0)] = (sacSt (2 + 2) [1, 1, 0, 0, 0], [⟨0, 1 / 2 + 0 / 2, 1, 1 / 2 + 0 / 2, 0, 0, 0, 0, 0, 0, 0, gb⟩]) := by
    simp only [Sacramento.run, scan, sacSt, eb]
  have rw' : Sacramento.run sacP (sacSt 0 [0, 0, 0, 0, 0]) [(2, 0), (2, 0)] = (sacSt (2 + 2) [1, 1, 1, 0, 0],
      [⟨0, 1 / 2 + 0 / 2, 1, 1 / 2 + 0 / 2, 0, 0, 0, 0, 0, 0, 0, ga⟩, ⟨0, 1 / 2 + 1 / 2, 1, 1 / 2 + 1 / 2, 0, 0, 0, 0, 0, 0, 0, gc⟩]) := by
    simp only [Sacramento.run, scan, sacSt, ea]
    norm_num
    simp only [ec]
    norm_num
  obtain ⟨t2, h2⟩ := sac_run_eq 2 [2] [0]
  simp only [List.zip_cons_cons, List.zip_nil_right, ra, rb, rw'] at h1 h2 hw
  simp only [List.map_cons, List.map_nil, sacSt] at h1 h2 hw
  refine not_hotStart_of_runs (n₁ := 1) (n₂ := 1) h1 h2 hw rfl (by decide) (by decide) fun ⟨hout, _⟩ => ?_
  simp only [catSeries, List.zipWith_cons_cons, List.zipWith_nil_right, List.cons_append, List.nil_append, List.cons.injEq,
    and_true] at hout
  have := hout.2.1.2
  norm_num at this
end SacramentoCounter

section FineCounter
attribute [-simp] OW.RealNum.ofNat_eq

/-- parameters of the counter-example (NOT physically meaningful: `propBankHeightForFineDep = -1` makes the maximum
channel storage −1000 kg) -/
noncomputable def fineP : InstreamFineSediment.Params ℝ := ⟨1, 0, 0, 1, 1, 1, 1, -1, 1, 1, 1, 1, 1⟩

theorem fine_start_eval (c : ℝ) (hc : c < 0) : InstreamFineSediment.start fineP (c, 0) = (-c * -1000, 0) := by
  unfold InstreamFineSediment.start InstreamFineSediment.initStore InstreamFineSediment.lumped InstreamFineSediment.maxStorage
  simp only [fineP]
  realnum
  norm_num
  rw [if_pos hc, abs_of_neg hc]
  ring

theorem fine_not_lumped : InstreamFineSediment.lumped fineP = false := by
  unfold InstreamFineSediment.lumped
  simp only [fineP]
  realnum
  have : ¬ ((1:ℝ) ≤ 1e-8) := by norm_num
  simp only [this, decide_false]

theorem fine_step_eval (c : ℝ) :
    (InstreamFineSediment.step fineP (c, 0) (0, 0, 0, 0, 0)).1 = (c, 0) := by
  unfold InstreamFineSediment.step
  rw [fine_not_lumped]
  simp only [Bool.false_eq_true, if_false]
  unfold InstreamFineSediment.stepMain InstreamFineSediment.inChannelStorage InstreamFineSediment.floodPlainDepositionEmperical
  simp only [fineP]
  realnum
  norm_num

theorem fine_run_state (c : ℝ) (hc : c < 0) (n : Nat) :
    (InstreamFineSediment.run fineP (c, 0) (List.replicate n (0, 0, 0, 0, 0))).1 = (-c * -1000, 0) := by
  unfold InstreamFineSediment.run
  rw [fine_start_eval c hc]
  generalize -c * -1000 = d
  induction n generalizing d with
  | zero => rfl
  | succ n ih =>
    simp only [List.replicate, scan]
    rw [fine_step_eval d]
    exact ih d

noncomputable def fineCol : List ℝ := [1, 0, 0, 1, 1, 1, 1, -1, 1, 1, 1, 1, 1]

theorem fine_run_eq (c : ℝ) (a1 a2 a3 a4 a5 : List ℝ) :
    ∃ outs tg, (InstreamFineSediment.model (α := ℝ)).run fineCol [a1, a2, a3, a4, a5] [c, 0] =
      .ok { outputs := outs,
            states := [(InstreamFineSediment.run fineP (c, 0) (zip5 a1 a2 a3 a4 a5)).1.1,
                       (InstreamFineSediment.run fineP (c, 0) (zip5 a1 a2 a3 a4 a5)).1.2], tags := tg } :=
  ⟨_, _, rfl⟩

/-- **Counter-example** for the unrestricted statement (ℝ; needs a NEGATIVE maximum storage, i.e. parameters outside their
physical range — for maximum storage ≥ 0 see `hotstart_InstreamFineSediment_real`): dry reach, initial channel store −1
("100 % of the maximum storage"), maximum storage −1000. Uninterrupted run: the store is converted once, −1000. Split run:
the second call reads the carried −1000 as a fraction again and converts it to −1 000 000. -/
theorem hotstart_InstreamFineSediment_counterexample : ¬ HotStart (InstreamFineSediment.model (α := ℝ)) := by
  obtain ⟨o1, t1, h1⟩ := fine_run_eq (-1) [0] [0] [0] [0] [0]
  obtain ⟨o2, t2, h2⟩ := fine_run_eq (-(-1) * -1000) [0] [0] [0] [0] [0]
  obtain ⟨ow, tw, hw⟩ := fine_run_eq (-1) [0, 0] [0, 0] [0, 0] [0, 0] [0, 0]
  have r1 := fine_run_state (-1) (by norm_num) 1
  have r2 := fine_run_state (-(-1) * -1000) (by norm_num) 1
  have rw' := fine_run_state (-1) (by norm_num) 2
  simp only [List.replicate] at r1 r2 rw'
  simp only [zip5, r1, r2, rw'] at h1 h2 hw
  refine not_hotStart_of_runs (n₁ := 1) (n₂ := 1) h1 h2 hw rfl (by decide) (by decide) fun ⟨_, hst⟩ => ?_
  simp only [List.cons.injEq, and_true] at hst
  norm_num at hst
end FineCounter

section SRCounter
attribute [-simp] OW.RealNum.ofNat_eq

theorem sr_setup : StorageRouting.setup (α := ℝ) 0 1 1 1 = ⟨0, 1, 1, 0, 0⟩ := by
  unfold StorageRouting.setup
  realnum
  norm_num

theorem sr_step (qi o S i inflow : ℝ) (r : StorageRouting.CO ℝ)
    (h : StorageRouting.calcOutflow (α := ℝ) inflow 0 0 qi o S 0 0 0 1 1 1 0 1 0 = .ok r) :
    StorageRouting.step (α := ℝ) ⟨0, 1, 1, 0, 0⟩ 1 0 0 1 (.ok ⟨qi, o, S, i⟩) (inflow, 0, 0, 0) =
      (.ok ⟨r.qi, r.outflow, r.storage, inflow⟩, ⟨r.outflow, r.storage, r.tag⟩) := by
  unfold StorageRouting.step
  simp only
  realnum
  have e : ((0:ℝ) - 0) / 1 = 0 := by norm_num
  rw [e, h]

/-- **Counter-example**, ℝ (linear reach k = 1 s, Δt = 1 s, no bias; inflow 2 then 1.0005 m³/s into an empty reach). Both
runs close the mass balance of step 2 within the solver's 1e-3 m³: the uninterrupted run accepts the index flow of step 1
as it is (outflow 1.0005, storage 1), the split run — whose second call seeds its search with 0 — lands on the exact root
(outflow 1.00025, storage 1.00025). The difference, 0.00025, is inside the tolerance the property allows for this model. -/
theorem hotstart_StorageRouting_counterexample : ¬ HotStart (StorageRouting.model (α := ℝ)) := by
  have h1 : (StorageRouting.model (α := ℝ)).run [0, 1, 1, 0, 0, 1] [[2], [0], [0], [0]] [0, 0, 0] =
      .ok { outputs := [[1], [1]], states := [1, 2, 1], tags := ["mid-qi"] } := by
    simp only [StorageRouting.model, StorageRouting.run, sr_setup, zip4, scan, RealNum.sci_zero, sr_step _ _ _ _ _ _ (OW.Proofs.StorageRouting.sr_calc_A 0), List.map_cons,
      List.map_nil]
    rfl
  have h2 : (StorageRouting.model (α := ℝ)).run [0, 1, 1, 0, 0, 1] [[2001 / 2000], [0], [0], [0]] [1, 2, 1] =
      .ok { outputs := [[4001 / 4000], [4001 / 4000]], states := [4001 / 4000, 2001 / 2000, 4001 / 4000], tags := ["mid-qi"] } := by
    simp only [StorageRouting.model, StorageRouting.run, sr_setup, zip4, scan, RealNum.sci_zero, sr_step _ _ _ _ _ _ (OW.Proofs.StorageRouting.sr_calc_C 0), List.map_cons,
      List.map_nil]
    rfl
  have hw : (StorageRouting.model (α := ℝ)).run [0, 1, 1, 0, 0, 1] [[2, 2001 / 2000], [0, 0], [0, 0], [0, 0]] [0, 0, 0] =
      .ok { outputs := [[1, 2001 / 2000], [1, 1]], states := [1, 2001 / 2000, 2001 / 2000], tags := ["mid-qi", "prev-qi"] } := by
    simp only [StorageRouting.model, StorageRouting.run, sr_setup, zip4, scan, RealNum.sci_zero, sr_step _ _ _ _ _ _ (OW.Proofs.StorageRouting.sr_calc_A 0), sr_step _ _ _ _ _ _ (OW.Proofs.StorageRouting.sr_calc_B 1), List.map_cons,
      List.map_nil]
    rfl
  refine not_hotStart_of_runs (n₁ := 1) (n₂ := 1) h1 h2 hw rfl (by decide) (by decide) fun ⟨hout, _⟩ => ?_
  simp only [catSeries, List.zipWith_cons_cons, List.zipWith_nil_right, List.cons_append, List.nil_append, List.cons.injEq,
    and_true] at hout
  norm_num at hout

/-- non-vacuity of `hotstart_StorageRouting_partial` (ℝ): a zero-flow step leaves the index flow at the value a fresh call
starts from (`f.qi = 0.0`), so its side condition `hqi` is met by a split after such a step -/
example : ∃ f outs, StorageRouting.run (α := ℝ) 0 1 1 0 0 1 0 (zip4 [0] [0] [0] [0]) = (.ok f, outs) ∧ f.qi = 0.0 := by
  have hz : StorageRouting.calcOutflow (α := ℝ) 0 0 0 0 0 0 0 0 0 1 1 1 0 1 0 = .ok ⟨0, 0, 0, "balanced-at-minqi"⟩ := by
    rw [OW.Proofs.StorageRouting.sr_calc_balanced _ _ _ _ le_rfl le_rfl (by norm_num), add_zero]
  have z : (0.0 : ℝ) = 0 := by norm_num
  refine ⟨⟨0, 0, 0, 0⟩, [⟨0, 0, "balanced-at-minqi"⟩], ?_, by norm_num⟩
  unfold StorageRouting.run
  rw [sr_setup]
  simp only [zip4, scan, z, sr_step _ _ _ _ _ _ hz]

/-- Storage (ℝ), non-vacuity on the early-return path: a volume table whose maximum is 0 is an invalid configuration; both
calls of a split succeed (zero outputs, zero states). A split pair on the MAIN path: OW/Props/C06N.lean
(`OW.Proofs.StorageExampleHot.runGen_driver`) -/
example : ∃ o₁ o₂, (Storage.model (α := ℝ)).run [86400, Num.ofNat 1, 1, 0, 1, 0, 0] [[1, 2], [0, 0], [0, 0], [0, 0], [0, 0], [0, 0]] [0, 0, 0] = .ok o₁ ∧
    (Storage.model (α := ℝ)).run [86400, Num.ofNat 1, 1, 0, 1, 0, 0] [[1], [0], [0], [0], [0], [0]] o₁.states = .ok o₂ := by
  have e1 : Num.toInt (Num.ofNat 1 : ℝ) = 1 := RealNum.toInt_natCast 1
  have hc : Storage.checkConfig (1 : Int) [(0 : ℝ)] = .ok .invalid := by
    simp only [Storage.checkConfig, Storage.maximum, List.foldl]
    realnum
    rw [if_neg (by decide), if_pos (le_refl _)]
  refine ⟨?o₁, ?o₂, ?h₁, ?h₂⟩
  case h₁ | h₂ =>
    simp only [Storage.model, e1]
    show (match Storage.checkConfig (1 : Int) [(0 : ℝ)] with | .error e => _ | .ok .invalid => _ | .ok .ok => _) = _
    rw [hc]
end SRCounter

/-- Sacramento (Float): a two-part split whose two calls both succeed -/
example : ∃ o₁ o₂, (Sacramento.model (α := Float)).run [0.01, 0.1, 0.3, 50, 40, 130, 25, 60, 0.1, 1, 40, 0, 0, 0.5, 0, 0, 0, 1, 0, 0, 0, 0] [[2, 0], [0, 1]] [0, 0, 0, 0, 0, 0] = .ok o₁ ∧
    (Sacramento.model (α := Float)).run [0.01, 0.1, 0.3, 50, 40, 130, 25, 60, 0.1, 1, 40, 0, 0, 0.5, 0, 0, 0, 1, 0, 0, 0, 0] [[3], [1]] o₁.states = .ok o₂ := ⟨_, _, rfl, rfl⟩

section NonVacuityReal
attribute [-simp] OW.RealNum.ofNat_eq

/-- Sacramento: the side condition of the partial theorem is satisfiable (ℝ) -/
example : SacramentoNoSpread [0.01, 0.1, 0.3, 50, 40, 130, 25, 60, 0.1, 1, 40, 0, 0, 0.5, 0, 0, 0, 1, 0, 0, 0, 0] [] [] :=
  ⟨_, _, _, _, _, _, _, _, _, _, _, _, _, _, _, _, _, _, rfl, by norm_num, by norm_num⟩

/-- InstreamFineSediment: physically meaningful geometry has a non-negative maximum storage (ℝ) -/
example : FineSedimentMaxStorageNonneg [5, 1e-5, 1e4, 10, 1000, 0.001, 2, 0.5, 1.5, 0.04, 1e-5, 1e-6, 86400] [] [] := by
  intro bff vfl fpa lw ll ls bh pbh sbd mn vs vr dt h
  simp only [List.cons.injEq, and_true] at h
  obtain ⟨rfl, rfl, rfl, rfl, rfl, rfl, rfl, rfl, rfl, rfl, rfl, rfl, rfl⟩ := h
  simp only [InstreamFineSediment.maxStorage]
  realnum
  norm_num
end NonVacuityReal

end OW.Props.C06
