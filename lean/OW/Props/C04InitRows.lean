import OW.Props.C04Init
/-!
C04 — WHAT `InitialiseStates(n)` hands to each cell when every cell's initial state row has the same width
(the case for 39 of the 41 catalogued models: the width is a constant of the model; the two exceptions, GR4J and Lag, are
the known findings KF-C05-GR4J/Lag-InitialiseStates-row-width).

`initStates_uniform`: the array is exactly the list of the cells' own initial rows — cell `i`'s row is
`km.init (column i)`, i.e. what `InitialiseStates(1)` builds for the cell alone. With `single_cell_eq_init` this closes the
`states = none` entry for those models: cell `i` of an N-cell `Run` without a state array equals the single-cell `Run`
started from the cell's OWN initial states (`single_cell_eq_init_uniform`).
-/
namespace OW.Props.C04
open OW OW.Sim

variable {α : Type} [Num α]

omit [Num α] in
/-- the copy loop of `InitialiseStates` with rows of the array's own width: rows `i, i+1, …` of the flat buffer are
replaced by the given rows, everything else is kept -/
theorem fill_content (w : Nat) : ∀ (rs : List (List α)) (i : Nat) (buf : List α), (∀ r ∈ rs, r.length = w) →
    (i + rs.length) * w ≤ buf.length →
    initStates.fill w i rs buf = .ok (buf.take (i * w) ++ rs.flatten ++ buf.drop ((i + rs.length) * w))
  | rs, i, buf, hw, hle => by
    rw [Nat.add_mul] at hle
    have := fill_fit w rs i (buf.take (i * w)) (buf.drop (i * w)) (by rw [List.length_take]; omega) hw
      (by rw [List.length_drop]; omega)
    rwa [List.take_append_drop, List.drop_drop, ← Nat.add_mul] at this

/-- `InitialiseStates(n)` when every cell's own initial row has one width `w`: the array is exactly the list of those rows -/
theorem initStates_uniform {km : KModel α} {spec : ParamSpec} {lay : List (Nat × Nat)} {params : List (List α)} {n : Nat}
    (rows : List (List α))
    (hm : (List.range n).mapM (fun i => do let p ← cellParams spec lay params i; km.init p) = .ok rows)
    (w : Nat) (hw : ∀ r ∈ rows, r.length = w) :
    initStates km spec lay params n = .ok rows := by
  have hl : rows.length = n := (mapM_ok _ _ _ hm).1.trans List.length_range
  unfold initStates
  simp only [bind, Except.bind] at hm ⊢
  rw [hm]
  cases rows with
  | nil => rfl
  | cons r0 rest =>
    have hr0 : r0.length = w := hw r0 (by simp)
    simp only [hr0]
    have hfill := fill_content w (r0 :: rest) 0 (List.replicate (n * w) (Num.zero : α)) hw
      (by rw [List.length_replicate, Nat.zero_add, hl]; exact Nat.le_refl _)
    rw [hfill]
    simp only [pure, Except.pure, Nat.zero_mul, List.take_zero, List.nil_append, Nat.zero_add]
    rw [List.drop_eq_nil_of_le (by rw [List.length_replicate, hl]; exact Nat.le_refl _), List.append_nil]
    congr 1
    exact ((chunks_flatten_iff w n (r0 :: rest) _).mp ⟨⟨hl, hw⟩, rfl⟩).2.symm

/-- **the `states = none` entry for models with a constant state width.** If every cell's own initial row
(`km.init` of the cell's parameter column = what `InitialiseStates(1)` builds for the cell alone) has the same width,
then `InitialiseStates(n)` succeeds with exactly those rows: row `i` of the array the N-cell `Run` starts from is
`km.init (column i)`. -/
theorem initStates_uniform_row {km : KModel α} {spec : ParamSpec} {lay : List (Nat × Nat)} {params : List (List α)}
    {n : Nat} (rows : List (List α))
    (hm : (List.range n).mapM (fun i => do let p ← cellParams spec lay params i; km.init p) = .ok rows)
    (w : Nat) (hw : ∀ r ∈ rows, r.length = w) :
    initStates km spec lay params n = .ok rows ∧
    ∀ i, i < n → ∃ p r, cellParams spec lay params i = .ok p ∧ km.init p = .ok r ∧ rows[i]? = some r := by
  refine ⟨initStates_uniform rows hm w hw, ?_⟩
  intro i hi
  obtain ⟨r, h1, h2⟩ := (mapM_ok _ _ _ hm).2 i i (List.getElem?_range hi)
  obtain ⟨p, hp, h1⟩ := Except.bind_eq_ok.mp h1
  exact ⟨p, r, hp, h1, h2⟩

/-- **single_cell_eq for `states = none`, constant state width.** Let the N-cell `Run` WITHOUT a state array succeed with
`out`, and let every cell's own initial row have one width. Then for every cell `i < nCells` there are its parameter
column `p` and `st` with `km.init p = st` — the states `InitialiseStates(1)` builds for the cell ALONE — such that the
single-cell `Run` on any one-cell parameter array decoding to `p`, the cell's input block, the one row `st` and the cell's
output rows returns exactly cell `i`'s part of `out`. -/
theorem single_cell_eq_init_uniform (km : KModel α) (spec : ParamSpec) (x : RunIn α) (hx : x.states = none)
    (out : RunOut α) (h : run km spec x = .ok out)
    (lay : List (Nat × Nat)) (hl : layout spec x.params = .ok lay) (rows : List (List α))
    (hm : (List.range x.nCells).mapM (fun i => do let p ← cellParams spec lay x.params i; km.init p) = .ok rows)
    (w : Nat) (hw : ∀ r ∈ rows, r.length = w) (i : Nat) (hi : i < x.nCells) :
    ∃ (p st : List α) (orow blk : List (List α)) (s' : List α) (o' : List (List α)),
      cellParams spec lay x.params i = .ok p ∧ km.init p = .ok st ∧
      x.outputs[i]? = some orow ∧ x.inputs[i % x.inputs.length]? = some blk ∧
      out.states[i]? = some s' ∧ out.outputs[i]? = some o' ∧
      ∀ (params₁ : List (List α)) (lay₁ : List (Nat × Nat)), layout spec params₁ = .ok lay₁ →
        cellParams spec lay₁ params₁ 0 = .ok p →
        run km spec { params := params₁, inputs := [blk], states := some [st], nCells := 1, outputs := [orow] } =
          .ok { outputs := [o'], states := [s'] } := by
  obtain ⟨lay', sts, hl', hi', hall⟩ := single_cell_eq_init km spec x hx out h
  rw [hl] at hl'
  cases hl'
  obtain ⟨hu, hrow⟩ := initStates_uniform_row rows hm w hw
  rw [hu] at hi'
  cases hi'
  have hlen : rows.length = x.nCells := (mapM_ok _ _ _ hm).1.trans List.length_range
  obtain ⟨p, st, orow, blk, s', o', g1, g2, g3, g4, g5, g6, g7⟩ := hall i (by rw [hlen]; exact hi)
  obtain ⟨p', r, k1, k2, k3⟩ := hrow i hi
  rw [g1] at k1
  cases k1
  rw [g2] at k3
  cases k3
  exact ⟨p, st, orow, blk, s', o', g1, k2, g3, g4, g5, g6, g7⟩

/-! ### non-vacuity: `RunoffCoefficient` (no states: every initial row is `[]`, width 0) on 2 cells -/
example (a b : α) :
    initStates (Kernels.Coeff.model (α := α)) [none] [(0, 1)] [[a, b]] 2 = .ok [[], []] :=
  (initStates_uniform_row (km := Kernels.Coeff.model (α := α)) [[], []] rfl 0 (by simp)).1

end OW.Props.C04
