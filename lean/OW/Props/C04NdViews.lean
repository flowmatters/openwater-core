import OW.Proofs.WrapperNd
/-!
C04 (n-d level), the view algebra — the state, input, output and parameter views of the wrapper template on root arrays alias
exactly the rows of the caller's arrays (`cell_views_*`, `param_decoding_*`, `views_disjoint`), with the evaluated example `Ex`. The
refinement theorems are in `OW/Props/C04Nd.lean`; both files declare the namespace `OW.Props.C04Nd`, under which the documents cite them.
-/
namespace OW.Props.C04Nd
open OW OW.Nd OW.Sim OW.Sim.WrapperNd OW.WrapperNd

section
variable {α : Type}

/-- `v` is the flat (1-D, root, Go-backed) view of the `n` storage positions `[base, base+n)` of storage `sid`:
`Impl = storage[base : base+n]` — an alias, not a copy. -/
def IsWindow (v : Arr) (sid : Nat) (base n : Int) : Prop := v = flat sid base n

theorem isWindow_iff (v : Arr) (sid : Nat) (base n : Int) :
    IsWindow v sid base n ↔ v.sid = sid ∧ v.base = base ∧ v.len = n ∧ v.isC = false ∧ v.v = rootView [n] 0 := by
  obtain ⟨vv, s, b, l, c⟩ := v
  simp [IsWindow, flat]
  constructor
  · rintro ⟨rfl, rfl, rfl, rfl, rfl⟩; simp
  · rintro ⟨rfl, rfl, rfl, rfl, rfl⟩; simp

/-- **cell_views_states.** For a root `states [N, nS]` and a cell `0 ≤ i < N`:
`states.Slice([i,0],[1,nS],nil).MustReshape([nS])` does not panic; the reshape is applied to a contiguous view, so
the heap is unchanged (no copy) and the result ALIASES the states storage: it is the flat view of positions
`[base + i·nS, base + i·nS + nS)`.
* Element `s` (`0 ≤ s < nS`) of the view is storage cell `base + i·nS + s`, the same element as `states[i, s]`.
* `Set1(s, v)` through the view does not panic and changes exactly that storage cell; afterwards `states[i, s]`
  reads `v` — the kernel's state write-back reaches the caller's array, and touches only row `i`.
* `Set1` outside `[0, nS)` panics: the view cannot be used to reach another row. -/
theorem cell_views_states {h : Heap α} {states : Arr} {N nS i : Int} (r : RootOn h states [N, nS])
    (hi0 : 0 ≤ i) (hi : i < N) :
    ∃ sv, stateView h states i nS = .ok (h, sv) ∧
      (sliceView states.v [i, 0] [1, nS] none).contiguous = .ok true ∧
      IsWindow sv states.sid (states.base + i * nS) nS ∧
      (∀ s, 0 ≤ s → s < nS → ∃ x, cell h states.sid (states.base + (i * nS + s)).toNat = some x ∧
          get1 h sv s = .ok x ∧ Nd.get h states [i, s] = .ok x) ∧
      (∀ s, 0 ≤ s → s < nS → ∀ v : α, ∃ h', set1 h sv s v = .ok h' ∧
          h' = setStore h states.sid (states.base + (i * nS + s)).toNat v ∧
          cell h' states.sid (states.base + (i * nS + s)).toNat = some v ∧
          (∀ u q : Nat, (u ≠ states.sid ∨ q ≠ (states.base + (i * nS + s)).toNat) → cell h' u q = cell h u q) ∧
          Nd.get h' states [i, s] = .ok v ∧ RootOn h' states [N, nS]) ∧
      (∀ s, (s < 0 ∨ nS ≤ s) → ∀ v : α, set1 h sv s v = .error "index-out-of-range") := by
  obtain ⟨hN, hnS⟩ := pos2 r.pos
  obtain ⟨e, hc, rv⟩ := stateView_eq r hi0 hi
  have hib : ∀ s, 0 ≤ s → s < nS → InBounds [i, s] [N, nS] := fun s s0 s1 => by simp; omega
  refine ⟨_, e, hc, rfl, fun s s0 s1 => ?_, fun s s0 s1 v => ?_, fun s hs v => ?_⟩
  · exact r.window_get rv (hib s s0 s1) s0 s1 (ravel2 ..)
  · exact r.window_set rv (hib s s0 s1) s0 s1 (ravel2 ..) v
  · obtain ⟨st, hs', _⟩ := rv.flat_store
    exact flat_set1_oob hs' hs v

/-- **cell_views_outputs.** For a root `outputs [M, nO, T']` — possibly OVERSIZED: `M` ≥ the number of cells, `T' ≥ T`
— a cell `0 ≤ i < M`, an output `0 ≤ o < nO` and a series length `1 ≤ T ≤ T'`:
`outputs.Slice([i,o,0],[1,1,T],[1,1,1]).MustReshape([T])` does not panic; the slice (the first `T` elements of one
row) is contiguous, so the heap is unchanged and the result ALIASES the outputs storage: it is the flat view of
positions `[base + (i·nO+o)·T', … + T)`.
* Element `t < T` of the view is storage cell `base + (i·nO + o)·T' + t`, the same element as `outputs[i, o, t]`.
* `Set1(t, v)`, `t < T`, through the view changes exactly that cell; afterwards `outputs[i, o, t]` reads `v`.
* `Set1(t, ·)` with `t ≥ T` (or `< 0`) panics. Hence a kernel writing through the views of cells `i < N` can only change
  positions `{(i, o, t) | i < N, t < T}`: rows `≥ N` and timesteps `≥ T` of an oversized array are untouched
  (`run_frame`). -/
theorem cell_views_outputs {h : Heap α} {outputs : Arr} {M nO T' T i o : Int} (r : RootOn h outputs [M, nO, T'])
    (hi0 : 0 ≤ i) (hi : i < M) (ho0 : 0 ≤ o) (ho : o < nO) (hT0 : 1 ≤ T) (hT : T ≤ T') :
    ∃ ov, outputView h outputs i o T = .ok (h, ov) ∧
      (sliceView outputs.v [i, o, 0] [1, 1, T] (some [1, 1, 1])).contiguous = .ok true ∧
      IsWindow ov outputs.sid (outputs.base + (i * nO + o) * T') T ∧
      (∀ t, 0 ≤ t → t < T → ∃ x, cell h outputs.sid (outputs.base + ((i * nO + o) * T' + t)).toNat = some x ∧
          get1 h ov t = .ok x ∧ Nd.get h outputs [i, o, t] = .ok x) ∧
      (∀ t, 0 ≤ t → t < T → ∀ v : α, ∃ h', set1 h ov t v = .ok h' ∧
          h' = setStore h outputs.sid (outputs.base + ((i * nO + o) * T' + t)).toNat v ∧
          cell h' outputs.sid (outputs.base + ((i * nO + o) * T' + t)).toNat = some v ∧
          (∀ u q : Nat, (u ≠ outputs.sid ∨ q ≠ (outputs.base + ((i * nO + o) * T' + t)).toNat) →
            cell h' u q = cell h u q) ∧
          Nd.get h' outputs [i, o, t] = .ok v ∧ RootOn h' outputs [M, nO, T']) ∧
      (∀ t, (t < 0 ∨ T ≤ t) → ∀ v : α, set1 h ov t v = .error "index-out-of-range") := by
  obtain ⟨e, hc, rv⟩ := outputView_eq r hi0 hi ho0 ho hT0 hT
  have hib : ∀ t, 0 ≤ t → t < T → InBounds [i, o, t] [M, nO, T'] := fun t t0 t1 => by simp; omega
  refine ⟨_, e, hc, rfl, fun t t0 t1 => ?_, fun t t0 t1 v => ?_, fun t ht v => ?_⟩
  · exact r.window_get rv (hib t t0 t1) t0 t1 (ravel3 ..)
  · exact r.window_set rv (hib t t0 t1) t0 t1 (ravel3 ..) v
  · obtain ⟨st, hs', _⟩ := rv.flat_store
    exact flat_set1_oob hs' ht v

/-- **cell_views_inputs.** For a root `inputs [nIn, nI, T]`, a cell `i ≥ 0` (ANY cell number: blocks are reused
cyclically) and an input `0 ≤ k < nI`: the two-level chain
`inputs.Slice([i % nIn,0,0],[1,nI,T],nil).MustReshape([nI,T])` then `.Slice([k,0],[1,T],nil).MustReshape([T])` does not
panic; both reshapes are applied to contiguous views (no copy, heap unchanged); the result ALIASES the inputs storage:
it is the flat view of positions `[base + ((i % nIn)·nI + k)·T, … + T)`, and element `t < T` is storage cell
`base + ((i % nIn)·nI + k)·T + t`, the same element as `inputs[i % nIn, k, t]`. -/
theorem cell_views_inputs {h : Heap α} {inputs : Arr} {nIn nI T i k : Int} (r : RootOn h inputs [nIn, nI, T])
    (hi0 : 0 ≤ i) (hk0 : 0 ≤ k) (hk : k < nI) :
    ∃ iv, inputView h inputs i k nIn nI T = .ok (h, iv) ∧
      (sliceView inputs.v [i % nIn, 0, 0] [1, nI, T] none).contiguous = .ok true ∧
      (sliceView (rootView [nI, T] 0) [k, 0] [1, T] none).contiguous = .ok true ∧
      iv.v.contiguous = .ok true ∧
      IsWindow iv inputs.sid (inputs.base + ((i % nIn) * nI + k) * T) T ∧
      (∀ t, 0 ≤ t → t < T → ∃ x, cell h inputs.sid (inputs.base + (((i % nIn) * nI + k) * T + t)).toNat = some x ∧
          get1 h iv t = .ok x ∧ Nd.get h inputs [i % nIn, k, t] = .ok x) := by
  obtain ⟨hnIn, hnI, hT⟩ := pos3 r.pos
  obtain ⟨hc0, hc1⟩ := emod_range i hnIn
  obtain ⟨_, hcA, rci⟩ := cellInputs_eq r hi0
  obtain ⟨_, hcB, _⟩ := stateView_eq rci hk0 hk
  obtain ⟨e, rv⟩ := inputView_eq r hi0 hk0 hk
  have hib : ∀ t, 0 ≤ t → t < T → InBounds [i % nIn, k, t] [nIn, nI, T] := fun t t0 t1 => by simp; omega
  refine ⟨_, e, hcA, hcB, ?_, rfl, fun t t0 t1 => ?_⟩
  · exact (Nd.contiguous_eq (reach_geo rv.reach)).1 (by simp [flat, rootView, uniform, Nd.Dense])
  · exact r.window_get rv (hib t t0 t1) t0 t1 (ravel3 ..)

/-- **param_decoding (scalar).** For a root `parameters [rows, nSets]`, a parameter stored in row `0 ≤ row < rows` and a
cell `i ≥ 0`: the `ApplyParameters` view (`Slice([row,0],[1,nSets],nil).MustReshape([nSets])`, contiguous, no copy)
followed by `Get1(i % Len1())` does not panic and returns `parameters[row, i % nSets]`, storage cell
`base + row·nSets + i % nSets` (parameter sets are reused cyclically). -/
theorem param_decoding_scalar {h : Heap α} {parameters : Arr} {rows nSets row i : Int}
    (r : RootOn h parameters [rows, nSets]) (h0 : 0 ≤ row) (h1 : row < rows) (hi0 : 0 ≤ i) :
    (sliceView parameters.v [row, 0] [1, nSets] none).contiguous = .ok true ∧
    ∃ x, scalarParam h parameters row i = .ok x ∧
      cell h parameters.sid (parameters.base + (row * nSets + i % nSets)).toNat = some x ∧
      Nd.get h parameters [row, i % nSets] = .ok x := by
  obtain ⟨_, hnS⟩ := pos2 r.pos
  obtain ⟨x, hx, hc⟩ := scalarParam_eq r h0 h1 hi0
  obtain ⟨hc0, hc1⟩ := emod_range i hnS
  obtain ⟨y, hy, hgy, _⟩ := r.get (idx := [row, i % nSets]) (by simp; omega)
  rw [ravel2, hc] at hy
  exact ⟨(paramView_scalar_eq r h0 h1).2.1, x, hx, hc, Option.some.inj hy ▸ hgy⟩

/-- **param_decoding (table).** For a root `parameters [rows, nSets]`, a table parameter stored in rows
`row … row+maxLen-1` (`0 ≤ row`, `1 ≤ maxLen`, `row + maxLen ≤ rows`), a cell `i ≥ 0` whose own table length is
`ownLen ≤ maxLen`: the `ApplyParameters` view (`Slice([row,0],[maxLen,nSets],nil).MustReshape([maxLen,nSets])`,
contiguous, no copy) followed by `Slice([]int{0, i % nSets}, []int{ownLen}, nil)` — rank-1 extents on a rank-2 array,
not a view of the `Reach` vocabulary — does not panic and yields a view `t` on the parameters storage with
`Len1() = ownLen` whose `Index([r])` is `i % nSets + r·nSets` (for EVERY `r`: `Index` loops over `len(loc) = 1`), and
whose element `r`, `0 ≤ r < ownLen`, is `parameters[row + r, i % nSets]`, storage cell
`base + (row + r)·nSets + i % nSets`: column `i % nSets` of the table, top `ownLen` rows. -/
theorem param_decoding_table {h : Heap α} {parameters : Arr} {rows nSets row maxLen ownLen i : Int}
    (r : RootOn h parameters [rows, nSets]) (h0 : 0 ≤ row) (hm : 1 ≤ maxLen) (h1 : row + maxLen ≤ rows)
    (hi0 : 0 ≤ i) (hown : ownLen ≤ maxLen) :
    (sliceView parameters.v [row, 0] [1 * maxLen, nSets] none).contiguous = .ok true ∧
    ∃ t, tableParam h parameters row maxLen ownLen i = .ok (h, t) ∧ t.sid = parameters.sid ∧ t.isC = false ∧
      t.v.len 0 = .ok ownLen ∧
      (∀ q : Int, t.v.index [q] = .ok (i % nSets + q * nSets)) ∧
      (∀ q, 0 ≤ q → q < ownLen → ∃ x, get1 h t q = .ok x ∧ Nd.get h t [q] = .ok x ∧
        cell h parameters.sid (parameters.base + ((row + q) * nSets + i % nSets)).toNat = some x ∧
        Nd.get h parameters [row + q, i % nSets] = .ok x) := by
  obtain ⟨_, hnS⟩ := pos2 r.pos
  obtain ⟨hc0, hc1⟩ := emod_range i hnS
  obtain ⟨_, hc, rt⟩ := paramView_table_eq r h0 hm h1
  refine ⟨hc, _, tableParam_eq r h0 hm h1 hi0, rfl, rfl, by simp [View.len, tableArr], fun q => tableArr_index _ _ _ _ _ _ _,
    fun q q0 q1 => ?_⟩
  obtain ⟨x, hx, hg, hg1⟩ := tableArr_get (ownLen := ownLen) rt hc0 hc1 q0 (by omega)
  obtain ⟨y, hy, hgy, _⟩ := r.get (idx := [row + q, i % nSets]) (by simp; omega)
  have hpos : parameters.base + row * nSets + (i % nSets + q * nSets) =
      parameters.base + ((row + q) * nSets + i % nSets) := by ring
  rw [hpos] at hx
  rw [ravel2, hx] at hy
  injection hy with hy
  subst hy
  exact ⟨x, hg1, hg, hx, hgy⟩

/-- the storage positions cell `i` may WRITE: row `i` of `states [·, nS]` and the rows `(i, ·, ·)` of
`outputs [·, nO, T']` (whole rows — a superset of the `t < T` actually written, `cell_views_outputs`) -/
def WriteFoot (states outputs : Arr) (nS nO T' i : Int) (u q : Nat) : Prop :=
  (u = states.sid ∧ ∃ s, 0 ≤ s ∧ s < nS ∧ q = (states.base + (i * nS + s)).toNat) ∨
  (u = outputs.sid ∧ ∃ o t, 0 ≤ o ∧ o < nO ∧ 0 ≤ t ∧ t < T' ∧ q = (outputs.base + ((i * nO + o) * T' + t)).toNat)

/-- the storages every cell only READS: parameters and inputs (all of them: input blocks and parameter sets are shared
between cells when `nIn < N` or `nSets < N`) -/
def ReadOnlyFoot (parameters inputs : Arr) (u : Nat) : Prop := u = parameters.sid ∨ u = inputs.sid

/-- every position the views of cell `i` address in `states` / `outputs` (`cell_views_states`, `cell_views_outputs`) lies in
`WriteFoot … i` -/
theorem stateView_pos_in_foot (states outputs : Arr) {nS nO T' i s : Int} (s0 : 0 ≤ s) (s1 : s < nS) :
    WriteFoot states outputs nS nO T' i states.sid (states.base + (i * nS + s)).toNat :=
  Or.inl ⟨rfl, s, s0, s1, rfl⟩

theorem outputView_pos_in_foot (states outputs : Arr) {nS nO T' T i o t : Int} (o0 : 0 ≤ o) (o1 : o < nO)
    (t0 : 0 ≤ t) (t1 : t < T) (hT : T ≤ T') :
    WriteFoot states outputs nS nO T' i outputs.sid (outputs.base + ((i * nO + o) * T' + t)).toNat :=
  Or.inr ⟨rfl, o, t, o0, o1, t0, by omega, rfl⟩

/-- **views_disjoint.** For cells `i ≠ j` (`i, j ≥ 0`), arrays `states [·, nS]`, `outputs [·, nO, T']` with
non-negative `Impl` offsets, held in storages different from each other and from those of `parameters` and `inputs`:
the write footprint of cell `i` (state row `i`, output rows `(i,·,·)`) contains no position of the write footprint of
cell `j` — which is also everything cell `j` reads in `states`/`outputs` — and no position of the read-only storages.
So the only storage shared between two cells is read-only: the footprint fact asserted by the schedule-independence
instance of C05 (`OW.Sim.CellTasks`: addresses `st i`, `out i` are distinct memory for distinct `i`), and used at the address level in
`OW/Props/C05Addr.lean`. -/
theorem views_disjoint {states outputs parameters inputs : Arr} {nS nO T' i j : Int}
    (hsb : 0 ≤ states.base) (hob : 0 ≤ outputs.base) (hnS : 1 ≤ nS) (hnO : 1 ≤ nO) (hT' : 1 ≤ T')
    (hso : states.sid ≠ outputs.sid) (hsp : states.sid ≠ parameters.sid) (hsi : states.sid ≠ inputs.sid)
    (hop : outputs.sid ≠ parameters.sid) (hoi : outputs.sid ≠ inputs.sid)
    (hi0 : 0 ≤ i) (hj0 : 0 ≤ j) (hij : i ≠ j) (u q : Nat) (hw : WriteFoot states outputs nS nO T' i u q) :
    ¬ WriteFoot states outputs nS nO T' j u q ∧ ¬ ReadOnlyFoot parameters inputs u := by
  constructor
  · intro hw'
    rcases hw with ⟨rfl, s, s0, s1, rfl⟩ | ⟨rfl, o, t, o0, o1, t0, t1, rfl⟩
    · rcases hw' with ⟨_, s', s0', s1', e⟩ | ⟨e, _⟩
      · exact row_ne hij s0 s1 s0' s1' (toNat_add_inj hsb (row_nonneg hi0 s0 s1) (row_nonneg hj0 s0' s1') e)
      · exact hso e
    · rcases hw' with ⟨e, _⟩ | ⟨_, o', t', o0', o1', t0', t1', e⟩
      · exact hso e.symm
      · exact row_ne (row_ne hij o0 o1 o0' o1') t0 t1 t0' t1' (toNat_add_inj hob
          (row_nonneg (row_nonneg hi0 o0 o1) t0 t1) (row_nonneg (row_nonneg hj0 o0' o1') t0' t1') e)
  · intro hr
    rcases hw with ⟨rfl, _⟩ | ⟨rfl, _⟩ <;> rcases hr with e | e
    · exact hsp e
    · exact hsi e
    · exact hop e
    · exact hoi e

/-- **write_invisible_to_other_cells.** On root arrays in pairwise different storages, a write of cell `i` — any
storage update inside `WriteFoot … i`, which is where `Set1` through its state view and output views lands — leaves
every value cell `j ≠ i` reads unchanged: through its state view, its output views, its input views and its scalar
parameter decoding. (With `views_disjoint`: cells communicate through nothing.) -/
theorem write_invisible_to_other_cells {h : Heap α} {parameters inputs states outputs : Arr}
    {rows nSets nIn nI T N nS M nO T' i j : Int}
    (rp : RootOn h parameters [rows, nSets]) (ri : RootOn h inputs [nIn, nI, T]) (rs : RootOn h states [N, nS])
    (ro : RootOn h outputs [M, nO, T'])
    (hso : states.sid ≠ outputs.sid) (hsp : states.sid ≠ parameters.sid) (hsi : states.sid ≠ inputs.sid)
    (hop : outputs.sid ≠ parameters.sid) (hoi : outputs.sid ≠ inputs.sid)
    (hi0 : 0 ≤ i) (hj0 : 0 ≤ j) (hjN : j < N) (hjM : j < M) (hij : i ≠ j) (hT0 : 1 ≤ T) (hT : T ≤ T')
    (u q : Nat) (v : α) (hw : WriteFoot states outputs nS nO T' i u q) :
    (∀ s, 0 ≤ s → s < nS → ∃ sv, stateView (setStore h u q v) states j nS = .ok (setStore h u q v, sv) ∧
        stateView h states j nS = .ok (h, sv) ∧ get1 (setStore h u q v) sv s = get1 h sv s) ∧
    (∀ o t, 0 ≤ o → o < nO → 0 ≤ t → t < T → ∃ ov, outputView (setStore h u q v) outputs j o T = .ok (setStore h u q v, ov) ∧
        outputView h outputs j o T = .ok (h, ov) ∧ get1 (setStore h u q v) ov t = get1 h ov t) ∧
    (∀ k t, 0 ≤ k → k < nI → 0 ≤ t → t < T → ∃ iv, inputView (setStore h u q v) inputs j k nIn nI T = .ok (setStore h u q v, iv) ∧
        inputView h inputs j k nIn nI T = .ok (h, iv) ∧ get1 (setStore h u q v) iv t = get1 h iv t) ∧
    (∀ row, 0 ≤ row → row < rows → scalarParam (setStore h u q v) parameters row j = scalarParam h parameters row j) := by
  have ss := sameShape_setStore h u q v
  obtain ⟨_, hnS⟩ := pos2 rs.pos
  obtain ⟨_, hnO, hT'⟩ := pos3 ro.pos
  obtain ⟨hnd, hro⟩ := views_disjoint rs.ok.base_nonneg ro.ok.base_nonneg hnS hnO hT' hso hsp hsi hop hoi hi0 hj0 hij u q hw
  refine ⟨fun s s0 s1 => ?_, fun o t o0 o1 t0 t1 => ?_, fun k t k0 k1 t0 t1 => ?_, fun row r0 r1 => ?_⟩
  · obtain ⟨e, _, rv⟩ := stateView_eq rs hj0 hjN
    obtain ⟨e', _, _⟩ := stateView_eq (rs.sameShape ss) hj0 hjN
    exact ⟨_, e', e, flat_get1_frame rv s0 s1 u q v fun ⟨hu, hq⟩ =>
      hnd (Or.inl ⟨hu, s, s0, s1, by rw [hq, Int.add_assoc]⟩)⟩
  · obtain ⟨e, _, rv⟩ := outputView_eq ro hj0 hjM o0 o1 hT0 hT
    obtain ⟨e', _, _⟩ := outputView_eq (ro.sameShape ss) hj0 hjM o0 o1 hT0 hT
    exact ⟨_, e', e, flat_get1_frame rv t0 t1 u q v fun ⟨hu, hq⟩ =>
      hnd (Or.inr ⟨hu, o, t, o0, o1, t0, by omega, by rw [hq, Int.add_assoc]⟩)⟩
  · obtain ⟨e, rv⟩ := inputView_eq ri hj0 k0 k1
    obtain ⟨e', _⟩ := inputView_eq (ri.sameShape ss) hj0 k0 k1
    exact ⟨_, e', e, flat_get1_frame rv t0 t1 u q v fun c => hro (Or.inr c.1)⟩
  · obtain ⟨x, hx, hc⟩ := scalarParam_eq rp r0 r1 hj0
    obtain ⟨x', hx', hc'⟩ := scalarParam_eq (rp.sameShape ss) r0 r1 hj0
    rw [cell_setStore, if_neg (fun c => hro (Or.inl c.1.symm)), hc] at hc'
    exact hx'.trans ((Option.some.inj hc') ▸ hx.symm)

/-- **template_views.** With the vectors of `runDims` and the per-goroutine position vectors
(`X.NewIndex(0)` with the cell / output number stored into it), the views the template builds are the ones the
theorems above are about. -/
theorem template_views {h : Heap α} {inputs states outputs : Arr} {nIn nI T N nS M nO T' : Int} {rd : RunDims}
    (hi : inputs.v = rootView [nIn, nI, T] 0) (hs : states.v = rootView [N, nS] 0)
    (ho : outputs.v = rootView [M, nO, T'] 0) (hrd : runDims inputs states outputs = .ok rd) (i k o : Int) :
    tplStateView h states rd i = stateView h states i nS ∧
    tplInputView h inputs rd i k = inputView h inputs i k nIn nI T ∧
    tplOutputView h outputs rd i o = outputView h outputs i o T := by
  rw [runDims_eq hi hs ho] at hrd
  injection hrd with hrd
  subst hrd
  refine ⟨?_, ?_, ?_⟩
  · simp [tplStateView, stateView, setAt, View.newIndex, View.ndims, hs, rootView, uniform, bind, Except.bind]
  · unfold tplInputView inputView cellInputs inputOf goMod
    by_cases h0 : nIn = 0
    · simp [h0, bind, Except.bind]
    · simp [h0, setAt, View.newIndex, View.ndims, hi, rootView, uniform, bind, Except.bind]
      generalize slice inputs [i.tmod nIn, 0, 0] [1, nI, T] none = e
      cases e <;> rfl
  · simp [tplOutputView, outputView, setAt, View.newIndex, View.ndims, ho, rootView, uniform, bind, Except.bind]

/-- **reshapes_on_contiguous_views** (the lemma DESIGN §6 C03, clause 3, asks for). On root arrays (any extents ≥ 1, oversized outputs allowed), for every cell,
input, output and parameter row in range, EVERY view the template passes to `MustReshape` — the state row, the input
block, the input series inside the reshaped block, the output series, a scalar parameter row, a table parameter's rows —
is contiguous. So (C02 `reshape_spec`) each of these reshapes aliases the storage of the array it was sliced from
(Go back-end: re-based `Impl`; C back-end: root view from `Start`), never copies, and the non-contiguous-C-view defect
of `Reshape` (D3) is not reachable from the wrappers. -/
theorem reshapes_on_contiguous_views {h : Heap α} {parameters inputs states outputs : Arr}
    {rows nSets nIn nI T N nS M nO T' : Int}
    (rp : RootOn h parameters [rows, nSets]) (ri : RootOn h inputs [nIn, nI, T]) (rs : RootOn h states [N, nS])
    (ro : RootOn h outputs [M, nO, T']) (hT : T ≤ T') {i : Int} (hi0 : 0 ≤ i) (hiN : i < N) (hiM : i < M) :
    (sliceView states.v [i, 0] [1, nS] none).contiguous = .ok true ∧
    (sliceView inputs.v [i % nIn, 0, 0] [1, nI, T] none).contiguous = .ok true ∧
    (∀ k, 0 ≤ k → k < nI → (sliceView (rootView [nI, T] 0) [k, 0] [1, T] none).contiguous = .ok true) ∧
    (∀ o, 0 ≤ o → o < nO → (sliceView outputs.v [i, o, 0] [1, 1, T] (some [1, 1, 1])).contiguous = .ok true) ∧
    (∀ row, 0 ≤ row → row < rows → (sliceView parameters.v [row, 0] [1, nSets] none).contiguous = .ok true) ∧
    (∀ row maxLen, 0 ≤ row → 1 ≤ maxLen → row + maxLen ≤ rows →
      (sliceView parameters.v [row, 0] [1 * maxLen, nSets] none).contiguous = .ok true) := by
  obtain ⟨_, _, hT0⟩ := pos3 ri.pos
  obtain ⟨_, h2, rci⟩ := cellInputs_eq ri hi0
  exact ⟨(stateView_eq rs hi0 hiN).2.1, h2, fun k k0 k1 => (stateView_eq rci k0 k1).2.1,
    fun o o0 o1 => (outputView_eq ro hi0 hiM o0 o1 hT0 hT).2.1,
    fun row r0 r1 => (paramView_scalar_eq rp r0 r1).2.1,
    fun row maxLen r0 m1 r1 => (paramView_table_eq rp r0 m1 r1).2.1⟩

/-! ## Non-vacuity: parameters 3×2, inputs 2×2×3, states 3×2, outputs 4×1×5 (oversized: 4 > 3 cells, 5 > 3 steps) -/
namespace Ex

/-- storage 0: parameters `[[10,11],[20,21],[30,31]]`; storage 1: inputs `100 … 111`; storage 2: states `1 … 6`;
storage 3: outputs, 20 sentinels `-1` -/
def heap : Heap Int :=
  [[10, 11, 20, 21, 30, 31], (List.range 12).map (fun k => 100 + Int.ofNat k), [1, 2, 3, 4, 5, 6], List.replicate 20 (-1)]
def pA : Arr := rootArr 0 [3, 2] 6
def iA : Arr := rootArr 1 [2, 2, 3] 12
def sA : Arr := rootArr 2 [3, 2] 6
def oA : Arr := rootArr 3 [4, 1, 5] 20

example : fromStore heap 0 [3, 2] = .ok pA ∧ fromStore heap 1 [2, 2, 3] = .ok iA ∧ fromStore heap 2 [3, 2] = .ok sA ∧
    fromStore heap 3 [4, 1, 5] = .ok oA := by decide
theorem rp : RootOn heap pA [3, 2] := (rootOn_rootArr (st := heap[0]) (List.cons_ne_nil _ _) (by unfold Pos; decide) rfl (by decide)).2
theorem ri : RootOn heap iA [2, 2, 3] := (rootOn_rootArr (st := heap[1]) (List.cons_ne_nil _ _) (by unfold Pos; decide) rfl (by decide)).2
theorem rs : RootOn heap sA [3, 2] := (rootOn_rootArr (st := heap[2]) (List.cons_ne_nil _ _) (by unfold Pos; decide) rfl (by decide)).2
theorem ro : RootOn heap oA [4, 1, 5] := (rootOn_rootArr (st := heap[3]) (List.cons_ne_nil _ _) (by unfold Pos; decide) rfl (by decide)).2

example : runDims iA sA oA = .ok ⟨3, 2, 2, 3, [2, 3], [1, 1, 1], [1, 1, 3], [1, 2], [1, 2, 3]⟩ := by decide
example : (do let rd ← runDims iA sA oA; tplStateView heap sA rd 2) = stateView heap sA 2 2 ∧
    (do let rd ← runDims iA sA oA; tplInputView heap iA rd 3 1) = inputView heap iA 3 1 2 2 3 ∧
    (do let rd ← runDims iA sA oA; tplOutputView heap oA rd 2 0) = outputView heap oA 2 0 3 := by decide

-- `cell_views_states` on cell 2: the state view is the window [4, 6) of storage 2; `Set1(1, 99)` changes exactly position 5
example : stateView heap sA 2 2 = .ok (heap, flat 2 4 2) := by decide
example := cell_views_states rs (i := 2) (by decide) (by decide)
example : (do let (h1, sv) ← stateView heap sA 2 2; readView h1 sv) = .ok [5, 6] := by decide
example : (do let (h1, sv) ← stateView heap sA 2 2; set1 h1 sv 1 99) =
    .ok [heap[0], heap[1], [1, 2, 3, 4, 5, 99], heap[3]] := by decide
example : (do let (h1, sv) ← stateView heap sA 2 2; set1 h1 sv 2 99) = .error "index-out-of-range" := by decide

-- `cell_views_inputs` on cell 3 (block 3 % 2 = 1), input 1: the window [9, 12) of storage 1 = inputs[1, 1, ·]
example : inputView heap iA 3 1 2 2 3 = .ok (heap, flat 1 9 3) := by decide
example := cell_views_inputs ri (i := 3) (k := 1) (by decide) (by decide) (by decide)
example : (do let (h1, v) ← inputView heap iA 3 1 2 2 3; readView h1 v) = .ok [109, 110, 111] ∧
    (do let (h1, v) ← inputView heap iA 3 1 2 2 3; unrollVals h1 v) = .ok [109, 110, 111] ∧
    [Nd.get heap iA [1, 1, 0], Nd.get heap iA [1, 1, 1], Nd.get heap iA [1, 1, 2]] = [.ok 109, .ok 110, .ok 111] := by
  decide

-- `cell_views_outputs` on cell 2, output 0, T = 3 < T' = 5: the window [10, 13) of storage 3; a kernel writing the series changes
-- exactly positions 10, 11, 12 — timesteps 3, 4 of the row and row 3 (no cell) keep their sentinels
example : outputView heap oA 2 0 3 = .ok (heap, flat 3 10 3) := by decide
example := cell_views_outputs ro (i := 2) (o := 0) (T := 3) (by decide) (by decide) (by decide) (by decide) (by decide)
  (by decide)
example : (do let (h1, ov) ← outputView heap oA 2 0 3; writeView h1 ov [7, 8, 9]) =
    .ok [heap[0], heap[1], heap[2],
      [-1, -1, -1, -1, -1,  -1, -1, -1, -1, -1,  7, 8, 9, -1, -1,  -1, -1, -1, -1, -1]] := by decide
example : (do let (h1, ov) ← outputView heap oA 2 0 3; set1 h1 ov 3 99) = .error "index-out-of-range" := by decide

-- `param_decoding_*`: scalar parameter in row 1 for cell 3 is parameters[1, 3 % 2] = 21; a table parameter in rows 1..2
-- (maxLen = 2) for cell 3 with own length 2 is column 1: [21, 31]; with own length 1: [21]
example : scalarParam heap pA 1 3 = .ok 21 := by decide
example := param_decoding_scalar rp (row := 1) (i := 3) (by decide) (by decide) (by decide)
example : (do let (h1, t) ← tableParam heap pA 1 2 2 3; readTable h1 t 2) = .ok [21, 31] ∧
    (do let (h1, t) ← tableParam heap pA 1 2 1 3; readTable h1 t 1) = .ok [21] ∧
    (do let (_, t) ← tableParam heap pA 1 2 2 3; t.v.len 0) = .ok 2 := by decide
example := param_decoding_table rp (row := 1) (maxLen := 2) (ownLen := 2) (i := 3) (by decide) (by decide) (by decide)
  (by decide) (by decide)
/-- the table view is not a view of the `Reach` vocabulary (rank-1 extents, rank-2 strides) -/
example : (do let (_, t) ← tableParam heap pA 1 2 2 3; pure t.v) =
    .ok ⟨[2, 2], [2], 1, [2, 1], [1, 1], [2, 1]⟩ := by decide

example := views_disjoint (states := sA) (outputs := oA) (parameters := pA) (inputs := iA) (nS := 2) (nO := 1) (T' := 5)
  (i := 0) (j := 2) (by decide) (by decide) (by decide) (by decide) (by decide) (by decide) (by decide) (by decide)
  (by decide) (by decide) (by decide) (by decide) (by decide)

example := reshapes_on_contiguous_views rp ri rs ro (i := 2) (by decide) (by decide) (by decide) (by decide)

/-- a toy kernel: the output series is the first input series plus the first parameter; the new states are the old
ones swapped -/
def toyKernel (p : List Int) (ins : List (List Int)) (st : List Int) : KRes Int :=
  .ok { outputs := [(ins.headD []).map (· + p.headD 0)], states := st.reverse }

-- one whole cell step (cell 2: block 0, parameter set 0) through the views: output row (2,0,·) gets the series in
-- its first 3 positions, state row 2 is swapped, nothing else changes
example : (do let rd ← runDims iA sA oA; cellStepNd toyKernel 3 2 heap pA iA sA oA rd 2) =
    .ok [heap[0], heap[1], [1, 2, 3, 4, 6, 5],
      [-1, -1, -1, -1, -1,  -1, -1, -1, -1, -1,  110, 111, 112, -1, -1,  -1, -1, -1, -1, -1]] := by decide

-- the whole `Run` (3 cells; 2 parameter sets and 2 input blocks reused cyclically) through the views: output rows
-- 0..2 receive their series in the first 3 timesteps, row 3 and timesteps 3, 4 keep the sentinels; inputs and
-- parameters are untouched
example : runNd toyKernel 3 2 heap pA iA sA oA =
    .ok [heap[0], heap[1], [2, 1, 4, 3, 6, 5],
      [110, 111, 112, -1, -1,  117, 118, 119, -1, -1,  110, 111, 112, -1, -1,  -1, -1, -1, -1, -1]] := by decide

/-- `T ≤ T'` is needed (the template takes `inputLen` from the INPUTS and `Slice` checks no bounds): with outputs
`3×1×2` and series length 3, the output views of cells 0 and 1 are the windows `[0,3)` and `[2,5)` of the same storage —
they OVERLAP at position 2 (no panic; `Contiguous()` is true, the reshape aliases across the row boundary), and only
the last cell panics (slice bounds). -/
example : let hO : Heap Int := [List.replicate 6 0]
    let o32 : Arr := rootArr 0 [3, 1, 2] 6
    outputView hO o32 0 0 3 = .ok (hO, flat 0 0 3) ∧ outputView hO o32 1 0 3 = .ok (hO, flat 0 2 3) ∧
    outputView hO o32 2 0 3 = .error "index-out-of-range" := by decide

/-- The template's write-back of packed states (`GR4J`, `Lag`) passes the STEP vector `[0,1]`
(`states.ApplySlice([]int{i,0}, []int{0,1}, pack(…))`): a zero step, outside the `SliceOK` vocabulary of C01 (steps ≥ 1).
It is harmless only because the packed array has extent 1 on that axis — same result as step `[1,1]`. -/
example : let hS : Heap Int := [[1, 2, 3, 4, 5, 6], [70, 80]]
    let packed : Arr := rootArr 1 [1, 2] 2
    applySlice hS (rootArr 0 [3, 2] 6) [2, 0] (some [0, 1]) packed = .ok [[1, 2, 3, 4, 70, 80], [70, 80]] ∧
    applySlice hS (rootArr 0 [3, 2] 6) [2, 0] (some [0, 1]) packed =
      applySlice hS (rootArr 0 [3, 2] 6) [2, 0] (some [1, 1]) packed := by decide

/-- The branch of the template for kernels that RETURN their outputs (`PassOutputsAsParams = false`; used by none of
the 41 catalogued models) reshapes a series to `[1, len, 1]` and `ApplySlice`s it at `[i, o, 0]`: with the dimension
order `[cell, output, timestep]` that writes along the OUTPUT axis (positions `0, 3, 6` of a `2×2×3` array — the third in
the next cell's rows), not along the timestep axis (`[1, 1, len]`: positions `0, 1, 2`). -/
example : let hO : Heap Int := [List.replicate 12 0, [7, 8, 9]]
    let o223 : Arr := rootArr 0 [2, 2, 3] 12
    applySlice hO o223 [0, 0, 0] (some [1, 1, 1]) (rootArr 1 [1, 3, 1] 3) =
      .ok [[7, 0, 0, 8, 0, 0, 9, 0, 0, 0, 0, 0], [7, 8, 9]] ∧
    applySlice hO o223 [0, 0, 0] (some [1, 1, 1]) (rootArr 1 [1, 1, 3] 3) =
      .ok [[7, 8, 9, 0, 0, 0, 0, 0, 0, 0, 0, 0], [7, 8, 9]] := by decide

end Ex

end

end OW.Props.C04Nd
