import OW.Gen.Kernels
import OW.Proofs.SacramentoMid
namespace OW.Props.GenTie
open OW OW.Kernels OW.Gen.K OW.Gen.Prelude

/-! ### models/rr/sacramento.go

The lifted loop bodies `loopBody1…4` are compared with a COPY of themselves kept in `OW/Proofs/SacramentoMid.lean` (by `rfl`);
that file proves, independently of the generated file, what the loops over the copy compute in terms of the hand-written model
`OW/Kernels/Sacramento.lean`. The straight-line text of the regenerated step is compared with the hand-written step directly.
A source change that alters the arithmetic makes one of the proofs below fail; so does a behaviour-preserving rewrite that
changes the merge structure of a loop body (the copies are compared by `rfl`); renames, temporaries and the like leave the
generated term the same after unfolding.
`gen_eq_Sacramento` rewrites with the equations of `loopBody2…4` only: `loopBody1` occurs inside `loopBody2`, whose `rfl`
compares the two copies of it as well, and `makeUnitHydrograph` in the `pre` conjunct, which is `rfl` too. -/

theorem gen_eq_Sacramento_loopBody1 : @sacramento.loopBody1 = @SacramentoMid.loopBody1 := rfl
theorem gen_eq_Sacramento_loopBody2 : @sacramento.loopBody2 = @SacramentoMid.loopBody2 := rfl
theorem gen_eq_Sacramento_loopBody3 : @sacramento.loopBody3 = @SacramentoMid.loopBody3 := rfl
theorem gen_eq_Sacramento_loopBody4 : @sacramento.loopBody4 = @SacramentoMid.loopBody4 := rfl
/-- `makeUnitHydrograph` (with `sumSlice`: a `range` loop) = the hand model's -/
theorem gen_eq_Sacramento_makeUH {α} [Num α] (p : Sacramento.Params α) :
    sacramento.makeUnitHydrograph p.uh1 p.uh2 p.uh3 p.uh4 p.uh5 = Sacramento.makeUnitHydrograph p := rfl

/-- `sacramento`: before the loop the unit hydrograph ordinates are the `dro` of `Sacramento.consts` (the other, scalar, constants
of `Sacramento.consts` are `let`s of the regenerated `step`);
the loop starts from the six state parameters, an empty hydrograph buffer `qq = make(nunit)` and `alzfsc, alzfpc` (hidden
state); one iteration — evaporation, resupply, the passes `for ii` / `for inc` of the drainage and percolation loop, unit
hydrograph, channel losses — is `Sacramento.step` (all nine carried values and the five outputs), for a buffer of
`nunit = 5` cells. -/
theorem gen_eq_Sacramento {α} [Num α] (p : Sacramento.Params α) (s0 s1 s2 s3 s4 s5 : α) (st : Sacramento.State α)
    (rain pet : α) (hq : st.qq.length = 5) :
    sacramento.guard s0 s1 s2 s3 s4 s5 p.lzpk p.lzsk p.uzk p.uztwm p.uzfwm p.lztwm p.lzfsm p.lzfpm p.pfree p.rexp p.zperc p.side
      p.ssout p.pctim p.adimp p.sarva p.rserv p.uh1 p.uh2 p.uh3 p.uh4 p.uh5 = false ∧
    sacramento.pre s0 s1 s2 s3 s4 s5 p.lzpk p.lzsk p.uzk p.uztwm p.uzfwm p.lztwm p.lzfsm p.lzfpm p.pfree p.rexp p.zperc p.side
      p.ssout p.pctim p.adimp p.sarva p.rserv p.uh1 p.uh2 p.uh3 p.uh4 p.uh5 =
      (Sacramento.consts p).dro ∧
    sacramento.init s0 s1 s2 s3 s4 s5 p.lzpk p.lzsk p.uzk p.uztwm p.uzfwm p.lztwm p.lzfsm p.lzfpm p.pfree p.rexp p.zperc p.side
      p.ssout p.pctim p.adimp p.sarva p.rserv p.uh1 p.uh2 p.uh3 p.uh4 p.uh5 =
      (s0, s1, s2, s3, s4, s5, zeros 5, s4 * (1.0 + p.side), s3 * (1.0 + p.side)) ∧
    (let c := Sacramento.consts p
     sacramento.step p.lzpk p.lzsk p.uzk p.uztwm p.uzfwm p.lztwm p.lzfsm p.lzfpm p.pfree p.rexp p.zperc p.side p.ssout p.pctim
        p.adimp p.sarva p.rserv p.uh1 p.uh2 p.uh3 p.uh4 p.uh5 c.dro st.uztwc st.uzfwc
        st.lztwc st.lzfpc st.lzfsc st.adimc st.qq st.alzfsc st.alzfpc rain pet =
      (let r := Sacramento.step p c st (rain, pet)
       ((r.1.uztwc, r.1.uzfwc, r.1.lztwc, r.1.lzfpc, r.1.lzfsc, r.1.adimc, r.1.qq, r.1.alzfsc, r.1.alzfpc),
        (r.2.actualET, r.2.runoff, r.2.imperviousRunoff, r.2.surfaceRunoff, r.2.baseflow)))) := by
  refine ⟨rfl, rfl, rfl, ?_⟩
  have hd : (Sacramento.consts p).dro.length = 5 := rfl
  have hl := SacramentoMid.iiLoop_eq p (Sacramento.consts p)
  simp only [Sacramento.consts] at hl hd
  -- both steps as tuples of nested `if`s over the state and the inputs
  simp only [sacramento.step, Sacramento.step, Sacramento.consts, Sacramento.channel, gen_eq_Sacramento_loopBody2,
    gen_eq_Sacramento_loopBody3, gen_eq_Sacramento_loopBody4, ite_prod, gt_iff_lt, SacramentoMid.ite_sub_ite,
    SacramentoMid.ite_gmin_ite, SacramentoMid.ite_neg_add_ite, SacramentoMid.ite_neg_ite, SacramentoMid.ite_else_ite,
    hl, SacramentoMid.sacCarried2, SacramentoMid.conv_eq _ _ _ hq hd, SacramentoMid.shift_eq _ _ hq]

end OW.Props.GenTie
