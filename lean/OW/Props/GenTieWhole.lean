import OW.Gen.Kernels
import OW.Proofs.Lag
import OW.Kernels.StorageTrapAll
import OW.Kernels.C16.Conversions
/-! Ties of the kernels translated as a whole function (`lag`, `storageTrapAll`, `inputNode`: no time loop of the standard shape; series are
lists, the definition `run` returns the returned values and the written series). `lag` is a sequence of `forRangeN` loops on one side and of
`Lag.forLoop` loops on the other: both are brought to `forRangeN` (`forLoop_eq_forRangeN`) and compared loop by loop (`forRangeN_congr`). -/
namespace OW.Props.GenTie
open OW OW.Kernels OW.Gen.K OW.Gen.Prelude OW.Proofs.GenLoops
set_option linter.unusedSimpArgs false

/-- `gen_eq_Lag` where `lagSteps = int(timeLag)` is a positive number `k` and the output array has the length of `inflow`:
with these the loop bounds of both sides (`min k T`, `T - k`, …) are casts of the same naturals -/
theorem gen_eq_Lag_core {α} [Num α] (timeLag : α) (inflow lagged outflow0 : List α) (k : Nat)
    (hk : Num.toInt timeLag = (k : Int)) (hpos : 0 < k) (hlen : outflow0.length = inflow.length) :
    lag.run inflow lagged timeLag outflow0 =
      (let r := Lag.lagCore k inflow lagged outflow0; (r.lagged, r.outflow)) := by
  unfold lag.run Lag.lagCore
  simp only [hk]
  have hk0 : ¬ ((k : Int) = 0) := by omega
  simp only [hk0, ↓reduceIte]
  simp only [forRange]
  simp only [forRangeN_fst, implies_true]
  have hT : sliceLen inflow = (inflow.length : Int) := rfl
  have hO : sliceLen outflow0 = (inflow.length : Int) := by unfold sliceLen; rw [hlen]; rfl
  have hmin : minInt (k : Int) (inflow.length : Int) = ((k.min inflow.length : Nat) : Int) := by
    show _ = ((min k inflow.length : Nat) : Int)
    unfold minInt; split <;> omega
  simp only [hT, hO, hmin, forRangeN_length, sliceSet_length, implies_true, forLoop_eq_forRangeN]
  clear hk hpos hlen hk0 hT hO hmin
  -- every loop is now `forRangeN body n start init` on both sides: the counts agree, and the bodies store the same value at the
  -- same cell (integer arithmetic on the indices, whatever index expression the source lets the loop run over)
  refine Prod.ext ?_ ?_
  · by_cases hlt : inflow.length < k
    · have hgt : (k : Int) > (inflow.length : Int) := by omega
      simp only [hgt, hlt, ↓reduceIte]
      refine forRangeN_congr (by omega) ?_ fun j h0 h1 c => store_congr (by omega) (by omega)
      exact forRangeN_congr (by omega) rfl fun j h0 h1 c => store_congr (by omega) (by omega)
    · have hgt : ¬ ((k : Int) > (inflow.length : Int)) := by omega
      simp only [hgt, hlt, ↓reduceIte]
      exact forRangeN_congr (by omega) rfl fun j h0 h1 c => store_congr (by omega) (by omega)
  · simp only [apply_ite Lag.Out.outflow, ite_self]
    refine forRangeN_congr (by omega) ?_ fun j h0 h1 c => store_congr (by omega) (by omega)
    exact forRangeN_congr (by omega) rfl fun j h0 h1 c => store_congr (by omega) (by omega)

/-- `lag` (models/routing/lag.go, translated as a whole: the in-place loops over computed indices — whichever index the source
lets each loop run over: `gen_eq_Lag_core` compares the two sides loop by loop (`forRangeN_congr`), counts and index
expressions by integer arithmetic —, the early return for `lagSteps == 0`) = `Lag.run` on every run on which the hand model does not report a Go panic (`lagSteps < 0`, state
row shorter than `lagSteps`: index out of range — not part of the generated definition). `outflow` enters as the
zero-initialised output array of the length of `inflow`. -/
theorem gen_eq_Lag {α} [Num α] (timeLag : α) (inflow lagged : List α) (o : Lag.Out α)
    (h : Lag.run timeLag inflow lagged = .ok o) :
    lag.run inflow lagged timeLag (zeros inflow.length) = (o.lagged, o.outflow) := by
  rcases Proofs.Lag.run_ok_cases h with ⟨h0, rfl⟩ | ⟨hpos, _, rfl⟩
  · unfold lag.run
    simp only [h0, ↓reduceIte, copyFrom]
  · exact gen_eq_Lag_core timeLag inflow lagged (zeros inflow.length) _ (by omega) (by omega) (by simp [zeros])

/-- `storageTrapAll` (bulk copy, then element 0) = `StorageTrapAll.trapped`: an empty series keeps the stored mass, else
the initial stored mass is added to element 0 and the stored mass becomes `0.0`; `outflowMass` is not written. -/
theorem gen_eq_StorageTrapAll {α} [Num α] (inflowMass a b c trapped0 outflowMass0 : List α) (ism : α) :
    storageTrapAll.run inflowMass a b c ism trapped0 outflowMass0 =
      (match StorageTrapAll.trapped inflowMass ism with
       | none => (ism, inflowMass)
       | some t => (0.0, t)) := by
  unfold storageTrapAll.run StorageTrapAll.trapped
  cases inflowMass with
  | nil => simp [copyFrom, sliceLen]
  | cons x xs =>
    simp only [copyFrom, sliceLen, List.length_cons]
    have : ¬ (Int.ofNat (xs.length + 1) = 0) := by simp; omega
    simp only [this, ↓reduceIte]
    rfl

theorem gen_eq_InputNode {α} [Num α] (input output0 : List α) :
    inputNode.run input output0 = InputNode.run input := rfl

end OW.Props.GenTie
