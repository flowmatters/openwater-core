import OW.Proofs.HotStartLag
import OW.Proofs.HotStartGR4J
import OW.Proofs.StoragePrefix
import OW.Proofs.ScanShapes
import OW.Proofs.RealNum
/-!
C06 — hot-start continuity: a split run reproduces the uninterrupted run.

`HotStart km` (OW/Proofs/HotStart.lean): for every parameter column, initial state row, pair of consecutive input blocks
(any lengths, also 0 and 1: every split point; several splits: `HotStartN`, OW/Proofs/HotStartN.lean,
instances in OW/Props/C06N.lean) — if both calls of the split run
succeed, the run over the concatenated inputs succeeds, its outputs are the concatenated outputs and its final state row
is the final state row of the second call. Exact (no tolerance), structural: a call is a loop over the rows of its input
series (`KLoop`, law `run_append`) and the packed state row is exactly the loop state (`Restartable`, OW/Proofs/ScanModel.lean; the
loops of the models: OW/Proofs/ScanShapes.lean, and HotStartLag / HotStartStateless / StoragePrefix / HotStartGR4J.lean for Lag,
RatingCurvePartition, Storage, GR4J; where the row determines the loop state only under a side condition, or only up to a simulation: `RestartableWhen`,
also in OW/Proofs/ScanModel.lean). Two proofs do not go through the loop: StorageTrapAll (`storageTrapAll_split`: the
outputs of the split run agree with the whole run only up to `+ 0.0`, and the simulation of `RestartableWhen` demands equal
outputs) and StorageRouting (`hotstart_StorageRouting_partial`: its hypothesis is about the loop state `qi`, and the side
condition of `RestartableWhen` sees state rows only); each unfolds the model.

Stateful catalogue models (17):
* over ANY `Num α` (hence also the `Float` instance the code is compared with), no arithmetic law used:
  Muskingum, LumpedConstituentRouting, ConstituentDecay, StorageDissolvedDecay, StorageParticulateTrapping,
  InstreamCoarseSediment, InstreamParticulateNutrient, Simhyd, Surm, Lag, Storage;
* over any `Num α` given ONE arithmetic law, instantiated at ℝ:
  GR4J (`IntRoundTrip`: n1, n2 survive float ↔ int; `roundtrip_GR4J`: the layout of the packed row),
  StorageTrapAll (`y + 0.0 = y`; false in IEEE only for y = −0.0);
* FALSE as stated — counter-example (ℝ, OW/Props/C06Real.lean) + `…_partial` under the hypothesis that removes the leak
  (those stated at ℝ only: Sacramento, `hotstart_InstreamFineSediment_real`, also in C06Real.lean):
  Sacramento (unit-hydrograph buffer is a local: partial = no spreading, uh2..uh5 = 0),
  InstreamDissolvedNutrientDecay (`prevVolume` re-seeded: partial = decay disabled),
  StorageRouting (root-finder seed `qi` is a local: partial = seed equal to a fresh call's; exact split law
  `storageRouting_split`; the property's clause "within the solver's own mass-balance tolerance" has NO whole-run theorem —
  it is checked by the KSPLIT oracle only; proved: the first timestep after a cut, `storageRouting_split_tol_step_partial`,
  OW/Props/C06Tol.lean),
  InstreamFineSediment (a negative channel store is re-read as a fraction at each call: partial = store not negative
  at the split; `hotstart_InstreamFineSediment_real`: never happens when the maximum storage is ≥ 0).
Summary theorem over the catalogue: `OW.Props.C14.hotstart_catalogue`.
-/
namespace OW.Props.C06
open OW OW.Kernels

variable {α : Type} [Num α]

/-- Muskingum: the carried (total inflow, outflow) pair is the whole memory of the recurrence. -/
theorem hotstart_Muskingum : HotStart (Muskingum.model (α := α)) :=
  restartable_Muskingum.hotStart

/-- non-vacuity: a call that succeeds (two steps); a split pair, the second call started from the row the first returned:
OW/Props/C06N.lean -/
example : ∃ o, (Muskingum.model (α := Float)).run [86400, 0.25, 86400] [[1, 2], [0, 1]] [0, 0, 0] = .ok o := ⟨_, rfl⟩

/-- LumpedConstituentRouting: the stored mass is the whole loop state. -/
theorem hotstart_LumpedConstituentRouting : HotStart (LumpedConstituent.model (α := α)) :=
  restartable_LumpedConstituentRouting.hotStart

/-- ConstituentDecay: the stored mass is the whole loop state. -/
theorem hotstart_ConstituentDecay : HotStart (ConstituentDecay.model (α := α)) :=
  restartable_ConstituentDecay.hotStart

/-- StorageDissolvedDecay (both the decay-disabled and the decay-enabled branch): the stored mass is the whole loop state. -/
theorem hotstart_StorageDissolvedDecay : HotStart (StorageDissolvedDecay.model (α := α)) :=
  restartable_StorageDissolvedDecay.hotStart

/-- StorageParticulateTrapping: the stored mass is the whole loop state. -/
theorem hotstart_StorageParticulateTrapping : HotStart (StorageParticulateTrapping.model (α := α)) :=
  restartable_StorageParticulateTrapping.hotStart

/-- InstreamCoarseSediment: (channel store, stored mass) is the whole loop state. -/
theorem hotstart_InstreamCoarseSediment : HotStart (InstreamCoarseSediment.model (α := α)) :=
  restartable_InstreamCoarseSediment.hotStart

/-- InstreamParticulateNutrient: (instream stored mass, channel stored mass) is the whole loop state. -/
theorem hotstart_InstreamParticulateNutrient : HotStart (InstreamParticulateNutrient.model (α := α)) :=
  restartable_InstreamParticulateNutrient.hotStart

/-- Simhyd: (soil moisture store, groundwater store, total store) is the whole loop state. -/
theorem hotstart_Simhyd : HotStart (Simhyd.model (α := α)) :=
  restartable_Simhyd.hotStart

/-- Surm: (soil moisture store, groundwater store, total store) is the whole loop state. -/
theorem hotstart_Surm : HotStart (Surm.model (α := α)) :=
  restartable_Surm.hotStart

/-- StorageTrapAll: the stored mass is added to the FIRST element of the trapped series of each call and the state is
reset to `0.0`; the second call therefore adds `0.0` to its first inflow value, and that is the only difference between the
split run and the whole run. Stated for any relation `R` on values that is reflexive and relates `y` to `y + 0.0`: the outputs of
the one-call run are `R`-related, element by element, to the concatenated outputs of the split run. -/
theorem storageTrapAll_split (R : α → α → Prop) (hrefl : ∀ y, R y y) (h0 : ∀ y, R y (y + 0.0))
    (p : List α) (a b : List (List α)) (st : List α) (o₁ o₂ : KOut α) (hl : a.length = b.length)
    (h₁ : (StorageTrapAll.model (α := α)).run p a st = .ok o₁)
    (h₂ : (StorageTrapAll.model (α := α)).run p b o₁.states = .ok o₂) :
    ∃ o, (StorageTrapAll.model (α := α)).run p (catSeries a b) st = .ok o ∧
      List.Forall₂ (List.Forall₂ R) o.outputs (catSeries o₁.outputs o₂.outputs) ∧ o.states = o₂.states := by
  have rl : ∀ l : List α, List.Forall₂ R l l := fun l => List.forall₂_same.2 fun x _ => hrefl x
  have rl2 : ∀ u : List (List α), List.Forall₂ (List.Forall₂ R) u u := fun u => List.forall₂_same.2 fun l _ => rl l
  unfold StorageTrapAll.model at h₁ h₂ ⊢
  simp only at h₁ h₂ ⊢
  match p, a, st, h₁ with
  | [], [a1, a2, a3, a4], [s], h₁ =>
    match b, hl, h₂ with
    | [b1, b2, b3, b4], _, h₂ =>
      cases a1 with
      | nil =>
        -- an empty first part hands the stored mass over unchanged: the second call is the whole run
        cases b1 <;> cases h₁ <;> cases h₂ <;> exact ⟨_, rfl, rl2 _, rfl⟩
      | cons x xs =>
        cases h₁
        cases b1 with
        | nil =>
          cases h₂
          refine ⟨_, rfl, ?_, rfl⟩
          simp only [catSeries, List.zipWith_cons_cons, List.zipWith_nil_right, List.append_nil, List.append_eq]
          exact rl2 _
        | cons y ys =>
          -- the second call adds the re-set stored mass `0.0` to its first value `y`
          cases h₂
          refine ⟨_, rfl, .cons (.cons (hrefl _) (List.rel_append (rl xs) (.cons (h0 y) (rl ys)))) (.cons ?_ .nil), rfl⟩
          rw [List.length_append, zeros_add]
          exact rl _

/-- The split run equals the whole run
provided `y + 0.0 = y` (true in ℝ, and in IEEE arithmetic for every `y` except `-0.0`, where `-0.0 + 0.0 = +0.0`:
a sign-of-zero difference only, inside the "floating-point round-off" the property allows). Without this law the
statement is not provable over an arbitrary `Num α` (no arithmetic law is available there). -/
theorem hotstart_StorageTrapAll_of_add_zero (h0 : ∀ y : α, y + 0.0 = y) : HotStart (StorageTrapAll.model (α := α)) := by
  intro p a b st n₁ n₂ o₁ o₂ hl _ _ h₁ h₂
  obtain ⟨o, ho, hrel, hst⟩ := storageTrapAll_split (· = ·) (fun _ => rfl) (fun y => (h0 y).symm) p a b st o₁ o₂ hl h₁ h₂
  simp only [List.forall₂_eq_eq_eq] at hrel
  exact ⟨o, ho, hrel, hst⟩

/-- InstreamFineSediment. Full statement (FALSE for the model and the code as they are):
`HotStart (InstreamFineSediment.model)`. What is missing: the kernel re-interprets a NEGATIVE channel store as
"fraction of the maximum storage" at the start of every call (`if channelStoreFine < 0.0 {…}` precedes the loop), so a
negative store handed over at a split point would be converted while the uninterrupted run keeps it. Proved: hot-start
continuity for every split at which that conversion does not fire (`FineSedimentSplitOk`, defined with the loop in
OW/Proofs/ScanShapes.lean). For physically meaningful
parameters (maximum storage ≥ 0) the store never becomes negative after the first conversion — see
`hotstart_InstreamFineSediment_real` (ℝ, OW/Props/C06Real.lean). -/
theorem hotstart_InstreamFineSediment_partial :
    HotStartWhen (InstreamFineSediment.model (α := α)) FineSedimentSplitOk :=
  restartableWhen_InstreamFineSediment.hotStartWhen

/-- Lag: the delay buffer (the state row, also when it is longer than the lag) is the whole memory; any lag ≥ 0
(lag 0 included), parts shorter or longer than the lag. -/
theorem hotstart_Lag : HotStart (Lag.model (α := α)) := restartable_Lag.hotStart

/-- the only arithmetic fact the GR4J hot start needs: the store sizes n1, n2 survive being written into the state
row as floats and read back with `int(…)` (true in ℝ; true for doubles up to 2^53). -/
def IntRoundTrip (α : Type) [Num α] : Prop := ∀ n : Nat, Num.toInt (Num.ofNat n : α) = (n : Int)

/-- GR4J: state row [S, R, n1, n2, q1[0..n2), q9[0..n1)] (a longer row is accepted, trailing columns ignored). The
production store, the routing store and the two unit-hydrograph delay stores are the whole memory; pack ∘ extract
round-trips (`OW.Proofs.GR4JHot.roundtrip_GR4J`) because the stores keep their lengths n2 / n1 through the loop. -/
theorem hotstart_GR4J (hrt : IntRoundTrip α) : HotStart (GR4J.model (α := α)) :=
  (hotStart_iff_when _).2 (restartableWhen_GR4J.hotStartWhen.mono fun _ _ _ _ n _ => hrt n)

/-- Storage (reservoir water balance): the kernel reads ONLY the current volume of the state row [volume, level, area]
(level and area are recomputed from the final volume), and the volume is the whole memory of the timestep loop (each
timestep restarts its adaptive sub-stepping from `subtimestep = Δt`). Exact: the sub-step sequence of every timestep
is the same in the split run. Also covers the "invalid configuration" early return (zero outputs, zero states). -/
theorem hotstart_Storage : HotStart (Storage.model (α := α)) := restartable_Storage.hotStart

/-- StorageRouting, exact split law of the model (and of the code): the uninterrupted run over `xs ++ ys` continues from
the FULL loop state `(qi, outflow, storage, inflow)` left by `xs`, where `qi` — the index flow found by the root finder in
the last step, the seed of the next step's search — is a local of `storageRouting` that is NOT in the state row. -/
theorem storageRouting_split (bias k x area dead dt s : α) (xs ys : List (α × α × α × α)) :
    StorageRouting.run bias k x area dead dt s (xs ++ ys) =
      ((scan (StorageRouting.step (StorageRouting.setup bias k x dt) k area dead dt)
          (StorageRouting.run bias k x area dead dt s xs).1 ys).1,
       (StorageRouting.run bias k x area dead dt s xs).2 ++
        (scan (StorageRouting.step (StorageRouting.setup bias k x dt) k area dead dt)
          (StorageRouting.run bias k x area dead dt s xs).1 ys).2) := by
  unfold StorageRouting.run; rw [scan_append]

/-- Full statement (FALSE for the model and the code; counter-example `hotstart_StorageRouting_counterexample`,
OW/Props/C06Real.lean): `HotStart StorageRouting.model`. A second call starts its first
root search from `qi = 0.0` instead of the index flow of the previous step (`storageRouting_split`), which changes which
exit of `calcOutflow` is taken (`prev-qi` vs `mid-qi`/`root`): the two results both satisfy the mass-balance tolerance
(1e-3 m³) but are not bit-identical — this is the situation the "to within the solver's own mass-balance tolerance" clause of
the property is about (no theorem here bounds the difference between the two runs: oracle-only for whole runs, first timestep
after the cut in OW/Props/C06Tol.lean). Also, an EMPTY second part resets the two dead columns (inflow, outflow) of the state row to 0.
Proved: exact hot-start continuity for every split at which the carried index flow is the one a fresh call starts
from (`f.qi = 0.0`, e.g. after a zero-flow step with bias 0) and whose second part has at least one step. -/
theorem hotstart_StorageRouting_partial
    (p : List α) (a b : List (List α)) (st : List α) (n₁ n₂ : Nat) (o₁ o₂ : KOut α)
    (hl : a.length = b.length) (ha : AllLen n₁ a) (hb : AllLen n₂ b) (hn₂ : 0 < n₂)
    (h₁ : (StorageRouting.model (α := α)).run p a st = .ok o₁)
    (h₂ : (StorageRouting.model (α := α)).run p b o₁.states = .ok o₂)
    (hqi : ∀ bias k x area dead dt s pi po a1 a2 a3 a4 f outs, p = [bias, k, x, area, dead, dt] → st = [s, pi, po] →
      a = [a1, a2, a3, a4] → StorageRouting.run bias k x area dead dt s (zip4 a1 a2 a3 a4) = (.ok f, outs) → f.qi = 0.0) :
    ∃ o, (StorageRouting.model (α := α)).run p (catSeries a b) st = .ok o ∧
      o.outputs = catSeries o₁.outputs o₂.outputs ∧ o.states = o₂.states := by
  unfold StorageRouting.model at h₁
  dsimp only at h₁
  split at h₁
  case h_2 => cases h₁
  case h_1 bias k x area dead dt a1 a2 a3 a4 s pi po =>
    match b, hl with
    | [b1, b2, b3, b4], _ =>
      unfold StorageRouting.model at h₂ ⊢
      simp only [catSeries, List.zipWith_cons_cons, List.zipWith_nil_right] at h₁ h₂ ⊢
      have hq := hqi bias k x area dead dt s pi po a1 a2 a3 a4
      rw [show zip4 (a1 ++ b1) (a2 ++ b2) (a3 ++ b3) (a4 ++ b4) = zip4 a1 a2 a3 a4 ++ zip4 b1 b2 b3 b4 from
        rows4_lawful.cat [a1, a2, a3, a4] [b1, b2, b3, b4] n₁ rfl rfl ha, storageRouting_split]
      generalize StorageRouting.run bias k x area dead dt s (zip4 a1 a2 a3 a4) = r1 at h₁ hq ⊢
      obtain ⟨_ | f, outs1⟩ := r1
      · cases h₁
      cases h₁
      -- the second part is not empty, so the call from the state row continues the loop of the first
      have hne : zip4 b1 b2 b3 b4 ≠ [] :=
        List.ne_nil_of_length_pos (by rw [show (zip4 b1 b2 b3 b4).length = n₂ from rows4_lawful.length _ n₂ rfl hb]; exact hn₂)
      rw [storageRouting_scan_reads _ _ _ _ _ f (hq f outs1 rfl rfl rfl rfl) _ hne]
      simp only [StorageRouting.run] at h₂
      generalize scan (StorageRouting.step (StorageRouting.setup bias k x dt) k area dead dt)
        (.ok ⟨0.0, 0.0, f.storage, 0.0⟩) (zip4 b1 b2 b3 b4) = r2 at h₂ ⊢
      obtain ⟨_ | g, outs2⟩ := r2
      · cases h₂
      cases h₂
      exact ⟨_, rfl, by simp only [List.zipWith_cons_cons, List.zipWith_nil_right, List.map_append], rfl⟩

/-- Full statement (FALSE for the model and the code; known finding KF-C06-InstreamDissolvedNutrientDecay-prevVolume,
counter-example `hotstart_InstreamDissolvedNutrientDecay_counterexample`, OW/Props/C06Real.lean):
`HotStart InstreamDissolvedNutrient.model`.
With decay enabled, `prevVolume` (the reach volume of the previous step, averaged with the current one to get the water
depth) is re-seeded from the first step of every call and is not in the state row. Proved: decay disabled
(`DecayDisabled`, OW/Proofs/ScanShapes.lean: `doDecay < 0.5`), where the kernel is the lumped constituent routing and the stored mass is the whole memory. -/
theorem hotstart_InstreamDissolvedNutrientDecay_partial :
    HotStartWhen (InstreamDissolvedNutrient.model (α := α)) DecayDisabled :=
  restartableWhen_InstreamDissolvedNutrientDecay.hotStartWhen

theorem intRoundTrip_real : IntRoundTrip ℝ := RealNum.toInt_natCast

theorem hotstart_GR4J_real : HotStart (GR4J.model (α := ℝ)) := hotstart_GR4J intRoundTrip_real

theorem hotstart_StorageTrapAll_real : HotStart (StorageTrapAll.model (α := ℝ)) :=
  hotstart_StorageTrapAll_of_add_zero (fun y => by norm_num)

/-! ### non-vacuity: a concrete two-part split whose two calls both succeed (the hypotheses of `HotStart`) -/
example : ∃ o₁ o₂, (LumpedConstituent.model (α := Float)).run [0, 0.5, 86400] [[1, 2], [0, 1], [3, 0], [10, 20]] [0] = .ok o₁ ∧
    (LumpedConstituent.model (α := Float)).run [0, 0.5, 86400] [[5], [0], [1], [2]] o₁.states = .ok o₂ := ⟨_, _, rfl, rfl⟩
example : ∃ o₁ o₂, (ConstituentDecay.model (α := Float)).run [0, 3600, 86400] [[1, 2], [0, 1], [3, 0], [3, 0], [10, 20]] [0] = .ok o₁ ∧
    (ConstituentDecay.model (α := Float)).run [0, 3600, 86400] [[5], [0], [1], [1], [2]] o₁.states = .ok o₂ := ⟨_, _, rfl, rfl⟩
example : ∃ o₁ o₂, (StorageDissolvedDecay.model (α := Float)).run [86400, 1, 2, 5, 3] [[1, 2], [0, 1], [3, 0], [10, 20]] [0] = .ok o₁ ∧
    (StorageDissolvedDecay.model (α := Float)).run [86400, 1, 2, 5, 3] [[5], [0], [1], [2]] o₁.states = .ok o₂ := ⟨_, _, rfl, rfl⟩
example : ∃ o₁ o₂, (StorageParticulateTrapping.model (α := Float)).run [86400, 1e6, 1000, 100, 800, 3.28, -0.2] [[1, 2], [0, 1], [3, 0], [10, 20]] [0] = .ok o₁ ∧
    (StorageParticulateTrapping.model (α := Float)).run [86400, 1e6, 1000, 100, 800, 3.28, -0.2] [[5], [0], [1], [2]] o₁.states = .ok o₂ := ⟨_, _, rfl, rfl⟩
example : ∃ o₁ o₂, (InstreamCoarseSediment.model (α := Float)).run [86400] [[1, 2], [0, 1], [3, 0]] [0, 0] = .ok o₁ ∧
    (InstreamCoarseSediment.model (α := Float)).run [86400] [[5], [0], [1]] o₁.states = .ok o₂ := ⟨_, _, rfl, rfl⟩
example : ∃ o₁ o₂, (InstreamParticulateNutrient.model (α := Float)).run [0.1, 0.2, 86400] [[1, 2], [0, 1], [3, 0], [1, 1], [2, 2], [3, 3], [4, 4], [5, 5]] [0, 0] = .ok o₁ ∧
    (InstreamParticulateNutrient.model (α := Float)).run [0.1, 0.2, 86400] [[5], [0], [1], [1], [1], [1], [1], [1]] o₁.states = .ok o₂ := ⟨_, _, rfl, rfl⟩
example : ∃ o₁ o₂, (Simhyd.model (α := Float)).run [0.3, 0.3, 200, 1, 1.5, 0.1, 0.1, 0.9, 200] [[10, 0], [3, 4]] [0, 0, 0] = .ok o₁ ∧
    (Simhyd.model (α := Float)).run [0.3, 0.3, 200, 1, 1.5, 0.1, 0.1, 0.9, 200] [[5], [2]] o₁.states = .ok o₂ := ⟨_, _, rfl, rfl⟩
example : ∃ o₁ o₂, (Surm.model (α := Float)).run [0.3, 0.3, 200, 1, 1.5, 0.1, 0.1, 0.9, 200] [[10, 0], [3, 4]] [0, 0, 0] = .ok o₁ ∧
    (Surm.model (α := Float)).run [0.3, 0.3, 200, 1, 1.5, 0.1, 0.1, 0.9, 200] [[5], [2]] o₁.states = .ok o₂ := ⟨_, _, rfl, rfl⟩
example : ∃ o₁ o₂, (StorageTrapAll.model (α := Float)).run [] [[1, 2], [0, 1], [3, 0], [10, 20]] [7] = .ok o₁ ∧
    (StorageTrapAll.model (α := Float)).run [] [[5], [0], [1], [2]] o₁.states = .ok o₂ := ⟨_, _, rfl, rfl⟩
example : ∃ o₁ o₂, (InstreamFineSediment.model (α := Float)).run [5, 1e-5, 1e4, 10, 1000, 0.001, 2, 0.5, 1.5, 0.04, 1e-5, 1e-6, 86400] [[1, 2], [0, 1], [3, 0], [1e4, 1e4], [2, 3]] [0, 0] = .ok o₁ ∧
    (InstreamFineSediment.model (α := Float)).run [5, 1e-5, 1e4, 10, 1000, 0.001, 2, 0.5, 1.5, 0.04, 1e-5, 1e-6, 86400] [[5], [0], [1], [1e4], [2]] o₁.states = .ok o₂ := ⟨_, _, rfl, rfl⟩

section NonVacuityReal
attribute [-simp] OW.RealNum.ofNat_eq

/-- Lag (ℝ): lag 2, a 3-step part then a 1-step part -/
example : ∃ o₁ o₂, (Lag.model (α := ℝ)).run [Num.ofNat 2] [[5, 6, 7]] [1, 2] = .ok o₁ ∧
    (Lag.model (α := ℝ)).run [Num.ofNat 2] [[8]] o₁.states = .ok o₂ := by
  have e : Num.toInt (Num.ofNat 2 : ℝ) = 2 := RealNum.toInt_natCast 2
  refine ⟨⟨[[1, 2, 5]], [6, 7], ["lag<T"]⟩, ⟨[[6]], [7, 8], ["lag>T"]⟩, ?_, ?_⟩ <;>
  · simp only [Lag.model, Lag.run, e]
    rfl

/-- GR4J (ℝ): n1 = 1, n2 = 2 (x4 = 1), state row [S, R, 1, 2, q1a, q1b, q9a]: the call succeeds (the split pair: OW/Props/C06N.lean) -/
example : ∃ o₁, (GR4J.model (α := ℝ)).run [350, 0, 90, 1] [[10, 0], [1, 2]] [100, 30, Num.ofNat 1, Num.ofNat 2, 0, 0, 0] = .ok o₁ :=
  ⟨_, OW.Proofs.GR4JHot.model_run_row 350 0 90 1 100 30 _ _ [0, 0, 0] [10, 0] [1, 2] 1 2 (RealNum.toInt_natCast 1)
    (RealNum.toInt_natCast 2) (by decide) (by decide) (by decide)⟩

/-- InstreamDissolvedNutrientDecay, decay disabled (ℝ): the side condition of the partial theorem and both calls -/
example : DecayDisabled [(0:ℝ), 0, 1, 1, 1, 0, 86400] [] [] ∧
    ∃ o₁ o₂, (InstreamDissolvedNutrient.model (α := ℝ)).run [0, 0, 1, 1, 1, 0, 86400] [[1, 2], [0, 0], [5, 6], [1, 1], [0, 0]] [0] = .ok o₁ ∧
      (InstreamDissolvedNutrient.model (α := ℝ)).run [0, 0, 1, 1, 1, 0, 86400] [[3], [0], [5], [1], [0]] o₁.states = .ok o₂ := by
  have hd : (0:ℝ) < 0.5 := by norm_num
  refine ⟨⟨0, _, rfl, hd⟩, ?o₁, ?o₂, ?h₁, ?h₂⟩
  case h₁ | h₂ =>
    simp only [InstreamDissolvedNutrient.model]
    realnum
    rw [if_pos hd]
end NonVacuityReal

end OW.Props.C06
