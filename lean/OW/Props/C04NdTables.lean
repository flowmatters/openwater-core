import OW.Proofs.WrapperNdTables
import OW.Proofs.WrapperNdRefine
/-!
C04 (n-d level) — the view-level template refines the list-level wrapper, one cell step and the whole sequential `Run`, for specs
with one-dimensional table parameters (`ParamSpec` entries `some k`: a table whose per-cell length is the value of
dimension parameter number `k`, occupying `maxLen = int(max over sets of that parameter)` rows of the parameter array).
The scalar-parameter theorems `wrapperNd_refines` / `runNd_refines` of `OW/Props/C04Nd.lean` are these at the all-scalar spec
(`cellStepNdT_scalar`, `runNdT_scalar`).

The view-level goroutine body with table parameters is `OW.Sim.WrapperNd.cellStepNdT` (`OW/Sim/WrapperNdTables.lean`). Both
decoders — the list-level `cellParams` and the view-level `decodeNd` — return one closed-form column (`entries`); one cell step is
`cellStepNdG_refines` with that decoder. Helper lemmas: `OW/Proofs/WrapperNdTables.lean`, `OW/Proofs/WrapperNdRefine.lean`.

Scope. The goroutine body modelled (`cellStepNdG`) builds the state view of its cell and writes the states back through it with
`Set1`. Of the 41 generated wrappers (/repo/models/*/generated_*.go) 24 are stateless and build no state view (they are also
outside `RootOn h states [N, nS]`, which has `nS ≥ 1`), and GR4J and Lag write the states back with
`states.ApplySlice([i,0],[0,1], pack…)`: the refinement theorems here and in `OW/Props/C04Nd.lean` describe the other 15.
-/
namespace OW.Props.C04NdTables
open OW OW.Nd OW.Sim OW.Sim.WrapperNd OW.WrapperNd

section
variable {α : Type} [Num α]

/-- **layout_tables.** For a WELL-FORMED spec (`SpecWF`: every table `some k` refers to an EARLIER parameter `k` that is
a scalar — its dimension parameter) and dimension values `dims k` that are what `FindDimensions` reads back
(`dims k = int(max over sets of the row of parameter k)`, `dimMaxZ`; `row` = the row the template assigns to parameter
`k`), if the parameter array has at least the `tplEnd` rows the template consumes, then the list-level `layout` does not
fail and returns exactly the template's rows: `(paramIdx, paramSize)` with `paramIdx += paramSize`, `paramSize = 1` for a
scalar and `1 * m.max<D>` for a table (`tplRows`, the accumulation `ApplyParameters` performs). -/
theorem layout_tables (spec : ParamSpec) (params : List (List α)) (dims : Nat → Nat) (wf : SpecWF spec)
    (hd : ∀ j k : Nat, spec[j]? = some (some k) →
      ∃ row, (tplRows dims spec 0)[k]? = some (row, 1) ∧ dims k = (dimMaxZ params row).toNat)
    (hfit : tplEnd dims spec 0 ≤ params.length) :
    layout spec params = .ok (tplRows dims spec 0) := by
  unfold layout
  exact layout_go_tables params dims spec wf hd hfit spec [] 0 [] [] rfl rfl rfl rfl
    (fun k hk => absurd hk (Nat.not_lt_zero k))

/-- the rows of `layout_tables` are consecutive: each parameter starts where the previous one ends, the first at row 0,
and the spec and its layout have the same length -/
theorem tplRows_consecutive (dims : Nat → Nat) (spec : ParamSpec) :
    (tplRows dims spec 0).length = spec.length ∧
    ∀ (a b : ParamSpec), spec = a ++ b →
      tplRows dims spec 0 = tplRows dims a 0 ++ tplRows dims b (tplEnd dims a 0) :=
  ⟨tplRows_length dims spec 0, fun a b h => by rw [h, tplRows_append]⟩

/-- **cellParams_tables.** For a well-formed spec laid out in rows `lay`, the list-level parameter column of cell `i` is
the concatenation, in spec order, of
* for a scalar in row `row`: `parameters[row][i % nSets]` (`Props.C04.pick`);
* for a table in rows `row …` over dimension parameter `k`: `parameters[row + r][i % nSets]` for `r < ownLen_i`, where
  `ownLen_i = (Num.toInt (parameters[row_k][i % nSets])).toNat` is the cell's own value of the dimension parameter
  (`ownLenZ`, `rowOf lay k` = the row of parameter `k`)
(`entries`), provided these elements exist and `ownLen_i ≤` the table's rows (otherwise `cellParams` fails). -/
theorem cellParams_tables (spec : ParamSpec) (lay : List (Nat × Nat)) (params : List (List α)) (i : Nat)
    (wf : SpecWF spec)
    (hS : ∀ (j row sz : Nat), spec[j]? = some none → lay[j]? = some (row, sz) → (Props.C04.pick params i row).isSome)
    (hT : ∀ (j k row sz : Nat), spec[j]? = some (some k) → lay[j]? = some (row, sz) →
      (ownLenZ params i (rowOf lay k)).toNat ≤ sz ∧
      ∀ r, r < (ownLenZ params i (rowOf lay k)).toNat → (Props.C04.pick params i (row + r)).isSome) :
    cellParams spec lay params i = .ok ((spec.zip lay).flatMap (entries params lay i)) := by
  unfold cellParams
  have := decoder_closed params i spec lay wf (cellParams.go params i) (fun _ _ => by simp [cellParams.go])
    (fun j row sz rest acc vals hsp hly => ?_) (fun j k row sz rest acc vals hsp hly hvk => ?_)
    (spec.zip lay) [] [] [] rfl rfl (fun k hk => absurd hk (Nat.not_lt_zero k))
  · simpa using this
  · obtain ⟨v, hv⟩ := Option.isSome_iff_exists.mp (hS j row sz hsp hly)
    refine ⟨v, hv, ?_⟩
    unfold Props.C04.pick at hv
    conv => lhs; unfold cellParams.go
    cases hr : params[row]? with
    | none => simp [hr] at hv
    | some r =>
      by_cases h0 : r.length = 0
      · simp [hr, h0] at hv
      · simp only [hr, h0, if_false] at hv ⊢
        simp only [hv]
  · obtain ⟨hown, hpk⟩ := hT j k row sz hsp hly
    have hany : ((List.range (ownLenZ params i (rowOf lay k)).toNat).map
        (fun r => Props.C04.pick params i (row + r))).any (·.isNone) = false := by
      rw [List.any_eq_false]
      intro x hx
      simp only [List.mem_map, List.mem_range] at hx
      obtain ⟨r, hr, rfl⟩ := hx
      obtain ⟨v, hv⟩ := Option.isSome_iff_exists.mp (hpk r hr)
      rw [hv]
      simp
    rw [go_table_step, ownZ_eq hvk, if_neg (by omega), table_col params i row _ hpk, hany]
    simp [entries, List.filterMap_map]

/-- **param_decoding_tables.** Root `parameters [rows, nSets]` on storage `pst` (row-major denotation
`mat pst pb rows nSets`); a well-formed spec laid out in rows `lay` INSIDE the array (scalar: `row < rows`; table:
`1 ≤ size`, `row + size ≤ rows`); a cell `i` whose own table lengths fit (`ownLen_i ≤ size` — `ownLen_i` is `int(...)` of
the cell's value of the dimension parameter: `Num.toInt` on both levels; a negative value reads nothing on both). Then
* the view-level decoder (`decodeNd`: `scalarParam` for scalars; for tables the `ApplyParameters` view
  `[size, nSets]`, the rank-1 slice `Slice([0, i % nSets], [ownLen], nil)` and `Get1(0) … Get1(ownLen-1)`) does not panic
  and returns the closed-form column `entries`;
* the list-level `cellParams` returns the same column. -/
theorem param_decoding_tables {h : Heap α} {parameters : Arr} {rows nSets pb i : Nat} {pst : List α}
    (rp : RootOn h parameters [(rows : Int), (nSets : Int)]) (hpb : parameters.base = (pb : Int))
    (hp : h[parameters.sid]? = some pst) (spec : ParamSpec) (lay : List (Nat × Nat)) (wf : SpecWF spec)
    (hS : ∀ (j row sz : Nat), spec[j]? = some none → lay[j]? = some (row, sz) → row < rows)
    (hT : ∀ (j k row sz : Nat), spec[j]? = some (some k) → lay[j]? = some (row, sz) →
      1 ≤ sz ∧ row + sz ≤ rows ∧ (ownLenZ (mat pst pb rows nSets) i (rowOf lay k)).toNat ≤ sz) :
    decodeNd h parameters (i : Int) (spec.zip lay) [] [] =
        .ok ((spec.zip lay).flatMap (entries (mat pst pb rows nSets) lay i)) ∧
    cellParams spec lay (mat pst pb rows nSets) i =
        .ok ((spec.zip lay).flatMap (entries (mat pst pb rows nSets) lay i)) := by
  refine ⟨?_, cellParams_tables spec lay _ i wf ?_ ?_⟩
  · have := decoder_closed (mat pst pb rows nSets) i spec lay wf (decodeNd h parameters (i : Int))
      (fun _ _ => by simp [decodeNd]) (fun j row sz rest acc vals hsp hly => ?_)
      (fun j k row sz rest acc vals hsp hly hvk => ?_) (spec.zip lay) [] [] [] rfl rfl
      (fun k hk => absurd hk (Nat.not_lt_zero k))
    · simpa using this
    · obtain ⟨y, hy, hpick⟩ := scalar_pick (i := i) rp hpb hp (hS _ _ _ hsp hly)
      refine ⟨y, hpick, ?_⟩
      conv => lhs; unfold decodeNd
      simp only [hy, bind, Except.bind]
    · obtain ⟨hsz, hfit, hown⟩ := hT _ _ _ _ hsp hly
      obtain ⟨t, ht, hread, _⟩ :=
        table_pick (i := i) (ownLenZ (mat pst pb rows nSets) i (rowOf lay k)) rp hpb hp hsz hfit hown
      rw [decodeNd_table_step, ownZ_eq hvk]
      simp only [ht, hread, bind, Except.bind, entries]
  · intro j row sz hsp hly
    obtain ⟨y, _, hy⟩ := scalar_pick (i := i) rp hpb hp (hS j row sz hsp hly)
    rw [hy]; rfl
  · intro j k row sz hsp hly
    obtain ⟨hsz, hfit, hown⟩ := hT j k row sz hsp hly
    obtain ⟨_, _, _, hpk⟩ := table_pick (i := i) (ownLenZ (mat pst pb rows nSets) i (rowOf lay k)) rp hpb hp hsz hfit hown
    exact ⟨hown, hpk⟩

/-- The loop over the cells `i0, …, N-1`. The hypothesis is about the CURRENT storages (the list-level `runCells` from cell
`i0` on their rows `≥ i0` succeeds), so the induction needs no record of the original rows: cell `i0` leaves the later rows
alone (`Rewrote.frameS/O`), hence `runCells` from `i0 + 1` succeeds on the new storages. -/
theorem runCellsNdT_loop (km : KModel α) {parameters inputs states outputs : Arr}
    {rows nSets nIn nI T N nS M nO T' pb ib sb ob : Nat} {pst ist : List α}
    (hpb : parameters.base = (pb : Int)) (hib : inputs.base = (ib : Int)) (hsb : states.base = (sb : Int))
    (hob : outputs.base = (ob : Int))
    (hso : states.sid ≠ outputs.sid) (hps : parameters.sid ≠ states.sid) (hpo : parameters.sid ≠ outputs.sid)
    (his : inputs.sid ≠ states.sid) (hio : inputs.sid ≠ outputs.sid)
    (spec : ParamSpec) (lay : List (Nat × Nat)) (wf : SpecWF spec)
    (hSc : ∀ (j row sz : Nat), spec[j]? = some none → lay[j]? = some (row, sz) → row < rows)
    (hTb : ∀ i, i < N → ∀ (j k row sz : Nat), spec[j]? = some (some k) → lay[j]? = some (row, sz) →
      1 ≤ sz ∧ row + sz ≤ rows ∧ (ownLenZ (mat pst pb rows nSets) i (rowOf lay k)).toNat ≤ sz)
    (hNM : N ≤ M) (hT : T ≤ T')
    {rd : RunDims} (hrd : runDims inputs states outputs = .ok rd)
    (hK : ∀ p ins st r, ins.length = nI → (∀ s ∈ ins, s.length = T) → st.length = nS → km.run p ins st = .ok r →
      r.outputs.length ≤ nO ∧ (∀ ser ∈ r.outputs, ser.length ≤ T) ∧ r.states.length ≤ nS) :
    ∀ (n i0 : Nat) (h : Heap α) (sst ost : List α) (ss : List (List α)) (os : List (List (List α))), i0 + n = N →
      RootOn h parameters [(rows : Int), (nSets : Int)] → RootOn h inputs [(nIn : Int), (nI : Int), (T : Int)] →
      RootOn h states [(N : Int), (nS : Int)] → RootOn h outputs [(M : Int), (nO : Int), (T' : Int)] →
      h[parameters.sid]? = some pst → h[inputs.sid]? = some ist → h[states.sid]? = some sst →
      h[outputs.sid]? = some ost →
      runCells km spec lay (mat pst pb rows nSets) (cube ist ib nIn nI T) i0 (mat sst (sb + i0 * nS) n nS)
        (cube ost (ob + i0 * (nO * T')) (M - i0) nO T') = .ok (ss, os) →
      ∃ h' sst' ost', runCellsNdT km.run spec lay nI parameters inputs states outputs rd n (i0 : Int) h = .ok h' ∧
        Rewrote h h' states outputs sst ost sst' ost' (sb + i0 * nS) (n * nS) (ob + i0 * (nO * T')) (n * (nO * T')) ∧
        mat sst' (sb + i0 * nS) n nS = ss ∧ cube ost' (ob + i0 * (nO * T')) (M - i0) nO T' = os
  | 0, i0, h, sst, ost, ss, os, _, _, _, _, _, _, _, hs, ho, hrun => by
    obtain ⟨rfl, rfl⟩ := Prod.mk.inj (Except.ok.inj hrun)
    exact ⟨h, sst, ost, rfl, ⟨SameShape.refl h, hs, ho, fun _ _ _ => rfl, fun _ _ => rfl, fun _ _ => rfl⟩, rfl, rfl⟩
  | n + 1, i0, h, sst, ost, ss, os, hn, rp, ri, rs, ro, hp, hi, hs, ho, hrun => by
    have hi0 : i0 < N := hn ▸ Nat.lt_add_of_pos_right (Nat.succ_pos n)
    have hiM : i0 < M := Nat.lt_of_lt_of_le hi0 hNM
    have hM : M - i0 = (M - (i0 + 1)) + 1 := (Nat.succ_pred_eq_of_pos (Nat.sub_pos_of_lt hiM)).symm
    have hsS : sb + (i0 + 1) * nS = sb + i0 * nS + nS := by rw [Nat.succ_mul, Nat.add_assoc]
    have hsO : ob + (i0 + 1) * (nO * T') = ob + i0 * (nO * T') + nO * T' := by rw [Nat.succ_mul, Nat.add_assoc]
    rw [mat_succ, hM, cube_succ, ← hsS, ← hsO] at hrun
    obtain ⟨s', o', ss', os', hcs, hrest, rfl, rfl⟩ := runCells_cons_ok_iff.mp hrun
    obtain ⟨hdec, hcp⟩ := param_decoding_tables (i := i0) rp hpb hp spec lay wf hSc (hTb i0 hi0)
    obtain ⟨h1, sst1, ost1, hstep, w1, hrS1, hrO1⟩ := (cellStepNdG_refines km ri rs ro hib hsb hob hi hs ho hso hi0 hiM hT
      hrd hK spec lay _ _ _ hdec hcp).2 s' o' hcs
    -- the remaining cells, whose rows cell `i0` has left alone
    rw [mat_congr sst sst1 _ _ _ fun q q0 _ => (w1.frameS q (Or.inr (hsS ▸ q0))).symm,
      cube_congr ost ost1 _ _ _ _ fun q q0 _ => (w1.frameO q (Or.inr (hsO ▸ q0))).symm] at hrest
    obtain ⟨h', sst', ost', hrun', w', hmS, hcO⟩ :=
      runCellsNdT_loop km hpb hib hsb hob hso hps hpo his hio spec lay wf hSc hTb hNM hT hrd hK n (i0 + 1) h1 sst1 ost1
        ss' os' ((Nat.add_right_comm i0 1 n).trans hn) (rp.sameShape w1.shape) (ri.sameShape w1.shape)
        (rs.sameShape w1.shape) (ro.sameShape w1.shape) (by rw [w1.other _ hps hpo]; exact hp)
        (by rw [w1.other _ his hio]; exact hi) w1.st w1.out hrest
    rw [hsS, hsO] at w'
    have w := w1.append w'
    rw [Nat.add_comm nS, Nat.add_comm (nO * T'), ← Nat.succ_mul, ← Nat.succ_mul] at w
    refine ⟨h', sst', ost', ?_, w, ?_, ?_⟩
    · simp only [runCellsNdT, cellStepNdT, hstep, bind, Except.bind]
      rw [← hrun']; congr 1
    · rw [mat_succ, ← hsS, hmS, ← hrS1]
      exact congrArg (· :: ss') (rowAt_congr _ _ _ _ fun j hj => w'.frameS _ (Or.inl (Nat.add_lt_add_left hj _)))
    · rw [hM, cube_succ, ← hsO, hcO, ← hrO1]
      exact congrArg (· :: os') (mat_congr _ _ _ _ _ fun q _ q1 => w'.frameO q (Or.inl q1))


/-- **wrapperNd_refines_tables.** The hypotheses of `wrapperNd_refines` (root arrays `parameters [rows, nSets]`,
`inputs [nIn, nI, T]`, `states [N, nS]`, `outputs [M, nO, T']`, `T ≤ T'`, states and outputs in different storages, a
cell `i < N`, `i < M`, a kernel whose results fit the arrays) with, instead of `nP` scalar parameters, ANY well-formed
spec with scalar and one-dimensional table parameters laid out in rows `lay` inside the parameter array, and
`ownLen_i ≤ maxLen` for every table (`hTb`). Then the goroutine body on the template's views WITH the table parameters
read through `tableParam` / `readTable` (`cellStepNdT`):
* fails with the same error whenever the list-level `cellStep` (on the row-major denotations) fails — only the kernel can;
* otherwise does not panic, keeps the heap's shape, and the resulting heap holds exactly `cellStep`'s result (state row
  `i`, output rows `(i, o, ·)`), every other cell of every storage unchanged. -/
theorem wrapperNd_refines_tables (km : KModel α) {h : Heap α} {parameters inputs states outputs : Arr}
    {rows nSets nIn nI T N nS M nO T' i pb ib sb ob : Nat} {pst ist sst ost : List α}
    (rp : RootOn h parameters [(rows : Int), (nSets : Int)])
    (ri : RootOn h inputs [(nIn : Int), (nI : Int), (T : Int)])
    (rs : RootOn h states [(N : Int), (nS : Int)])
    (ro : RootOn h outputs [(M : Int), (nO : Int), (T' : Int)])
    (hpb : parameters.base = (pb : Int)) (hib : inputs.base = (ib : Int)) (hsb : states.base = (sb : Int))
    (hob : outputs.base = (ob : Int))
    (hp : h[parameters.sid]? = some pst) (hi : h[inputs.sid]? = some ist)
    (hs : h[states.sid]? = some sst) (ho : h[outputs.sid]? = some ost)
    (hso : states.sid ≠ outputs.sid) (hiN : i < N) (hiM : i < M) (hT : T ≤ T')
    {rd : RunDims} (hrd : runDims inputs states outputs = .ok rd)
    (hK : ∀ p ins st r, ins.length = nI → (∀ s ∈ ins, s.length = T) → st.length = nS → km.run p ins st = .ok r →
      r.outputs.length ≤ nO ∧ (∀ ser ∈ r.outputs, ser.length ≤ T) ∧ r.states.length ≤ nS)
    (spec : ParamSpec) (lay : List (Nat × Nat)) (wf : SpecWF spec)
    (hSc : ∀ (j row sz : Nat), spec[j]? = some none → lay[j]? = some (row, sz) → row < rows)
    (hTb : ∀ (j k row sz : Nat), spec[j]? = some (some k) → lay[j]? = some (row, sz) →
      1 ≤ sz ∧ row + sz ≤ rows ∧ (ownLenZ (mat pst pb rows nSets) i (rowOf lay k)).toNat ≤ sz) :
    (∀ e, cellStep km spec lay (mat pst pb rows nSets) (cube ist ib nIn nI T) i (rowAt sst (sb + i * nS) nS)
          (mat ost (ob + i * (nO * T')) nO T') = .error e →
        cellStepNdT km.run spec lay nI h parameters inputs states outputs rd (i : Int) = .error e) ∧
    (∀ s' o', cellStep km spec lay (mat pst pb rows nSets) (cube ist ib nIn nI T) i (rowAt sst (sb + i * nS) nS)
          (mat ost (ob + i * (nO * T')) nO T') = .ok (s', o') →
      ∃ h', cellStepNdT km.run spec lay nI h parameters inputs states outputs rd (i : Int) = .ok h' ∧ SameShape h h' ∧
        (∀ s, s < nS → cell h' states.sid (sb + i * nS + s) = s'[s]?) ∧
        (∀ o t, o < nO → t < T' → cell h' outputs.sid (ob + (i * nO + o) * T' + t) = (o'[o]?).bind (·[t]?)) ∧
        (∀ u q, ¬ (u = states.sid ∧ ∃ s, s < nS ∧ q = sb + i * nS + s) →
                ¬ (u = outputs.sid ∧ ∃ o t, o < nO ∧ t < T' ∧ q = ob + (i * nO + o) * T' + t) →
                cell h' u q = cell h u q)) := by
  obtain ⟨hdec, hcp⟩ := param_decoding_tables (i := i) rp hpb hp spec lay wf hSc hTb
  obtain ⟨he, hok⟩ := cellStepNdG_refines km ri rs ro hib hsb hob hi hs ho hso hiN hiM hT hrd hK spec lay _ _ _ hdec hcp
  refine ⟨he, fun s' o' hc => ?_⟩
  obtain ⟨h', sst', ost', hstep, w, hrS, hrO⟩ := hok s' o' hc
  exact ⟨h', hstep, w.shape, w.cells hs ho hrS hrO⟩

/-- **wrapperNd_refines_tables_layout.** `wrapperNd_refines_tables` for the rows the list-level `layout` COMPUTES from the
parameter denotation (`layout_tables`: they are the template's `tplRows`) — the end-to-end form: `layout` succeeds with
`lay`, and the view-level cell step with `lay` refines `cellStep` with `lay`. The geometric hypotheses on `lay` are
stated on `tplRows dims spec 0`. -/
theorem wrapperNd_refines_tables_layout (km : KModel α) {h : Heap α} {parameters inputs states outputs : Arr}
    {rows nSets nIn nI T N nS M nO T' i pb ib sb ob : Nat} {pst ist sst ost : List α}
    (rp : RootOn h parameters [(rows : Int), (nSets : Int)])
    (ri : RootOn h inputs [(nIn : Int), (nI : Int), (T : Int)])
    (rs : RootOn h states [(N : Int), (nS : Int)])
    (ro : RootOn h outputs [(M : Int), (nO : Int), (T' : Int)])
    (hpb : parameters.base = (pb : Int)) (hib : inputs.base = (ib : Int)) (hsb : states.base = (sb : Int))
    (hob : outputs.base = (ob : Int))
    (hp : h[parameters.sid]? = some pst) (hi : h[inputs.sid]? = some ist)
    (hs : h[states.sid]? = some sst) (ho : h[outputs.sid]? = some ost)
    (hso : states.sid ≠ outputs.sid) (hiN : i < N) (hiM : i < M) (hT : T ≤ T')
    {rd : RunDims} (hrd : runDims inputs states outputs = .ok rd)
    (hK : ∀ p ins st r, ins.length = nI → (∀ s ∈ ins, s.length = T) → st.length = nS → km.run p ins st = .ok r →
      r.outputs.length ≤ nO ∧ (∀ ser ∈ r.outputs, ser.length ≤ T) ∧ r.states.length ≤ nS)
    (spec : ParamSpec) (dims : Nat → Nat) (wf : SpecWF spec)
    (hd : ∀ j k : Nat, spec[j]? = some (some k) → ∃ row, (tplRows dims spec 0)[k]? = some (row, 1) ∧
      dims k = (dimMaxZ (mat pst pb rows nSets) row).toNat)
    (hfit : tplEnd dims spec 0 ≤ rows)
    (hdim : ∀ j k : Nat, spec[j]? = some (some k) → 1 ≤ dims k ∧
      (ownLenZ (mat pst pb rows nSets) i (rowOf (tplRows dims spec 0) k)).toNat ≤ dims k) :
    layout spec (mat pst pb rows nSets) = .ok (tplRows dims spec 0) ∧
    (∀ e, cellStep km spec (tplRows dims spec 0) (mat pst pb rows nSets) (cube ist ib nIn nI T) i
          (rowAt sst (sb + i * nS) nS) (mat ost (ob + i * (nO * T')) nO T') = .error e →
        cellStepNdT km.run spec (tplRows dims spec 0) nI h parameters inputs states outputs rd (i : Int) = .error e) ∧
    (∀ s' o', cellStep km spec (tplRows dims spec 0) (mat pst pb rows nSets) (cube ist ib nIn nI T) i
          (rowAt sst (sb + i * nS) nS) (mat ost (ob + i * (nO * T')) nO T') = .ok (s', o') →
      ∃ h', cellStepNdT km.run spec (tplRows dims spec 0) nI h parameters inputs states outputs rd (i : Int) = .ok h' ∧
        SameShape h h' ∧
        (∀ s, s < nS → cell h' states.sid (sb + i * nS + s) = s'[s]?) ∧
        (∀ o t, o < nO → t < T' → cell h' outputs.sid (ob + (i * nO + o) * T' + t) = (o'[o]?).bind (·[t]?)) ∧
        (∀ u q, ¬ (u = states.sid ∧ ∃ s, s < nS ∧ q = sb + i * nS + s) →
                ¬ (u = outputs.sid ∧ ∃ o t, o < nO ∧ t < T' ∧ q = ob + (i * nO + o) * T' + t) →
                cell h' u q = cell h u q)) := by
  refine ⟨layout_tables spec _ dims wf hd (by rw [mat_length]; exact hfit), ?_⟩
  apply wrapperNd_refines_tables km rp ri rs ro hpb hib hsb hob hp hi hs ho hso hiN hiM hT hrd hK spec _ wf
  · intro j row sz hsp hly
    obtain ⟨rfl, h2⟩ := tplRows_getElem? dims spec 0 j none row sz hsp hly
    exact Nat.lt_of_lt_of_le (Nat.lt_succ_self row) (Nat.le_trans h2 hfit)
  · intro j k row sz hsp hly
    obtain ⟨rfl, h2⟩ := tplRows_getElem? dims spec 0 j (some k) row sz hsp hly
    obtain ⟨d1, d2⟩ := hdim j k hsp
    exact ⟨d1, Nat.le_trans h2 hfit, d2⟩

/-- **runNd_refines_tables** (`runNd_refines` for specs with table parameters; the cells executed one after the other —
C05 is about why the order does not matter). Root arrays `parameters [rows, nSets]`, `inputs [nIn, nI, T]`,
`states [N, nS]`, `outputs [M, nO, T']` with `N ≤ M`, `T ≤ T'`, in pairwise different storages (parameters and inputs may
share one); a well-formed spec laid out in rows `lay` inside the parameter array with `ownLen_i ≤ maxLen` for every cell
`i < N` and every table; a kernel whose results fit the arrays. If the list-level vectorised run `runCells` on the
row-major denotations of the storages succeeds with `(ss, os)`, then `Run` through the template's views (`runNdT`: the
preamble, then `cellStepNdT` for `i = 0 … N-1`) does not panic, keeps the heap's shape, and afterwards the states storage
denotes `ss`, the outputs storage denotes `os` (all `M` rows and `T'` timesteps), every other storage is the same list as
before, and the states and outputs storages are unchanged outside the windows of the two arrays. -/
theorem runNd_refines_tables (km : KModel α) {h : Heap α} {parameters inputs states outputs : Arr}
    {rows nSets nIn nI T N nS M nO T' pb ib sb ob : Nat} {pst ist sst ost : List α}
    (rp : RootOn h parameters [(rows : Int), (nSets : Int)])
    (ri : RootOn h inputs [(nIn : Int), (nI : Int), (T : Int)])
    (rs : RootOn h states [(N : Int), (nS : Int)])
    (ro : RootOn h outputs [(M : Int), (nO : Int), (T' : Int)])
    (hpb : parameters.base = (pb : Int)) (hib : inputs.base = (ib : Int)) (hsb : states.base = (sb : Int))
    (hob : outputs.base = (ob : Int))
    (hp : h[parameters.sid]? = some pst) (hi : h[inputs.sid]? = some ist)
    (hs : h[states.sid]? = some sst) (ho : h[outputs.sid]? = some ost)
    (hso : states.sid ≠ outputs.sid) (hps : parameters.sid ≠ states.sid) (hpo : parameters.sid ≠ outputs.sid)
    (his : inputs.sid ≠ states.sid) (hio : inputs.sid ≠ outputs.sid)
    (spec : ParamSpec) (lay : List (Nat × Nat)) (wf : SpecWF spec)
    (hSc : ∀ (j row sz : Nat), spec[j]? = some none → lay[j]? = some (row, sz) → row < rows)
    (hTb : ∀ i, i < N → ∀ (j k row sz : Nat), spec[j]? = some (some k) → lay[j]? = some (row, sz) →
      1 ≤ sz ∧ row + sz ≤ rows ∧ (ownLenZ (mat pst pb rows nSets) i (rowOf lay k)).toNat ≤ sz)
    (hNM : N ≤ M) (hT : T ≤ T')
    (hK : ∀ p ins st r, ins.length = nI → (∀ s ∈ ins, s.length = T) → st.length = nS → km.run p ins st = .ok r →
      r.outputs.length ≤ nO ∧ (∀ ser ∈ r.outputs, ser.length ≤ T) ∧ r.states.length ≤ nS)
    {ss : List (List α)} {os : List (List (List α))}
    (hrun : runCells km spec lay (mat pst pb rows nSets) (cube ist ib nIn nI T) 0 (mat sst sb N nS)
      (cube ost ob M nO T') = .ok (ss, os)) :
    ∃ h' sst' ost', runNdT km.run spec lay nI h parameters inputs states outputs = .ok h' ∧ SameShape h h' ∧
      h'[states.sid]? = some sst' ∧ h'[outputs.sid]? = some ost' ∧
      (∀ u, u ≠ states.sid → u ≠ outputs.sid → h'[u]? = h[u]?) ∧
      mat sst' sb N nS = ss ∧ cube ost' ob M nO T' = os ∧
      (∀ q, (q < sb ∨ sb + N * nS ≤ q) → sst'[q]? = sst[q]?) ∧
      (∀ q, (q < ob ∨ ob + N * (nO * T') ≤ q) → ost'[q]? = ost[q]?) := by
  have hrd := runDims_eq ri.view rs.view ro.view
  have hloop := runCellsNdT_loop km hpb hib hsb hob hso hps hpo his hio spec lay wf hSc hTb hNM hT hrd hK N 0 h sst ost ss
    os (Nat.zero_add N) rp ri rs ro hp hi hs ho
  simp only [Nat.zero_mul, Nat.add_zero, Nat.sub_zero] at hloop
  obtain ⟨h', sst', ost', hl, w, hm, hc⟩ := hloop hrun
  refine ⟨h', sst', ost', ?_, w.shape, w.st, w.out, w.other, hm, hc, w.frameS, w.frameO⟩
  unfold runNdT
  simp only [hrd, bind, Except.bind, Int.toNat_natCast]
  exact hl

omit [Num α] in
theorem decodeNd_scalar [Num α] (h : Heap α) (parameters : Arr) (i : Int) :
    ∀ (js : List Nat) (acc vals : List α),
      decodeNd h parameters i (js.map fun j => ((none : Option Nat), (j, 1))) acc vals =
        (mapR (fun (j : Nat) => scalarParam h parameters (j : Int) i) js).map (acc ++ ·)
  | [], acc, _ => by simp [decodeNd, mapR, Except.map]
  | j :: js, acc, vals => by
    simp only [List.map_cons, decodeNd, mapR]
    cases hx : scalarParam h parameters (j : Int) i with
    | error e => rfl
    | ok x =>
      simp only [bind, Except.bind]
      rw [decodeNd_scalar h parameters i js]
      cases mapR (fun (j : Nat) => scalarParam h parameters (j : Int) i) js <;>
        simp [Except.map, pure, Except.pure]

/-- **cellStepNdT_scalar.** On an all-scalar spec with parameter `j` in row `j` the view-level step with tables IS the
step `cellStepNd` of `OW/Sim/WrapperNd.lean` (so `wrapperNd_refines_tables` specialises to `wrapperNd_refines`). -/
theorem cellStepNdT_scalar (kernel : List α → List (List α) → List α → KRes α) (nP nI : Nat) (h : Heap α)
    (parameters inputs states outputs : Arr) (rd : RunDims) (i : Int) :
    cellStepNdT kernel (List.replicate nP none) ((List.range nP).map fun j => (j, 1)) nI h parameters inputs states
      outputs rd i = cellStepNd kernel nP nI h parameters inputs states outputs rd i := by
  unfold cellStepNdT cellStepNdG cellStepNd
  rw [zip_scalar, decodeNd_scalar]
  cases mapR (fun (j : Nat) => scalarParam h parameters (j : Int) i) (List.range nP) <;> rfl

theorem runCellsNdT_scalar (kernel : List α → List (List α) → List α → KRes α) (nP nI : Nat)
    (parameters inputs states outputs : Arr) (rd : RunDims) : ∀ (n : Nat) (i : Int) (h : Heap α),
    runCellsNdT kernel (List.replicate nP none) ((List.range nP).map fun j => (j, 1)) nI parameters inputs states
      outputs rd n i h = runCellsNd kernel nP nI parameters inputs states outputs rd n i h
  | 0, _, _ => rfl
  | n + 1, i, h => by
    simp only [runCellsNdT, runCellsNd, cellStepNdT_scalar]
    exact bind_congr fun h1 => runCellsNdT_scalar kernel nP nI parameters inputs states outputs rd n (i + 1) h1

theorem runNdT_scalar (kernel : List α → List (List α) → List α → KRes α) (nP nI : Nat) (h : Heap α)
    (parameters inputs states outputs : Arr) :
    runNdT kernel (List.replicate nP none) ((List.range nP).map fun j => (j, 1)) nI h parameters inputs states outputs =
      runNd kernel nP nI h parameters inputs states outputs := by
  unfold runNdT runNd
  exact bind_congr fun rd => runCellsNdT_scalar kernel nP nI parameters inputs states outputs rd _ _ _

omit [Num α] in
theorem scalar_no_tables {nP : Nat} {P : Prop} (j k : Nat) (hj : (List.replicate nP (none : Option Nat))[j]? = some (some k)) :
    P := by
  rw [List.getElem?_replicate] at hj
  split at hj <;> cases hj

omit [Num α] in
theorem specWF_scalar (nP : Nat) : SpecWF (List.replicate nP none) := fun j k hj => scalar_no_tables j k hj

omit [Num α] in
theorem scalar_rows {nP rows : Nat} (hnP : nP ≤ rows) (j row sz : Nat)
    (_ : (List.replicate nP (none : Option Nat))[j]? = some none)
    (hl : ((List.range nP).map fun j => (j, 1))[j]? = some (row, sz)) : row < rows := by
  obtain ⟨hj, he⟩ := List.getElem?_eq_some_iff.mp hl
  rw [List.length_map, List.length_range] at hj
  rw [List.getElem_map, List.getElem_range] at he
  cases he
  omega

end

end OW.Props.C04NdTables
