import OW.Proofs.SacramentoInvRun
/-!
C10 for Sacramento — beyond the channel stage (`sacramento_channel_nonneg`, OW/Props/C10.lean): the state invariant through the
drainage-and-percolation loop, non-negativity of every output, and the water budget for every prefix of every run.

Kernel model: OW/Kernels/Sacramento.lean (mirror of models/rr/sacramento.go, with its ADIMP-ratio clamp at 0 and
`fracp` clamp at 1). Theorems are over exact real arithmetic (`Num ℝ`). The predicates of the statements (`ParamsOk`,
`InOk`, `InOkPet`, `SacInv`, `RowInv`, `stateOfRow`, `stor`, `held`, `OutOk`) are in OW/Proofs/Sacramento.lean. Proof structure
(OW/Proofs/SacramentoInv*.lean): the kernel is cut into named zones (`incBody_eq`, `step_eq`), every zone has its own lemma,
one pass of the loop (`incBody_spec`) is a `Stage`: it keeps a loop invariant and moves water without creating any,
`incLoop_spec` is the induction over the `ninc` passes, `step_spec` assembles one time step (`StepOk`), and `budget` states
it as an `RR.StepBudget`, whose `run` / `take` lift it to runs.

Hypotheses (`RR.Sac.ParamsOk`): capacities > 0, `5 ≤ lztwm`, rates/fractions in [0,1], `pctim + adimp ≤ 1`,
`side, ssout, sarva, zperc ≥ 0`, unit-hydrograph proportions ≥ 0 with positive sum; NO condition on `rexp`.
Inputs: rain ≥ 0, 0 ≤ PET ≤ uztwm + lztwm for the invariant and the budget; for e5 ≥ 0 (hence reported actual
evapotranspiration ≥ 0) additionally PET·uzfwm ≤ lztwm·(uztwm + uzfwm) (`RR.Sac.PetOk`; both follow from PET ≤ lztwm).
Two of these restrictions are shown to be needed by the counter-examples at the end of this file: `5 ≤ lztwm` (for the
invariant) and the second PET bound (for e5 ≥ 0). Nothing is proved about PET > uztwm + lztwm or about state rows outside
`RowInv`.
-/
namespace OW.Props.C10Sacramento
open OW OW.Kernels OW.RR.Sac

/-- Every divisor of a time step that is fixed by the parameters is non-zero under `ParamsOk`. Of the remaining ones,
three are proved positive where they occur (`ninc ≥ 1` in `ninc_spec`, `pinc > 0` in `fill_form`, `pav > 5.08` in `adj_spec`) and
`flwbf + flwsf > 0` is the guard of the code. `ratlp + ratls` is positive when the two lower free-water stores are not both
full (`ratl_sum_pos`); no lemma derives that from the guard `0 < percfw` of the code, and `fracp_spec` bounds the quotient
without it (its bounds hold for a zero divisor too). -/
theorem sacramento_divisors_pos (p : Sacramento.Params ℝ) (hp : ParamsOk p) :
    p.uztwm ≠ 0 ∧ p.uzfwm ≠ 0 ∧ p.lztwm ≠ 0 ∧ p.uztwm + p.uzfwm ≠ 0 ∧ p.uztwm + p.lztwm ≠ 0 ∧
    (Sacramento.consts p).alzfpm ≠ 0 ∧ (Sacramento.consts p).alzfsm ≠ 0 ∧
    (Sacramento.consts p).alzfpm + (Sacramento.consts p).alzfsm ≠ 0 ∧
    (Sacramento.consts p).alzfpm + (Sacramento.consts p).alzfsm + p.lztwm ≠ 0 ∧
    (Sacramento.consts p).alzfpm + (Sacramento.consts p).alzfsm - (Sacramento.consts p).saved + p.lztwm ≠ 0 ∧
    1 + p.side ≠ 0 ∧ p.uh1 + p.uh2 + p.uh3 + p.uh4 + p.uh5 ≠ 0 := by
  have hc := consts_ok p hp
  have h3 := hp.lztwm_pos
  have h4 := hc.pm
  have h5 := hc.sm
  exact ⟨hp.uztwm.ne', hp.uzfwm.ne', h3.ne', hp.upper_pos.ne', hp.tension_pos.ne', h4.ne', h5.ne', by positivity, by positivity,
    by linarith [hc.saved1], hp.side_pos.ne', hp.uhs.ne'⟩

/-- the bounds of the reported stores that the oracle checks, and the bound on the additional impervious store -/
theorem sacramento_store_bounds (p : Sacramento.Params ℝ) (hp : ParamsOk p) (st : Sacramento.State ℝ)
    (hs : SacInv p st) :
    (0 ≤ st.uztwc ∧ st.uztwc ≤ p.uztwm) ∧ (0 ≤ st.uzfwc ∧ st.uzfwc ≤ p.uzfwm) ∧
    (0 ≤ st.lztwc ∧ st.lztwc ≤ p.lztwm) ∧ (0 ≤ st.lzfpc ∧ st.lzfpc ≤ p.lzfpm) ∧
    (0 ≤ st.lzfsc ∧ st.lzfsc ≤ p.lzfsm) ∧ (0 ≤ st.adimc ∧ st.adimc ≤ p.uztwm + 5 / 4 * p.lztwm) := by
  -- a reported lower free-water content `x` is the working content `y = x·(1+side)` scaled back
  have unscale : ∀ x y cap : ℝ, x * (1 + p.side) = y → 0 ≤ y → y ≤ cap * (1 + p.side) → 0 ≤ x ∧ x ≤ cap := by
    intro x y cap h h0 h1
    have hside := hp.side_pos
    rw [← h] at h0 h1
    exact ⟨nonneg_of_mul_nonneg_left h0 hside, le_of_mul_le_mul_right h1 hside⟩
  exact ⟨⟨hs.tw0, hs.tw1⟩, ⟨hs.fw0, hs.fw1⟩, ⟨hs.lt0, hs.lt1⟩, unscale _ _ _ hs.cp hs.p0 hs.p1,
    unscale _ _ _ hs.cs hs.s0 hs.s1, hs.a0, by linarith [hs.a1, hs.tw1]⟩

/-- **Invariant.** Parameters in range, rain ≥ 0 and 0 ≤ PET ≤ uztwm + lztwm, initial state within the
invariant: after every run the state is within the invariant (every store between zero and its capacity, see
`sacramento_store_bounds`), and on every step runoff, baseflow, surfaceRunoff, imperviousRunoff and the evaporation
parts e1…e4 are non-negative, runoff = surfaceRunoff + baseflow and actualET = e1 + e2 + e3 + e4 + e5. -/
theorem sacramento_invariant (p : Sacramento.Params ℝ) (hp : ParamsOk p) (s : Sacramento.State ℝ)
    (hs : SacInv p s) (xs : List (ℝ × ℝ)) (hx : ∀ x ∈ xs, InOk p x) :
    SacInv p (Sacramento.run p s xs).1 ∧ ∀ o ∈ (Sacramento.run p s xs).2, OutOk o := by
  have h := (budget p hp).run xs s hs hx
  exact ⟨h.1, h.2.2⟩

/-- **All outputs non-negative.** If moreover PET·uzfwm ≤ lztwm·(uztwm + uzfwm) on every step (e.g. PET ≤ lztwm),
the fifth evaporation part e5 and the reported actual evapotranspiration are non-negative as well. -/
theorem sacramento_outputs_nonneg (p : Sacramento.Params ℝ) (hp : ParamsOk p) (s : Sacramento.State ℝ)
    (hs : SacInv p s) (xs : List (ℝ × ℝ)) (hx : ∀ x ∈ xs, InOkPet p x) :
    ∀ o ∈ (Sacramento.run p s xs).2, OutOk o ∧ 0 ≤ o.e5 ∧ 0 ≤ o.actualET :=
  (scan_inv (fun s x hs hx =>
    have h := step_spec p hp s x hs hx.1.1 hx.1.2.1 hx.1.2.2
    ⟨h.inv, h.out, h.e5 hx.2⟩) hs hx).2

/-- **Nominal capacity of the additional impervious store.** With `lztwm ≥ 10` (every rain increment of the drainage
loop, below 5 mm, is then at most `lztwm/2`) the excess `adimc − uztwc` never exceeds `lztwm`: the saturation ratio of
the ADIMP area stays ≤ 1 and `adimc ≤ uztwm + lztwm`. For `5 ≤ lztwm < 10` only `adimc ≤ uztwm + 5/4·lztwm`
(`sacramento_store_bounds`) holds: with uztwm 1, lztwm 5, uzk 1 and rain [3.5, 0, 4.9] mm from the empty state the Go
code ends with AdditionalImperviousStore = 7.175 > 6. -/
theorem sacramento_adimc_capacity (p : Sacramento.Params ℝ) (hp : ParamsOk p) (h10 : 10 ≤ p.lztwm)
    (s : Sacramento.State ℝ) (hs : SacInv p s) (hG : s.adimc - s.uztwc ≤ p.lztwm) (xs : List (ℝ × ℝ))
    (hx : ∀ x ∈ xs, InOk p x) :
    (Sacramento.run p s xs).1.adimc - (Sacramento.run p s xs).1.uztwc ≤ p.lztwm ∧
    (Sacramento.run p s xs).1.adimc ≤ p.uztwm + p.lztwm := by
  have h := (scan_inv (step := Sacramento.step p (Sacramento.consts p))
    (Inv := fun s => SacInv p s ∧ s.adimc - s.uztwc ≤ p.lztwm) (P := fun _ => True)
    (fun s x hs hx =>
      have h := step_spec p hp s x hs.1 hx.1 hx.2.1 hx.2.2
      ⟨⟨h.inv, h.nominal h10 hs.2⟩, trivial⟩) ⟨hs, hG⟩ hx).1
  unfold Sacramento.run
  exact ⟨h.2, by linarith [h.2, h.1.tw1]⟩

/-- **Budget invariant.** Σ runoff + Σ reported actual evapotranspiration + water held at the end
≤ Σ rainfall + water held initially, where water held = (1 − pctim − adimp)·(uztwc + uzfwc + lztwc +
(1+side)·(lzfpc + lzfsc)) + adimp·adimc + water in transit in the unit hydrograph. (Not an equality: the code loses
the `side/(1+side)` share of the baseflow and the channel loss `min(ssout, ·)`.) -/
theorem sacramento_budget (p : Sacramento.Params ℝ) (hp : ParamsOk p) (s : Sacramento.State ℝ)
    (hs : SacInv p s) (xs : List (ℝ × ℝ)) (hx : ∀ x ∈ xs, InOk p x) :
    ((Sacramento.run p s xs).2.map (fun o => o.runoff + o.actualET)).sum + stor p (Sacramento.run p s xs).1 ≤
      (xs.map (·.1)).sum + stor p s :=
  ((budget p hp).run xs s hs hx).2.1

/-- **No water created, every prefix**: Σ_{t<n} (runoff + actualET) ≤ Σ_{t<n} rain + water held initially. -/
theorem sacramento_no_water_created_from (p : Sacramento.Params ℝ) (hp : ParamsOk p) (s : Sacramento.State ℝ)
    (hs : SacInv p s) (xs : List (ℝ × ℝ)) (hx : ∀ x ∈ xs, InOk p x) (n : ℕ) :
    (((Sacramento.run p s xs).2.take n).map (fun o => o.runoff + o.actualET)).sum ≤
      ((xs.take n).map (·.1)).sum + stor p s :=
  (budget p hp).take xs s hs hx n

/-- **The oracle's end-of-run budget.** For a call of the model on a state row within the invariant:
Σ (runoff + actualET) + held(final reported state) ≤ Σ rain + held(initial state row) — exactly the inequality
`endBudget` of harness/cmd/owharness/oracle_C10.go evaluates on the implementation (the water still in the
unit-hydrograph buffer at the end of the call is dropped by the code and only lowers the left-hand side). -/
theorem sacramento_oracle_end_budget (p : Sacramento.Params ℝ) (hp : ParamsOk p) (s0 s1 s2 s3 s4 s5 : ℝ)
    (h : RowInv p s0 s1 s2 s3 s4 s5) (xs : List (ℝ × ℝ)) (hx : ∀ x ∈ xs, InOk p x) :
    ((Sacramento.run p (stateOfRow p s0 s1 s2 s3 s4 s5) xs).2.map (fun o => o.runoff + o.actualET)).sum +
        held p (Sacramento.run p (stateOfRow p s0 s1 s2 s3 s4 s5) xs).1 ≤
      (xs.map (·.1)).sum + held p (stateOfRow p s0 s1 s2 s3 s4 s5) := by
  have hs := stateOfRow_inv p hp s0 s1 s2 s3 s4 s5 h
  have hb := sacramento_budget p hp _ hs xs hx
  have hi := (sacramento_invariant p hp _ hs xs hx).1
  rw [stor_eq_held p _ hi, stateOfRow_stor p hp s0 s1 s2 s3 s4 s5 h] at hb
  have := uhStor_nonneg p hp _ hi
  linarith

/-- **The oracle's prefix budget**: for every n, Σ_{t<n} (runoff + actualET) ≤ Σ_{t<n} rain + held(initial state row). -/
theorem sacramento_oracle_prefix_budget (p : Sacramento.Params ℝ) (hp : ParamsOk p) (s0 s1 s2 s3 s4 s5 : ℝ)
    (h : RowInv p s0 s1 s2 s3 s4 s5) (xs : List (ℝ × ℝ)) (hx : ∀ x ∈ xs, InOk p x) (n : ℕ) :
    (((Sacramento.run p (stateOfRow p s0 s1 s2 s3 s4 s5) xs).2.take n).map (fun o => o.runoff + o.actualET)).sum ≤
      ((xs.take n).map (·.1)).sum + held p (stateOfRow p s0 s1 s2 s3 s4 s5) := by
  have hs := stateOfRow_inv p hp s0 s1 s2 s3 s4 s5 h
  have hb := sacramento_no_water_created_from p hp _ hs xs hx n
  rw [stateOfRow_stor p hp s0 s1 s2 s3 s4 s5 h] at hb
  exact hb

/-- **No water created from the initial state.** From the model's own initial state (all stores empty — `InitialiseStates` returns
zeros), for every prefix of every run with rain ≥ 0 and 0 ≤ PET ≤ uztwm + lztwm:
cumulative runoff + cumulative reported actual evapotranspiration ≤ cumulative rainfall. -/
theorem sacramento_no_water_created (p : Sacramento.Params ℝ) (hp : ParamsOk p) (xs : List (ℝ × ℝ))
    (hx : ∀ x ∈ xs, InOk p x) (n : ℕ) :
    (((Sacramento.run p (stateOfRow p 0 0 0 0 0 0) xs).2.take n).map (fun o => o.runoff + o.actualET)).sum ≤
      ((xs.take n).map (·.1)).sum := by
  have h := sacramento_oracle_prefix_budget p hp 0 0 0 0 0 0 (zeroRow_inv p hp) xs hx n
  rw [zeroRow_held, add_zero] at h
  exact h

/-- in particular cumulative runoff alone, when the reported evapotranspiration is non-negative (`InOkPet`) -/
theorem sacramento_runoff_le_rain (p : Sacramento.Params ℝ) (hp : ParamsOk p) (xs : List (ℝ × ℝ))
    (hx : ∀ x ∈ xs, InOkPet p x) (n : ℕ) :
    (((Sacramento.run p (stateOfRow p 0 0 0 0 0 0) xs).2.take n).map (·.runoff)).sum ≤
      ((xs.take n).map (·.1)).sum := by
  have h := sacramento_no_water_created p hp xs (fun x hx' => (hx x hx').1) n
  have hpos := sacramento_outputs_nonneg p hp _ (stateOfRow_inv p hp 0 0 0 0 0 0 (zeroRow_inv p hp)) xs hx
  exact le_trans (List.sum_le_sum fun o ho => le_add_of_nonneg_right (hpos o (List.mem_of_mem_take ho)).2.2) h

/-- the runs of these theorems are the runs of the catalogued model: `Sacramento.model.run` on a parameter column, the
two input series and a state row is `Sacramento.run` from `stateOfRow` on the zipped inputs (outputs in the order
actualET, runoff, imperviousRunoff, surfaceRunoff, baseflow; reported states as in the state row) -/
theorem sacramento_model_run (p : Sacramento.Params ℝ) (rain pet : List ℝ) (s0 s1 s2 s3 s4 s5 : ℝ) :
    (Sacramento.model (α := ℝ)).run
      [p.lzpk, p.lzsk, p.uzk, p.uztwm, p.uzfwm, p.lztwm, p.lzfsm, p.lzfpm, p.pfree, p.rexp, p.zperc, p.side, p.ssout,
        p.pctim, p.adimp, p.sarva, p.rserv, p.uh1, p.uh2, p.uh3, p.uh4, p.uh5] [rain, pet] [s0, s1, s2, s3, s4, s5] =
    .ok { outputs := [(Sacramento.run p (stateOfRow p s0 s1 s2 s3 s4 s5) (rain.zip pet)).2.map (·.actualET),
                      (Sacramento.run p (stateOfRow p s0 s1 s2 s3 s4 s5) (rain.zip pet)).2.map (·.runoff),
                      (Sacramento.run p (stateOfRow p s0 s1 s2 s3 s4 s5) (rain.zip pet)).2.map (·.imperviousRunoff),
                      (Sacramento.run p (stateOfRow p s0 s1 s2 s3 s4 s5) (rain.zip pet)).2.map (·.surfaceRunoff),
                      (Sacramento.run p (stateOfRow p s0 s1 s2 s3 s4 s5) (rain.zip pet)).2.map (·.baseflow)],
          states := [(Sacramento.run p (stateOfRow p s0 s1 s2 s3 s4 s5) (rain.zip pet)).1.uztwc,
                     (Sacramento.run p (stateOfRow p s0 s1 s2 s3 s4 s5) (rain.zip pet)).1.uzfwc,
                     (Sacramento.run p (stateOfRow p s0 s1 s2 s3 s4 s5) (rain.zip pet)).1.lztwc,
                     (Sacramento.run p (stateOfRow p s0 s1 s2 s3 s4 s5) (rain.zip pet)).1.lzfpc,
                     (Sacramento.run p (stateOfRow p s0 s1 s2 s3 s4 s5) (rain.zip pet)).1.lzfsc,
                     (Sacramento.run p (stateOfRow p s0 s1 s2 s3 s4 s5) (rain.zip pet)).1.adimc],
          tags := Sacramento.dedup ((Sacramento.run p (stateOfRow p s0 s1 s2 s3 s4 s5) (rain.zip pet)).2.flatMap
            (·.tags)) } := rfl

/-- the documented default parameter set -/
noncomputable def defaults : Sacramento.Params ℝ :=
  ⟨0.01, 0.05, 0.3, 50, 40, 130, 25, 60, 0.06, 1, 40, 0, 0, 0.01, 0, 0, 0.3, 0.8, 0.1, 0.05, 0.03, 0.02⟩

/-- a wet day with PET, a dry day, a storm -/
def demoSeries : List (ℝ × ℝ) := [(10, 2), (0, 3), (120, 1)]

theorem defaults_ok : ParamsOk defaults := by
  unfold defaults
  constructor <;> norm_num

theorem demoSeries_ok : ∀ x ∈ demoSeries, InOkPet defaults x := by
  intro x hx
  simp only [demoSeries, List.mem_cons, List.not_mem_nil, or_false] at hx
  rcases hx with rfl | rfl | rfl <;>
    exact inOkPet_of_le_lztwm _ defaults_ok _ (by norm_num) (by norm_num) (by norm_num [defaults])

/-- the hypotheses are satisfiable -/
example : ParamsOk defaults ∧ SacInv defaults (stateOfRow defaults 0 0 0 0 0 0) ∧
    stor defaults (stateOfRow defaults 0 0 0 0 0 0) = 0 ∧ ∀ x ∈ demoSeries, InOkPet defaults x := by
  have hp := defaults_ok
  refine ⟨hp, stateOfRow_inv _ hp _ _ _ _ _ _ (zeroRow_inv _ hp), ?_, demoSeries_ok⟩
  rw [stateOfRow_stor _ hp _ _ _ _ _ _ (zeroRow_inv _ hp), zeroRow_held]

/-- the theorems applied to a concrete run from the model's own initial state -/
example : (((Sacramento.run defaults (stateOfRow defaults 0 0 0 0 0 0) demoSeries).2.take 3).map
      (fun o => o.runoff + o.actualET)).sum ≤ ((demoSeries.take 3).map (·.1)).sum :=
  sacramento_no_water_created defaults defaults_ok demoSeries (fun x hx => (demoSeries_ok x hx).1) 3

/-- … and every output of that run is non-negative -/
example : ∀ o ∈ (Sacramento.run defaults (stateOfRow defaults 0 0 0 0 0 0) demoSeries).2,
    OutOk o ∧ 0 ≤ o.e5 ∧ 0 ≤ o.actualET :=
  sacramento_outputs_nonneg defaults defaults_ok _
    (stateOfRow_inv _ defaults_ok _ _ _ _ _ _ (zeroRow_inv _ defaults_ok)) demoSeries demoSeries_ok

/-- a non-trivial state row within the invariant (half-full stores) -/
example : RowInv defaults 25 10 60 30 12 70 := by
  unfold defaults
  constructor <;> norm_num

/-- **Counter-example (the PET bound of `sacramento_outputs_nonneg` cannot be dropped).** Parameters within
`ParamsOk` (uztwm 20, uzfwm 60, lztwm 10, adimp 0.96, no drainage), state row [2, 6, 0, 0, 0, 0] within the invariant,
one dry day with PET = 20 mm ≤ uztwm + lztwm but 20·60 > 10·(20+60): the ADIMP evaporation e5 = −0.096 mm and the
REPORTED actual evapotranspiration is −0.016 mm. (The free-to-tension transfer raises uztwc above adimc, the term
`(adimc − e1 − uztwc)` of e5 goes negative and `min(·, adimc)` passes it through.) Replayed on the Go code:
actualET[0] = −0.016000000000000014. From the model's own initial state the same happens after a storm and a dry
spell for adimp ≳ 0.6 (a 17-day series with PET ≤ 25 gave actualET[16] = −0.00146 on the Go code; not reproduced here). -/
theorem sacramento_negative_aet_counterexample :
    ParamsOk pA ∧ RowInv pA 2 6 0 0 0 0 ∧ InOk pA (0, 20) ∧ ¬ PetOk pA 20 ∧
    (Sacramento.step pA (Sacramento.consts pA) (stateOfRow pA 2 6 0 0 0 0) (0, 20)).2.e5 = -(12 / 125) ∧
    (Sacramento.step pA (Sacramento.consts pA) (stateOfRow pA 2 6 0 0 0 0) (0, 20)).2.actualET = -(2 / 125) := by
  have hpre : let pr := preOf pA (Sacramento.consts pA) (stateOfRow pA 2 6 0 0 0 0) (0, 20)
      pr.e1b = 2 ∧ pr.e2a = 0 ∧ pr.e3a = 0 ∧ pr.e5a = -(1 / 10) := by
    simp only [preOf, stateOfRow, e1bOf, e1aOf, e2aOf, uztwc1Of, uzfwc1Of, uztwc2Of, a1Of, b1Of, e3aOf, e5aOf, pA]
    simp only [realnum, RealNum.sci_zero, RealNum.sci_one]
    norm_num
  have he4 : (chOf pA (Sacramento.consts pA) (stateOfRow pA 2 6 0 0 0 0) (0, 20)).e4 = 0 :=
    channel_e4_zero _ _ _ _ _ rfl
  refine ⟨by unfold pA; constructor <;> norm_num, by unfold pA; constructor <;> norm_num, by norm_num [InOk, pA],
    by norm_num [PetOk, pA], ?_, ?_⟩
  · rw [step_eq]
    simp only [hpre.2.2.2]
    simp only [realnum]; norm_num [pA]
  · rw [step_eq]
    simp only [hpre.1, hpre.2.1, hpre.2.2.1, hpre.2.2.2, he4]
    simp only [realnum]; norm_num [pA]

/-- **Counter-example (`5 ≤ lztwm` cannot be dropped).** All of `ParamsOk` except `lztwm = 0.1 mm` (inside the
OW-SPEC range [0,300]); state row [1, 0, 0, 0, 0, 1.125] within the invariant; one day with 4 mm of rain and no PET:
the rain increment (4 mm) exceeds lztwm, the saturation ratio is 1.25, `addro = pinc·ratio² = 6.25 mm` and the
additional impervious store ends at −1.125 mm. Replayed on the Go code (final AdditionalImperviousStore = −1.125).
From the model's own initial state, same parameters with rain [3, 2] mm: the Go code reports 400 mm of runoff on day 2
out of 5 mm of rain and ends with AdditionalImperviousStore = −795 (the oracle's budget and state checks fire). -/
theorem sacramento_small_lztwm_counterexample :
    ParamsOk { pB with lztwm := 5 } ∧ pB.lztwm = 1 / 10 ∧ RowInv pB 1 0 0 0 0 (9 / 8) ∧ InOkPet pB (4, 0) ∧
    (Sacramento.step pB (Sacramento.consts pB) (stateOfRow pB 1 0 0 0 0 (9 / 8)) (4, 0)).1.adimc = -(9 / 8) := by
  refine ⟨by unfold pB; constructor <;> norm_num, rfl, by unfold pB; constructor <;> norm_num,
    by norm_num [InOkPet, InOk, PetOk, pB], ?_⟩
  have hpre : let pr := preOf pB (Sacramento.consts pB) (stateOfRow pB 1 0 0 0 0 (9 / 8)) (4, 0)
      let v0 := v0Of pB (Sacramento.consts pB) (stateOfRow pB 1 0 0 0 0 (9 / 8)) (4, 0)
      pr.uztwc3 = 1 ∧ pr.pav = 4 ∧ v0.uzfwc = 0 ∧ v0.adimc = 9 / 8 := by
    simp only [v0Of, preOf, stateOfRow, e1bOf, e1aOf, e2aOf, uztwc1Of, uzfwc1Of, uztwc2Of, uzfwc2Of, a1Of, b1Of, e5aOf,
      adimc2Of, uztwc3Of, pavOf, pav0Of, pB]
    simp only [realnum, RealNum.sci_zero, RealNum.sci_one]
    norm_num
  obtain ⟨hu3, hpav, hf2, had⟩ := hpre
  rw [step_eq]
  show (v2Of pB (Sacramento.consts pB) (stateOfRow pB 1 0 0 0 0 (9 / 8)) (4, 0)).adimc = _
  unfold v2Of
  rw [hu3, hpav, loopsOf_adimc_one _ _ _ _ _ (by norm_num) (by rw [B_adj, hf2]; exact B_ninc) (by rw [hf2]; exact lt_irrefl _),
    had, hf2, B_addro]
  norm_num

end OW.Props.C10Sacramento
