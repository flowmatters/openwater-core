import OW.Gen.Kernels
import OW.Proofs.Dates
/-! Tie of `dateGenerator` (models/functions/dates.go) as owtranslate renders it: the helpers `leapYear`, `daysInMonth`, `_dayOfYear` (int
arithmetic, a constant table, a loop that may panic: `Option`) against `OW.Dates`, then the step. owtransidx renders the same three helpers
in its own vocabulary; those ties are in `GenTieIndex.lean` (the two regenerated files are built by different checks and do not import
each other). -/
namespace OW.Props.GenTie
open OW OW.Gen.K OW.Gen.Prelude
set_option linter.unusedSimpArgs false

/-! ### models/functions/dates.go -/

/-- the three tests of the Gregorian rule may come in any order: as facts about `%` their consequences (400 ∣ y → 100 ∣ y → 4 ∣ y) are `omega`'s -/
theorem gen_eq_DateGenerator_leapYear {α} [Num α] (y : Int) :
    dateGenerator.leapYear (α := α) y = Dates.leapYear y := by
  unfold dateGenerator.leapYear Dates.leapYear
  by_cases a : y % 4 = 0 <;> by_cases b : y % 100 = 0 <;> by_cases c : y % 400 = 0 <;>
    simp [Dates.tmod_zero_iff, a, b, c] <;> omega

theorem gen_eq_DateGenerator_daysInMonth {α} [Num α] (m y : Int) :
    dateGenerator.daysInMonth (α := α) m y = Dates.daysInMonth m y := by
  unfold dateGenerator.daysInMonth Dates.daysInMonth intTable Dates.dimTable
  rw [gen_eq_DateGenerator_leapYear]
  by_cases h2 : m = 2 <;> cases hl : Dates.leapYear y <;> simp [h2, hl]

/-- the month loop of `_dayOfYear`: `forRangeO` over `[1, m)` is the fuelled loop of the hand model -/
theorem gen_eq_DateGenerator_doyLoop (body : Int → Int → Option Int) (y m : Int)
    (hb : ∀ mi doy, body mi doy = (Dates.daysInMonth mi y).map (fun k => doy + k))
    (fuel : Nat) (mi acc : Int) (h : fuel = (m - mi).toNat) :
    forRangeNO body fuel mi acc = Dates.doyLoop y m fuel mi acc := by
  induction fuel generalizing mi acc with
  | zero => rfl
  | succ n ih =>
    unfold forRangeNO Dates.doyLoop
    have hlt : mi < m := by omega
    simp only [hlt, ↓reduceIte, hb]
    cases Dates.daysInMonth mi y with
    | none => rfl
    | some k => exact ih (mi + 1) (acc + k) (by omega)

theorem gen_eq_DateGenerator_dayOfYear {α} [Num α] (d m y : Int) :
    dateGenerator._dayOfYear (α := α) d m y = Dates.dayOfYear d m y := by
  unfold dateGenerator._dayOfYear Dates.dayOfYear forRangeO
  dsimp only
  rw [gen_eq_DateGenerator_doyLoop _ y m (fun mi doy => by
      simp only [gen_eq_DateGenerator_daysInMonth]
      cases Dates.daysInMonth mi y <;> rfl) (m - 1).toNat 1 0 rfl]
  cases Dates.doyLoop y m (m - 1).toNat 1 0 <;> rfl

/-- a month whose length the table gives is one of the twelve (so the month can only pass December by the increment at the end
of a month: the test `m > 12` may stand inside that branch or after it) -/
theorem daysInMonth_some_le (m y dim : Int) (h : Dates.daysInMonth m y = some dim) : 1 ≤ m ∧ m ≤ 12 := by
  unfold Dates.daysInMonth at h
  by_cases h2 : m = 2
  · omega
  · have h2' : (m == 2) = false := by simpa using h2
    simp only [h2', Bool.false_and, Bool.false_eq_true, ↓reduceIte] at h
    split at h
    · cases h
    · rename_i hneg
      by_cases hlt : (m - 1).toNat < 12
      · omega
      · rw [List.getElem?_eq_none (by simp [Dates.dimTable]; omega)] at h
        cases h

/-- `dateGenerator`: the three start parameters are truncated with `int(…)` before the loop (`init`; `d, m, y` are hidden
state: carried between iterations, not returned); one iteration — day of year through the translated helpers `_dayOfYear`,
`daysInMonth`, `leapYear` and the table `DAYS_IN_MONTH`, then the calendar increment — is `Dates.step` (`none` = the index
panic of the table lookup), the four outputs being `float64` of the ints. -/
theorem gen_eq_DateGenerator {α} [Num α] (startDate startMonth startYear tick : α) (t : Dates.Date) :
    dateGenerator.guard startDate startMonth startYear = false ∧
    dateGenerator.init startDate startMonth startYear = (Num.toInt startDate, Num.toInt startMonth, Num.toInt startYear) ∧
    dateGenerator.step startDate startMonth startYear t.d t.m t.y tick =
      (match Dates.step t with
       | none => none
       | some (r, t') => some ((t'.d, t'.m, t'.y),
           ((Num.ofInt r.date : α), (Num.ofInt r.month : α), (Num.ofInt r.year : α), (Num.ofInt r.doy : α)))) := by
  refine ⟨rfl, rfl, ?_⟩
  unfold dateGenerator.step Dates.step
  simp only [gen_unfold, ↓gen_eq_DateGenerator_dayOfYear, ↓gen_eq_DateGenerator_daysInMonth]
  cases Dates.dayOfYear t.d t.m t.y with
  | none => rfl
  | some doy =>
    cases hd : Dates.daysInMonth t.m t.y with
    | none => rfl
    | some dim =>
      have hm := daysInMonth_some_le t.m t.y dim hd
      dsimp only
      have e1 : (t.d + 1 ≤ dim) = ¬ (dim < t.d + 1) := by simp only [Int.not_lt]
      simp only [gt_iff_lt, ge_iff_le, e1]
      by_cases c1 : dim < t.d + 1 <;> by_cases c2 : 12 < t.m + 1 <;> by_cases c3 : 12 < t.m <;>
        simp only [c1, c2, c3, ↓reduceIte, not_true_eq_false, not_false_eq_true] <;> first | rfl | omega

end OW.Props.GenTie
