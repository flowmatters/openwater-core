import OW.Proofs.FindRoot
import OW.Proofs.Piecewise
/-!
C18 — root finding and piecewise interpolation meet their numerical contracts.

Models: `OW/Util/FindRoot.lean` (`util/fn/root.go`, whose secant trial is clamped into the bracket) and
`OW/Util/Piecewise.lean` (`util/fn/piecewise.go`, which returns the table value at a knot), instantiated at `ℝ`
(exact arithmetic). `f` is an ARBITRARY function `ℝ → ℝ`; continuity is never needed (every statement is about
the finitely many points the algorithm touches), monotonicity only where stated.

Ghost components of the result (`evals`, final bracket `b`, `exit`) are not results of the Go function; `evals`
is compared with the real code on every run (the harness logs every callback argument).
-/
namespace OW.Props.C18
open OW OW.Fn OW.Proofs.FindRoot OW.Proofs.Piecewise

section FindRoot
variable {f : ℝ → ℝ} {f' : Option (ℝ → ℝ)} {x0 lo hi tol conv : ℝ} {n : Nat}

/-- without a bracketed root the Go code panics ("Invalid range"); with one it runs the iteration loop (`findRoot_eq`) -/
theorem findRoot_invalid_range (h : 0 < f lo ∨ f hi < 0) :
    findRoot f f' x0 lo hi tol conv n = .error "other" := by
  unfold findRoot
  simp only [RealNum.ofNat_eq, Nat.cast_zero]
  rw [if_pos h]

/-- on every exit, after any number of iterations (also 0) and for ANY initial guess -/
theorem bracket_inv_any_guess (hle : lo ≤ hi) (h1 : f lo ≤ 0) (h2 : 0 ≤ f hi) {r : Res ℝ}
    (hr : findRoot f f' x0 lo hi tol conv n = .ok r) :
    r.b.minX ≤ r.b.maxX ∧ lo ≤ r.b.minX ∧ r.b.maxX ≤ hi ∧
      r.b.minDelta = f r.b.minX ∧ r.b.maxDelta = f r.b.maxX ∧ f r.b.minX ≤ 0 ∧ 0 ≤ f r.b.maxX := by
  have p := (findRoot_spec hle h1 h2 hr).binv
  exact ⟨p.le, p.lo_le, p.le_hi, p.dmin, p.dmax, p.fmin_le, p.fmax_ge⟩

/-- `bracket_inv_any_guess` stated with a guess in the interval (a hypothesis that is not needed) -/
theorem bracket_inv (hle : lo ≤ hi) (h1 : f lo ≤ 0) (h2 : 0 ≤ f hi) (_hx0 : lo ≤ x0 ∧ x0 ≤ hi) {r : Res ℝ}
    (hr : findRoot f f' x0 lo hi tol conv n = .ok r) :
    r.b.minX ≤ r.b.maxX ∧ lo ≤ r.b.minX ∧ r.b.maxX ≤ hi ∧
      r.b.minDelta = f r.b.minX ∧ r.b.maxDelta = f r.b.maxX ∧ f r.b.minX ≤ 0 ∧ 0 ≤ f r.b.maxX :=
  bracket_inv_any_guess hle h1 h2 hr

/-- for ANY function with `f lo ≤ 0 ≤ f hi`; for `maxIterations = 0` the result is the guess itself (`zero_iterations`) -/
theorem result_in_interval (hle : lo ≤ hi) (h1 : f lo ≤ 0) (h2 : 0 ≤ f hi) (hx0 : lo ≤ x0 ∧ x0 ≤ hi) {r : Res ℝ}
    (hr : findRoot f f' x0 lo hi tol conv n = .ok r) : lo ≤ r.x ∧ r.x ≤ hi :=
  (findRoot_spec hle h1 h2 hr).mem (Or.inr hx0)

/-- ANY initial guess — also outside the interval, also a non-number in the code: the guess only enters through its residual,
the Newton trial (accepted only strictly inside the bracket) and the convergence counter -/
theorem result_in_interval_n1 (hle : lo ≤ hi) (h1 : f lo ≤ 0) (h2 : 0 ≤ f hi) (hn : 1 ≤ n) {r : Res ℝ}
    (hr : findRoot f f' x0 lo hi tol conv n = .ok r) : lo ≤ r.x ∧ r.x ≤ hi :=
  (findRoot_spec hle h1 h2 hr).mem (Or.inl hn)

theorem result_delta_is_value (hle : lo ≤ hi) (h1 : f lo ≤ 0) (h2 : 0 ≤ f hi) {r : Res ℝ}
    (hr : findRoot f f' x0 lo hi tol conv n = .ok r) : r.delta = f r.x :=
  (findRoot_spec hle h1 h2 hr).val rfl

/-- for a non-decreasing `f` and a positive tolerance: whenever the halving trial of an iteration does not return (so that the
secant trial is evaluated at all), the secant is a genuine quotient and the clamp is the identity. (The degenerate `0/0` needs
`f min = f max = 0`; then `f ≡ 0` on the bracket and the halving trial returns.) -/
theorem secant_genuine (hmono : MonotoneOn f (Set.Icc lo hi)) (htol : 0 < tol) {s s' : Inner ℝ} {x : ℝ}
    (hb : BInv f lo hi s.b) (hstep : trialStep f tol conv x s (halvingX s.b) = .inr s') :
    0 < s.b.maxDelta - s.b.minDelta ∧
      (s.b.minX ≤ secantRaw s.b ∧ secantRaw s.b ≤ s.b.maxX) ∧ secantX s.b = secantRaw s.b := by
  have hnt : ¬ |f (halvingX s.b)| < tol := fun h => by rw [trialStep_accept _ _ _ _ _ _ h] at hstep; cases hstep
  have hlt : s.b.minDelta < s.b.maxDelta := by
    by_contra hcon
    have heq : s.b.minDelta = 0 ∧ s.b.maxDelta = 0 := by
      have := hb.smin; have := hb.smax
      constructor <;> linarith [not_lt.mp hcon]
    have hh := halvingX_mem s.b hb.le
    have hA : f s.b.minX ≤ f (halvingX s.b) := hmono (hb.mem (le_refl _) hb.le) (hb.mem hh.1 hh.2) hh.1
    have hB : f (halvingX s.b) ≤ f s.b.maxX := hmono (hb.mem hh.1 hh.2) (hb.mem hb.le (le_refl _)) hh.2
    rw [← hb.dmin, heq.1] at hA
    rw [← hb.dmax, heq.2] at hB
    have : f (halvingX s.b) = 0 := le_antisymm hB hA
    apply hnt
    rw [this, abs_zero]; exact htol
  exact ⟨by linarith, secantRaw_mem s.b hb.le hb.smin hb.smax hlt, secantX_eq_raw s.b hb.le hb.smin hb.smax hlt⟩

/-- `secant_genuine` along the whole iteration loop -/
theorem iterate_secantNondeg (hmono : MonotoneOn f (Set.Icc lo hi)) (htol : 0 < tol) :
    ∀ (fuel : Nat) (x delta : ℝ) (b : Bracket ℝ) (ev : List ℝ), BInv f lo hi b →
      SecantNondeg f f' tol conv fuel x delta b ev := by
  intro fuel
  induction fuel with
  | zero => intro x delta b ev _; trivial
  | succ m ih =>
    intro x delta b ev hb
    unfold SecantNondeg
    refine ⟨?_, ?_⟩
    · rintro ⟨s', hs'⟩ heq
      have h := (secant_genuine (conv := conv) hmono htol (s := { b := b, hit := 0, evals := ev }) (x := x) hb hs').1
      simp only at h
      rw [heq] at h; linarith
    · split
      · trivial
      · rename_i s hloop
        have hb' := ((trialLoop_spec (conv := conv) _ _ hb (trials_in hb f' x delta)).1 s hloop).binv
        split
        · trivial
        · exact ih _ _ _ _ hb'

/-- under the property's premise (non-decreasing `f` with `f lo ≤ 0 ≤ f hi`) and a positive tolerance the run never evaluates `f`
at a degenerate (`0/0`) secant point -/
theorem secant_nondegenerate_of_monotone (hmono : MonotoneOn f (Set.Icc lo hi)) (htol : 0 < tol)
    (hle : lo ≤ hi) (h1 : f lo ≤ 0) (h2 : 0 ≤ f hi) :
    SecantNondeg f f' tol conv n x0 (f x0) ⟨lo, f lo, hi, f hi⟩ [lo, hi, x0] :=
  iterate_secantNondeg hmono htol n x0 (f x0) _ _ (init_binv hle h1 h2)

/-- for ANY `f` with `f lo ≤ 0 ≤ f hi` and a guess inside the interval (`fn(initialX)` is the first call of
the code) — PROVIDED no iteration evaluates a degenerate secant point (`hnd`).
Without `hnd` the statement would still be derivable over ℝ, but for the wrong reason: with `f lo = f hi = 0` and an
interior value outside the tolerance the secant is `(…)·0/0`, which ℝ evaluates to 0 (then clamped into the bracket)
while float64 — the Go code and the compiled model — evaluates `f(NaN)` and continues on a different path
(`secant_degenerate_example`). The hypothesis restricts the theorem to the runs on which the ℝ model and the code agree; the
ℝ proof itself does not consume it. -/
theorem evals_in_interval (hle : lo ≤ hi) (h1 : f lo ≤ 0) (h2 : 0 ≤ f hi) (hx0 : lo ≤ x0 ∧ x0 ≤ hi)
    (hnd : SecantNondeg f f' tol conv n x0 (f x0) ⟨lo, f lo, hi, f hi⟩ [lo, hi, x0]) {r : Res ℝ}
    (hr : findRoot f f' x0 lo hi tol conv n = .ok r) : ∀ e ∈ r.evals, lo ≤ e ∧ e ≤ hi := by
  have _hnd := hnd   -- restricts the statement to non-degenerate runs (see the doc-comment)
  exact (findRoot_spec hle h1 h2 hr).evals (init_evals hle hx0)

/-- the property's clause ("the function is never evaluated outside the interval") under the
property's monotone premise, where `SecantNondeg` holds by `secant_nondegenerate_of_monotone` -/
theorem evals_in_interval_mono (hmono : MonotoneOn f (Set.Icc lo hi)) (htol : 0 < tol)
    (hle : lo ≤ hi) (h1 : f lo ≤ 0) (h2 : 0 ≤ f hi) (hx0 : lo ≤ x0 ∧ x0 ≤ hi) {r : Res ℝ}
    (hr : findRoot f f' x0 lo hi tol conv n = .ok r) :
    (∀ e ∈ r.evals, lo ≤ e ∧ e ≤ hi) ∧ SecantNondeg f f' tol conv n x0 (f x0) ⟨lo, f lo, hi, f hi⟩ [lo, hi, x0] :=
  ⟨evals_in_interval hle h1 h2 hx0 (secant_nondegenerate_of_monotone hmono htol hle h1 h2) hr,
   secant_nondegenerate_of_monotone hmono htol hle h1 h2⟩

theorem width_halves (hle : lo ≤ hi) (h1 : f lo ≤ 0) (h2 : 0 ≤ f hi) {r : Res ℝ}
    (hr : findRoot f f' x0 lo hi tol conv n = .ok r) (hexit : r.exit = .fuel) :
    r.b.maxX - r.b.minX ≤ (hi - lo) / 2 ^ n :=
  (findRoot_spec hle h1 h2 hr).width hexit

theorem delta_le_final_ends (hle : lo ≤ hi) (h1 : f lo ≤ 0) (h2 : 0 ≤ f hi) (hn : 1 ≤ n)
    {r : Res ℝ} (hr : findRoot f f' x0 lo hi tol conv n = .ok r) (hexit : r.exit ≠ .tol) :
    |r.delta| ≤ |f r.b.minX| ∧ |r.delta| ≤ f r.b.maxX :=
  (findRoot_spec hle h1 h2 hr).delta_le_ends hn hexit

/-- no disjunction in the conclusion when the run did NOT leave through the tolerance test
(`exit` is a ghost of the model, compared with the code through the evaluation log) -/
theorem better_end_unless_tol_exit (hmono : MonotoneOn f (Set.Icc lo hi)) (hle : lo ≤ hi) (h1 : f lo ≤ 0) (h2 : 0 ≤ f hi)
    (hn : 1 ≤ n) {r : Res ℝ} (hr : findRoot f f' x0 lo hi tol conv n = .ok r) (hexit : r.exit ≠ .tol) :
    |r.delta| ≤ min |f lo| |f hi| := by
  have hb := (findRoot_spec hle h1 h2 hr).binv
  obtain ⟨a, b⟩ := delta_le_final_ends hle h1 h2 hn hr hexit
  have c1 : f lo ≤ f r.b.minX := hmono ⟨le_refl _, hle⟩ (hb.mem (le_refl _) hb.le) hb.lo_le
  have c2 : f r.b.maxX ≤ f hi := hmono (hb.mem hb.le (le_refl _)) ⟨hle, le_refl _⟩ hb.le_hi
  rw [abs_of_nonpos hb.fmin_le] at a
  rw [abs_of_nonpos h1, abs_of_nonneg h2]
  exact le_min (by linarith) (by linarith)

/-- The disjunction cannot be dropped: the property's unconditional clause "no larger in magnitude than at
the better end" is FALSE for the code (`better_end_counterexample`) — the code tests only trial points against the tolerance,
never the bracket ends, so an end that is already within the tolerance can lose against a worse trial that is also within it.
Known finding KF-C18-better-end-within-tolerance (scope `FindRoot:better-end-within-tolerance`), in `partial=` of the check. -/
theorem better_end_any_guess (hmono : MonotoneOn f (Set.Icc lo hi)) (hle : lo ≤ hi) (h1 : f lo ≤ 0) (h2 : 0 ≤ f hi)
    (hn : 1 ≤ n) {r : Res ℝ} (hr : findRoot f f' x0 lo hi tol conv n = .ok r) :
    |r.delta| ≤ min |f lo| |f hi| ∨ |r.delta| < tol := by
  by_cases hexit : r.exit = .tol
  · exact Or.inr ((findRoot_spec hle h1 h2 hr).tol hexit)
  · exact Or.inl (better_end_unless_tol_exit hmono hle h1 h2 hn hr hexit)

/-- `better_end_any_guess` stated with a guess in the interval (a hypothesis that is not needed for `maxIterations ≥ 1`) -/
theorem better_end (hmono : MonotoneOn f (Set.Icc lo hi)) (hle : lo ≤ hi) (h1 : f lo ≤ 0) (h2 : 0 ≤ f hi)
    (_hx0 : lo ≤ x0 ∧ x0 ≤ hi) (hn : 1 ≤ n) {r : Res ℝ} (hr : findRoot f f' x0 lo hi tol conv n = .ok r) :
    |r.delta| ≤ min |f lo| |f hi| ∨ |r.delta| < tol :=
  better_end_any_guess hmono hle h1 h2 hn hr

/-- with the convergence-limit test disabled (`conv ≤ 0`) FindRoot only returns through the tolerance test or by
running out of iterations -/
theorem no_conv_exit (hconv : conv ≤ 0) (hle : lo ≤ hi) (h1 : f lo ≤ 0) (h2 : 0 ≤ f hi)
    {r : Res ℝ} (hr : findRoot f f' x0 lo hi tol conv n = .ok r) : r.exit ≠ .conv :=
  (findRoot_spec hle h1 h2 hr).noconv hconv

theorem tol_exit (hle : lo ≤ hi) (h1 : f lo ≤ 0) (h2 : 0 ≤ f hi)
    {r : Res ℝ} (hr : findRoot f f' x0 lo hi tol conv n = .ok r) (hexit : r.exit = .tol) : |r.delta| < tol :=
  (findRoot_spec hle h1 h2 hr).tol hexit

/-- **tolerance bound**: `OW.Proofs.FindRoot.delta_bound_of_lipschitz` under the property's monotone premise, which it does not need -/
theorem delta_bound (hmono : MonotoneOn f (Set.Icc lo hi)) {L : ℝ}
    (hlip : ∀ a ∈ Set.Icc lo hi, ∀ b ∈ Set.Icc lo hi, a ≤ b → f b - f a ≤ L * (b - a))
    (hconv : conv ≤ 0) (hle : lo ≤ hi) (h1 : f lo ≤ 0) (h2 : 0 ≤ f hi) (hn : 1 ≤ n)
    {r : Res ℝ} (hr : findRoot f f' x0 lo hi tol conv n = .ok r) :
    |r.delta| < tol ∨ |r.delta| ≤ L * (hi - lo) / 2 ^ n := by
  have _ := hmono
  exact delta_bound_of_lipschitz hlip hconv hle h1 h2 hn hr

/-- once the iteration budget suffices for interval halving (`2ⁿ > L·width₀/tol`) -/
theorem tolerance_reached (hmono : MonotoneOn f (Set.Icc lo hi)) {L : ℝ}
    (hlip : ∀ a ∈ Set.Icc lo hi, ∀ b ∈ Set.Icc lo hi, a ≤ b → f b - f a ≤ L * (b - a))
    (hconv : conv ≤ 0) (hle : lo ≤ hi) (h1 : f lo ≤ 0) (h2 : 0 ≤ f hi) (hn : 1 ≤ n)
    (hbudget : L * (hi - lo) / 2 ^ n < tol)
    {r : Res ℝ} (hr : findRoot f f' x0 lo hi tol conv n = .ok r) : |r.delta| < tol := by
  rcases delta_bound hmono hlip hconv hle h1 h2 hn hr with h | h
  · exact h
  · exact lt_of_le_of_lt h hbudget

/-- known finding KF-C18-zero-iterations: with `maxIterations = 0` the result is the initial guess, whatever the bracket ends are -/
theorem zero_iterations (h1 : f lo ≤ 0) (h2 : 0 ≤ f hi) {r : Res ℝ}
    (hr : findRoot f f' x0 lo hi tol conv 0 = .ok r) : r.x = x0 ∧ r.delta = f x0 := by
  rw [findRoot_eq h1 h2] at hr
  cases hr
  exact ⟨rfl, rfl⟩

end FindRoot

/-- `tolerance_reached` applied: `f x = x − 1` on `[0, 2]` with 12 iterations (budget `1·(2−0)/2¹² < 1/1000`), from ANY guess,
also one outside the interval -/
example (x0 : ℝ) : ∃ r, findRoot (fun x : ℝ => x - 1) none x0 0 2 (1/1000) 0 12 = .ok r ∧ |r.delta| < 1/1000 ∧
    (0 ≤ r.x ∧ r.x ≤ 2) ∧ r.delta = r.x - 1 := by
  have hmono : MonotoneOn (fun x : ℝ => x - 1) (Set.Icc 0 2) := by
    intro a _ b _ hab; simp only; linarith
  have hlip : ∀ a ∈ Set.Icc (0:ℝ) 2, ∀ b ∈ Set.Icc (0:ℝ) 2, a ≤ b → (b - 1) - (a - 1) ≤ 1 * (b - a) := by
    intro a _ b _ _; linarith
  have hr : findRoot (fun x : ℝ => x - 1) none x0 0 2 (1/1000) 0 12 = .ok _ :=
    findRoot_eq (by norm_num) (by norm_num)
  refine ⟨_, hr, ?_, ?_, ?_⟩
  · exact tolerance_reached hmono hlip (le_refl 0) (by norm_num) (by norm_num) (by norm_num) (by norm_num)
      (by norm_num) hr
  · exact result_in_interval_n1 (by norm_num) (by norm_num) (by norm_num) (by norm_num) hr
  · exact result_delta_is_value (by norm_num) (by norm_num) (by norm_num) hr

/-- why `evals_in_interval` carries `SecantNondeg`: `f x = 2x − x²` on `[0, 2]` (`f 0 = f 2 = 0`, `f 1 = 1`), tolerance `1/1000`:
in the first iteration the halving trial `1` does not return and the secant denominator is `f 2 − f 0 = 0`. Over ℝ the secant
"point" is `2 − 2·0/0 = 2`; the Go code and the compiled model evaluate `f(NaN)` (evaluation log `[…, 1, NaN, …]`) and continue
differently. `f` is not monotone: under the property's premise the case cannot arise (`secant_nondegenerate_of_monotone`). -/
theorem secant_degenerate_example :
    ¬ SecantNondeg (fun x : ℝ => 2 * x - x ^ 2) none (1/1000) 0 1 (1/2) ((fun x : ℝ => 2 * x - x ^ 2) (1/2))
        ⟨0, (fun x : ℝ => 2 * x - x ^ 2) 0, 2, (fun x : ℝ => 2 * x - x ^ 2) 2⟩ [0, 2, 1/2] := by
  intro h
  unfold SecantNondeg at h
  have hh : halvingX (⟨0, (fun x : ℝ => 2 * x - x ^ 2) 0, 2, (fun x : ℝ => 2 * x - x ^ 2) 2⟩ : Bracket ℝ) = 1 := by
    rw [halvingX_eq]; norm_num
  refine h.1 ?_ (by norm_num)
  rw [trialStep_eq, hh, if_neg (by norm_num)]
  exact ⟨_, rfl⟩

/-- `f x = x` on `[−10⁻⁶, 9·10⁻⁴]`, tolerance `10⁻³`, one iteration from the lower end: the halving trial `4.495·10⁻⁴` is accepted
(below the tolerance) although the lower end has residual `10⁻⁶` (KF-C18-better-end-within-tolerance) -/
theorem better_end_counterexample :
    ∃ r, findRoot (fun x : ℝ => x) none (-1/1000000) (-1/1000000) (9/10000) (1/1000) 0 1 = .ok r ∧
      ¬ |r.delta| ≤ min |(fun x : ℝ => x) (-1/1000000)| |(fun x : ℝ => x) (9/10000)| ∧ |r.delta| < 1/1000 := by
  refine ⟨_, findRoot_eq (by norm_num) (by norm_num), ?_⟩
  have hh : halvingX (⟨-1/1000000, -1/1000000, 9/10000, 9/10000⟩ : Bracket ℝ) = 899/2000000 := by
    rw [halvingX_eq]; norm_num
  simp only [iterate, trialXs, trialLoop]
  rw [trialStep_accept _ _ _ _ _ _ (by rw [hh]; norm_num [abs_of_pos])]
  simp only [hh]
  norm_num [abs_of_pos, abs_of_neg, min_def]

/-- the witness of KF-C18-zero-iterations: `f x = x − 1/10` on `[0, 1]` from `x0 = 9/10` returns residual `8/10`, the better end
has `1/10` -/
theorem zero_iterations_counterexample :
    ∃ r, findRoot (fun x : ℝ => x - 1/10) none (9/10) 0 1 (1/1000000) 0 0 = .ok r ∧
      ¬ |r.delta| ≤ min |(fun x : ℝ => x - 1/10) 0| |(fun x : ℝ => x - 1/10) 1| := by
  refine ⟨_, findRoot_eq (by norm_num) (by norm_num), ?_⟩
  simp only [iterate]
  norm_num [abs_of_pos, abs_of_neg, min_def]

section Piecewise
variable {xs ys : List ℝ}

/-- at a knot the code returns the table value itself (at the right knot of a pair by its test `x == x1`; at the first knot the weight is 0) -/
theorem knots_exact (hs : xs.Pairwise (· < ·)) (hlen : 2 ≤ xs.length) (hys : xs.length ≤ ys.length)
    (k : Nat) (hk : k < xs.length) : piecewise (xs[k]) xs ys = .val (ys[k]'(by omega)) := by
  cases k with
  | zero =>
    rw [piecewise_sorted hs hys (k := 0) hlen (le_refl _) (fun h => absurd rfl h) (le_of_lt (sorted_getElem hs hlen Nat.one_pos)),
      if_neg (ne_of_lt (sorted_getElem hs hlen Nat.one_pos)), sub_self, zero_div, zero_mul, add_zero]
  | succ m =>
    have hm := sorted_getElem hs hk (Nat.lt_succ_self m)
    rw [piecewise_sorted hs hys hk (le_of_lt hm) (fun _ => hm) (le_refl _), if_pos rfl]

/-- strictly between neighbouring knots; the divisor is positive -/
theorem interp_linear (hs : xs.Pairwise (· < ·)) (hys : xs.length ≤ ys.length)
    (k : Nat) (hk : k + 1 < xs.length) (x : ℝ) (h1 : xs[k] < x) (h2 : x < xs[k + 1]) :
    0 < xs[k + 1] - xs[k] ∧
    piecewise x xs ys = .val (ys[k]'(by omega) + (x - xs[k]) / (xs[k + 1] - xs[k]) * (ys[k + 1]'(by omega) - ys[k]'(by omega))) ∧
    min (ys[k]'(by omega)) (ys[k + 1]'(by omega)) ≤
        ys[k]'(by omega) + (x - xs[k]) / (xs[k + 1] - xs[k]) * (ys[k + 1]'(by omega) - ys[k]'(by omega)) ∧
      ys[k]'(by omega) + (x - xs[k]) / (xs[k + 1] - xs[k]) * (ys[k + 1]'(by omega) - ys[k]'(by omega)) ≤
        max (ys[k]'(by omega)) (ys[k + 1]'(by omega)) := by
  have hd : 0 < xs[k + 1] - xs[k] := by linarith
  refine ⟨hd, ?_, lerp_mem (div_nonneg (by linarith) hd.le) ((div_le_one hd).mpr (by linarith))⟩
  rw [piecewise_sorted hs hys hk (le_of_lt h1) (fun _ => h1) (le_of_lt h2), if_neg (ne_of_lt h2)]

/-- an argument below the first or above the last knot gives the error, never a number -/
theorem outside_error (hne : xs ≠ []) (x : ℝ)
    (h : x < xs[0]'(List.length_pos_of_ne_nil hne) ∨ xs.getLast hne < x) : piecewise x xs ys = .err :=
  piecewise_outside hne x h

end Piecewise

/-- for ANY arithmetic (in particular IEEE floats): if every comparison of `x` with a table value is
false — which is what a NaN argument does — the result is the error, never a number -/
theorem incomparable_error {α} [Num α] (x : α) (xs ys : List α) (hne : xs ≠ [])
    (h : ∀ v ∈ xs, ¬ x < v ∧ ¬ v < x ∧ ¬ x ≤ v) : piecewise x xs ys = .err := by
  match xs, hne, h with
  | x0 :: rest, hne, h =>
    unfold piecewise brackets
    have h0 := h x0 (List.mem_cons_self ..)
    have hl : ¬ ((x0 :: rest).getLast?.getD x0 < x) := by
      rw [List.getLast?_eq_some_getLast hne, Option.getD_some]
      exact (h _ (List.getLast_mem hne)).2.1
    simp only [if_neg h0.1, if_neg hl]
    rw [bracketLoop_none x rest 1 (fun u hu => (h u (List.mem_cons_of_mem _ hu)).2.2)]

section
attribute [-simp] OW.RealNum.ofNat_eq  -- as a simp lemma it loops with `Nat.cast_ofNat` on numerals ≥ 2 (see OW/Proofs/RealNum.lean, "literals")

/-- a concrete strictly increasing table meeting the hypotheses of the Piecewise theorems, and what they give on it -/
example : piecewise (2 : ℝ) [1, 2, 4] [10, 20, 0] = .val 20 ∧ piecewise (3 : ℝ) [1, 2, 4] [10, 20, 0] = .val 10 ∧
    piecewise (5 : ℝ) [1, 2, 4] [10, 20, 0] = .err := by
  have hs : ([1, 2, 4] : List ℝ).Pairwise (· < ·) := by simp; norm_num
  refine ⟨?_, ?_, ?_⟩
  · have := knots_exact (xs := [1, 2, 4]) (ys := [10, 20, 0]) hs (by simp) (by simp) 1 (by simp)
    simpa using this
  · have := (interp_linear (xs := [1, 2, 4]) (ys := [10, 20, 0]) hs (by simp) 1 (by simp) 3 (by simp; norm_num) (by simp; norm_num)).2.1
    rw [this]; simp; norm_num
  · exact outside_error (by simp) 5 (Or.inr (by simp; norm_num))

end

end OW.Props.C18
