import OW.Proofs.NdC03Check
import OW.Props.C02
/-!
C03 (bulk operations) — the simulation between a Go-backed array and an array wrapped around caller-owned C memory
(`Rel`) extends to every bulk operation, and whole programs over live view pairs give the same observations on both
back-ends without ever leaving the caller's buffer.

B1–B5 are the pair lemmas of the operations (`RelW.*`, `OW/Proofs/NdC03Bulk.lean`: the operation of either back-end is
the same element-wise definition, so the writes are paired) at `Rel.toW`, the writing ones followed by `paired_preserves`;
B6: `rel_reshape` / `rel_reshape_write` are the pair lemma `NdOff.reshape_pairN` with the C-side array its own normal form, the
outcome theorems the equations of `Reshape` on each side; `c_never_oob` is the diagonal of the pair lemmas (an array is
related to itself); B7 is `NdOff.run_simA`. Vocabulary
(`OW/Proofs/NdC03Rel.lean`): `Rel`, the window pair `winOf g c`, `Compat`, `RelHeaps`, `Paired` (the same single-cell
writes at corresponding addresses; `paired_preserves`: all compatible related pairs stay related) and `RelW` — `Rel`
without the back-end flags, used for SOURCE arrays, which on the C side may be a wrapped buffer or a Go temporary.
-/
namespace OW.Props.C03
open OW.Nd OW.NdC03

variable {α : Type}

/-- a result that is not a panic -/
def Succeeds {β : Type} (r : R β) : Prop := ∃ x, r = .ok x

theorem Succeeds.ne_error {β : Type} {r : R β} (h : Succeeds r) (e : String) : r ≠ .error e :=
  Except.ok_ne_error h

/-- What a heap-changing bulk operation on the pair `(g, c)` preserves: EVERY related pair whose windows are
compatible with those of `(g, c)` — the pair itself, every other view pair over the same two buffers, every pair over
other buffers — is still related afterwards; compatible window pairs stay cell-wise equal; no storage changes length. -/
structure Preserves (hg hc hg' hc' : Heap α) (g c : Arr) : Prop where
  rel : ∀ g' c', Rel hg hc g' c' → Compat (winOf g c) (winOf g' c') → Rel hg' hc' g' c'
  relW : ∀ g' c', RelW hg hc g' c' → Compat (winOf g c) (winOf g' c') → RelW hg' hc' g' c'
  heaps : ∀ (w' : Win) (n : Int), 0 ≤ w'.gb → 0 ≤ w'.cb → Compat (winOf g c) w' →
    RelHeaps hg hc w' n → RelHeaps hg' hc' w' n
  shapeG : SameShape hg hg'
  shapeC : SameShape hc hc'

/-- **Paired writes preserve the simulation** (`RelHeaps` inheritance): if both heaps are updated by the same
sequence of single-cell writes at corresponding addresses of the windows of a related pair, every compatible pair
stays related. -/
theorem paired_preserves {hg hc hg' hc' : Heap α} {g c : Arr} (r : RelW hg hc g c)
    (pw : Paired (winOf g c) hg hc hg' hc') : Preserves hg hc hg' hc' g c :=
  ⟨fun _ _ r' cp => (pw.relW r.okG.base_nonneg r.okC.base_nonneg r'.toW cp).toRel r'.goBacked r'.cBacked,
   fun _ _ r' cp => pw.relW r.okG.base_nonneg r.okC.base_nonneg r' cp,
   fun _ _ h1 h2 cp rh => pw.relHeaps r.okG.base_nonneg r.okC.base_nonneg h1 h2 cp rh,
   pw.sameShape.1, pw.sameShape.2⟩

/-- a related pair has cell-wise equal windows over the whole allocated shape (all view pairs over the same two
windows inherit it) -/
theorem rel_relHeaps {hg hc : Heap α} {g c : Arr} (r : Rel hg hc g c) :
    RelHeaps hg hc (winOf g c) (product g.v.orig) := r.same

/-- **B1 rel_unroll.** `Unroll()` of related arrays never panics and yields the same list of values on both sides —
the row-major element list — whatever the alias / fresh distinction: the C side always returns a fresh copy, the Go
side an alias of its window when the view is contiguous and a fresh copy otherwise. -/
theorem rel_unroll {hg hc : Heap α} {g c : Arr} (r : Rel hg hc g c) :
    ∃ sg sc vals, unroll hg g = .ok sg ∧ unroll hc c = .ok sc ∧
      sliceVals hg sg = .ok vals ∧ sliceVals hc sc = .ok vals ∧
      NdC02.getAll hg g (NdC02.rowMajor g.v.dims) = .ok vals ∧
      NdC02.getAll hc c (NdC02.rowMajor g.v.dims) = .ok vals ∧ vals.length = g.v.size.toNat ∧
      sc = .fresh vals ∧
      (g.v.contiguous = .ok true → sg = .alias g.sid (g.base + g.v.start) g.v.size) ∧
      (g.v.contiguous = .ok false → sg = .fresh vals) := by
  obtain ⟨sg, sc, vals, h1, h2, h3, h4, h5, h6, h7, h8, h9, h10⟩ := r.toW.unroll
  exact ⟨sg, sc, vals, h1, h2, h3, h4, h5, h6, h7, h8 r.cBacked, h9 r.goBacked, h10 r.goBacked⟩

/-- **B2 rel_extremum.** `Maximum()` / `Minimum()` (strict comparison `better`) of related arrays never panic and
agree: both are the same fold over the common row-major element list. -/
theorem rel_extremum {hg hc : Heap α} {g c : Arr} (r : Rel hg hc g c) (better : α → α → Bool) :
    ∃ x, extremum better hg g = .ok x ∧ extremum better hc c = .ok x :=
  r.toW.extremum better

/-- **B3 rel_apply.** `Apply(loc, dim, step, vals)` with the same in-bounds run (`SliceOK` of the slice `Apply` takes:
`0 ≤ loc`, `step ≥ 1`, `vals` non-empty, last written index inside the view) on both arrays of a related pair never
panics on either side — the Go side may take the block-copy fast path, the C side always loops — and the two new
heaps come from the old ones by the same writes at corresponding addresses: the pair and every compatible related
pair stay related. -/
theorem rel_apply {hg hc : Heap α} {g c : Arr} (r : Rel hg hc g c) {loc : Idx} {dim step : Int} {vals : List α}
    (h0 : 0 ≤ dim) (h1 : dim < g.v.dims.length)
    (hok : SliceOK g.v.dims loc (NdC02.applyDims g dim vals.length) (NdC02.applySteps g dim step)) :
    ∃ hg' hc', apply hg g loc dim step vals = .ok hg' ∧ apply hc c loc dim step vals = .ok hc' ∧
      Rel hg' hc' g c ∧ Paired (winOf g c) hg hc hg' hc' ∧ Preserves hg hc hg' hc' g c := by
  obtain ⟨hg', hc', e1, e2, pw⟩ := r.toW.apply h0 h1 hok
  have p := paired_preserves r.toW pw
  exact ⟨hg', hc', e1, e2, p.rel g c r (Compat.refl _), pw, p⟩

/-- **B4 rel_applySlice.** `ApplySlice(loc, step, src)` on a related destination pair `(gd, cd)` with a related
source pair `(gs, cs)`, an in-bounds request, and **source and destination in different storages on each side**
(`gs.sid ≠ gd.sid`, `cs.sid ≠ cd.sid`; the overlapping case is the known finding KF-C03-overlap — there the Go fast
path is a `memmove` and the C loop a forward element copy, see the counter-example below): never panics on either
side, on any path (Go `copy` of unrolled slices / Go element loop / C element loop), and afterwards the destination
pair is still related, the source pair is still related, and so is every compatible related pair. -/
theorem rel_applySlice {hg hc : Heap α} {gd cd gs cs : Arr} (rd : Rel hg hc gd cd) (rs : RelW hg hc gs cs)
    (hsidG : gs.sid ≠ gd.sid) (hsidC : cs.sid ≠ cd.sid) {loc : Idx} {step : Option Idx}
    (okS : SliceOK gd.v.dims loc gs.v.dims (stepOr gd.v.dims.length step)) :
    ∃ hg' hc', applySlice hg gd loc step gs = .ok hg' ∧ applySlice hc cd loc step cs = .ok hc' ∧
      Rel hg' hc' gd cd ∧ RelW hg' hc' gs cs ∧ Paired (winOf gd cd) hg hc hg' hc' ∧
      Preserves hg hc hg' hc' gd cd := by
  obtain ⟨hg', hc', e1, e2, pw⟩ := RelW.applySlice rd.toW rs hsidG hsidC okS
  have p := paired_preserves rd.toW pw
  exact ⟨hg', hc', e1, e2, p.rel gd cd rd (Compat.refl _), p.relW gs cs rs (Compat.of_ne hsidG hsidC), pw, p⟩

/-- **B4 rel_copyFrom.** `CopyFrom(other)` for related pairs of the same shape in different storages on each side:
as `rel_applySlice`. -/
theorem rel_copyFrom {hg hc : Heap α} {gd cd gs cs : Arr} (rd : Rel hg hc gd cd) (rs : RelW hg hc gs cs)
    (hsidG : gs.sid ≠ gd.sid) (hsidC : cs.sid ≠ cd.sid) (hshape : gs.v.dims = gd.v.dims) :
    ∃ hg' hc', copyFrom hg gd gs = .ok hg' ∧ copyFrom hc cd cs = .ok hc' ∧
      Rel hg' hc' gd cd ∧ RelW hg' hc' gs cs ∧ Paired (winOf gd cd) hg hc hg' hc' ∧
      Preserves hg hc hg' hc' gd cd := by
  obtain ⟨hg', hc', e1, e2, pw⟩ := RelW.copyFrom rd.toW rs hsidG hsidC hshape
  have p := paired_preserves rd.toW pw
  exact ⟨hg', hc', e1, e2, p.rel gd cd rd (Compat.refl _), p.relW gs cs rs (Compat.of_ne hsidG hsidC), pw, p⟩

/-- **B5 rel_zipWithInto.** `dest[k] = f dest[k] source[k]` (data/arrayops.go, including the write-back
`storeUnrolled` through a flat reshaped view, which is what makes the result reach C memory) on a related destination
pair and a related source pair of the same shape in different storages on each side: for EVERY contiguity combination
(the theorem does not mention contiguity: the Go side may alias both unrolled slices, the C side computes on copies
and writes back through `ReshapeFast` + `Apply`) neither side panics, both results are the sequential `Set` of the
SAME values `f dest_k source_k` over the row-major indices, and destination pair, source pair and every compatible
related pair stay related. -/
theorem rel_zipWithInto {hg hc : Heap α} {gd cd gs cs : Arr} (rd : Rel hg hc gd cd) (rs : RelW hg hc gs cs)
    (f : α → α → α) (hsidG : gd.sid ≠ gs.sid) (hsidC : cd.sid ≠ cs.sid) (hdims : gs.v.dims = gd.v.dims) :
    ∃ hg' hc' dv sv, zipWithInto f hg gd gs = .ok hg' ∧ zipWithInto f hc cd cs = .ok hc' ∧
      NdC02.getAll hg gd (NdC02.rowMajor gd.v.dims) = .ok dv ∧ NdC02.getAll hg gs (NdC02.rowMajor gd.v.dims) = .ok sv ∧
      NdC02.setAll hg gd (NdC02.rowMajor gd.v.dims) (List.zipWith f dv sv) = .ok hg' ∧
      NdC02.setAll hc cd (NdC02.rowMajor gd.v.dims) (List.zipWith f dv sv) = .ok hc' ∧
      Rel hg' hc' gd cd ∧ RelW hg' hc' gs cs ∧ Paired (winOf gd cd) hg hc hg' hc' ∧
      Preserves hg hc hg' hc' gd cd := by
  obtain ⟨hg', hc', dv, sv, e1, e2, e3, e4, e5, e6, pw⟩ := RelW.zipWithInto rd.toW rs f hsidG hsidC hdims
  have p := paired_preserves rd.toW pw
  exact ⟨hg', hc', dv, sv, e1, e2, e3, e4, e5, e6, p.rel gd cd rd (Compat.refl _),
    p.relW gs cs rs (Compat.of_ne (fun e => hsidG e.symm) (fun e => hsidC e.symm)), pw, p⟩

/-- **B6 rel_reshape_outcome.** The outcome class of `Reshape(newShape)` is the same on both sides of a related
pair: a size mismatch returns the error value `"size-mismatch"` on both (heaps untouched); an empty new shape of the
right size (a single-element view) panics alike on both (`Offsets` of an empty shape); every other request succeeds
on both. -/
theorem rel_reshape_outcome {hg hc : Heap α} {g c : Arr} (r : Rel hg hc g c) (s : Idx) :
    (product s ≠ g.v.size → reshape hg g s = .ok (hg, .inl "size-mismatch") ∧
      reshape hc c s = .ok (hc, .inl "size-mismatch")) ∧
    (product s = g.v.size → s = [] → reshape hg g s = .error "index-out-of-range" ∧
      reshape hc c s = .error "index-out-of-range") ∧
    (product s = g.v.size → s ≠ [] → ∃ hg' hc' bg bc, reshape hg g s = .ok (hg', .inr bg) ∧
      reshape hc c s = .ok (hc', .inr bc)) := by
  have gg := r.toW.geo
  have gc := r.toW.geoC
  refine ⟨fun hne => ⟨reshape_mismatch hg g s hne, reshape_mismatch hc c s (by rw [← r.view]; exact hne)⟩, ?_, ?_⟩
  · intro hsz hs
    subst hs
    exact ⟨NdC02.reshape_nil gg r.okG hsz, NdC02.reshape_nil gc r.okC (by rw [← r.view]; exact hsz)⟩
  · intro hsz hs
    have hszc : product s = c.v.size := by rw [← r.view]; exact hsz
    obtain ⟨b, hb, hbc⟩ := r.toW.contiguous
    cases b with
    | true =>
      exact ⟨_, _, _, _, reshape_go_alias gg r.okG hs hsz hb r.goBacked, reshape_c_alias gc hs hszc hbc r.cBacked⟩
    | false =>
      obtain ⟨vg, hvg, _⟩ := elems_ok gg r.okG
      obtain ⟨vc, hvc, _⟩ := elems_ok gc r.okC
      exact ⟨_, _, _, _, reshape_copy gg hs hsz hb hvg, reshape_copy gc hs hszc hbc hvc⟩

/-- **B6 rel_reshape.** `Reshape(newShape)` of a related pair to a non-empty shape with extents ≥ 1 and the right
element count succeeds on both sides, the old pair stays related, and the two results hold the SAME elements in the
same row-major order (`getAll … (rowMajor newShape)` equal, and equal to the row-major elements of the operands).
* Contiguous view: no heap changes; the Go result is `NdC02.aliasArr g s` (Go slice re-based to `base + Start`, root
  view from 0) and the C result is `NdC02.cAliasArr c s` (same pointer, root view whose `Start` is the view's
  `Start`). The C result is NOT `Reach` (root views there start at 0), so the pair is not a
  `Rel` pair; what holds instead: both address the windows `base + Start + [0, Π s)` of the original storages, which
  are cell-wise equal (`RelHeaps`), and writes through the two results are paired writes of the original pair
  (`rel_reshape_write`).
* Non-contiguous view: BOTH results are fresh Go-backed copies (`NdC02.freshArr`, new storages holding the row-major
  elements) and form a related pair (`RelW`: the C-side result is Go-backed, so `Rel`'s flag `cBacked` is false). -/
theorem rel_reshape {hg hc : Heap α} {g c : Arr} (r : Rel hg hc g c) {s : Idx}
    (hsz : product s = g.v.size) (hs : s ≠ []) (hp : Pos s) :
    ∃ hg' hc' bg bc vals, reshape hg g s = .ok (hg', .inr bg) ∧ reshape hc c s = .ok (hc', .inr bc) ∧
      NdC02.getAll hg g (NdC02.rowMajor g.v.dims) = .ok vals ∧ NdC02.getAll hc c (NdC02.rowMajor g.v.dims) = .ok vals ∧
      NdC02.getAll hg' bg (NdC02.rowMajor s) = .ok vals ∧ NdC02.getAll hc' bc (NdC02.rowMajor s) = .ok vals ∧
      Rel hg' hc' g c ∧
      (g.v.contiguous = .ok true → hg' = hg ∧ hc' = hc ∧ bg = NdC02.aliasArr g s ∧ bc = NdC02.cAliasArr c s ∧
        RelHeaps hg hc ⟨g.sid, g.base + g.v.start, c.sid, c.base + g.v.start⟩ (product s)) ∧
      (g.v.contiguous = .ok false → hg' = hg ++ [vals] ∧ hc' = hc ++ [vals] ∧
        bg = NdC02.freshArr hg vals s ∧ bc = NdC02.freshArr hc vals s ∧ bc.isC = false ∧ RelW hg' hc' bg bc) := by
  have rw' := r.toW
  obtain ⟨vals, e1, e2, hlen⟩ := rw'.elems
  have hszc : product s = c.v.size := r.view ▸ hsz
  have e2' : NdC02.getAll hc c (NdC02.rowMajor g.v.dims) = .ok vals := by rw [r.view]; exact e2
  -- the pair lemma of `Reshape` with `c` its own normal form; what is left are the element lists of the results
  rcases NdOff.reshape_pairN rw' (NdOff.Norm.refl c) hsz hs hp (fun _ => Or.inl r.goBacked) with
    ⟨hb, h1, h2, _, rN, hw⟩ | ⟨hb, vals', v1, h1, h2, rF⟩
  · have eg : NdC02.reshapedArr g s = NdC02.aliasArr g s := if_neg (by simp [r.goBacked])
    have ec : NdC02.reshapedArr c s = NdC02.cAliasArr c s := if_pos r.cBacked
    rw [eg] at h1 rN hw
    rw [ec] at h2
    exact ⟨hg, hc, _, _, vals, h1, h2, e1, e2',
      eg ▸ (getAll_reshaped rw'.geo r.okG hb hs hp hsz).trans e1,
      ec ▸ (getAll_reshaped rw'.geoC r.okC (r.view ▸ hb) hs hp hszc).trans e2, r,
      fun _ => ⟨rfl, rfl, rfl, rfl, hw ▸ rN.same⟩, fun h => by rw [hb] at h; cases h⟩
  · obtain rfl : vals' = vals := Except.ok.inj (v1.symm.trans e1)
    have hl := hlen.trans hsz.symm
    exact ⟨_, _, _, _, vals', h1, h2, e1, e2', getAll_freshCopy e1 hs hp hsz hl, getAll_freshCopy e2 hs hp hszc hl,
      (rw'.append vals' vals').toRel r.goBacked r.cBacked, fun h => (by rw [hb] at h; cases h),
      fun _ => ⟨rfl, rfl, rfl, rfl, rfl, rF⟩⟩

/-- **B6 rel_reshape_write.** For a contiguous view, a `Set` of the same value at the same in-bounds index through
the two reshaped arrays (Go: `aliasArr`, C: `cAliasArr`) never panics and is ONE paired write of the original pair:
all views of the original pair, and every compatible pair, see it alike. -/
theorem rel_reshape_write {hg hc : Heap α} {g c : Arr} (r : Rel hg hc g c) (hcg : g.v.contiguous = .ok true)
    {s : Idx} (hs : s ≠ []) (hp : Pos s) (hsz : product s = g.v.size) {idx : Idx} (hi : InBounds idx s) (x : α) :
    ∃ hg' hc', set hg (NdC02.aliasArr g s) idx x = .ok hg' ∧ set hc (NdC02.cAliasArr c s) idx x = .ok hc' ∧
      Rel hg' hc' g c ∧ Preserves hg hc hg' hc' g c := by
  obtain ⟨_, _, nb, rN, hwin⟩ := NdOff.reshape_contig_pair r.toW (NdOff.Norm.refl c) r.goBacked hsz hs hp hcg
  rw [NdC02.reshapedArr, if_pos r.cBacked] at nb
  obtain ⟨hg', hc', e1, e2, pw⟩ := rN.set (i := idx) hi x
  -- the pair `aliasArr` / `aliasN` lives in the windows of `(g, c)` displaced by `Start`
  rw [hwin] at pw
  have p := paired_preserves r.toW (pw.displace (contig_window r.toW.geo hcg).1)
  exact ⟨hg', hc', e1, (NdOff.set_norm hc nb rN.geoC (by rw [← rN.view]; exact hi) x).trans e2,
    p.rel g c r (Compat.refl _), p⟩

/-- **B6 rel_reshapeFast.** `ReshapeFast` returns the error `"not-contiguous"` on both sides of a related pair or on
neither (contiguity is a function of the common metadata), and otherwise is `Reshape` on both sides. -/
theorem rel_reshapeFast {hg hc : Heap α} {g c : Arr} (r : Rel hg hc g c) (s : Idx) :
    (g.v.contiguous = .ok false → reshapeFast hg g s = .ok (hg, .inl "not-contiguous") ∧
      reshapeFast hc c s = .ok (hc, .inl "not-contiguous")) ∧
    (g.v.contiguous = .ok true → reshapeFast hg g s = reshape hg g s ∧ reshapeFast hc c s = reshape hc c s) := by
  constructor
  · intro h
    exact ⟨Nd.reshapeFast_noncontig s h, Nd.reshapeFast_noncontig s (by rw [← r.view]; exact h)⟩
  · intro h
    exact ⟨Nd.reshapeFast_contig s h, Nd.reshapeFast_contig s (by rw [← r.view]; exact h)⟩

/-- **B6 rel_mustReshape.** `MustReshape` panics with `"size-mismatch"` on both sides or on neither, and otherwise
returns the results of `Reshape` on both sides. -/
theorem rel_mustReshape {hg hc : Heap α} {g c : Arr} (r : Rel hg hc g c) (s : Idx) :
    (product s ≠ g.v.size → mustReshape hg g s = .error "size-mismatch" ∧
      mustReshape hc c s = .error "size-mismatch") ∧
    (product s = g.v.size → s ≠ [] → ∃ hg' hc' bg bc, reshape hg g s = .ok (hg', .inr bg) ∧
      reshape hc c s = .ok (hc', .inr bc) ∧ mustReshape hg g s = .ok (hg', bg) ∧ mustReshape hc c s = .ok (hc', bc)) := by
  obtain ⟨h1, _, h3⟩ := rel_reshape_outcome r s
  constructor
  · intro hne
    obtain ⟨e1, e2⟩ := h1 hne
    exact ⟨(C02.mustReshape_spec hg g s).2 _ _ e1, (C02.mustReshape_spec hc c s).2 _ _ e2⟩
  · intro hsz hs
    obtain ⟨hg', hc', bg, bc, e1, e2⟩ := h3 hsz hs
    exact ⟨hg', hc', bg, bc, e1, e2, (C02.mustReshape_spec hg g s).1 _ _ e1, (C02.mustReshape_spec hc c s).1 _ _ e2⟩

/-- **c_never_oob.** For a view reachable by in-bounds slicing of a root wrapped around a caller's buffer that holds
the allocated shape (`ArrOK`), none of `Get`, `Set`, `Apply`, `Unroll`, `Maximum/Minimum`, `ApplySlice` /
`CopyFrom` into it or from it, `zipWithInto` into it or from it, can leave the caller's buffer under the in-bounds
hypotheses: each returns `.ok`, in particular never the model's out-of-buffer verdict `.error "oob-c"`. -/
theorem c_never_oob {h : Heap α} {a : Arr} (_hC : a.isC = true) (hr : Reach a.v) (ok : ArrOK h a) :
    (∀ i, InBounds i a.v.dims → Succeeds (get h a i)) ∧
    (∀ i x, InBounds i a.v.dims → Succeeds (set h a i x)) ∧
    (∀ (loc : Idx) (dim step : Int) (vals : List α), 0 ≤ dim → dim < a.v.dims.length →
      SliceOK a.v.dims loc (NdC02.applyDims a dim vals.length) (NdC02.applySteps a dim step) →
      Succeeds (apply h a loc dim step vals)) ∧
    Succeeds (unroll h a) ∧
    (∀ better, Succeeds (extremum better h a)) ∧
    (∀ (b : Arr) loc step, Reach b.v → ArrOK h b → b.sid ≠ a.sid →
      (SliceOK a.v.dims loc b.v.dims (stepOr a.v.dims.length step) → Succeeds (applySlice h a loc step b)) ∧
      (SliceOK b.v.dims loc a.v.dims (stepOr b.v.dims.length step) → Succeeds (applySlice h b loc step a))) ∧
    (∀ (f : α → α → α) (b : Arr), Reach b.v → ArrOK h b → b.sid ≠ a.sid → b.v.dims = a.v.dims →
      Succeeds (zipWithInto f h a b) ∧ Succeeds (zipWithInto f h b a) ∧
      Succeeds (copyFrom h a b) ∧ Succeeds (copyFrom h b a)) := by
  -- an array is related to itself, so each clause is the Go half of the pair lemma of its operation
  have r := RelW.refl hr ok
  refine ⟨fun i hi => ?_, fun i x hi => ?_, fun loc dim step vals h0 h1 hok => ?_, ?_, fun better => ?_,
    fun b loc step hrb okb hne => ?_, fun f b hrb okb hne hd => ?_⟩
  · obtain ⟨x, e, _⟩ := r.get hi
    exact ⟨x, e⟩
  · obtain ⟨h', _, e, _⟩ := r.set hi x
    exact ⟨h', e⟩
  · obtain ⟨h', _, e, _⟩ := r.apply h0 h1 hok
    exact ⟨h', e⟩
  · obtain ⟨sl, _, _, e, _⟩ := r.unroll
    exact ⟨sl, e⟩
  · obtain ⟨x, e, _⟩ := r.extremum better
    exact ⟨x, e⟩
  · have rb := RelW.refl hrb okb
    constructor <;> intro okS
    · obtain ⟨h', _, e, _⟩ := RelW.applySlice r rb hne hne okS
      exact ⟨h', e⟩
    · obtain ⟨h', _, e, _⟩ := RelW.applySlice rb r hne.symm hne.symm okS
      exact ⟨h', e⟩
  · have rb := RelW.refl hrb okb
    obtain ⟨h1, _, _, _, e1, _⟩ := RelW.zipWithInto r rb f hne.symm hne.symm hd
    obtain ⟨h2, _, _, _, e2, _⟩ := RelW.zipWithInto rb r f hne hne hd.symm
    obtain ⟨h3, _, e3, _⟩ := RelW.copyFrom r rb hne hne hd
    obtain ⟨h4, _, e4, _⟩ := RelW.copyFrom rb r hne.symm hne.symm hd.symm
    exact ⟨⟨h1, e1⟩, ⟨h2, e2⟩, ⟨h3, e3⟩, ⟨h4, e4⟩⟩

open OW.NdOff in
/-- the domain of `observational_equivalence_partial` is part of the domain of `observational_equivalence` (`C03Full.lean`) -/
theorem progOK_widened {s : St α} (prog : List (Op α)) (h : ProgOK s prog) : ProgOK' s prog := by
  induction prog generalizing s with
  | nil => trivial
  | cons _ _ ih => exact ⟨opOK_toOK' h.1, fun s' o hs => ih (h.2 s' o hs)⟩

/-- **B7 observational_equivalence_partial.** Programs over the fragment
`slice / get / set / apply / applySlice / copyFrom / unroll / contiguous / extremum / zipWithInto / reshape /
reshapeFast` (`NdC03.Op`; operands are indices into the list of live arrays; `slice` and a successful `reshape`
append their result; a returned error value is an observation), interpreted by the same interpreter `NdC03.run` on a
Go-side state and a C-side state in lock step (`NdC03.World`: live arrays pairwise related, pairwise over compatible
windows). If every request is in the domain of the C01/C02 theorems when it is issued (`NdC03.ProgOK` / `NdC03.OpOK`:
in-bounds indices / slices / runs, two-array operations on different storages, equal shapes where the Go code needs
them, reshape requests as below), then BOTH runs complete, return the SAME observation list (element values,
unrolled value lists, contiguity verdicts, extrema, reshape errors), and end in lock step again; in particular the
C-side run never produces the out-of-buffer verdict `oob-c` — no read or write of any operation of the program leaves
a caller's buffer (the run aborts at the first panic, so `.ok` means no operation panicked).

Reshape requests of the fragment: size mismatch (error value on both sides); `reshapeFast` of a non-contiguous view
(error value on both sides); a shape of the right size (non-empty, extents ≥ 1) for a NON-CONTIGUOUS view (both sides
return fresh Go-backed copies, which join the live pairs) or for a contiguous view that STARTS AT ADDRESS 0 (a whole
root or a leading block of it: both results alias the operands and are a related pair again).

`_partial`: **a successful `Reshape` of a contiguous view with `Start > 0` is not in the fragment.** Its C-side result
is a root view with non-zero `Start` over the same pointer, which is not `Reach` (the C01/C02 theorems quantify over
`Reach` views) and whose view differs from that of the Go-side result, so the two results are not a `World` pair: with
`OpOK (.reshape i s)` weakened to `product s ≠ size ∨ (product s = size ∧ s ≠ [] ∧ Pos s)` and the conclusion `World` kept
the statement is FALSE (two requests from related roots suffice: slice rows 1..2 of a 3×4 root, reshape them to `[8]`).
The full statement that holds is `observational_equivalence` (`OW/Props/C03Full.lean`): that widened domain, with lock
step up to normal forms (`NdOff.WorldO`) as hypothesis and conclusion. One step: `rel_reshape` / `rel_reshape_write`. -/
theorem observational_equivalence_partial {sg sc : St α} (w : World sg sc) (prog : List (Op α))
    (ok : ProgOK sg prog) :
    ∃ sg' sc' obs, run sg prog = .ok (sg', obs) ∧ run sc prog = .ok (sc', obs) ∧ World sg' sc' ∧
      run sc prog ≠ .error "oob-c" := by
  -- the C-side state is its own normal form and, inside the narrow domain, stays so
  obtain ⟨sg', ⟨h1, a1⟩, obs, e1, e2, ⟨h2, a2⟩, w', ns', he, _⟩ :=
    NdOff.run_simA prog w (NdOff.NormSt.refl sc) (progOK_widened prog ok) (Or.inl ok)
  obtain rfl : h2 = h1 := ns'.heap
  obtain rfl : a1 = a2 := he ok rfl
  exact ⟨sg', _, obs, e1, e2, w', by rw [e2]; intro e; cases e⟩

/-- **B7 (initial states).** Wrapping the same buffers `bufs[0], bufs[1], …` with shapes that fit them
(`NdC03.ShapesOK`) once as Go slices (`fromStore`) and once as caller-owned C memory (`fromC`) gives two states in
lock step; each live pair is a `Rel` pair (this is `rel_roots`, for any number of buffers). -/
theorem world_of_roots (bufs : Heap α) (shapes : List Idx) (ok : ShapesOK bufs shapes) :
    World ⟨bufs, rootArrs bufs false shapes⟩ ⟨bufs, rootArrs bufs true shapes⟩ ∧
    ∀ i d, shapes[i]? = some d →
      fromStore bufs i d = .ok (rootArr bufs false i d) ∧ fromC bufs i d = .ok (rootArr bufs true i d) ∧
      (rootArrs bufs false shapes)[i]? = some (rootArr bufs false i d) ∧
      (rootArrs bufs true shapes)[i]? = some (rootArr bufs true i d) ∧
      Rel bufs bufs (rootArr bufs false i d) (rootArr bufs true i d) := by
  have w := world_roots bufs shapes ok
  refine ⟨w, fun i d hd => ?_⟩
  obtain ⟨e1, e2, _⟩ := rootArr_spec ok hd
  have g : ∀ b, (rootArrs bufs b shapes)[i]? = some (rootArr bufs b i d) := fun b => by simp [rootArrs_getElem?, hd]
  exact ⟨e1, e2, g false, g true, (w.rel i _ _ (g false) (g true)).toRel rfl rfl⟩

/-- **B7 observational_equivalence_roots_partial.** The end-to-end form: any in-domain program of the fragment run
on Go-allocated arrays and on arrays wrapped around caller-owned C memory of the same shapes and contents returns
the same observations, and the C-side run never leaves the callers' buffers. (`_partial`: the fragment lacks the
successful `Reshape` of contiguous views with `Start > 0`, see `observational_equivalence_partial`; with them:
`observational_equivalence_roots`, `OW/Props/C03Full.lean`.) -/
theorem observational_equivalence_roots_partial (bufs : Heap α) (shapes : List Idx) (ok : ShapesOK bufs shapes)
    (prog : List (Op α)) (pok : ProgOK ⟨bufs, rootArrs bufs false shapes⟩ prog) :
    ∃ sg' sc' obs, run ⟨bufs, rootArrs bufs false shapes⟩ prog = .ok (sg', obs) ∧
      run ⟨bufs, rootArrs bufs true shapes⟩ prog = .ok (sc', obs) ∧ World sg' sc' ∧
      run ⟨bufs, rootArrs bufs true shapes⟩ prog ≠ .error "oob-c" :=
  observational_equivalence_partial (world_of_roots bufs shapes ok).1 prog pok

namespace Ex

def bufs : Heap Int := [[0, 1, 2, 3, 4, 5, 6, 7, 8, 9, 10, 11], [100, 200, 300, 400, 500, 600]]
def shapes : List Idx := [[3, 4], [3, 2]]

open Check

theorem shapesOK : ShapesOK bufs shapes := by
  intro i d hd
  match i, hd with
  | 0, hd =>
    simp only [shapes, List.getElem?_cons_zero, Option.some.injEq] at hd
    subst hd
    exact ⟨by decide, by decide, by decide, _, rfl, by decide⟩
  | 1, hd =>
    simp only [shapes, List.getElem?_cons_succ, List.getElem?_cons_zero, Option.some.injEq] at hd
    subst hd
    exact ⟨by decide, by decide, by decide, _, rfl, by decide⟩
  | n + 2, hd => simp [shapes] at hd

def sg0 : St Int := ⟨bufs, rootArrs bufs false shapes⟩
def sc0 : St Int := ⟨bufs, rootArrs bufs true shapes⟩

/-- the live arrays: the two roots (Go side / C side) and the gapped view `[0:3, 1:3]` of the 3×4 root -/
def g0 : Arr := rootArr bufs false 0 [3, 4]
def c0 : Arr := rootArr bufs true 0 [3, 4]
def g1 : Arr := rootArr bufs false 1 [3, 2]
def c1 : Arr := rootArr bufs true 1 [3, 2]
def g2 : Arr := { g0 with v := sliceView g0.v [0, 1] [3, 2] none }
def c2 : Arr := { c0 with v := sliceView c0.v [0, 1] [3, 2] none }

theorem rel0 : Rel bufs bufs g0 c0 := ((world_of_roots bufs shapes shapesOK).2 0 _ rfl).2.2.2.2
theorem rel1 : Rel bufs bufs g1 c1 := ((world_of_roots bufs shapes shapesOK).2 1 _ rfl).2.2.2.2
theorem rel2 : Rel bufs bufs g2 c2 :=
  (rel0.toW.slice (loc := [0, 1]) (dims := [3, 2]) (step := none) (by decide)).2.2.toRel rfl rfl

/-- a program touching every operation of the fragment -/
def prog : List (Op Int) :=
  [ .slice 0 [0, 1] [3, 2] none,                 -- arrs[2] := the gapped view of the 3×4 root
    .get 2 [1, 1],
    .unroll 2,
    .copyFrom 2 1,                               -- the 3×2 root into the gapped view
    .unroll 0,
    .apply 0 [1, 1] 1 1 [70, 71, 72],            -- a row segment (Go: block copy; C: element loop)
    .zipWithInto (· + ·) 1 2,                    -- add the gapped view to the 3×2 root
    .unroll 1,
    .extremum (fun v r => decide (v > r)) 2,
    .contiguous 2, .contiguous 1,
    .set 1 [2, 1] 5,
    .applySlice 0 1 [0, 2] none,
    .unroll 0,
    .reshape 0 [2, 6],                           -- arrs[3] := whole root reshaped (alias on both sides)
    .reshape 2 [6],                              -- arrs[4] := gapped view flattened (fresh Go-backed copy on both sides)
    .reshape 1 [5],                              -- size mismatch: error value
    .reshapeFast 2 [6],                          -- not contiguous: error value
    .set 3 [1, 2] 99,                            -- a write through the reshaped pair …
    .get 0 [2, 0],                               -- … is seen through the root pair
    .unroll 4 ]

def expected : List (Obs Int) :=
  [.unit, .val 6, .vals [1, 2, 5, 6, 9, 10], .unit, .vals [0, 100, 200, 3, 4, 300, 400, 7, 8, 500, 600, 11], .unit, .unit,
   .vals [200, 400, 370, 471, 1000, 1200], .val 600, .flag false, .flag true, .unit, .unit,
   .vals [0, 100, 200, 400, 4, 70, 370, 471, 8, 500, 1000, 5],
   .unit, .unit, .err "size-mismatch", .err "not-contiguous", .unit, .val 99, .vals [100, 200, 70, 370, 500, 1000]]

-- one checked run of the Go side: every request is in the domain when it is issued, and these are the observations
theorem checkedProg : checked OpOK sg0 prog = some expected := by decide

theorem progOK : ProgOK sg0 prog := (checked_progOK checkedProg).1

-- B7 evaluated: both back-ends return the same observations (the C side by the theorem)
example : (run sg0 prog).map (·.2) = .ok expected ∧ (run sc0 prog).map (·.2) = .ok expected := by
  obtain ⟨_, _, obs, h1, h2, _⟩ := observational_equivalence_roots_partial bufs shapes shapesOK prog progOK
  obtain ⟨_, hg⟩ := (checked_progOK checkedProg).2
  obtain rfl : expected = obs := (Prod.mk.inj (Except.ok.inj (hg.symm.trans h1))).2
  exact ⟨by rw [hg]; rfl, by rw [show run sc0 prog = _ from h2]; rfl⟩

-- B7 instantiated: hypotheses discharged on the concrete program
example := observational_equivalence_roots_partial bufs shapes shapesOK prog progOK

-- B1, B2 on the gapped view: Go gathers (non-contiguous), C copies; same values
example : (unroll bufs g2 >>= sliceVals bufs) = .ok [1, 2, 5, 6, 9, 10] ∧
    (unroll bufs c2 >>= sliceVals bufs) = .ok [1, 2, 5, 6, 9, 10] := by decide
example : unroll bufs g0 = .ok (.alias 0 0 12) ∧
    unroll bufs c0 = .ok (.fresh [0, 1, 2, 3, 4, 5, 6, 7, 8, 9, 10, 11]) := ⟨rfl, rfl⟩
example := rel_unroll rel2
example := rel_extremum rel2 (fun v r => decide (v > r))
example : extremum (fun v r => decide (v < r)) bufs g2 = .ok 1 ∧ extremum (fun v r => decide (v < r)) bufs c2 = .ok 1 := by
  decide

-- B3: a row segment — fast path on the Go side, loop on the C side, same heap
example : apply bufs g0 [1, 1] 1 1 [70, 71, 72] = apply bufs c0 [1, 1] 1 1 [70, 71, 72] := by decide
example := rel_apply rel0 (loc := [1, 1]) (dim := 1) (step := 1) (vals := [70, 71, 72]) (by decide) (by decide)
  (by decide)

-- B4, B5: destination the gapped view of buffer 0, source buffer 1 (different storages)
example := rel_copyFrom rel2 rel1.toW (by decide) (by decide) rfl
example := rel_applySlice rel0 rel1.toW (by decide) (by decide) (loc := [0, 2]) (step := none) (by decide)
example := rel_zipWithInto rel2 rel1.toW (· + ·) (by decide) (by decide) rfl
example := rel_zipWithInto rel1 rel2.toW (fun _ s => 2 * s) (by decide) (by decide) rfl
example : zipWithInto (· + ·) bufs g1 g2 = zipWithInto (· + ·) bufs c1 c2 := by decide

-- B6: contiguous root → alias on both sides; gapped view → fresh Go-backed copies on both sides; errors coincide
example : reshape bufs g0 [2, 6] = .ok (bufs, .inr (NdC02.aliasArr g0 [2, 6])) ∧
    reshape bufs c0 [2, 6] = .ok (bufs, .inr (NdC02.cAliasArr c0 [2, 6])) := by decide
example : reshape bufs g2 [6] = .ok (bufs ++ [[1, 2, 5, 6, 9, 10]], .inr (NdC02.freshArr bufs [1, 2, 5, 6, 9, 10] [6])) ∧
    reshape bufs c2 [6] = .ok (bufs ++ [[1, 2, 5, 6, 9, 10]], .inr (NdC02.freshArr bufs [1, 2, 5, 6, 9, 10] [6])) := by
  decide
example : reshape bufs g2 [5] = .ok (bufs, .inl "size-mismatch") ∧ reshape bufs c2 [5] = .ok (bufs, .inl "size-mismatch") ∧
    reshapeFast bufs g2 [6] = .ok (bufs, .inl "not-contiguous") ∧ reshapeFast bufs c2 [6] = .ok (bufs, .inl "not-contiguous") := by
  decide
example := rel_reshape rel2 (s := [6]) (by decide) (by decide) (by decide)
example := rel_reshape rel0 (s := [2, 6]) (by decide) (by decide) (by decide)
example := rel_reshape_write rel0 (by decide) (s := [2, 6]) (by decide) (by decide) (by decide)
  (idx := [1, 2]) (by decide) 99

-- memory safety instantiated on the C-side gapped view
example := c_never_oob (h := bufs) (a := c2) rfl rel2.toW.reachC rel2.okC

/-! ### the divergence excluded by hypothesis (KF-C03-overlap)

`rel_applySlice` / `rel_copyFrom` / `rel_zipWithInto` need source and destination in different storages. On
overlapping views of ONE buffer the two back-ends genuinely differ: `hi = buf[1:4]`, `lo = buf[0:3]`. -/
def buf4 : Heap Int := [[1, 2, 3, 4]]
def r4 (isC : Bool) : Arr := rootArr buf4 isC 0 [4]
def hi (isC : Bool) : Arr := { r4 isC with v := sliceView (r4 isC).v [1] [3] none }
def lo (isC : Bool) : Arr := { r4 isC with v := sliceView (r4 isC).v [0] [3] none }

/-- `hi.CopyFrom(lo)`: Go-backed `copy` has memmove semantics (`1 1 2 3`), the C-backed element loop propagates the
first element (`1 1 1 1`). Both stay inside the buffer. -/
example : copyFrom buf4 (hi false) (lo false) = .ok [[1, 1, 2, 3]] ∧
    copyFrom buf4 (hi true) (lo true) = .ok [[1, 1, 1, 1]] := by decide

/-- `AddTo(hi, lo)`: the Go-backed loop runs on ALIASING unrolled slices and sees its own writes (running sum
`1 3 6 10`), the C-backed one computes on copies of the pre-state and writes back (`1 3 5 7`). -/
example : zipWithInto (· + ·) buf4 (hi false) (lo false) = .ok [[1, 3, 6, 10]] ∧
    zipWithInto (· + ·) buf4 (hi true) (lo true) = .ok [[1, 3, 5, 7]] := by decide

/-- why the in-bounds hypotheses are needed: an index past the last row is a Go panic on the Go-backed array but an
access outside the caller's buffer on the C-backed one (no bounds check there). -/
example : get bufs g0 [3, 0] = .error "index-out-of-range" ∧ get bufs c0 [3, 0] = .error "oob-c" := by decide

end Ex

end OW.Props.C03
