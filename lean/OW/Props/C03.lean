import OW.Proofs.NdC03Rel
/-!
C03 — C-memory-backed arrays behave like the Go-native ones and stay inside the caller's buffer.
Theorems over the n-d array model (OW/Nd/Array.lean; `isC = true` is the C back-end of data/cdata/arrays_c.go).
The bulk operations of both back-ends are shown equal to the same element-wise definition in C02; here: the
memory-safety statement and the simulation relation `Rel` (`OW/Proofs/NdC03Rel.lean`) for views, reads and writes.
-/
namespace OW.Props.C03
open OW.Nd

variable {α : Type}

/-- **c_inbounds (reads).** For a C-backed array whose buffer holds at least `Π OriginalDims` elements (`ArrOK`,
established by `fromC` on the caller's buffer) and ANY view reachable from it by in-bounds slicing, every element
read lies inside the caller's buffer: the address is in `[0, Π OriginalDims)` and the model's out-of-buffer
verdict `oob-c` cannot occur. (`hc` only names the case of interest: the proof does not use it, the bounds hold of either
back-end; likewise in `c_inbounds_set` and `c_never_oob`.) -/
theorem c_inbounds_get {h : Heap α} {a : Arr} (hc : a.isC = true) (hr : Reach a.v) (ok : ArrOK h a)
    {i : Idx} (hi : InBounds i a.v.dims) :
    ∃ p x, a.v.index i = .ok p ∧ 0 ≤ p ∧ p < product a.v.orig ∧ product a.v.orig ≤ a.len ∧
      get h a i = .ok x ∧ get h a i ≠ .error "oob-c" := by
  have g := reach_geo hr
  obtain ⟨x, _, hg⟩ := get_addr g ok hi
  exact ⟨_, x, index_addr g i (Nat.le_of_eq hi.length), (addr_bounds g hi).1, (addr_bounds g hi).2, ok.fits, hg,
    by rw [hg]; intro e; cases e⟩

/-- **c_inbounds (writes).** Same for every element written through a reachable view of a C-backed array: the
write lands at an address inside the caller's buffer and changes exactly that cell. -/
theorem c_inbounds_set {h : Heap α} {a : Arr} (hc : a.isC = true) (hr : Reach a.v) (ok : ArrOK h a)
    {i : Idx} (hi : InBounds i a.v.dims) (x : α) :
    ∃ p, a.v.index i = .ok p ∧ 0 ≤ p ∧ p < product a.v.orig ∧ product a.v.orig ≤ a.len ∧
      set h a i x = .ok (setStore h a.sid (a.base + p).toNat x) := by
  have g := reach_geo hr
  exact ⟨_, index_addr g i (Nat.le_of_eq hi.length), (addr_bounds g hi).1, (addr_bounds g hi).2, ok.fits,
    set_addr g ok hi x⟩

/-- **c_go_bisim (views).** Slicing both arrays with the same request gives related arrays again (the C view and
the Go view carry identical metadata), and slicing fails on one side iff it fails on the other. -/
theorem rel_slice {hg hc : Heap α} {g c : Arr} (r : Rel hg hc g c) (loc dims : Idx) (step : Option Idx) :
    (∀ e, slice g loc dims step = .error e ↔ slice c loc dims step = .error e) ∧
    ∀ g', slice g loc dims step = .ok g' →
      SliceOK g.v.dims loc dims (stepOr g.v.dims.length step) →
      ∃ c', slice c loc dims step = .ok c' ∧ Rel hg hc g' c' := by
  refine ⟨fun e => ?_, fun g' hs hok => ?_⟩
  · unfold slice
    rw [r.view]
    cases c.v.sliceInto loc dims step <;> simp [bind, Except.bind, pure, Except.pure]
  · obtain ⟨h1, h2, r'⟩ := r.toW.slice hok
    obtain rfl := Except.ok.inj (h1.symm.trans hs)
    exact ⟨_, h2, r'.toRel r.goBacked r.cBacked⟩

/-- **c_go_bisim (reads).** Related arrays return the same element at every in-bounds index. -/
theorem rel_get {hg hc : Heap α} {g c : Arr} (r : Rel hg hc g c) {i : Idx} (hi : InBounds i g.v.dims) :
    ∃ x, get hg g i = .ok x ∧ get hc c i = .ok x :=
  r.toW.get hi

/-- **c_go_bisim (writes).** Writing the same value at the same in-bounds index through related arrays leaves them
related (`Rel` compares the two windows over the whole allocated shape, so this covers the cells every other view
of the pair sees). -/
theorem rel_set {hg hc : Heap α} {g c : Arr} (r : Rel hg hc g c) {i : Idx} (hi : InBounds i g.v.dims) (x : α) :
    ∃ hg' hc', set hg g i x = .ok hg' ∧ set hc c i x = .ok hc' ∧ Rel hg' hc' g c := by
  obtain ⟨hg', hc', e1, e2, pw⟩ := r.toW.set hi x
  exact ⟨hg', hc', e1, e2, (r.toW.paired_self pw).toRel r.goBacked r.cBacked⟩

/-- `Contiguous()` is a function of the view metadata only, so related arrays agree on it. -/
theorem rel_contiguous {hg hc : Heap α} {g c : Arr} (r : Rel hg hc g c) : g.v.contiguous = c.v.contiguous := by
  rw [r.view]

/-- Related arrays exist: wrapping two buffers with the same contents, one as a Go slice and one as C memory. -/
theorem rel_roots (vals : List α) (dims : Idx) (hne : dims ≠ []) (hpos : Pos dims) (hlen : product dims ≤ vals.length)
    (hsmall : product dims ≤ 1073741824) :
    ∃ g c, fromStore [vals, vals] 0 dims = .ok g ∧ fromC [vals, vals] 1 dims = .ok c ∧ Rel [vals, vals] [vals, vals] g c := by
  obtain ⟨g, hg, rfl, hr, okg⟩ := arrOK_fromStore (h := [vals, vals]) (sid := 0) hne hpos rfl hlen
  obtain ⟨c, hc, rfl, _, okc⟩ := arrOK_fromC (h := [vals, vals]) (sid := 1) hne hpos rfl hlen hsmall
  exact ⟨_, _, hg, hc, rfl, rfl, rfl, hr, okg, okc, fun _ _ _ => rfl⟩

/-- non-vacuity: a 2×3 buffer wrapped both ways is related -/
example : ∃ g c, fromStore [[1, 2, 3, 4, 5, 6], [1, 2, 3, 4, 5, 6]] 0 [2, 3] = .ok g ∧
    fromC [[1, 2, 3, 4, 5, 6], [1, 2, 3, 4, 5, 6]] 1 [2, 3] = .ok c ∧
    Rel [[1, 2, 3, 4, 5, 6], [1, 2, 3, 4, 5, 6]] [[1, 2, 3, 4, 5, 6], [1, 2, 3, 4, 5, 6]] g c :=
  rel_roots [1, 2, 3, 4, 5, 6] [2, 3] (by decide) (by intro x hx; simp at hx; omega) (by decide) (by decide)

end OW.Props.C03
