import OW.Props.C08Seq
import Mathlib.Data.List.Induction
/-!
C08 — what an earlier call stored is what a later `Load` returns, ACROSS any sequence of intervening calls on
other datasets.

`ops_trace` gives per-position statements; the frame clauses of T4/T5' cover only successful calls. Here the frame is
proved for EVERY outcome of every call (nil, returned error, panic; `OW/Proofs/C08Trace.lean`: `Write` that created
groups and then failed, `WriteSlice` whose selection was refused, `Create` with a shape mismatch …) and composed over
lists of calls.

"Names" is `splitPath op.path` (the components of the `Dataset` string: "a", "/a", "a/", "./a" name the same object).
Calls that name the SAME path are not excluded by the model for any deep reason: they change the object (that is what
T3/T4 say), so the statement is about the last such call; histories with several writers to one path are handled by
applying T9b/T9c at the last of them.
-/
namespace OW.Props.C08
open OW.Nd OW.Sim.H5 OW.Proofs.C08H5

/-- T9. An object that exists at `r` (dataset with shape and elements, or group) is unchanged by ANY sequence of
`Write / WriteSlice / Create / Load` calls with arbitrary arguments and outcomes, either element width, provided no call
names the path `r`. The file still exists afterwards. -/
theorem stored_object_persists (narrow : Bool) (t : Tree) (r : Path) (o : Obj) (ops : List Op)
    (h : find t r = some o) (hother : ∀ op ∈ ops, r ≠ splitPath op.path) :
    ∃ t', applyOps narrow (some t) ops = some t' ∧ find t' r = some o := by
  obtain ⟨t', h1, h2⟩ := applyOps_frame narrow ops t (r := r) (by rw [h]; simp) hother
  exact ⟨t', h1, by rw [h2, h]⟩

/-- T9a. `Load` of a dataset that exists, with or without a selection, returns after any sequence of calls on other paths
exactly what it returned before the sequence. -/
theorem load_across (narrow : Bool) (t : Tree) (path : String) (sel : Option Sel) (ops : List Op)
    (hex : find t (splitPath path) ≠ none) (hother : ∀ op ∈ ops, splitPath path ≠ splitPath op.path) :
    load narrow (applyOps narrow (some t) ops) path sel = load narrow (some t) path sel := by
  obtain ⟨t', h1, h2⟩ := applyOps_frame narrow ops t hex hother
  rw [h1]
  exact load_congr narrow path sel h2

/-- T9b (T3 across a history). For every reachable source view on a well-windowed storage and every well-formed file
state (or no file): if `Write(data)` returns nil, then after ANY sequence of further calls that name other paths
(arbitrary arguments, arbitrary outcomes) `Load()` of the same reference returns the shape of the view and exactly the
elements it had, in row-major order. -/
theorem write_then_load_across (h : Heap Int) (a : Arr) (hr : Reach a.v) (ok : ArrOK h a)
    (d d' : Disk) (path : String) (wf : DiskWF d) (hw : write false h a d path = (d', .ok ()))
    (ops : List Op) (hother : ∀ op ∈ ops, splitPath path ≠ splitPath op.path) :
    ∃ vals, OW.NdC02.getAll h a (OW.NdC02.rowMajor a.v.dims) = .ok vals ∧
      load false (applyOps false d' ops) path none = .ok (a.v.dims, vals) := by
  obtain ⟨vals, t1, p, s, h1, rfl, wf1, hod, hs⟩ := write_ok h a hr ok d d' path wf hw
  obtain ⟨rfl, -, hf⟩ := openDataset_eq.mp hod
  refine ⟨vals, h1, ?_⟩
  rw [load_across false t1 path none ops (by rw [hf]; simp) hother, load_full hod (wf_of_find wf1 hf), hs]

/-- T9c (T4 across a history). On a well-formed file with a dataset at `path`, after `WriteSlice(data, loc)` with the
block inside the dataset and then ANY sequence of calls that name other paths, the dataset found at `path` has the same
shape, and its elements are those of the source inside the block and the old ones outside. -/
theorem writeSlice_then_load_across (h : Heap Int) (a : Arr) (hr : Reach a.v) (ok : ArrOK h a)
    {t : Tree} {path : String} {p : Path} {s : List Nat} {v : List Int}
    (hod : openDataset t path = .ok (p, s, v)) (wf : WF t)
    (loc : Idx) (hb : BlockIn (intsToUints loc) (intsToUints a.v.dims) s)
    (ops : List Op) (hother : ∀ op ∈ ops, splitPath path ≠ splitPath op.path) :
    ∃ vals v' t', OW.NdC02.getAll h a (OW.NdC02.rowMajor a.v.dims) = .ok vals ∧
      applyOps false (writeSlice false h a (some t) path loc).1 ops = some t' ∧
      find t' p = some (.ds s v') ∧ v'.length = v.length ∧
      (∀ c, CoordIn c s → v'[ravelN c s]? =
        if inBlock c (intsToUints loc) (intsToUints a.v.dims) = true
        then vals[ravelN (List.zipWith (· - ·) c (intsToUints loc)) (intsToUints a.v.dims)]?
        else v[ravelN c s]?) := by
  obtain ⟨vals, v', h1, h2, h3, h4, h5, -, -⟩ := writeSlice_footprint h a hr ok hod wf loc hb
  have hp : p = splitPath path := (openDataset_eq.mp hod).1
  obtain ⟨t', h6, h7⟩ := stored_object_persists false (setVals t p v') p _ ops h3 (by rw [hp]; exact hother)
  refine ⟨vals, v', t', h1, ?_, h7, h4, h5⟩
  rw [h2]
  exact h6

/-- T9d (the LAST writer of a path wins, over whole histories). Started on no file or on any well-formed file, for EVERY
history `pre ++ Write(data → path) :: post` in which that `Write` returned nil and no LATER call names `path` — the calls
in `pre` are arbitrary and may include any number of earlier `Write / WriteSlice / Create` calls on the same path —
`Load()` at the end returns the shape and the row-major elements of that last written view. -/
theorem history_last_write_wins (d0 : Disk) (wf0 : DiskWF d0) (pre post : List Op)
    (h : Heap Int) (a : Arr) (path : String) (hr : Reach a.v) (ok : ArrOK h a)
    (hw : (write false h a (applyOps false d0 pre) path).2 = .ok ())
    (hother : ∀ op ∈ post, splitPath path ≠ splitPath op.path) :
    ∃ vals, OW.NdC02.getAll h a (OW.NdC02.rowMajor a.v.dims) = .ok vals ∧
      load false (applyOps false d0 (pre ++ .write h a path :: post)) path none = .ok (a.v.dims, vals) := by
  have hw' : write false h a (applyOps false d0 pre) path = ((write false h a (applyOps false d0 pre) path).1, .ok ()) := by
    rw [← hw]
  obtain ⟨vals, h1, h2⟩ := write_then_load_across h a hr ok _ _ path (ops_preserve_WF false d0 wf0 pre) hw' post hother
  refine ⟨vals, h1, ?_⟩
  rw [applyOps_append]
  exact h2

/-- T9e (the last `WriteSlice` of a path, over whole histories). For every history `pre ++ WriteSlice(data, loc → path)
:: post` started on no file or a well-formed file, where the dataset exists at that point with the block inside it and no
later call names `path`: at the end the dataset has the shape it had just before that call, the elements of the source
inside the block and the elements it had just before that call outside. -/
theorem history_last_writeSlice (d0 : Disk) (wf0 : DiskWF d0) (pre post : List Op)
    (h : Heap Int) (a : Arr) (path : String) (loc : Idx) (hr : Reach a.v) (ok : ArrOK h a)
    {t : Tree} {p : Path} {s : List Nat} {v : List Int}
    (hd : applyOps false d0 pre = some t) (hod : openDataset t path = .ok (p, s, v))
    (hb : BlockIn (intsToUints loc) (intsToUints a.v.dims) s)
    (hother : ∀ op ∈ post, splitPath path ≠ splitPath op.path) :
    ∃ vals v' t', OW.NdC02.getAll h a (OW.NdC02.rowMajor a.v.dims) = .ok vals ∧
      applyOps false d0 (pre ++ .writeSlice h a path loc :: post) = some t' ∧
      find t' p = some (.ds s v') ∧ v'.length = v.length ∧
      (∀ c, CoordIn c s → v'[ravelN c s]? =
        if inBlock c (intsToUints loc) (intsToUints a.v.dims) = true
        then vals[ravelN (List.zipWith (· - ·) c (intsToUints loc)) (intsToUints a.v.dims)]?
        else v[ravelN c s]?) := by
  have wf : WF t := ops_preserve_WF false d0 wf0 pre t hd
  obtain ⟨vals, v', t', h1, h2, h3, h4, h5⟩ := writeSlice_then_load_across h a hr ok hod wf loc hb post hother
  refine ⟨vals, v', t', h1, ?_, h3, h4, h5⟩
  rw [applyOps_append, hd]
  exact h2

/-- one `WriteSlice(data, loc)` request: the source array (in its heap) and the location -/
structure SliceReq where
  h : Heap Int
  a : Arr
  loc : Idx

/-- the hypotheses T4 puts on the ARGUMENTS of one request against a dataset of shape `s` -/
def SliceReq.OK (s : List Nat) (q : SliceReq) : Prop :=
  Reach q.a.v ∧ ArrOK q.h q.a ∧ BlockIn (intsToUints q.loc) (intsToUints q.a.v.dims) s

/-- the row-major elements of the request's source view (`[]` if a `Get` panics; not the case under `OK`) -/
def SliceReq.vals (q : SliceReq) : List Int :=
  match OW.NdC02.getAll q.h q.a (OW.NdC02.rowMajor q.a.v.dims) with
  | .ok vals => vals
  | .error _ => []

/-- what one request makes of the expected element at coordinate `c`: inside its block the source element, outside what
was there -/
def expectAfter (cur : List Nat → Option Int) (q : SliceReq) : List Nat → Option Int := fun c =>
  if inBlock c (intsToUints q.loc) (intsToUints q.a.v.dims) = true
  then q.vals[ravelN (List.zipWith (· - ·) c (intsToUints q.loc)) (intsToUints q.a.v.dims)]?
  else cur c

/-- T9f (any number of `WriteSlice` calls to one dataset). On a well-formed file with a dataset of shape `s` and elements
`v` at `path`, after ANY list of `WriteSlice` requests to that path — each with a reachable source on a well-windowed
storage and its block inside the dataset, blocks overlapping in any way — the dataset still has shape `s`, as many
elements, and the element at every coordinate is the source element of the LAST request whose block covers the
coordinate, else the original element (`foldl expectAfter`). -/
theorem writeSlices_last_block_wins (path : String) : ∀ (reqs : List SliceReq) (t : Tree) (p : Path) (s : List Nat)
    (v : List Int), WF t → openDataset t path = .ok (p, s, v) → (∀ q ∈ reqs, q.OK s) →
    ∃ t' v', applyOps false (some t) (reqs.map fun q => Op.writeSlice q.h q.a path q.loc) = some t' ∧ WF t' ∧
      find t' p = some (.ds s v') ∧ v'.length = v.length ∧
      ∀ c, CoordIn c s → v'[ravelN c s]? = (reqs.foldl expectAfter (fun c => v[ravelN c s]?)) c := by
  intro reqs t p s v wf hod
  obtain ⟨hp, hpne, hfind⟩ := openDataset_eq.mp hod
  -- from the right, as `foldl` goes: the dataset after the earlier requests is what the last one is applied to
  induction reqs using List.reverseRec with
  | nil => exact fun _ => ⟨t, v, rfl, wf, hfind, rfl, fun _ _ => rfl⟩
  | append_singleton rest q ih =>
    intro hall
    obtain ⟨t', v', g1, g2, g3, g4, g5⟩ := ih fun q' hq' => hall q' (List.mem_append_left _ hq')
    obtain ⟨hr, hok, hb⟩ := hall q (by simp)
    obtain ⟨vals, v1, h1, h2, h3, h4, h5, -, wf1⟩ :=
      writeSlice_footprint q.h q.a hr hok (openDataset_eq.mpr ⟨hp, hpne, g3⟩) g2 q.loc hb
    refine ⟨_, v1, ?_, wf1, h3, h4.trans g4, fun c hc => ?_⟩
    · rw [List.map_append, applyOps_append, g1]
      simp only [List.map_cons, List.map_nil, applyOps, List.foldl_cons, List.foldl_nil, stepOp, h2]
    · rw [h5 c hc, g5 c hc, List.foldl_append]
      simp only [List.foldl_cons, List.foldl_nil, expectAfter, SliceReq.vals, h1]

/-- T9g (a `Write` followed by any number of `WriteSlice` calls to the same path). If `Write(data)` returns nil on a
well-formed file (or no file), then after ANY list of `WriteSlice` requests to that path — each reachable, well-windowed,
its block inside the written shape — the dataset found there has the written shape and, at every coordinate, the source
element of the last request whose block covers it, else the element the `Write` stored. -/
theorem write_then_writeSlices (h : Heap Int) (a : Arr) (hr : Reach a.v) (ok : ArrOK h a)
    (d d' : Disk) (path : String) (wf : DiskWF d) (hw : write false h a d path = (d', .ok ()))
    (reqs : List SliceReq) :
    ∃ vals t1 p s, OW.NdC02.getAll h a (OW.NdC02.rowMajor a.v.dims) = .ok vals ∧ d' = some t1 ∧
      openDataset t1 path = .ok (p, s, vals) ∧ uintsToInts s = a.v.dims ∧
      ((∀ q ∈ reqs, q.OK s) →
        ∃ t' v', applyOps false d' (reqs.map fun q => Op.writeSlice q.h q.a path q.loc) = some t' ∧ WF t' ∧
          find t' p = some (.ds s v') ∧ v'.length = vals.length ∧
          ∀ c, CoordIn c s → v'[ravelN c s]? = (reqs.foldl expectAfter (fun c => vals[ravelN c s]?)) c) := by
  obtain ⟨vals, t1, p, s, h1, rfl, wf1, hod, hs⟩ := write_ok h a hr ok d d' path wf hw
  exact ⟨vals, t1, p, s, h1, rfl, hod, hs, writeSlices_last_block_wins path reqs t1 p s vals wf1 hod⟩

namespace Ex
open OW.Props.C02.Ex

theorem splitPath_b : splitPath "b" = ["b"] := by
  simp only [splitPath, splitOn_one "b" (by decide) (by decide) (by decide) (by decide)]; decide

/-- T9b instance: the stepped view is written to "a" of a new file (returns nil); then a `Create` of "b", a `Write` of the
same view to "b", a `WriteSlice` to "b" and a `Load` of "b" — all naming another path — and `Load` of "a" still returns
shape 2×2, elements 0, 2, 8, 10. -/
example : load false (applyOps false (some [(["a"], .ds [2, 2] [0, 2, 8, 10])])
      [.create "b" [2, 2], .write heap stepped "b", .writeSlice heap stepped "b" [0, 0], .load "b" none]) "a" none
    = .ok ([2, 2], [0, 2, 8, 10]) := by
  obtain ⟨vals, h1, h2⟩ :=
    write_then_load_across heap stepped reach_stepped ok_stepped none _ "a" (fun _ h => by cases h) write_stepped
      [.create "b" [2, 2], .write heap stepped "b", .writeSlice heap stepped "b" [0, 0], .load "b" none]
      (by simp [Op.path, splitPath_a, splitPath_b])
  cases getAll_stepped.symm.trans h1
  exact h2

/-- T9d instance: hypotheses of `history_last_write_wins` hold together (a history whose earlier calls leave no file,
the `Write` of the stepped view returns nil, later calls name "b") -/
example : ∃ vals, OW.NdC02.getAll heap stepped (OW.NdC02.rowMajor stepped.v.dims) = .ok vals ∧
    load false (applyOps false none ([.load "a" none, .load "b" none] ++ .write heap stepped "a" ::
      [.create "b" [2, 2], .writeSlice heap stepped "b" [0, 0]])) "a" none = .ok (stepped.v.dims, vals) :=
  history_last_write_wins none (fun _ h => by cases h) [.load "a" none, .load "b" none]
    [.create "b" [2, 2], .writeSlice heap stepped "b" [0, 0]] heap stepped "a" reach_stepped ok_stepped
    (by
      show (write false heap stepped none "a").2 = .ok ()
      rw [write_stepped])
    (by simp [Op.path, splitPath_a, splitPath_b])

theorem vals_stepped (loc : Idx) : (⟨heap, stepped, loc⟩ : SliceReq).vals = [0, 2, 8, 10] := by
  simp only [SliceReq.vals, getAll_stepped]

theorem blockIn_ex0 : BlockIn (intsToUints [0, 1]) (intsToUints stepped.v.dims) [3, 4] := by
  rw [dims_stepped]
  exact ⟨by decide, by decide, trivial⟩

/-- T9f instance: two OVERLAPPING 2×2 blocks, at (1,1) and then at (0,1), of the 3×4 dataset of zeros: all hypotheses hold
together; at coordinate (1,1) — covered by both — the expected element is the one of the SECOND request (element (1,0) of
the view = 8), at (2,2) — covered by the first only — element (1,1) of the view = 10, at (0,0) the original 0. -/
example : ∃ t' v', applyOps false (some file34)
      [.writeSlice heap stepped "a" [1, 1], .writeSlice heap stepped "a" [0, 1]] = some t' ∧ WF t' ∧
    find t' ["a"] = some (.ds [3, 4] v') ∧ v'.length = 12 ∧
    v'[ravelN [1, 1] [3, 4]]? = some 8 ∧ v'[ravelN [2, 2] [3, 4]]? = some 10 ∧ v'[ravelN [0, 0] [3, 4]]? = some 0 := by
  obtain ⟨t', v', h1, h2, h3, h4, h5⟩ := writeSlices_last_block_wins "a"
    [⟨heap, stepped, [1, 1]⟩, ⟨heap, stepped, [0, 1]⟩] file34 ["a"] [3, 4] (List.replicate 12 0) wf_file34 open_file34
    (by simp [SliceReq.OK, reach_stepped, ok_stepped, blockIn_ex, blockIn_ex0])
  refine ⟨t', v', h1, h2, h3, by rw [h4]; rfl, ?_, ?_, ?_⟩
  all_goals
    rw [h5 _ (by simp [CoordIn])]
    simp only [List.foldl_cons, List.foldl_nil, expectAfter, vals_stepped, dims_stepped]
    decide

/-- T9g instance: the `Write` of the stepped view to "a" of a new file returns nil (`write_stepped`); the shape found is
2×2, and the request "the same view at (0,0)" meets `SliceReq.OK` for it, so the conclusion applies to a non-empty list -/
example : ∃ (t' : Tree) (v' : List Int), applyOps false (some [(["a"], .ds [2, 2] [0, 2, 8, 10])])
      [.writeSlice heap stepped "a" [0, 0]] = some t' ∧ WF t' ∧ find t' ["a"] = some (.ds [2, 2] v') ∧ v'.length = 4 := by
  obtain ⟨vals, t1, p, s, h1, h2, h3, h4, h5⟩ :=
    write_then_writeSlices heap stepped reach_stepped ok_stepped none _ "a" (fun _ h => by cases h) write_stepped
      [⟨heap, stepped, [0, 0]⟩]
  cases h2
  rw [openDataset_a] at h3
  simp only [Except.ok.injEq, Prod.mk.injEq] at h3
  obtain ⟨rfl, rfl, rfl⟩ := h3
  obtain ⟨t', v', g1, g2, g3, g4, -⟩ := h5 (by
    simp only [List.mem_singleton, forall_eq, SliceReq.OK, dims_stepped]
    exact ⟨reach_stepped, ok_stepped, by decide, by decide, trivial⟩)
  exact ⟨t', v', g1, g2, g3, g4⟩

end Ex
end OW.Props.C08
