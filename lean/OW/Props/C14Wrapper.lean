import OW.Props.C14Prefix
import OW.Props.C04
/-!
C14 — causality of the N-CELL WRAPPER RUN (`OW.Sim.run`), lifted from the one-cell `KModel.run`.

`causal_<M>` / `causalStrong_<M>` (C14.lean, C14Prefix.lean) are statements about ONE call of a kernel on one cell. What a user
calls is the generated wrapper: `Run(inputs, states, outputs)` over N cells, with per-cell parameter decoding, cyclic reuse of
parameter sets and input blocks, and results WRITTEN INTO the first timesteps of caller-supplied output rows. Here the per-cell
statement is lifted through `C04.runCells_spec` (the N-cell run is exactly the per-cell steps, each on its own rows), for any initial
contents of the two output arrays that agree on the first `n₁` timesteps (the same array, or an array of `n₁` timesteps for the short
run).

Over any arithmetic `Num α` (structural: no arithmetic law is used). The wrapper here is the list-level semantics `OW.Sim.run`
(that the generated Go wrappers are this is C04/C09's correspondence, not proved here).
-/
namespace OW.Props.C14
open OW OW.Kernels OW.Sim

variable {α : Type} [Num α]

/-- the first `n` timesteps of every series of every row of an array `[cell][output][t]` -/
def takeT {β} (n : Nat) (os : List (List (List β))) : List (List (List β)) := os.map (·.map (·.take n))

/-- block-wise concatenation in time of two input arrays `[block][input][t]` -/
def catBlocks {β} (A B : List (List (List β))) : List (List (List β)) := List.zipWith catSeries A B

/-- `A` (first part, `n₁` timesteps) and `B` (continuation, `n₂` timesteps) are input arrays of the same shape -/
structure SplitBlocks {β} (n₁ n₂ : Nat) (A B : List (List (List β))) : Prop where
  len : A.length = B.length
  block : ∀ k (ha : k < A.length) (hb : k < B.length), A[k].length = B[k].length ∧ AllLen n₁ A[k] ∧ AllLen n₂ B[k]

/-- **causality of one call at truncation point `n₁`** (the content of `Causal` for one `n₁`) -/
def CausalAt {α} (n₁ : Nat) (km : KModel α) : Prop :=
  ∀ (p : List α) (a b : List (List α)) (st : List α) (n₂ : Nat) (o o₁ : KOut α),
    a.length = b.length → AllLen n₁ a → AllLen n₂ b →
    km.run p (catSeries a b) st = .ok o → km.run p a st = .ok o₁ →
    o.outputs.map (·.take n₁) = o₁.outputs

omit [Num α] in
theorem causalAt_of_causal {km : KModel α} (h : Causal km) (n₁ : Nat) : CausalAt n₁ km :=
  fun p a b st n₂ o o₁ hl ha hb hr h₁ => h p a b st n₁ n₂ o o₁ hl ha hb hr h₁

omit [Num α] in
theorem causalAt_of_strong {k : Nat} {km : KModel α} (h : CausalStrongFrom k km) (n₁ : Nat) (hk : k ≤ n₁) : CausalAt n₁ km := by
  intro p a b st n₂ o o₁ hl ha hb hr h₁
  obtain ⟨o₁', e, he⟩ := h p a b st n₁ n₂ o hk hl ha hb hr
  rw [h₁] at e
  cases e
  exact he

omit [Num α] in
/-- `overwrite` (the write of a kernel's output series into the caller's row) restricted to the first `n` timesteps is the write of
the first `n` values into the first `n` timesteps of the row -/
theorem overwrite_take (old new : List α) (n : Nat) :
    (overwrite old new).take n = overwrite (old.take n) (new.take n) := by
  -- index by index, by the law of `overwrite`: inside the cut both sides test `k` against the same two lengths
  refine List.ext_getElem? fun k => ?_
  rw [List.getElem?_take, overwrite_getElem?, overwrite_getElem?, List.length_take, List.length_take, List.getElem?_take,
    List.getElem?_take]
  by_cases hk : k < n
  · rw [if_pos hk, if_pos hk, if_pos hk]
    exact if_congr (by omega) rfl rfl
  · rw [if_neg hk, if_neg hk, if_neg hk, ite_self]

omit [Num α] in
theorem writeRows_take (orow outs : List (List α)) (n : Nat) :
    (writeRows orow outs).map (·.take n) = writeRows (orow.map (·.take n)) (outs.map (·.take n)) := by
  unfold writeRows
  have hY : outs.map (·.take n) ++ List.replicate ((orow.map (·.take n)).length - (outs.map (·.take n)).length) [] =
      (outs ++ List.replicate (orow.length - outs.length) []).map (List.take n) := by
    simp only [List.map_append, List.length_map, List.map_replicate, List.take_nil]
  rw [hY, List.zip_map, List.map_map, List.map_map]
  apply List.map_congr_left
  intro x _
  simp only [Function.comp, Prod.map]
  exact overwrite_take _ _ _

omit [Num α] in
theorem writeRows_take_eq (orow orow₁ outs : List (List α)) (n : Nat)
    (hO : orow₁.map (·.take n) = orow.map (·.take n)) :
    (writeRows orow outs).map (·.take n) = (writeRows orow₁ (outs.map (·.take n))).map (·.take n) := by
  rw [writeRows_take, writeRows_take, hO, List.map_map]
  congr 1
  apply List.map_congr_left
  intro x _
  simp only [Function.comp, List.take_take, Nat.min_self]

omit [Num α] in
theorem catBlocks_length (A B : List (List (List α))) (hl : A.length = B.length) : (catBlocks A B).length = A.length := by
  simp only [catBlocks, List.length_zipWith, hl, Nat.min_self]

omit [Num α] in
theorem catBlocks_get (A B : List (List (List α))) (hl : A.length = B.length) (j : Nat) :
    (catBlocks A B)[j]?.getD [] = catSeries (A[j]?.getD []) (B[j]?.getD []) := by
  unfold catBlocks
  rw [List.getElem?_zipWith]
  by_cases hj : j < A.length
  · have hj' : j < B.length := hl ▸ hj
    simp only [List.getElem?_eq_getElem hj, List.getElem?_eq_getElem hj', Option.getD_some]
  · have hj' : ¬ j < B.length := hl ▸ hj
    simp only [List.getElem?_eq_none (Nat.le_of_not_lt hj), List.getElem?_eq_none (Nat.le_of_not_lt hj'), Option.getD_none]
    rfl

omit [Num α] in
theorem SplitBlocks.get {n₁ n₂ : Nat} {A B : List (List (List α))} (hs : SplitBlocks n₁ n₂ A B) (j : Nat) :
    (A[j]?.getD []).length = (B[j]?.getD []).length ∧ AllLen n₁ (A[j]?.getD []) ∧ AllLen n₂ (B[j]?.getD []) := by
  by_cases hj : j < A.length
  · have hj' : j < B.length := hs.len ▸ hj
    simp only [List.getElem?_eq_getElem hj, List.getElem?_eq_getElem hj', Option.getD_some]
    exact hs.block j hj hj'
  · have hj' : ¬ j < B.length := hs.len ▸ hj
    simp only [List.getElem?_eq_none (Nat.le_of_not_lt hj), List.getElem?_eq_none (Nat.le_of_not_lt hj'), Option.getD_none]
    exact ⟨trivial, fun s hs => absurd hs List.not_mem_nil, fun s hs => absurd hs List.not_mem_nil⟩

/-- **one cell of the wrapper is causal**: the cell's output rows after the whole-period call and after the call over the first
`n₁` timesteps agree on the first `n₁` timesteps (rows that agreed there before the calls). -/
theorem cellStep_causal {n₁ n₂ : Nat} (km : KModel α) (hc : CausalAt n₁ km) (spec : ParamSpec) (lay : List (Nat × Nat))
    (params : List (List α)) (A B : List (List (List α))) (hs : SplitBlocks n₁ n₂ A B) (i : Nat) (st : List α)
    (orow orow₁ : List (List α)) (s' s₁ : List α) (o' o₁ : List (List α))
    (hO : orow₁.map (·.take n₁) = orow.map (·.take n₁))
    (h : cellStep km spec lay params (catBlocks A B) i st orow = .ok (s', o'))
    (h₁ : cellStep km spec lay params A i st orow₁ = .ok (s₁, o₁)) :
    o'.map (·.take n₁) = o₁.map (·.take n₁) := by
  obtain ⟨-, p, r, hp, hr, hso⟩ := cellStep_ok_iff.mp h
  obtain ⟨-, p', r₁, hp', hr₁, hso₁⟩ := cellStep_ok_iff.mp h₁
  cases hso
  cases hso₁
  rw [hp] at hp'; cases hp'
  rw [catBlocks_length A B hs.len, catBlocks_get A B hs.len] at hr
  obtain ⟨hl, ha, hb⟩ := hs.get (i % A.length)
  have := hc p _ _ st n₂ r r₁ hl ha hb hr hr₁
  rw [← this]
  exact writeRows_take_eq orow orow₁ r.outputs n₁ hO

/-- with the strong per-call form, the cell's call over the first `n₁` timesteps succeeds when the whole-period call does -/
theorem cellStep_prefixOk {k n₁ n₂ : Nat} (km : KModel α) (hc : CausalStrongFrom k km) (hk : k ≤ n₁) (spec : ParamSpec)
    (lay : List (Nat × Nat)) (params : List (List α)) (A B : List (List (List α))) (hs : SplitBlocks n₁ n₂ A B) (i : Nat)
    (st : List α) (orow orow₁ : List (List α)) (s' : List α) (o' : List (List α))
    (h : cellStep km spec lay params (catBlocks A B) i st orow = .ok (s', o')) :
    ∃ s₁ o₁, cellStep km spec lay params A i st orow₁ = .ok (s₁, o₁) := by
  obtain ⟨h0, p, r, hp, hr, -⟩ := cellStep_ok_iff.mp h
  rw [catBlocks_length A B hs.len] at h0
  rw [catBlocks_length A B hs.len, catBlocks_get A B hs.len] at hr
  obtain ⟨hl, ha, hb⟩ := hs.get (i % A.length)
  obtain ⟨r₁, hr₁, -⟩ := hc p _ _ st n₁ n₂ r hk hl ha hb hr
  exact ⟨_, _, cellStep_ok_iff.mpr ⟨h0, p, r₁, hp, hr₁, rfl⟩⟩

omit [Num α] in
theorem takeT_get (n : Nat) (os : List (List (List α))) (k : Nat) :
    (takeT n os)[k]? = (os[k]?).map (fun (o : List (List α)) => o.map (·.take n)) := by
  simp only [takeT, List.getElem?_map]

omit [Num α] in
theorem takeT_length (n : Nat) (os : List (List (List α))) : (takeT n os).length = os.length := by
  simp only [takeT, List.length_map]

/-- **the N-cell run is causal when each cell's kernel call is** (lifted through `C04.runCells_spec`): output arrays that agree on
the first `n₁` timesteps before the two runs agree there afterwards — the rows of the cells that ran, by `cellStep_causal` on
each cell's OWN rows; the surplus rows, because neither run touches them. -/
theorem runCells_causal {n₁ n₂ : Nat} (km : KModel α) (hc : CausalAt n₁ km) (spec : ParamSpec) (lay : List (Nat × Nat))
    (params : List (List α)) (A B : List (List (List α))) (hs : SplitBlocks n₁ n₂ A B)
    (cells : List (List α)) (outs outs₁ : List (List (List α))) (i : Nat) (ss ss₁ : List (List α))
    (os os₁ : List (List (List α))) (hO : takeT n₁ outs₁ = takeT n₁ outs)
    (h : runCells km spec lay params (catBlocks A B) i cells outs = .ok (ss, os))
    (h₁ : runCells km spec lay params A i cells outs₁ = .ok (ss₁, os₁)) :
    takeT n₁ os = takeT n₁ os₁ := by
  obtain ⟨-, hlo, hle, hstep, hrest⟩ := C04.runCells_spec km spec lay params _ cells outs i ss os h
  obtain ⟨-, hlo₁, hle₁, hstep₁, hrest₁⟩ := C04.runCells_spec km spec lay params _ cells outs₁ i ss₁ os₁ h₁
  have hOk : ∀ k : Nat, (outs₁[k]?).map (fun (o : List (List α)) => o.map (·.take n₁)) = (outs[k]?).map (fun (o : List (List α)) => o.map (·.take n₁)) := by
    intro k
    rw [← takeT_get, ← takeT_get, hO]
  apply List.ext_getElem?
  intro k
  rw [takeT_get, takeT_get]
  by_cases hk : k < cells.length
  · have ho : k < outs.length := by omega
    have ho₁ : k < outs₁.length := by omega
    obtain ⟨s', o', hcs, -, e⟩ := hstep k hk ho
    obtain ⟨s₁, o₁, hcs₁, -, e₁⟩ := hstep₁ k hk ho₁
    rw [e, e₁]
    simp only [Option.map_some, Option.some.injEq]
    have hrow := hOk k
    rw [List.getElem?_eq_getElem ho, List.getElem?_eq_getElem ho₁] at hrow
    simp only [Option.map_some, Option.some.injEq] at hrow
    exact cellStep_causal km hc spec lay params A B hs (i + k) cells[k] outs[k] outs₁[k] s' s₁ o' o₁ hrow hcs hcs₁
  · rw [hrest k (by omega), hrest₁ k (by omega)]
    exact (hOk k).symm

/-- with the strong per-call form, the N-cell run over the first `n₁` timesteps succeeds when the whole-period run does -/
theorem runCells_prefixOk {k n₁ n₂ : Nat} (km : KModel α) (hc : CausalStrongFrom k km) (hk : k ≤ n₁) (spec : ParamSpec)
    (lay : List (Nat × Nat)) (params : List (List α)) (A B : List (List (List α))) (hs : SplitBlocks n₁ n₂ A B) :
    ∀ (cells : List (List α)) (outs outs₁ : List (List (List α))) (i : Nat) (ss : List (List α)) (os : List (List (List α))),
      outs₁.length = outs.length →
      runCells km spec lay params (catBlocks A B) i cells outs = .ok (ss, os) →
      ∃ ss₁ os₁, runCells km spec lay params A i cells outs₁ = .ok (ss₁, os₁) := by
  intro cells outs outs₁ i ss os hl h
  obtain ⟨-, -, hle, hstep, -⟩ := C04.runCells_spec km spec lay params (catBlocks A B) cells outs i ss os h
  refine runCells_ok_of_steps km spec lay params A cells outs₁ i (hl ▸ hle) fun j hj ho => ?_
  obtain ⟨s', o', hcs, -, -⟩ := hstep j hj (hl ▸ ho)
  obtain ⟨s₁, o₁, h₁⟩ := cellStep_prefixOk km hc hk spec lay params A B hs (i + j) _ _ _ s' o' hcs
  exact ⟨_, h₁⟩

/-- the truncated call of the wrapper: same parameter array, same state argument (hot-start array or none), same number of cells;
its input array is the first part of the whole-period input array; its output array agrees with the whole-period call's on the first
`n₁` timesteps before the call (e.g. the same array, or the same array cut to `n₁` timesteps, or two zero-filled arrays) -/
structure Truncates {α} (n₁ n₂ : Nat) (x x₁ : RunIn α) (B : List (List (List α))) : Prop where
  params : x₁.params = x.params
  states : x₁.states = x.states
  nCells : x₁.nCells = x.nCells
  split : SplitBlocks n₁ n₂ x₁.inputs B
  inputs : x.inputs = catBlocks x₁.inputs B
  outputs : takeT n₁ x₁.outputs = takeT n₁ x.outputs

/-- **C14, causality of the N-cell wrapper run.** Let every call of the kernel be causal at `n₁` (`causalAt_of_causal`, for all 41 catalogue
models: `wrapper_causal_catalogue`). If `Run` over the whole period (`n₁ + n₂` timesteps) and `Run` over the first `n₁` timesteps
(`Truncates`) both succeed, then the two output arrays agree on the first `n₁` timesteps of EVERY output row of EVERY cell: what the
wrapper reports up to timestep `n₁` does not depend on the inputs after `n₁` — for every parameter layout `spec` (scalars and
tables), number of cells, cyclic reuse of parameter sets and input blocks, hot start or `InitialiseStates`. -/
theorem wrapper_causal {n₁ n₂ : Nat} (km : KModel α) (hc : CausalAt n₁ km) (spec : ParamSpec) (x x₁ : RunIn α)
    (B : List (List (List α))) (ht : Truncates n₁ n₂ x x₁ B) (r r₁ : RunOut α)
    (h : Sim.run km spec x = .ok r) (h₁ : Sim.run km spec x₁ = .ok r₁) :
    takeT n₁ r.outputs = takeT n₁ r₁.outputs := by
  obtain ⟨lay, states, hl, hs, hr⟩ := (run_ok_iff km spec x r).mp h
  obtain ⟨lay₁, states₁, hl₁, hs₁, hr₁⟩ := (run_ok_iff km spec x₁ r₁).mp h₁
  rw [ht.params, hl] at hl₁
  cases hl₁
  have : startStates km spec lay x₁ = startStates km spec lay x := by
    unfold startStates; rw [ht.params, ht.states, ht.nCells]
  rw [this, hs] at hs₁
  cases hs₁
  rw [ht.inputs] at hr
  rw [ht.params] at hr₁
  exact runCells_causal km hc spec lay x.params x₁.inputs B ht.split states x.outputs x₁.outputs 0 _ _ _ _ ht.outputs hr hr₁

/-- **C14, strong causality of the N-cell wrapper run.** With the strong per-call form (`CausalStrongFrom k`, truncation point
`n₁ ≥ k`): if `Run` over the whole period succeeds, `Run` over the first `n₁` timesteps SUCCEEDS TOO (a panic of the truncated
wrapper run is a panic of the whole-period one) and agrees with it on the first `n₁` timesteps of every output row of every cell. -/
theorem wrapper_causalStrong {k n₁ n₂ : Nat} (km : KModel α) (hc : CausalStrongFrom k km) (hk : k ≤ n₁) (spec : ParamSpec)
    (x x₁ : RunIn α) (B : List (List (List α))) (ht : Truncates n₁ n₂ x x₁ B) (r : RunOut α)
    (h : Sim.run km spec x = .ok r) :
    ∃ r₁, Sim.run km spec x₁ = .ok r₁ ∧ takeT n₁ r.outputs = takeT n₁ r₁.outputs := by
  obtain ⟨lay, states, hl, hs, hr⟩ := (run_ok_iff km spec x r).mp h
  rw [ht.inputs] at hr
  have hlen : x₁.outputs.length = x.outputs.length := by
    have := congrArg List.length ht.outputs
    simpa only [takeT_length] using this
  obtain ⟨ss₁, os₁, hr₁⟩ := runCells_prefixOk km hc hk spec lay x.params x₁.inputs B ht.split states x.outputs x₁.outputs 0 _ _ hlen hr
  have hst : startStates km spec lay x₁ = startStates km spec lay x := by
    unfold startStates; rw [ht.params, ht.states, ht.nCells]
  have h₁ : Sim.run km spec x₁ = .ok { outputs := os₁, states := ss₁ } :=
    (run_ok_iff km spec x₁ _).mpr ⟨lay, states, by rw [ht.params]; exact hl, by rw [hst]; exact hs, by rw [ht.params]; exact hr₁⟩
  exact ⟨_, h₁, wrapper_causal km (causalAt_of_strong hc n₁ hk) spec x x₁ B ht r _ h h₁⟩

/-- **changing the later inputs**: two whole-period wrapper runs whose inputs agree on the first `n₁` timesteps (continuations `B`,
`B'` of possibly different lengths) report the same first `n₁` timesteps in every output row of every cell. -/
theorem wrapper_causal_change {k n₁ n₂ n₂' : Nat} (km : KModel α) (hc : CausalStrongFrom k km) (hk : k ≤ n₁) (spec : ParamSpec)
    (x x' x₁ : RunIn α) (B B' : List (List (List α))) (ht : Truncates n₁ n₂ x x₁ B) (ht' : Truncates n₁ n₂' x' x₁ B')
    (r r' : RunOut α) (h : Sim.run km spec x = .ok r) (h' : Sim.run km spec x' = .ok r') :
    takeT n₁ r.outputs = takeT n₁ r'.outputs := by
  obtain ⟨r₁, h₁, e⟩ := wrapper_causalStrong km hc hk spec x x₁ B ht r h
  rw [e, wrapper_causal km (causalAt_of_strong hc n₁ hk) spec x' x₁ B' ht' r' r₁ h' h₁]

/-- **C14, wrapper-level causality, every catalogue model** (41), any arithmetic, every truncation point `n₁ ≥ 0`. -/
theorem wrapper_causal_catalogue : ∀ km ∈ catalogue (α := α), ∀ (n₁ n₂ : Nat) (spec : ParamSpec) (x x₁ : RunIn α)
    (B : List (List (List α))), Truncates n₁ n₂ x x₁ B → ∀ (r r₁ : RunOut α),
    Sim.run km spec x = .ok r → Sim.run km spec x₁ = .ok r₁ → takeT n₁ r.outputs = takeT n₁ r₁.outputs :=
  fun km hkm n₁ _ spec x x₁ B ht r r₁ h h₁ => wrapper_causal km (causalAt_of_causal (causal_catalogue km hkm) n₁) spec x x₁ B ht r r₁ h h₁

/-- **C14, strong wrapper-level causality, every catalogue model** (41), truncation points `n₁ ≥ 1` (the restriction comes from
InstreamDissolvedNutrientDecay only, see `causalStrong_catalogue`; all others: `wrapper_causalStrong_catalogue_zero`). -/
theorem wrapper_causalStrong_catalogue : ∀ km ∈ catalogue (α := α), ∀ (n₁ n₂ : Nat), 1 ≤ n₁ → ∀ (spec : ParamSpec)
    (x x₁ : RunIn α) (B : List (List (List α))), Truncates n₁ n₂ x x₁ B → ∀ (r : RunOut α),
    Sim.run km spec x = .ok r → ∃ r₁, Sim.run km spec x₁ = .ok r₁ ∧ takeT n₁ r.outputs = takeT n₁ r₁.outputs :=
  fun km hkm _ _ hn spec x x₁ B ht r h => wrapper_causalStrong km (causalStrong_catalogue km hkm) hn spec x x₁ B ht r h

/-- all truncation points, also `n₁ = 0`: every catalogue model except InstreamDissolvedNutrientDecay -/
theorem wrapper_causalStrong_catalogue_zero : ∀ km ∈ catalogue (α := α), km.name ≠ "InstreamDissolvedNutrientDecay" →
    ∀ (n₁ n₂ : Nat) (spec : ParamSpec) (x x₁ : RunIn α) (B : List (List (List α))), Truncates n₁ n₂ x x₁ B → ∀ (r : RunOut α),
    Sim.run km spec x = .ok r → ∃ r₁, Sim.run km spec x₁ = .ok r₁ ∧ takeT n₁ r.outputs = takeT n₁ r₁.outputs :=
  fun km hkm hne _ _ spec x x₁ B ht r h =>
    wrapper_causalStrong km (causalStrong_catalogue_zero km hkm hne) (Nat.zero_le _) spec x x₁ B ht r h

section NonVacuity

/-- whole-period call: Muskingum, 2 cells, ONE parameter set (reused cyclically), 2 input blocks of 2 series × 3 timesteps,
`InitialiseStates`, a zero-filled output array 2 cells × 1 output × 3 timesteps -/
def exWhole : RunIn Float :=
  { params := [[86400], [0.25], [86400]], inputs := [[[1, 2, 5], [0, 1, 0]], [[3, 0, 7], [0, 0, 1]]], states := none, nCells := 2,
    outputs := [[[0, 0, 0]], [[0, 0, 0]]] }

/-- the call over the first 2 timesteps, with an output array of 2 timesteps -/
def exTrunc : RunIn Float :=
  { params := [[86400], [0.25], [86400]], inputs := [[[1, 2], [0, 1]], [[3, 0], [0, 0]]], states := none, nCells := 2,
    outputs := [[[0, 0]], [[0, 0]]] }

/-- the later inputs of the two blocks -/
def exLater : List (List (List Float)) := [[[5], [0]], [[7], [1]]]

theorem exSplit : SplitBlocks 2 1 exTrunc.inputs exLater := by
  have hmem : ∀ (n : Nat) (u v : List Float), u.length = n → v.length = n → AllLen n [u, v] :=
    fun n u v hu hv => List.forall_iff_forall_mem.mp ⟨hu, hv⟩
  refine ⟨by decide, ?_⟩
  intro k ha hb
  have ha' : k < 2 := ha
  rcases k with _ | _ | k
  · exact ⟨by simp [exTrunc, exLater], hmem 2 [1, 2] [0, 1] rfl rfl, hmem 1 [5] [0] rfl rfl⟩
  · exact ⟨by simp [exTrunc, exLater], hmem 2 [3, 0] [0, 0] rfl rfl, hmem 1 [7] [1] rfl rfl⟩
  · omega

theorem exTruncates : Truncates 2 1 exWhole exTrunc exLater where
  params := rfl
  states := rfl
  nCells := rfl
  split := exSplit
  inputs := by
    simp only [exWhole, exTrunc, exLater, catBlocks, catSeries, List.zipWith_cons_cons, List.zipWith_nil_right, List.cons_append,
      List.nil_append]
  outputs := by
    simp only [exWhole, exTrunc, takeT, List.map_cons, List.map_nil, List.take_succ_cons, List.take_zero, List.take_nil]

/-- `wrapper_causal`: its hypotheses (two successful wrapper runs, `Truncates`) hold together -/
example : ∃ r r₁, Sim.run Muskingum.model [none, none, none] exWhole = .ok r ∧
    Sim.run Muskingum.model [none, none, none] exTrunc = .ok r₁ ∧ Truncates 2 1 exWhole exTrunc exLater :=
  ⟨_, _, rfl, rfl, exTruncates⟩

/-- use of the strong form: from the whole-period wrapper run alone, the 2-timestep run and the agreement of all output rows -/
example (r : RunOut Float) (h : Sim.run Muskingum.model [none, none, none] exWhole = .ok r) :
    ∃ r₁, Sim.run Muskingum.model [none, none, none] exTrunc = .ok r₁ ∧ takeT 2 r.outputs = takeT 2 r₁.outputs :=
  wrapper_causalStrong Muskingum.model causalStrong_Muskingum (Nat.zero_le _) _ exWhole exTrunc exLater exTruncates r h

/-- the conclusion speaks about something: the compared part of the output array is 2 cells × 1 row × 2 timesteps -/
example : ∃ r, Sim.run Muskingum.model [none, none, none] exWhole = .ok r ∧
    (takeT 2 r.outputs).map (·.map (·.length)) = [[2], [2]] := ⟨_, rfl, rfl⟩

/-- the same output array for both calls (the short run writes the first 2 timesteps of a 3-timestep array) also satisfies
`Truncates`: `outputs` is reflexivity -/
example : Truncates 2 1 exWhole { exTrunc with outputs := exWhole.outputs } exLater :=
  { exTruncates with outputs := rfl }

end NonVacuity

end OW.Props.C14
