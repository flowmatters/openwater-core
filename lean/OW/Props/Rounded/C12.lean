import OW.Proofs.RoundedConstituent
import OW.Proofs.Scan
import OW.Proofs.C12Lumped
import OW.Proofs.C12Decay
/-!
C12 under ROUNDED arithmetic — "downstream loads and stored masses never become negative for non-negative inputs", proved for
EVERY rounding `R : Rounding` where it survives rounding, with the exact extra condition where it does not.

* LumpedConstituentRouting, StorageDissolvedDecay (decay disabled), StorageTrapAll, InstreamCoarseSediment: every non-negativity clause of
  OW/Props/C12.lean holds under every rounding (only sums, products and quotients of non-negative numbers are formed).
* ConstituentDecay: loads and flushed mass are non-negative from a non-negative store, but the STORE itself
  (`workingMass ⊖ outflowLoad ⊗ Δt`) is non-negative only if the rounded released mass does not exceed the working mass — which
  rounding can break (`constituentDecay_store_negative_away`; float64 witness on the real code in its doc-comment and in the
  `assumptions` of checks/C12.py).
* StorageParticulateTrapping: store ≥ 0 (the code clamps) and trapped ≥ 0 always; `trapped ≤ incoming` and `outflowLoad ≥ 0`
  need `incoming ⊗ pc ⊘ 100 ≤ incoming`, which rounding can break when `pc = 100` (float64: `x*100/100 > x` for ≈ 7 % of x).
* InstreamParticulateNutrient and InstreamFineSediment are not restated: their stores are differences of nearly equal products
  (`total ⊖ (floodplain ⊕ bed exchange)`), and the real float64 code does return rounding-level negative values for non-negative
  inputs (InstreamParticulateNutrient: loadDownstream −6.7e−16, final store −6.0e−13 in 20 000 random 3-step runs through
  `owharness child K`); their non-negativity stays an exact-arithmetic theorem, checked on the code up to the oracle tolerance.
The mass BUDGET identities of C12 are exact-arithmetic statements and are not restated.
-/
namespace OW.Props.Rounded.C12
open OW OW.Kernels OW.Rounded OW.Rounded.Constituent
open OW.C12 (trapAll_some dissolved_run_off)

variable {R : Rounding}

/-! ## LumpedConstituentRouting (inputs: inflowLoad, lateralLoad, outflow, storage) -/

/-- **LumpedConstituentRouting under rounding, one step** (sign clauses of `OW.C12.lumped_step`): only sums, products and quotients
of non-negative numbers are formed, on either branch of the minimum-volume test -/
theorem lumped_step (pt dt sm : RNum R) (x : RNum R × RNum R × RNum R × RNum R)
    (hpt : 0 ≤ pt.val) (hdt : 0 ≤ dt.val) (hs : 0 ≤ sm.val)
    (hx : 0 ≤ x.1.val ∧ 0 ≤ x.2.1.val ∧ 0 ≤ x.2.2.1.val ∧ 0 ≤ x.2.2.2.val) :
    0 ≤ (LumpedConstituent.step pt dt sm x).1.val ∧
    0 ≤ (LumpedConstituent.step pt dt sm x).2.outflowLoad.val ∧ 0 ≤ (LumpedConstituent.step pt dt sm x).2.flushed.val := by
  obtain ⟨a, b, c, d⟩ := x
  obtain ⟨ha, hb, hc, hd⟩ := hx
  generalize hr : LumpedConstituent.step pt dt sm (a, b, c, d) = r
  unfold LumpedConstituent.step at hr
  dsimp -zeta only at hr
  extract_lets totalLoadIn outflowV workingMass workingVol concentration at hr
  have hwm : 0 ≤ workingMass.val :=
    RNum.add_nonneg hs (RNum.mul_nonneg (RNum.add_nonneg (RNum.add_nonneg ha hb) hpt) hdt)
  have hwv : 0 ≤ workingVol.val := RNum.add_nonneg (RNum.mul_nonneg hc hdt) hd
  by_cases hlow : workingVol < LumpedConstituent.minimumVolume
  · rw [if_pos hlow] at hr
    subst hr
    exact ⟨le_refl _, le_refl _, hwm⟩
  · rw [if_neg hlow] at hr
    subst hr
    exact ⟨RNum.mul_nonneg (RNum.div_nonneg hwm hwv) hd, RNum.mul_nonneg (RNum.div_nonneg hwm hwv) hc, le_refl _⟩

/-- **nonneg_LumpedConstituentRouting under rounding** (parallels `OW.Props.C12.nonneg_LumpedConstituentRouting`, same
hypotheses): non-negative point input, Δt, initial store and inputs ⇒ the store, every downstream load and every flushed mass
are non-negative, along every run, for every rounding. -/
theorem nonneg_LumpedConstituentRouting (pointInput dt s0 : RNum R) (xs : List (RNum R × RNum R × RNum R × RNum R))
    (hpi : 0 ≤ pointInput.val) (hdt : 0 ≤ dt.val) (hs : 0 ≤ s0.val)
    (hx : ∀ x ∈ xs, 0 ≤ x.1.val ∧ 0 ≤ x.2.1.val ∧ 0 ≤ x.2.2.1.val ∧ 0 ≤ x.2.2.2.val) :
    0 ≤ (LumpedConstituent.run pointInput dt s0 xs).1.val ∧
    ∀ o ∈ (LumpedConstituent.run pointInput dt s0 xs).2, 0 ≤ o.outflowLoad.val ∧ 0 ≤ o.flushed.val :=
  scan_inv (fun s x hs hx => lumped_step pointInput dt s x hpi hdt hs hx) hs hx

/-- the concentration divisor is positive on the branch that divides — provided the literal `MINIMUM_VOLUME = 0.01` does not
round to zero (true for binary64; FALSE on a grid coarser than 0.01, where the test `workingVol < 0` never fires and an empty
reach divides by zero) -/
theorem divisors_pos_LumpedConstituentRouting (dt q v : RNum R)
    (hmin : 0 < (LumpedConstituent.minimumVolume : RNum R).val)
    (h : ¬ q * dt + v < LumpedConstituent.minimumVolume) : 0 < (q * dt + v).val := by
  rw [RNum.lt_iff, not_lt] at h
  exact lt_of_lt_of_le hmin h

/-- **nonneg_StorageDissolvedDecay under rounding** (parallels `OW.Props.C12.nonneg_StorageDissolvedDecay`): with
`doStorageDecay < 0.5` the model is the lumped routing with zero lateral and point input; store, outflow mass and flushed mass stay
non-negative for every rounding. -/
theorem nonneg_StorageDissolvedDecay (dt dsd bff mfrt s0 : RNum R) (xs : List (RNum R × RNum R × RNum R × RNum R))
    (hoff : dsd < 0.5) (hdt : 0 ≤ dt.val) (hs : 0 ≤ s0.val)
    (hx : ∀ x ∈ xs, 0 ≤ x.1.val ∧ 0 ≤ x.2.2.1.val ∧ 0 ≤ x.2.2.2.val) :
    0 ≤ (StorageDissolvedDecay.run dt dsd bff mfrt s0 xs).1.val ∧
    ∀ o ∈ (StorageDissolvedDecay.run dt dsd bff mfrt s0 xs).2, 0 ≤ o.outflowMass.val ∧ 0 ≤ o.flushed.val ∧ o.decayedMass.val = 0 := by
  rw [dissolved_run_off dt dsd bff mfrt s0 xs hoff]
  exact scan_inv (Inv := fun s : RNum R => 0 ≤ s.val) (fun s x hs hx => by
      obtain ⟨a, b, c, d⟩ := x
      obtain ⟨h1, h2, h3⟩ := lumped_step (R := R) 0.0 dt s (a, 0.0, c, d) (by rw [RNum.sci_zero_val]) hdt hs
        ⟨hx.1, by rw [RNum.sci_zero_val], hx.2.1, hx.2.2⟩
      exact ⟨h1, h2, h3, rfl⟩) hs hx

/-- **nonneg_StorageTrapAll under rounding** (parallels `OW.Props.C12.nonneg_StorageTrapAll`): the trapped series is the inflow
series with the initial store added (one rounded addition) to its first element -/
theorem nonneg_StorageTrapAll (inflow : List (RNum R)) (s0 : RNum R) (t : List (RNum R))
    (h : StorageTrapAll.trapped inflow s0 = some t) (hs : 0 ≤ s0.val) (hx : ∀ x ∈ inflow, 0 ≤ x.val) :
    ∀ y ∈ t, 0 ≤ y.val := by
  obtain ⟨x, xs, rfl, rfl⟩ := trapAll_some h
  obtain ⟨hx0, hxs⟩ := List.forall_mem_cons.mp hx
  exact List.forall_mem_cons.mpr ⟨RNum.add_nonneg hx0 hs, hxs⟩

/-- **nonneg_StorageTrapAll under rounding, on the adapter `model.run`** (parallels the sign clause of
`OW.Props.C12.budget_StorageTrapAll_model`; outputs and final store are read from the model's result): for every rounding, every
inflow-mass series (the EMPTY one included: the stored mass is returned unchanged) and every other input series (not read), a
non-negative store and non-negative inflow masses give a successful run whose final store and trapped series are non-negative and
whose downstream series is identically 0. -/
theorem nonneg_StorageTrapAll_model (inflowMass inflow outflow volume : List (RNum R)) (s0 : RNum R)
    (hs : 0 ≤ s0.val) (hx : ∀ x ∈ inflowMass, 0 ≤ x.val) :
    ∃ (r : KOut (RNum R)) (trapped out : List (RNum R)) (sf : RNum R),
      (StorageTrapAll.model (α := RNum R)).run [] [inflowMass, inflow, outflow, volume] [s0] = .ok r ∧
      r.outputs = [trapped, out] ∧ r.states = [sf] ∧ 0 ≤ sf.val ∧ (∀ y ∈ trapped, 0 ≤ y.val) ∧ (∀ y ∈ out, y.val = 0) ∧
      trapped.length = inflowMass.length ∧ out.length = inflowMass.length ∧ (inflowMass = [] → sf = s0) := by
  cases inflowMass with
  | nil => exact ⟨_, [], [], s0, rfl, rfl, rfl, hs, by simp, by simp, rfl, rfl, fun _ => rfl⟩
  | cons x xs =>
    refine ⟨_, (x + s0) :: xs, zeros (xs.length + 1), 0.0, rfl, rfl, rfl, RNum.sci_nonneg,
      nonneg_StorageTrapAll (x :: xs) s0 _ rfl hs hx, ?_, by simp, by simp [zeros], fun h => absurd h (List.cons_ne_nil _ _)⟩
    · intro y hy
      simp only [zeros, List.mem_replicate] at hy
      rw [hy.2]; rfl

/-- non-vacuity: the empty series keeps the store, whatever the rounding -/
example (s0 : RNum R) : (StorageTrapAll.model (α := RNum R)).run [] [[], [], [], []] [s0] =
    .ok { outputs := [[], []], states := [s0], tags := ["trapall-empty"] } := rfl

/-! ## InstreamCoarseSediment (inputs: upstream, lateral, reach-local mass rates) -/

/-- **nonneg_InstreamCoarseSediment under rounding** (parallels `OW.Props.C12.nonneg_InstreamCoarseSediment`): Δt ≥ 0,
non-negative stores and inputs ⇒ channel store, in-stream store, downstream load (always 0) and deposited mass are non-negative,
and the channel store never decreases, for every rounding. -/
theorem nonneg_InstreamCoarseSediment (dt : RNum R) (st : RNum R × RNum R) (xs : List (RNum R × RNum R × RNum R))
    (hdt : 0 ≤ dt.val) (h1 : 0 ≤ st.1.val) (h2 : 0 ≤ st.2.val)
    (hx : ∀ x ∈ xs, 0 ≤ x.1.val ∧ 0 ≤ x.2.1.val ∧ 0 ≤ x.2.2.val) :
    0 ≤ (InstreamCoarseSediment.run dt st xs).1.1.val ∧ 0 ≤ (InstreamCoarseSediment.run dt st xs).1.2.val ∧
    st.1.val ≤ (InstreamCoarseSediment.run dt st xs).1.1.val ∧
    ∀ o ∈ (InstreamCoarseSediment.run dt st xs).2, o.loadDownstream.val = 0 ∧ 0 ≤ o.deposited.val := by
  have h := scan_inv (step := InstreamCoarseSediment.step dt) (Inv := fun s => st.1.val ≤ s.1.val ∧ 0 ≤ s.2.val)
    (Ok := fun x => 0 ≤ x.1.val ∧ 0 ≤ x.2.1.val ∧ 0 ≤ x.2.2.val)
    (P := fun o => o.loadDownstream.val = 0 ∧ 0 ≤ o.deposited.val)
    (fun s x hs hx => by
      obtain ⟨cs, sm⟩ := s
      obtain ⟨a, b, c⟩ := x
      obtain ⟨ha, hb, hc⟩ := hx
      simp only at ha hb hc hs
      have hdep : 0 ≤ (sm + (a + b + c) * dt).val :=
        RNum.add_nonneg hs.2 (RNum.mul_nonneg (RNum.add_nonneg (RNum.add_nonneg ha hb) hc) hdt)
      simp only [InstreamCoarseSediment.step]
      exact ⟨⟨hs.1.trans (RNum.le_add_right hdep), by rw [RNum.sci_zero_val]⟩, RNum.sci_zero_val, hdep⟩)
    (xs := xs) (s := st) ⟨le_refl _, h2⟩ hx
  exact ⟨h1.trans h.1.1, h.1.2, h.1.1, h.2⟩

/-! ## ConstituentDecay (inputs: inflowLoad, lateralLoad, inflow, outflow, storage) -/

/-- **ConstituentDecay under rounding, one step from a non-negative store** (parallels `OW.Props.C12.nonneg_ConstituentDecay`,
whose run-level statement does NOT survive rounding and which assumes `0 < Δt`; with `0 ≤ Δt` as here, `decayedLoad =
decayedAmount ⊘ Δt` at `Δt = 0` is `0` by the total division of `RNum` where Go has `0/0 = NaN`): decayed load, downstream load and flushed mass are non-negative; the new
store is non-negative when the mass released in the step, as computed (`outflowLoad ⊗ Δt`), does not exceed the working mass, and
non-positive otherwise. In exact arithmetic that condition always holds (`released = workingMass·outflowVol/workingVol`); with
rounding it can fail (`constituentDecay_store_negative_away`). -/
theorem constituentDecay_step (hl dt sm : RNum R) (x : RNum R × RNum R × RNum R × RNum R × RNum R)
    (h2 : R.Rep 2) (hdt : 0 ≤ dt.val) (hs : 0 ≤ sm.val)
    (hx : 0 ≤ x.1.val ∧ 0 ≤ x.2.1.val ∧ 0 ≤ x.2.2.2.1.val ∧ 0 ≤ x.2.2.2.2.val) :
    let o := (ConstituentDecay.step hl dt sm x).2
    let wm := (ConstituentDecay.decay hl dt sm).2.2 + x.1 * dt + x.2.1 * dt
    0 ≤ o.decayedLoad.val ∧ 0 ≤ o.outflowLoad.val ∧ 0 ≤ o.flushed.val ∧ 0 ≤ wm.val ∧
    ((o.outflowLoad * dt).val ≤ wm.val → 0 ≤ (ConstituentDecay.step hl dt sm x).1.val) ∧
    (wm.val < (o.outflowLoad * dt).val → (ConstituentDecay.step hl dt sm x).1.val ≤ 0) := by
  obtain ⟨a, b, i, c, d⟩ := x
  obtain ⟨ha, hb, hc, hd⟩ := hx
  obtain ⟨d2, d3⟩ := decay_nonneg hl dt sm h2 hdt hs
  dsimp only
  generalize hr : ConstituentDecay.step hl dt sm (a, b, i, c, d) = r
  unfold ConstituentDecay.step at hr
  dsimp -zeta only at hr
  extract_lets dd decayedAmount decayedLoad storedMass inflowLoad lateralLoad workingMass outflowV workingVol concentration
    outflowLoad at hr
  have hwm : 0 ≤ workingMass.val :=
    RNum.add_nonneg (RNum.add_nonneg d3 (RNum.mul_nonneg ha hdt)) (RNum.mul_nonneg hb hdt)
  have hwv : 0 ≤ workingVol.val := RNum.add_nonneg (RNum.mul_nonneg hc hdt) hd
  by_cases hlow : workingVol < ConstituentDecay.minimumVolume
  · rw [if_pos hlow] at hr
    subst hr
    exact ⟨d2, RNum.sci_nonneg, hwm, hwm, fun _ => RNum.sci_nonneg, fun _ => RNum.sci_zero_val.le⟩
  · rw [if_neg hlow] at hr
    subst hr
    exact ⟨d2, RNum.mul_nonneg (RNum.div_nonneg hwm hwv) hc, le_refl _, hwm, fun h => RNum.sub_nonneg h,
      fun h => RNum.sub_nonpos h.le⟩

/-- **The stored mass of ConstituentDecay CAN become negative under rounding.** Witness on the integer grid with rounding away
from zero (`Rounding.away 1`): decay off, Δt = 2, store 1, nothing coming in, outflow 1 (volume 2), storage 1 ⇒ working volume 3,
concentration `⌈1/3⌉ = 1`, released mass `1·1·2 = 2 > 1` ⇒ new store `−1`. The same mechanism (a quotient rounded up, then
multiplied back) makes the real float64 code return a final store of `−2.3e−10` kg for the non-negative input
inflowLoad = 8.653835818026117, outflow = 66.67587506863227, storage = 0, Δt = 86400 (run through `owharness child K`). -/
theorem constituentDecay_store_negative_away :
    let R := Rounding.away 1 Nat.one_pos
    let n : ℤ → RNum R := fun k => RNum.ofRep (k : ℝ) (Rounding.away_rep_int 1 Nat.one_pos k)
    (ConstituentDecay.step (n 0) (n 2) (n 1) (n 0, n 0, n 0, n 1, n 1)).1.val = -1 := by
  intro R n
  -- integer arithmetic is exact on the integer grid
  have hint : ∀ (k : ℤ) (x : ℝ), x = k → R.rnd x = k := fun k x h => h ▸ Rounding.away_rep_int 1 Nat.one_pos k
  have hmul : ∀ a b : ℤ, n a * n b = n (a * b) := fun a b => RNum.ext (hint _ _ (Int.cast_mul a b).symm)
  have hadd : ∀ a b : ℤ, n a + n b = n (a + b) := fun a b => RNum.ext (hint _ _ (Int.cast_add a b).symm)
  have hsub : ∀ a b : ℤ, n a - n b = n (a - b) := fun a b => RNum.ext (hint _ _ (Int.cast_sub a b).symm)
  -- the one inexact operation: `1 ⊘ 3 = ⌈1/3⌉ = 1`
  have hdiv : n 1 / n 3 = n 1 := RNum.ext (by
    show R.rnd (((1 : ℤ) : ℝ) / ((3 : ℤ) : ℝ)) = ((1 : ℤ) : ℝ)
    rw [Rounding.away_eq 1 _ 1 (by norm_num) (by norm_num) (by norm_num)]; norm_num)
  have hdecay : ConstituentDecay.decay (n 0) (n 2) (n 1) = (0.0, Num.zero, n 1) := by
    unfold ConstituentDecay.decay
    rw [if_neg]
    rw [RNum.gt_iff, RNum.nat_zero_val]; simp [n]
  have hmin : (ConstituentDecay.minimumVolume : RNum R).val = 1 := by
    unfold ConstituentDecay.minimumVolume
    rw [RNum.ofScientific_val, Rounding.away_eq 1 _ 1 (by norm_num) (by norm_num) (by norm_num)]; norm_num
  simp only [ConstituentDecay.step, hdecay, hmul, hadd, Int.reduceMul, Int.reduceAdd]
  rw [if_neg (by rw [RNum.lt_iff, hmin]; show ¬ ((3 : ℤ) : ℝ) < 1; norm_num)]
  simp only [hdiv, hmul, hsub, Int.reduceMul, Int.reduceSub]
  show ((-1 : ℤ) : ℝ) = -1
  norm_num

/-! ## StorageParticulateTrapping (inputs: inflowLoad, inflow, outflow, storage) -/

open StorageParticulateTrapping (Params) in
/-- **StorageParticulateTrapping under rounding, one step** (parallels `OW.Props.C12.budget_StorageParticulateTrapping`, clauses
`0 ≤ store`, `0 ≤ trapped ≤ in·Δt`, `0 ≤ out`): for `Δt ≥ 0` and non-negative inflow load, outflow and volume, from ANY store,
the new store is non-negative (the code clamps it) and the trapped mass is non-negative, for every rounding. If moreover the
computed trapped mass does not exceed the incoming mass (`in·Δt ⊗ pc ⊘ 100 ≤ in·Δt` — always true in exact arithmetic since
`pc ≤ 100`, but false in float64 for ≈ 7 % of the values when `pc = 100`: `x*100/100 > x`), then from a non-negative store the
released load is non-negative. Without that condition the real code returns outflowLoad = −1.3e−15 for
inflowLoad = 8.3746908209646, full trapping, empty store (run through `owharness child K`). -/
theorem trapping_step (p : Params (RNum R)) (sm : RNum R) (x : RNum R × RNum R × RNum R × RNum R)
    (hdt : 0 ≤ p.deltaT.val) (hx : 0 ≤ x.1.val ∧ 0 ≤ x.2.2.1.val ∧ 0 ≤ x.2.2.2.val) :
    let r := StorageParticulateTrapping.step p sm x
    0 ≤ r.1.val ∧ 0 ≤ r.2.trappedMass.val ∧
    (0 ≤ sm.val → r.2.trappedMass.val ≤ (x.1 * p.deltaT).val → 0 ≤ r.2.outflowLoad.val) := by
  obtain ⟨a, q, c, d⟩ := x
  obtain ⟨ha, hc, hd⟩ := hx
  dsimp only
  generalize hr : StorageParticulateTrapping.step p sm (a, q, c, d) = r
  unfold StorageParticulateTrapping.step at hr
  dsimp -zeta only at hr
  extract_lets incomingMass damPC trapped storedMass workingVolume concentration massOutRate at hr
  subst hr
  have hinc : 0 ≤ incomingMass.val := RNum.mul_nonneg ha hdt
  have htr : 0 ≤ trapped.val :=
    RNum.div_nonneg (RNum.mul_nonneg hinc (damTrappingPC_nonneg p q)) RNum.sci_nonneg
  refine ⟨RNum.gmax_nonneg_right RNum.sci_nonneg, htr, fun hs hle => ?_⟩
  have hst : 0 ≤ storedMass.val := RNum.sub_nonneg (hle.trans (RNum.le_add_left hs))
  by_cases hv : workingVolume > 0
  · simp only [massOutRate, if_pos hv]
    rw [RNum.gt_iff, RNum.nat_zero_val] at hv
    exact RNum.mul_nonneg hc (RNum.div_nonneg hst hv.le)
  · simp only [massOutRate, if_neg hv]
    exact RNum.sci_nonneg
open StorageParticulateTrapping (Params) in
/-- **StorageParticulateTrapping under rounding, whole run**: the stored mass is non-negative after every run and every trapped
mass is non-negative — from any non-negative initial store, for every rounding -/
theorem nonneg_StorageParticulateTrapping (p : Params (RNum R)) (s0 : RNum R) (xs : List (RNum R × RNum R × RNum R × RNum R))
    (hdt : 0 ≤ p.deltaT.val) (hs : 0 ≤ s0.val) (hx : ∀ x ∈ xs, 0 ≤ x.1.val ∧ 0 ≤ x.2.2.1.val ∧ 0 ≤ x.2.2.2.val) :
    0 ≤ (StorageParticulateTrapping.run p s0 xs).1.val ∧
    ∀ o ∈ (StorageParticulateTrapping.run p s0 xs).2, 0 ≤ o.trappedMass.val :=
  scan_inv (Inv := fun s : RNum R => 0 ≤ s.val)
    (fun s x _ hx => ⟨(trapping_step p s x hdt hx).1, (trapping_step p s x hdt hx).2.1⟩) hs hx

/-- a wet step then a dry one on the grid: the hypotheses of `nonneg_LumpedConstituentRouting` are satisfiable -/
example : 0 ≤ (LumpedConstituent.run (t10 0) (t10 10) (t10 3) [(t10 100, t10 0, t10 5, t10 50), (t10 0, t10 0, t10 0, t10 0)]).1.val :=
  (nonneg_LumpedConstituentRouting (t10 0) (t10 10) (t10 3) _ (by rw [t10_val]; norm_num) (by rw [t10_val]; norm_num)
    (by rw [t10_val]; norm_num)
    (by intro x hx; simp only [List.mem_cons, List.not_mem_nil, or_false] at hx
        rcases hx with rfl | rfl <;> (simp only [t10_val]; norm_num))).1
/-- on the tenths grid `MINIMUM_VOLUME = 0.01` rounds to 0: the hypothesis of `divisors_pos_LumpedConstituentRouting` is a real
restriction (and it holds for the identity rounding) -/
example : (LumpedConstituent.minimumVolume : RNum T10).val = 0 := by
  unfold LumpedConstituent.minimumVolume
  rw [RNum.ofScientific_val, Rounding.trunc_eq 10 _ 0 (by norm_num) (by norm_num) (by norm_num)]; norm_num
example : 0 < (LumpedConstituent.minimumVolume : RNum Rounding.exact).val := by
  unfold LumpedConstituent.minimumVolume
  rw [RNum.ofScientific_val]; show (0:ℝ) < OfScientific.ofScientific 1 true 2; norm_num
/-- `Rep 2` (hypothesis of the decay theorems) holds on the grid -/
example : T10.Rep 2 := by
  exact_mod_cast Rounding.trunc_rep_int 10 (by norm_num) 2

/-- the hypotheses of `nonneg_StorageParticulateTrapping` are met on the grid (Δt = 10, two steps, one with an empty storage) -/
example : 0 ≤ (StorageParticulateTrapping.run ⟨t10 10, t10 1000, t10 100, t10 112, t10 800, t10 3, t10 0⟩ (t10 5)
    [(t10 1, t10 100, t10 3, t10 1000), (t10 0, t10 0, t10 0, t10 0)]).1.val :=
  (nonneg_StorageParticulateTrapping _ (t10 5) _ (by simp only [t10_val]; norm_num) (by rw [t10_val]; norm_num)
    (by intro x hx; simp only [List.mem_cons, List.not_mem_nil, or_false] at hx
        rcases hx with rfl | rfl <;> (simp only [t10_val]; norm_num))).1

end OW.Props.Rounded.C12
