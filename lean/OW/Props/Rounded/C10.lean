import OW.Proofs.Rounded
import OW.Proofs.Scan
import OW.Proofs.Surm
import OW.Kernels.Coeff
import OW.Kernels.Simhyd
/-!
C10 under ROUNDED arithmetic — "every output is non-negative, every store stays between zero and its capacity", for every
rounding `R : Rounding`, on three of the kernels of OW/Props/C10.lean (GR4J and Sacramento are treated at ℝ only).

* RunoffCoefficient: `0 ≤ runoff ≤ rainfall` for `0 ≤ coeff ≤ 1` under every rounding (no assumption on literals).
* SURM: soil store ≤ capacity, groundwater ≥ 0, runoff / quickflow / baseflow ≥ 0 hold under every rounding (parameter
  ranges as in `SurmParamsOk`). The LOWER bound `0 ≤ soil store` additionally needs that the computed soil evaporation limit
  `10 ⊗ s ⊘ smax` does not exceed the store `s` it is taken from (`EtOk`); in exact arithmetic this is `smax ≥ 10`, with rounding it
  fails at the boundary `smax = 10` (`x*10/10 > x` for ≈ 5 % of float64 values): the real code returns a soil store of
  `−8.9e−16` mm for smax = 10, store 7.657254516291418, PET = 100, no rain (run through `owharness child K`).
* SIMHYD: stores within bounds and all outputs non-negative under every rounding for which `1` is representable and the spill
  test `sms ⊘ smsc > 1` is sound (`SimhydDivOk`: a computed ratio `≤ 1` means `sms ≤ smsc`). That holds for exact arithmetic, for
  rounding away from zero and — by the spacing of binary floats — for binary64 round-to-nearest (not proved here), but NOT for truncation: there the soil store can stay one unit in the last place above
  its capacity.
* The cumulative statements (`Σ runoff ≤ Σ rain + storage`) and the component identity `runoff = quick + base` as a real-number
  identity are exact-arithmetic statements (the identity `runoff = quickflow ⊕ baseflow` holds as a rounded sum by definition).
-/
namespace OW.Props.Rounded.C10
open OW OW.Kernels OW.Rounded

variable {R : Rounding}

/-- **coeff_bounds under rounding** (parallels `OW.Props.C10.coeff_bounds`): `0 ≤ coeff ≤ 1`, rain ≥ 0 ⇒ every output is
non-negative and at most that day's rainfall (the rainfall is representable, so it bounds the rounded product). -/
theorem coeff_bounds (c : RNum R) (hc0 : 0 ≤ c.val) (hc1 : c.val ≤ 1) (rain : List (RNum R)) :
    List.Forall₂ (fun r q => 0 ≤ r.val → 0 ≤ q.val ∧ q.val ≤ r.val) rain (Coeff.run c rain) := by
  unfold Coeff.run
  apply forall₂_map
  intro r hr
  exact ⟨RNum.mul_nonneg hc0 hr, RNum.mul_le_of_le_one_left hr hc1⟩

/-- zero rain ⇒ zero runoff, exactly -/
theorem coeff_zero (c r : RNum R) (hr : r.val = 0) : (c * r).val = 0 := RNum.mul_zero_val hr

open Surm (Params State Out)

/-- parameters in range: `RR.Surm.ParamsOk` with `.val` inserted and without `bfac ≤ 1`, `dseep ≤ 1`; the bounds do not use
`dseep0` and `thres0` either -/
structure SurmParamsOk (p : Params (RNum R)) : Prop where
  bfac0 : 0 ≤ p.bfac.val
  coeff0 : 0 ≤ p.coeff.val
  dseep0 : 0 ≤ p.dseep.val
  fc0 : 0 ≤ p.fcFrac.val
  fimp0 : 0 ≤ p.fimp.val
  fimp1 : p.fimp.val ≤ 1
  rfac0 : 0 ≤ p.rfac.val
  rfac1 : p.rfac.val ≤ 1
  smax10 : 10 ≤ p.smax.val
  thres0 : 0 ≤ p.thres.val

/-- the soil-evaporation limit `10 ⊗ s ⊘ smax`, as computed, does not exceed the store `s` it is taken from. Exact arithmetic:
`smax ≥ 10`. binary64: true for `smax ≥ 10·(1 + 2⁻⁵¹)`, FALSE for some `s` at `smax = 10` exactly. -/
def EtOk (p : Params (RNum R)) : Prop :=
  ∀ s : RNum R, 0 ≤ s.val → s.val ≤ p.smax.val → ((10 : RNum R) * s / p.smax).val ≤ s.val

/-- stores within bounds (as `RR.Surm.Inv` at ℝ) -/
def SurmInv (p : Params (RNum R)) (s : State (RNum R)) : Prop := 0 ≤ s.sms.val ∧ s.sms.val ≤ p.smax.val ∧ 0 ≤ s.gw.val

/-- **SURM, one step under rounding** (parallels `RR.Surm.step_spec`, inequality clauses), from any state with a non-negative soil
store (the upper bound and the groundwater sign are re-established by the step's own clips): soil store ≤ smax, groundwater ≥ 0 and
the signs of runoff, quickflow, baseflow and evaporation need no assumption on how products and quotients round; only the lower bound
`0 ≤ soil store`, and with it the sign of the reported total store, needs `EtOk`. -/
theorem surm_step (p : Params (RNum R)) (hp : SurmParamsOk p) (st : State (RNum R)) (x : RNum R × RNum R)
    (hs0 : 0 ≤ st.sms.val) (hr : 0 ≤ x.1.val) :
    ((Surm.step p st x).1.sms.val ≤ p.smax.val ∧ 0 ≤ (Surm.step p st x).1.gw.val) ∧
    0 ≤ (Surm.step p st x).2.runoff.val ∧ 0 ≤ (Surm.step p st x).2.quickflow.val ∧
    0 ≤ (Surm.step p st x).2.baseflow.val ∧ 0 ≤ (Surm.step p st x).2.et.val ∧
    (EtOk p → 0 ≤ (Surm.step p st x).1.sms.val ∧ 0 ≤ (Surm.step p st x).2.store.val) := by
  obtain ⟨rain, pet⟩ := x
  generalize hstep : Surm.step p st (rain, pet) = r
  unfold Surm.step at hstep
  extract_lets fperv fieldCapacity rainThisTS petThisTS imperviousRunoff quickflow0 maxInfiltration infiltration
    infiltrationExcess sms1 saturationExcess sms2 perviousQuickflow quickflow et sms3 recharge gw1 sms4 seep gw2 baseflow0
    gw3 baseflow runoff totalStore at hstep
  subst hstep
  have hsmax : 0 ≤ p.smax.val := le_trans (by norm_num) hp.smax10
  have hfperv : 0 ≤ fperv.val := RNum.one_sub_nonneg_of_le_one hp.fimp1
  have hinf0 : 0 ≤ infiltration.val := RNum.gmin_nonneg (RNum.mul_nonneg hp.coeff0 RNum.exp_nonneg) hr
  have hsms1 : 0 ≤ sms1.val := RNum.add_nonneg hs0 hinf0
  have hsms2 : 0 ≤ sms2.val ∧ sms2.val ≤ p.smax.val := by
    by_cases h : p.smax < sms1
    · simp only [sms2, if_pos h]; exact ⟨hsmax, le_refl _⟩
    · simp only [sms2, if_neg h]; exact ⟨hsms1, not_lt.mp h⟩
  have het0 : 0 ≤ et.val := RNum.gmax_nonneg_right RNum.sci_nonneg
  have hsms3 : sms3.val ≤ p.smax.val := (RNum.sub_le_self het0).trans hsms2.2
  have hm0 : 0 ≤ (Num.gmax (sms3 - fieldCapacity) (0.0 : RNum R)).val := RNum.gmax_nonneg_right RNum.sci_nonneg
  have hrech0 : 0 ≤ recharge.val := RNum.mul_nonneg hp.rfac0 hm0
  have hgw3 : 0 ≤ gw3.val := RNum.gmax_nonneg_right RNum.sci_nonneg
  have hq : 0 ≤ quickflow.val :=
    RNum.add_nonneg (RNum.add_nonneg RNum.sci_nonneg (RNum.mul_nonneg (RNum.gmax_nonneg_right RNum.sci_nonneg) hp.fimp0))
      (RNum.add_nonneg (RNum.mul_nonneg hfperv (RNum.sub_nonneg RNum.gmin_le_right))
        (RNum.mul_nonneg (RNum.gmax_nonneg_right RNum.sci_nonneg) hfperv))
  have hb : 0 ≤ baseflow.val := RNum.mul_nonneg (RNum.mul_nonneg hp.bfac0 (RNum.gmax_nonneg_right RNum.sci_nonneg)) hfperv
  refine ⟨⟨(RNum.sub_le_self hrech0).trans hsms3, hgw3⟩, RNum.add_nonneg hq hb, hq, hb, het0, fun het => ?_⟩
  have het1 : et.val ≤ sms2.val :=
    RNum.gmax_le (RNum.gmin_le_left.trans (het sms2 hsms2.1 hsms2.2)) (RNum.sci_zero_val.trans_le hsms2.1)
  have hsms3' : 0 ≤ sms3.val := RNum.sub_nonneg het1
  have hm : (Num.gmax (sms3 - fieldCapacity) (0.0 : RNum R)).val ≤ sms3.val :=
    RNum.gmax_le (RNum.sub_le_self (RNum.mul_nonneg hp.fc0 hsmax)) (RNum.sci_zero_val.trans_le hsms3')
  have hsms4 : 0 ≤ sms4.val := RNum.sub_nonneg ((RNum.mul_le_of_le_one_left hm0 hp.rfac1).trans hm)
  exact ⟨hsms4, RNum.add_nonneg hsms4 hgw3⟩

/-- **surm_invariant under rounding** (parallels `OW.Props.C10.surm_invariant`): parameters in range, rain ≥ 0, initial stores
within bounds, and the evaporation limit well-behaved (`EtOk`): after every run `0 ≤ soil store ≤ smax`, groundwater ≥ 0, and every
output (runoff, quickflow, baseflow, reported store, evaporation) is non-negative — for every rounding. -/
theorem surm_invariant (p : Params (RNum R)) (hp : SurmParamsOk p) (het : EtOk p) (s : State (RNum R)) (hs : SurmInv p s)
    (xs : List (RNum R × RNum R)) (hx : ∀ x ∈ xs, 0 ≤ x.1.val) :
    SurmInv p (Surm.run p s xs).1 ∧
    ∀ o ∈ (Surm.run p s xs).2, 0 ≤ o.runoff.val ∧ 0 ≤ o.quickflow.val ∧ 0 ≤ o.baseflow.val ∧ 0 ≤ o.store.val ∧ 0 ≤ o.et.val :=
  scan_inv (fun s x hs hx => by
      obtain ⟨⟨u1, u2⟩, a, b, c, d, l⟩ := surm_step p hp s x hs.1 hx
      exact ⟨⟨(l het).1, u1, u2⟩, a, b, c, (l het).2, d⟩) hs hx

/-- `smax ≥ 10`, the hypothesis of the ℝ theorem, gives `EtOk` over the identity rounding -/
theorem etOk_exact (p : Params (RNum Rounding.exact)) (h10 : 10 ≤ p.smax.val) : EtOk p := by
  intro s hs0 _
  show ((10 : ℕ) : ℝ) * s.val / p.smax.val ≤ s.val
  rw [Nat.cast_ofNat]
  exact RR.Surm.ten_mul_div_le hs0 h10

/-- parameters in range (as `RR.Simhyd.ParamsOk` at ℝ) -/
structure SimhydParamsOk (p : Simhyd.Params (RNum R)) : Prop where
  bfc0 : 0 ≤ p.baseflowCoefficient.val
  bfc1 : p.baseflowCoefficient.val ≤ 1
  imp0 : 0 ≤ p.imperviousThreshold.val
  inf0 : 0 ≤ p.infiltrationCoefficient.val
  int0 : 0 ≤ p.interflowCoefficient.val
  int1 : p.interflowCoefficient.val ≤ 1
  pf0 : 0 ≤ p.perviousFraction.val
  pf1 : p.perviousFraction.val ≤ 1
  risc0 : 0 ≤ p.risc.val
  rch0 : 0 ≤ p.rechargeCoefficient.val
  rch1 : p.rechargeCoefficient.val ≤ 1
  smsc0 : 0 < p.smsc.val

/-- the spill test `sms ⊘ smsc > 1` of the code detects every store above capacity: a computed ratio `≤ 1` means `sms ≤ smsc`.
Exact arithmetic: trivially true. binary64 round-to-nearest: true (two distinct floats `a > b > 0` have `a/b ≥ 1 + 2⁻⁵³·(1+…)`,
which does not round to 1). Round-toward-zero / truncating grids: FALSE (`fl(a/b) = 1` for the float `a` just above `b`), and
then the soil store can stay one ulp above its capacity. -/
def SimhydDivOk (p : Simhyd.Params (RNum R)) : Prop :=
  ∀ a : RNum R, (a / p.smsc).val ≤ 1 → a.val ≤ p.smsc.val

/-- stores within bounds (as `RR.Simhyd.Inv` at ℝ) -/
def SimhydInv (p : Simhyd.Params (RNum R)) (s : Simhyd.State (RNum R)) : Prop :=
  0 ≤ s.sms.val ∧ s.sms.val ≤ p.smsc.val ∧ 0 ≤ s.gw.val

/-- **SIMHYD, one step under rounding** (parallels `RR.Simhyd.step_spec`, inequality clauses): parameters in range, `1`
representable, the spill test sound (`SimhydDivOk`), rain, PET ≥ 0 and stores within bounds ⇒ the stores stay within bounds
(`0 ≤ soil store ≤ capacity`, groundwater ≥ 0) and runoff, quickflow, baseflow, the reported store and the (ghost)
evapotranspiration are non-negative, the reported store ≤ capacity. -/
theorem simhyd_step (p : Simhyd.Params (RNum R)) (hp : SimhydParamsOk p) (h1 : R.Rep 1) (hdiv : SimhydDivOk p)
    (st : Simhyd.State (RNum R)) (x : RNum R × RNum R) (hs : SimhydInv p st) (hx : 0 ≤ x.1.val ∧ 0 ≤ x.2.val) :
    SimhydInv p (Simhyd.step p st x).1 ∧
    0 ≤ (Simhyd.step p st x).2.runoff.val ∧ 0 ≤ (Simhyd.step p st x).2.quickflow.val ∧
    0 ≤ (Simhyd.step p st x).2.baseflow.val ∧ 0 ≤ (Simhyd.step p st x).2.store.val ∧
    (Simhyd.step p st x).2.store.val ≤ p.smsc.val ∧ 0 ≤ (Simhyd.step p st x).2.aet.val := by
  obtain ⟨rain, pet⟩ := x
  obtain ⟨hs0, hs1, hg0⟩ := hs
  obtain ⟨hr, hpet⟩ := hx
  have hone : (1 : RNum R).val = 1 := RNum.one_lit_val h1
  generalize hstep : Simhyd.step p st (rain, pet) = r
  unfold Simhyd.step at hstep
  extract_lets rainToday petToday incident imperviousEt imperviousRunoff interceptionEt throughfall smf0 infiltrationCapacity
    infiltration infiltrationXsRunoff interflowRunoff infiltrationAfterInterflow recharge soilInput sms1 smf1 gw1 gw2 sms2 smf2
    baseflowRunoff gw3 soilEt sms3 totalStore eventRunoff totalRunoff at hstep
  subst hstep
  have hie0 : 0 ≤ imperviousEt.val := RNum.gmin_nonneg hp.imp0 hr
  have hir : 0 ≤ imperviousRunoff.val := RNum.sub_nonneg RNum.gmin_le_right
  have hic0 : 0 ≤ interceptionEt.val := RNum.gmin_nonneg hr (RNum.gmin_nonneg hpet hp.risc0)
  have hic2 : interceptionEt.val ≤ pet.val := RNum.gmin_le_right.trans RNum.gmin_le_left
  have hthr : 0 ≤ throughfall.val := RNum.sub_nonneg RNum.gmin_le_left
  have hf0 : 0 ≤ smf0.val := RNum.div_nonneg hs0 hp.smsc0.le
  have hf1 : smf0.val ≤ 1 := RNum.div_le_one hp.smsc0 hs1 h1
  have hinf0 : 0 ≤ infiltration.val := RNum.gmin_nonneg hthr (RNum.mul_nonneg hp.inf0 RNum.exp_nonneg)
  have hxs : 0 ≤ infiltrationXsRunoff.val := RNum.sub_nonneg RNum.gmin_le_left
  have hint0 : 0 ≤ interflowRunoff.val := RNum.mul_nonneg (RNum.mul_nonneg hp.int0 hf0) hinf0
  have hint1 : interflowRunoff.val ≤ infiltration.val :=
    RNum.mul_le_of_le_one_left hinf0 (RNum.mul_le_one hp.int1 hf0 hf1 h1)
  have hia : 0 ≤ infiltrationAfterInterflow.val := RNum.sub_nonneg hint1
  have hrec0 : 0 ≤ recharge.val := RNum.mul_nonneg (RNum.mul_nonneg hp.rch0 hf0) hia
  have hrec1 : recharge.val ≤ infiltrationAfterInterflow.val :=
    RNum.mul_le_of_le_one_left hia (RNum.mul_le_one hp.rch1 hf0 hf1 h1)
  have hsms1 : 0 ≤ sms1.val := RNum.add_nonneg hs0 (RNum.sub_nonneg hrec1)
  have hgw1 : 0 ≤ gw1.val := RNum.add_nonneg hg0 hrec0
  obtain ⟨⟨h20, h21⟩, hgw2, hsmf2⟩ : (0 ≤ sms2.val ∧ sms2.val ≤ p.smsc.val) ∧ 0 ≤ gw2.val ∧ 0 ≤ smf2.val := by
    by_cases hsp : (1 : RNum R) < smf1
    · simp only [sms2, gw2, smf2, if_pos hsp]
      -- a store within capacity would give a computed ratio `≤ 1`
      have hgt : p.smsc.val < sms1.val :=
        not_le.mp fun hle => (hone.symm.trans_lt hsp).not_ge (RNum.div_le_one hp.smsc0 hle h1)
      exact ⟨⟨hp.smsc0.le, le_refl _⟩, RNum.add_nonneg hgw1 (RNum.sub_nonneg hgt.le), hone.symm ▸ zero_le_one⟩
    · simp only [sms2, gw2, smf2, if_neg hsp]
      rw [RNum.lt_iff, hone, not_lt] at hsp
      exact ⟨⟨hsms1, hdiv sms1 hsp⟩, hgw1, RNum.div_nonneg hsms1 hp.smsc0.le⟩
  have hbf0 : 0 ≤ baseflowRunoff.val := RNum.mul_nonneg hp.bfc0 hgw2
  have hgw3 : 0 ≤ gw3.val := RNum.sub_nonneg (RNum.mul_le_of_le_one_left hgw2 hp.bfc1)
  have hset0 : 0 ≤ soilEt.val :=
    RNum.gmin_nonneg h20 (RNum.gmin_nonneg (RNum.sub_nonneg hic2) (RNum.mul_nonneg hsmf2 RNum.sci_nonneg))
  have hsms3 : 0 ≤ sms3.val := RNum.sub_nonneg RNum.gmin_le_left
  have hsms3' : sms3.val ≤ p.smsc.val := (RNum.sub_le_self hset0).trans h21
  have h1pf : 0 ≤ ((1 : RNum R) - p.perviousFraction).val := RNum.one_sub_nonneg_of_le_one hp.pf1
  have hev : 0 ≤ eventRunoff.val :=
    RNum.add_nonneg (RNum.mul_nonneg h1pf hir) (RNum.mul_nonneg hp.pf0 (RNum.add_nonneg hxs hint0))
  exact ⟨⟨hsms3, hsms3', hgw3⟩, RNum.add_nonneg hev (RNum.mul_nonneg hp.pf0 hbf0), hev, RNum.mul_nonneg hbf0 hp.pf0,
    hsms3, hsms3', RNum.add_nonneg (RNum.mul_nonneg h1pf hie0) (RNum.mul_nonneg hp.pf0 (RNum.add_nonneg hic0 hset0))⟩

/-- **simhyd_invariant under rounding** (parallels `OW.Props.C10.simhyd_invariant`): along every run the stores stay within
bounds and every output is non-negative, the reported store ≤ capacity. -/
theorem simhyd_invariant (p : Simhyd.Params (RNum R)) (hp : SimhydParamsOk p) (h1 : R.Rep 1) (hdiv : SimhydDivOk p)
    (s : Simhyd.State (RNum R)) (hs : SimhydInv p s) (xs : List (RNum R × RNum R)) (hx : ∀ x ∈ xs, 0 ≤ x.1.val ∧ 0 ≤ x.2.val) :
    SimhydInv p (Simhyd.run p s xs).1 ∧
    ∀ o ∈ (Simhyd.run p s xs).2, 0 ≤ o.runoff.val ∧ 0 ≤ o.quickflow.val ∧ 0 ≤ o.baseflow.val ∧ 0 ≤ o.store.val ∧
      o.store.val ≤ p.smsc.val ∧ 0 ≤ o.aet.val :=
  scan_inv (simhyd_step p hp h1 hdiv) hs hx

/-- `SimhydDivOk` holds whenever rounding never lowers a positive value (`x ≤ rnd x` for `x > 0`): exact arithmetic, rounding
away from zero -/
theorem simhydDivOk_of_le_rnd (p : Simhyd.Params (RNum R)) (hpos : 0 < p.smsc.val) (hup : ∀ x : ℝ, x ≤ R.rnd x ∨ x ≤ 0) :
    SimhydDivOk p := by
  intro a ha
  rw [RNum.div_val] at ha
  rcases hup (a.val / p.smsc.val) with h | h
  · exact (div_le_one hpos).mp (h.trans ha)
  · exact ((div_le_iff₀ hpos).mp h).trans (by rw [zero_mul]; exact hpos.le)

example : List.Forall₂ (fun r q => 0 ≤ r.val → 0 ≤ q.val ∧ q.val ≤ r.val) [t10 7, t10 0] (Coeff.run (t10 1) [t10 7, t10 0]) :=
  coeff_bounds (t10 1) (by rw [t10_val]; norm_num) (by rw [t10_val]; norm_num) _

/-- the exact rounding satisfies the hypotheses `Rep 1` and `SimhydDivOk` of the SIMHYD theorems -/
example (p : Simhyd.Params (RNum Rounding.exact)) (hpos : 0 < p.smsc.val) : Rounding.exact.Rep 1 ∧ SimhydDivOk p :=
  ⟨rfl, simhydDivOk_of_le_rnd p hpos (fun x => Or.inl (le_refl x))⟩

/-- truncation toward zero satisfies `EtOk` for every `smax ≥ 10` (each rounding step only lowers the non-negative value):
the hypotheses of `surm_invariant` are satisfiable under a non-trivial rounding -/
theorem etOk_trunc (s : ℕ) (hs : 0 < s) (p : Params (RNum (Rounding.trunc s hs))) (h10 : 10 ≤ p.smax.val) : EtOk p := by
  intro x hx0 _
  have hpos : 0 ≤ p.smax.val := le_trans (by norm_num) h10
  have h10r : (Rounding.trunc s hs).Rep 10 := by exact_mod_cast Rounding.trunc_rep_int s hs 10
  have hm : 0 ≤ 10 * x.val := mul_nonneg (by norm_num) hx0
  rw [RNum.div_val, RNum.mul_val, RNum.lit_val h10r]
  exact (Rounding.trunc_le s hs (div_nonneg ((Rounding.trunc s hs).rnd_nonneg hm) hpos)).trans
    ((div_le_div_of_nonneg_right (Rounding.trunc_le s hs hm) hpos).trans (RR.Surm.ten_mul_div_le hx0 h10))

/-- the hypotheses of `surm_invariant` are met on the truncating grid: integer parameters in range (smax = 150), the model's own
empty initial state, a wet day and a dry day -/
example : ∃ p : Surm.Params (RNum T10), SurmParamsOk p ∧ EtOk p ∧ SurmInv p ⟨t10 0, t10 0, t10 0⟩ ∧
    SurmInv p (Surm.run p ⟨t10 0, t10 0, t10 0⟩ [(t10 10, t10 2), (t10 0, t10 3)]).1 := by
  let p : Surm.Params (RNum T10) := ⟨t10 0, t10 100, t10 0, t10 0, t10 0, t10 1, t10 150, t10 3, t10 2⟩
  have hp : SurmParamsOk p := by constructor <;> simp only [p, t10_val] <;> norm_num
  have het : EtOk p := etOk_trunc 10 (by norm_num) _ (by simp only [p, t10_val]; norm_num)
  have hi : SurmInv p ⟨t10 0, t10 0, t10 0⟩ := by refine ⟨?_, ?_, ?_⟩ <;> simp only [p, t10_val] <;> norm_num
  refine ⟨p, hp, het, hi, (surm_invariant p hp het _ hi _ ?_).1⟩
  intro x hx
  simp only [List.mem_cons, List.not_mem_nil, or_false] at hx
  rcases hx with rfl | rfl <;> (simp only [t10_val]; norm_num)

/-- `SimhydDivOk` holds under a non-trivial rounding: away from zero on the tenths grid -/
example (p : Simhyd.Params (RNum (Rounding.away 10 (by norm_num)))) (hpos : 0 < p.smsc.val) : SimhydDivOk p :=
  simhydDivOk_of_le_rnd p hpos (fun x => by
    rcases le_total 0 x with h | h
    · exact Or.inl (Rounding.le_away 10 (by norm_num) h)
    · exact Or.inr h)

end OW.Props.Rounded.C10
