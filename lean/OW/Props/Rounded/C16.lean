import OW.Proofs.Rounded
import OW.Proofs.Scan
import OW.Kernels.C16.Partitions
import OW.Kernels.C16.Conversions
import OW.Kernels.C16.LoadGen
/-!
C16 under ROUNDED arithmetic — the inequality clauses of the partition / conversion / generation kernels, proved for EVERY
rounding `R : Rounding` (monotone, odd, idempotent, fixing 0; IEEE-754 round-to-nearest without overflow/NaN is one — see
OW/Proofs/Rounded.lean) on the SAME kernel definitions that are proved at ℝ in OW/Props/C16/*.lean and executed at `Float`.

What is NOT restated here because it is false under rounding: the budget identities `output1 + output2 = input`
(FixedPartition, VariablePartition, RatingCurvePartition, PartitionDemand `outflow + extraction = input`) and the exact linear
forms `load = flow·conc·1e-3` (the product is rounded twice and `0.001` is not a binary float).
-/
namespace OW.Props.Rounded.C16
open OW OW.Kernels OW.Rounded

variable {R : Rounding}

/-- **PartitionDemand under rounding**, one timestep (parallels `OW.Props.C16.partitionDemand_spec`): extraction ≤ demand,
extraction ≤ input, outflow ≥ 0 — for every input and demand (zero and negative demand included) — and, when the demand is
not negative, outflow ≤ max(input, 0) (rounding `input - extraction` cannot create water). The clause
`outflow + extraction = input` of the ℝ theorem is not claimed: the subtraction is rounded. -/
theorem partitionDemand_step (inp dmd : RNum R) :
    (PartitionDemand.step (inp, dmd)).2.val ≤ dmd.val ∧ (PartitionDemand.step (inp, dmd)).2.val ≤ inp.val ∧
    0 ≤ (PartitionDemand.step (inp, dmd)).1.val ∧
    (0 ≤ dmd.val → (PartitionDemand.step (inp, dmd)).1.val ≤ max inp.val 0) := by
  simp only [PartitionDemand.step, RNum.gmin_val, RNum.gmax_val, RNum.sub_val, RNum.sci_zero_val]
  refine ⟨min_le_left _ _, min_le_right _ _, le_max_right _ _, fun hd => ?_⟩
  apply max_le _ (le_max_right _ _)
  by_cases hi : 0 ≤ inp.val
  · exact (R.rnd_le inp.rep (sub_le_self _ (le_min hd hi))).trans (le_max_left _ _)
  · rw [min_eq_right (hd.trans' (not_le.mp hi).le), sub_self, R.rnd_zero]; exact le_max_right _ _

/-- PartitionDemand under rounding, whole series -/
theorem partitionDemand_spec (input demand : List (RNum R)) :
    List.Forall₂ (fun (x : RNum R × RNum R) (o : RNum R × RNum R) =>
        o.2.val ≤ x.2.val ∧ o.2.val ≤ x.1.val ∧ 0 ≤ o.1.val ∧ (0 ≤ x.2.val → o.1.val ≤ max x.1.val 0))
      (input.zip demand) (PartitionDemand.run input demand) := by
  unfold PartitionDemand.run
  apply forall₂_map
  rintro ⟨inp, dmd⟩
  exact partitionDemand_step inp dmd

/-- PartitionDemand under rounding: a demand that is met exactly leaves exactly nothing (`a ⊖ a = 0`), and a demand of zero
passes the (non-negative) input through unchanged (`a ⊖ 0 = a` for representable `a`) -/
theorem partitionDemand_exact_ends (inp dmd : RNum R) :
    (dmd.val = inp.val → (PartitionDemand.step (inp, dmd)).1.val = 0) ∧
    (dmd.val = 0 → 0 ≤ inp.val → (PartitionDemand.step (inp, dmd)).1.val = inp.val) := by
  simp only [PartitionDemand.step, RNum.gmin_val, RNum.gmax_val, RNum.sub_val, RNum.sci_zero_val]
  refine ⟨fun h => ?_, fun h hi => ?_⟩
  · rw [h, min_self, sub_self, R.rnd_zero, max_self]
  · rw [h, min_eq_left hi, sub_zero, inp.rep, max_eq_left hi]

/-- one partition step `(x·f, x·(1 - f))`, of which `fixedPartition_bounds` and `variablePartition_bounds` are the series forms:
`f ≤ 1` gives `f ≤ rnd 1` because `f` itself is representable, so `1 ⊖ f ≥ 0` needs no assumption on the literal; only the bound on
the second part needs `1` representable -/
theorem partition_step (x f : RNum R) (hx : 0 ≤ x.val) (hf0 : 0 ≤ f.val) (hf1 : f.val ≤ 1) :
    0 ≤ (x * f).val ∧ 0 ≤ (x * (1 - f)).val ∧ (x * f).val ≤ x.val ∧ (R.Rep 1 → (x * (1 - f)).val ≤ x.val) :=
  ⟨RNum.mul_nonneg hx hf0, RNum.mul_nonneg hx (RNum.one_sub_nonneg_of_le_one hf1), RNum.mul_le_of_le_one hx hf1,
    fun h1 => RNum.mul_le_of_le_one hx ((RNum.sub_le_self hf0).trans_eq (RNum.one_lit_val h1))⟩

/-- **FixedPartition under rounding** (the ℝ theorem `fixedPartition_sum` is an identity and does not survive; these bounds
do): for `0 ≤ fraction ≤ 1`, every non-negative input is split into two non-negative parts, neither larger than the input
(the bound on the second part assumes the literal `1` representable). -/
theorem fixedPartition_bounds (fraction : RNum R) (h0 : 0 ≤ fraction.val) (h1 : fraction.val ≤ 1) (input : List (RNum R)) :
    List.Forall₂ (fun (x : RNum R) (o : RNum R × RNum R) =>
        0 ≤ x.val → 0 ≤ o.1.val ∧ 0 ≤ o.2.val ∧ o.1.val ≤ x.val ∧ (R.Rep 1 → o.2.val ≤ x.val))
      input (FixedPartition.run fraction input) := by
  unfold FixedPartition.run
  apply forall₂_map
  intro x hx
  exact partition_step x fraction hx h0 h1

/-- **VariablePartition under rounding**: as `fixedPartition_bounds`, with a fraction per timestep -/
theorem variablePartition_bounds (input fraction : List (RNum R)) :
    List.Forall₂ (fun (x : RNum R × RNum R) (o : RNum R × RNum R) =>
        0 ≤ x.1.val → 0 ≤ x.2.val → x.2.val ≤ 1 →
          0 ≤ o.1.val ∧ 0 ≤ o.2.val ∧ o.1.val ≤ x.1.val ∧ (R.Rep 1 → o.2.val ≤ x.1.val))
      (input.zip fraction) (VariablePartition.run input fraction) := by
  unfold VariablePartition.run
  apply forall₂_map
  rintro ⟨x, f⟩ hx h0 h1
  exact partition_step x f hx h0 h1

/-- a zero input is split into two zeros whatever the fraction (`0 ⊗ y = 0` exactly) -/
theorem fixedPartition_zero (fraction x : RNum R) (hx : x.val = 0) :
    (FixedPartition.step fraction x).1.val = 0 ∧ (FixedPartition.step fraction x).2.val = 0 := by
  simp only [FixedPartition.step]
  exact ⟨RNum.zero_mul_val hx, RNum.zero_mul_val hx⟩

/-- **ApplyScalingFactor / DeliveryRatio under rounding** (parallels `applyScaling_linear`, whose exact product form is
rounded here): zero input ⇒ zero output; non-negative input and scale ⇒ non-negative output; a scale ≤ 1 (a delivery ratio)
never increases a non-negative load. The early return for `scale == 0` is covered. -/
theorem applyScaling_bounds (scale : RNum R) (input : List (RNum R)) :
    List.Forall₂ (fun (x o : RNum R) =>
        (x.val = 0 → o.val = 0) ∧ (0 ≤ scale.val → 0 ≤ x.val → 0 ≤ o.val) ∧
        (0 ≤ scale.val → scale.val ≤ 1 → 0 ≤ x.val → o.val ≤ x.val))
      input (Scaling.run scale input) := by
  unfold Scaling.run
  split_ifs with h
  · exact forall₂_replicate (fun x => ⟨fun _ => rfl, fun _ _ => le_refl _, fun _ _ hx => hx⟩) rfl
  · apply forall₂_map
    intro x
    exact ⟨fun hx => RNum.zero_mul_val hx, fun hs hx => RNum.mul_nonneg hx hs,
      fun _ hs1 hx => RNum.mul_le_of_le_one hx hs1⟩

/-- **DepthToRate under rounding** (parallels `depthToRate_linear`): with a positive time step and a non-negative area, a
non-negative depth gives a non-negative rate and a zero depth a zero rate -/
theorem depthToRate_bounds (deltaT area : RNum R) (hdt : 0 < deltaT.val) (ha : 0 ≤ area.val) (input : List (RNum R)) :
    List.Forall₂ (fun (x o : RNum R) => (x.val = 0 → o.val = 0) ∧ (0 ≤ x.val → 0 ≤ o.val))
      input (DepthToRate.run deltaT area input) := by
  unfold DepthToRate.run
  split_ifs with h
  · exact forall₂_replicate (fun x => ⟨fun _ => rfl, fun _ => le_refl _⟩) rfl
  · apply forall₂_map
    intro x
    refine ⟨fun hx => RNum.zero_mul_val hx, fun hx => RNum.mul_nonneg hx ?_⟩
    unfold DepthToRate.conversion Units.millimetresToMetres
    exact RNum.div_nonneg (RNum.mul_nonneg RNum.sci_nonneg ha) hdt.le

/-- **Sum under rounding**: the output is the rounded sum; it is non-negative for non-negative inputs, not below either
non-negative input, and equal to the other input when one input is zero -/
theorem sum_bounds (i1 i2 : List (RNum R)) :
    List.Forall₂ (fun (x : RNum R × RNum R) (o : RNum R) =>
        o.val = R.rnd (x.1.val + x.2.val) ∧ (0 ≤ x.1.val → 0 ≤ x.2.val → 0 ≤ o.val ∧ x.1.val ≤ o.val ∧ x.2.val ≤ o.val) ∧
        (x.2.val = 0 → o.val = x.1.val) ∧ (x.1.val = 0 → o.val = x.2.val))
      (i1.zip i2) (Sum.run i1 i2) := by
  unfold Sum.run
  apply forall₂_map
  rintro ⟨a, b⟩
  simp only [Sum.step]
  exact ⟨rfl, fun ha hb => ⟨RNum.add_nonneg ha hb, RNum.le_add_right hb, RNum.le_add_left ha⟩, fun h => RNum.add_zero_val h,
    fun h => RNum.zero_add_val h⟩

/-- **Gate under rounding** (parallels `gate_is_mask`; the kernel does no arithmetic, so the ℝ statement carries over
verbatim): the output is the input where the trigger is positive and 0 elsewhere -/
theorem gate_is_mask (trigger incoming : List (RNum R)) :
    List.Forall₂ (fun (x : RNum R × RNum R) (o : RNum R) => o.val = if 0 < x.1.val then x.2.val else 0)
      (trigger.zip incoming) (Gate.run trigger incoming) := by
  unfold Gate.run
  apply forall₂_map
  rintro ⟨t, i⟩
  simp only [Gate.step, RNum.gt_iff, RNum.nat_zero_val]
  split_ifs
  · rfl
  · exact RNum.sci_zero_val

/-- **ComputeProportion under rounding**: with `0 ≤ numerator ≤ denominator` and a non-zero denominator the proportion lies
in `[0, 1]` (`1` representable); with a zero denominator the configured result is returned untouched -/
theorem computeProportion_bounds (r : RNum R) (numerator denominator : List (RNum R)) :
    List.Forall₂ (fun (x : RNum R × RNum R) (o : RNum R) =>
        (x.2.val = 0 → o = r) ∧
        (x.2.val ≠ 0 → 0 ≤ x.1.val → x.1.val ≤ x.2.val → 0 ≤ o.val ∧ (R.Rep 1 → o.val ≤ 1)))
      (numerator.zip denominator) (ComputeProportion.run r numerator denominator) := by
  unfold ComputeProportion.run
  apply forall₂_map
  rintro ⟨n, d⟩
  simp only [ComputeProportion.step]
  refine ⟨fun h => ?_, fun hne hn hnd => ?_⟩
  · rw [if_pos (by rw [RNum.feq_iff, RNum.sci_zero_val]; exact h)]
  · rw [if_neg (by rw [RNum.feq_iff, RNum.sci_zero_val]; exact hne)]
    have hd : 0 < d.val := lt_of_le_of_ne (hn.trans hnd) (Ne.symm hne)
    exact ⟨RNum.div_nonneg hn hd.le, fun h1 => RNum.div_le_one hd hnd h1⟩

/-- the load `flow ⊗ conc ⊗ 0.001` of EmcDwc, FixedConcentration and the particulate slow load is zero for zero flow, exactly -/
theorem load_zero {f c : RNum R} (h : f.val = 0) : (f * c * Units.mgPerLitreToKgPerM3).val = 0 :=
  RNum.zero_mul_val (RNum.zero_mul_val h)
/-- … and non-negative for non-negative flow and concentration -/
theorem load_nonneg {f c : RNum R} (hf : 0 ≤ f.val) (hc : 0 ≤ c.val) : 0 ≤ (f * c * Units.mgPerLitreToKgPerM3).val :=
  RNum.mul_nonneg (RNum.mul_nonneg hf hc) RNum.sci_nonneg

/-- **EmcDwc under rounding** (parallels `emcDwc_zero_nonneg`), every timestep, early return included: zero flow ⇒ zero load;
non-negative flows and concentrations ⇒ non-negative quick, slow and total loads, and the total is not below either part. -/
theorem emcDwc_zero_nonneg (emc dwc : RNum R) (qf sf : List (RNum R)) (hlen : qf.length = sf.length) :
    List.Forall₂ (fun (x : RNum R × RNum R) (o : EmcDwc.Out (RNum R)) =>
        (x.1.val = 0 → o.quickLoad.val = 0) ∧ (x.2.val = 0 → o.slowLoad.val = 0) ∧
        (x.1.val = 0 → x.2.val = 0 → o.totalLoad.val = 0) ∧
        (0 ≤ emc.val → 0 ≤ dwc.val → 0 ≤ x.1.val → 0 ≤ x.2.val →
          0 ≤ o.quickLoad.val ∧ 0 ≤ o.slowLoad.val ∧ 0 ≤ o.totalLoad.val ∧
          o.quickLoad.val ≤ o.totalLoad.val ∧ o.slowLoad.val ≤ o.totalLoad.val))
      (qf.zip sf) (EmcDwc.run emc dwc qf sf) := by
  unfold EmcDwc.run
  split_ifs with h
  · refine forall₂_replicate (fun x => ?_) (by simp [hlen])
    exact ⟨fun _ => rfl, fun _ => rfl, fun _ _ => rfl, fun _ _ _ _ => ⟨le_refl _, le_refl _, le_refl _, le_refl _, le_refl _⟩⟩
  · apply forall₂_map
    rintro ⟨q, s⟩
    simp only [EmcDwc.step]
    refine ⟨load_zero, load_zero, fun h1 h2 => RNum.add_eq_zero (load_zero h1) (load_zero h2), fun he hd hq hs => ?_⟩
    have a := load_nonneg hq he
    have b := load_nonneg hs hd
    exact ⟨a, b, RNum.add_nonneg a b, RNum.le_add_right b, RNum.le_add_left a⟩

/-- **FixedConcentration under rounding** (parallels `fixedConcentration_zero_nonneg`) -/
theorem fixedConcentration_zero_nonneg (conc : RNum R) (flow : List (RNum R)) :
    List.Forall₂ (fun (f l : RNum R) => (f.val = 0 → l.val = 0) ∧ (0 ≤ conc.val → 0 ≤ f.val → 0 ≤ l.val))
      flow (FixedConcentration.run conc flow) := by
  unfold FixedConcentration.run
  split_ifs with h
  · exact forall₂_replicate (fun x => ⟨fun _ => rfl, fun _ _ => le_refl _⟩) rfl
  · apply forall₂_map
    intro f
    exact ⟨load_zero, fun hc hf => load_nonneg hf hc⟩

/-- **PassLoadIfFlow under rounding** (parallels `passLoadIfFlow_zero_nonneg`): no flow (`flow ≤ 0`, in particular zero) ⇒ zero
load; non-negative load and factor ⇒ non-negative output; a factor ≤ 1 never increases the load -/
theorem passLoadIfFlow_zero_nonneg (sf : RNum R) (flow load : List (RNum R)) (hlen : flow.length = load.length) :
    List.Forall₂ (fun (x : RNum R × RNum R) (o : RNum R) =>
        (x.1.val ≤ 0 → o.val = 0) ∧ (0 ≤ sf.val → 0 ≤ x.2.val → 0 ≤ o.val) ∧
        (0 ≤ sf.val → sf.val ≤ 1 → 0 ≤ x.2.val → o.val ≤ x.2.val))
      (flow.zip load) (PassLoadIfFlow.run sf flow load) := by
  unfold PassLoadIfFlow.run
  split_ifs with h
  · exact forall₂_replicate (fun x => ⟨fun _ => rfl, fun _ _ => le_refl _, fun _ _ hx => hx⟩) (by simp [hlen])
  · apply forall₂_map
    rintro ⟨f, l⟩
    simp only [PassLoadIfFlow.step, RNum.gt_iff]
    have hez : 0 ≤ (PassLoadIfFlow.effectivelyZero : RNum R).val := RNum.sci_nonneg
    refine ⟨fun hf => ?_, fun hs hl => ?_, fun _ hs1 hl => ?_⟩
    · rw [if_neg (not_lt.mpr (hf.trans hez)), RNum.sci_zero_val]
    · split_ifs
      · exact RNum.mul_nonneg hl hs
      · rw [RNum.sci_zero_val]
    · split_ifs
      · exact RNum.mul_le_of_le_one hl hs1
      · rw [RNum.sci_zero_val]; exact hl

/-- **SednetDissolvedNutrientGeneration under rounding** (parallels `dissolvedNutrients_zero_nonneg`): zero flow ⇒ zero load;
non-negative drivers ⇒ non-negative loads (seven rounded operations per load, every one sign-preserving) -/
theorem dissolvedNutrients_zero_nonneg (emc dwc : RNum R) (qf sf : List (RNum R)) :
    List.Forall₂ (fun (x : RNum R × RNum R) (o : DissolvedNutrients.Out (RNum R)) =>
        (x.1.val = 0 → o.quick.val = 0) ∧ (x.2.val = 0 → o.slow.val = 0) ∧
        (0 ≤ emc.val → 0 ≤ dwc.val → 0 ≤ x.1.val → 0 ≤ x.2.val → 0 ≤ o.quick.val ∧ 0 ≤ o.slow.val ∧ 0 ≤ o.total.val))
      (qf.zip sf) (DissolvedNutrients.run emc dwc qf sf) := by
  unfold DissolvedNutrients.run
  apply forall₂_map
  rintro ⟨q, s⟩
  have hl : 0 ≤ (DissolvedNutrients.cumecsToLpd : RNum R).val := RNum.ofNat_nonneg
  have hm : 0 ≤ (Units.milligramToKg : RNum R).val := RNum.sci_nonneg
  have hd : 0 ≤ (Units.secondsPerDay : RNum R).val := RNum.ofNat_nonneg
  simp only [DissolvedNutrients.step]
  refine ⟨fun h => ?_, fun h => ?_, fun he hw hq hs => ?_⟩
  · exact RNum.zero_div_val (RNum.zero_mul_val (RNum.mul_zero_val (RNum.zero_mul_val h)))
  · exact RNum.zero_div_val (RNum.zero_mul_val (RNum.mul_zero_val (RNum.zero_mul_val h)))
  · have a := RNum.mul_nonneg (RNum.mul_nonneg he (RNum.mul_nonneg hq hl)) hm
    have b := RNum.mul_nonneg (RNum.mul_nonneg hw (RNum.mul_nonneg hs hl)) hm
    exact ⟨RNum.div_nonneg a hd, RNum.div_nonneg b hd, RNum.div_nonneg (RNum.add_nonneg a b) hd⟩

/-- **SednetParticulateNutrientGeneration under rounding** (parallels `particulateNutrients_zero_nonneg`): non-negative inputs
and parameters ⇒ non-negative hillslope, gully, quick, slow and total loads; zero slowflow ⇒ zero slow load; zero supplied
sediment (all four sediment inputs zero) ⇒ zero particulate load -/
theorem particulateNutrients_zero_nonneg (p : ParticulateNutrients.Params (RNum R)) (a b c d e : List (RNum R)) :
    List.Forall₂ (fun (x : RNum R × RNum R × RNum R × RNum R × RNum R) (o : ParticulateNutrients.Out (RNum R)) =>
        (x.2.2.2.2.val = 0 → o.slow.val = 0) ∧
        (x.1.val = 0 → x.2.1.val = 0 → x.2.2.1.val = 0 → x.2.2.2.1.val = 0 →
          o.hillslope.val = 0 ∧ o.gully.val = 0 ∧ o.quick.val = 0) ∧
        (0 ≤ p.nutSurfSoilConc.val → 0 ≤ p.nutrientEnrichmentRatio.val → 0 ≤ p.hillDeliveryRatio.val →
         0 ≤ p.nutSubSoilConc.val → 0 ≤ p.nutrientEnrichmentRatioGully.val → 0 ≤ p.gullyDeliveryRatio.val →
         0 ≤ p.nutrientDWC.val →
         0 ≤ x.1.val → 0 ≤ x.2.1.val → 0 ≤ x.2.2.1.val → 0 ≤ x.2.2.2.1.val → 0 ≤ x.2.2.2.2.val →
         0 ≤ o.hillslope.val ∧ 0 ≤ o.gully.val ∧ 0 ≤ o.quick.val ∧ 0 ≤ o.slow.val ∧ 0 ≤ o.total.val))
      (zip5 a b c d e) (ParticulateNutrients.run p a b c d e) := by
  unfold ParticulateNutrients.run
  apply forall₂_map
  rintro ⟨fs, cs, fg, cg, sf⟩
  have hp : 0 ≤ (Units.percentToProportion : RNum R).val := RNum.sci_nonneg
  simp only [ParticulateNutrients.step, ite_self]
  refine ⟨load_zero, fun h1 h2 h3 h4 => ?_, ?_⟩
  · have e1 := RNum.zero_mul_val (b := p.hillDeliveryRatio * Units.percentToProportion) (RNum.zero_mul_val
      (b := p.nutrientEnrichmentRatio) (RNum.zero_mul_val (b := p.nutSurfSoilConc) (RNum.add_eq_zero h1 h2)))
    have e2 := RNum.zero_mul_val (b := p.gullyDeliveryRatio * Units.percentToProportion) (RNum.zero_mul_val
      (b := p.nutrientEnrichmentRatioGully) (RNum.zero_mul_val (b := p.nutSubSoilConc) (RNum.add_eq_zero h3 h4)))
    exact ⟨e1, e2, RNum.add_eq_zero e1 e2⟩
  · intro k1 k2 k3 k4 k5 k6 k7 i1 i2 i3 i4 i5
    have e1 := RNum.mul_nonneg (RNum.mul_nonneg (RNum.mul_nonneg (RNum.add_nonneg i1 i2) k1) k2) (RNum.mul_nonneg k3 hp)
    have e2 := RNum.mul_nonneg (RNum.mul_nonneg (RNum.mul_nonneg (RNum.add_nonneg i3 i4) k4) k5) (RNum.mul_nonneg k6 hp)
    have e4 := load_nonneg i5 k7
    exact ⟨e1, e2, RNum.add_nonneg e1 e2, e4, RNum.add_nonneg (RNum.add_nonneg e1 e2) e4⟩

example : (PartitionDemand.step (t10 5, t10 2)).2.val ≤ 2 ∧ 0 ≤ (PartitionDemand.step (t10 5, t10 2)).1.val ∧
    (PartitionDemand.step (t10 5, t10 2)).1.val ≤ max 5 0 := by
  have h := partitionDemand_step (t10 5) (t10 2)
  simp only [t10, RNum.ofRep_val, Int.cast_ofNat] at h
  exact ⟨h.1, h.2.2.1, h.2.2.2 (by norm_num)⟩
/-- the hypotheses of `partition_step` are satisfiable on the grid (x = 7, f = 1) and over the exact rounding -/
example : 0 ≤ (t10 7 * t10 1).val ∧ (t10 7 * t10 1).val ≤ 7 := by
  have h := partition_step (t10 7) (t10 1) (by simp only [t10, RNum.ofRep_val]; norm_num)
    (by simp only [t10, RNum.ofRep_val]; norm_num) (by simp only [t10, RNum.ofRep_val]; norm_num)
  simp only [t10, RNum.ofRep_val, Int.cast_ofNat] at h ⊢
  exact ⟨h.1, h.2.2.1⟩
/-- at the identity rounding `Rep 1` holds, so the bound on the second part is unconditional there -/
example (x f : RNum Rounding.exact) (hx : 0 ≤ x.val) (h0 : 0 ≤ f.val) (h1 : f.val ≤ 1) : (x * (1 - f)).val ≤ x.val :=
  (partition_step x f hx h0 h1).2.2.2 rfl

end OW.Props.Rounded.C16
