import OW.Proofs.Rounded
import OW.Proofs.StorageScanM
/-!
C13 under ROUNDED arithmetic — "volume never becomes negative" and "spill only occurs above the full-supply volume", for every
rounding `R : Rounding`, on the Storage kernel of OW/Kernels/Storage.lean.

The volume is protected by an explicit test (`if volume < 0 { panic }`) and the spilled volume by a clamp
(`max(min(excess, volume − fullSupply), 0)`), so both clauses are independent of how the sub-step arithmetic rounds:
whenever the run returns, every reported volume and the final volume are non-negative (for a non-negative initial volume and
full-supply volume), the spilled volume of a sub-step is non-negative, leaves a volume between 0 and the updated volume, and is
non-zero only when the updated volume exceeds the full-supply volume. (`spilled ≤ updated volume` holds too, inside the proof of
`spill_spec`, but is not among its conclusions; under rounding it does not follow from `0 ≤ v ⊖ spilled`.)

Not restated (exact-arithmetic only): the water balance of each timestep, release between the release curves, termination/fuel
bounds, "the spill never takes the volume below full supply" (after rounding `v ⊖ (v ⊖ full)` may be one ulp below `full`).
-/
namespace OW.Props.Rounded.C13
open OW OW.Kernels OW.Kernels.Storage OW.Rounded

variable {R : Rounding}

/-- **spill block under rounding** (parallels `OW.Proofs.Storage.spill_spec` / `OW.Props.C13.substep_spill_only_above_full`): for a
non-negative updated volume `v` and full-supply volume, the spilled volume is non-negative, the volume after spilling is
non-negative and not above `v`, and the spilled volume is non-zero (and the spill branch taken) only above full supply. -/
theorem spill_spec (t : Tables (RNum R)) (v q sub : RNum R) (hv : 0 ≤ v.val) (hfull : 0 ≤ t.volCurveMax.val) :
    0 ≤ (spill t v q sub).1.val ∧ 0 ≤ (spill t v q sub).2.1.val ∧ (spill t v q sub).2.1.val ≤ v.val ∧
    ((spill t v q sub).1.val ≠ 0 → t.volCurveMax.val < v.val) ∧
    ((spill t v q sub).2.2 = true → t.volCurveMax.val < v.val) := by
  unfold spill
  split_ifs with h
  · extract_lets overTopRatio excessOutflow excessOutflowVolume0 excessOutflowVolume
    have h0 : 0 ≤ excessOutflowVolume.val := RNum.gmax_nonneg_right RNum.ofNat_nonneg
    have h1 : excessOutflowVolume.val ≤ v.val :=
      RNum.gmax_le (RNum.gmin_le_right.trans (RNum.sub_le_self hfull)) (RNum.nat_zero_val.trans_le hv)
    exact ⟨h0, RNum.sub_nonneg h1, RNum.sub_le_self h0, fun _ => h, fun _ => h⟩
  · exact ⟨le_refl _, hv, le_refl _, fun hne => absurd rfl hne, fun hf => hf.elim⟩

/-- the body panics on a negative updated volume, and the spill keeps it non-negative -/
theorem outerBody_volume {t : Tables (RNum R)} {keep : Bool} {fi : Nat} {inflow demand rps pps netFlux : RNum R}
    {s s' : Loop (RNum R)} (hfull : 0 ≤ t.volCurveMax.val)
    (h : outerBody t keep fi inflow demand rps pps netFlux s = .ok s') : 0 ≤ s'.volume.val := by
  unfold outerBody at h
  obtain ⟨est, -, h⟩ := Except.bind_eq_ok.mp h
  obtain ⟨area, -, h⟩ := Except.bind_eq_ok.mp h
  obtain ⟨a, -, h⟩ := Except.bind_eq_ok.mp h
  obtain ⟨hv, h⟩ := Except.ite_error_eq_ok.mp h
  cases h
  rw [RNum.lt_iff, RNum.nat_zero_val, not_lt] at hv
  exact (spill_spec t _ a.avgOutflow a.sub hv hfull).2.1

/-- **volume_nonneg, one timestep, under rounding** (parallels `OW.Props.C13.step_volume_nonneg`) -/
theorem step_volume_nonneg (t : Tables (RNum R)) (keep : Bool) (fo fi : Nat) (deltaT volume : RNum R) (tags : List String)
    (i : StepIn (RNum R)) (v' : RNum R) (tg : List String) (o : StepOut (RNum R))
    (hfull : 0 ≤ t.volCurveMax.val) (hv : 0 ≤ volume.val)
    (h : step t keep fo fi deltaT volume tags i = .ok (v', tg, o)) : 0 ≤ v'.val ∧ 0 ≤ o.volume.val := by
  obtain ⟨rainfall, pet, inflow, demand⟩ := i
  obtain ⟨r, hr, h⟩ := Except.bind_eq_ok.mp h
  cases h
  have := (outer_keeps (P := fun s => 0 ≤ s.volume.val) (fun _ _ _ _ hB => outerBody_volume hfull hB) fo _ r hr hv).1
  exact ⟨this, this⟩

/-- **volume_nonneg under rounding** (parallels `OW.Props.C13.volume_nonneg`): starting from a non-negative volume, with a
non-negative full-supply volume, every reported volume and the final volume of every run that returns are non-negative —
for every rounding, every table, every input series (any sign), every fuel. -/
theorem volume_nonneg (t : Tables (RNum R)) (keep : Bool) (fo fi : Nat) (deltaT v0 : RNum R) (ins : List (StepIn (RNum R)))
    (r : RunOut (RNum R)) (hfull : 0 ≤ t.volCurveMax.val) (hv : 0 ≤ v0.val)
    (h : Storage.run t keep fo fi deltaT v0 ins = .ok r) : 0 ≤ r.volume.val ∧ ∀ o ∈ r.outs, 0 ≤ o.volume.val := by
  obtain ⟨⟨v, tg, os⟩, hS, h⟩ := Except.bind_eq_ok.mp h
  obtain ⟨level, -, h⟩ := Except.bind_eq_ok.mp h
  obtain ⟨area, -, h⟩ := Except.bind_eq_ok.mp h
  cases h
  -- the timesteps are a `scanM` on (volume, tags)
  have hstep : ∀ (s s₁ : RNum R × List String) i o, 0 ≤ s.1.val → stepM t keep fo fi deltaT s i = .ok (s₁, o) →
      0 ≤ s₁.1.val ∧ 0 ≤ o.volume.val :=
    fun s s₁ i o hs h1 => step_volume_nonneg t keep fo fi deltaT s.1 s.2 i s₁.1 s₁.2 o hfull hs (stepM_ok h1)
  exact scanM_run (Inv := fun s : RNum R × List String => 0 ≤ s.1.val) (Ok := fun _ => True)
    (M := fun _ _ _ os => ∀ o ∈ os, 0 ≤ o.volume.val)
    (fun s i s₁ o hs _ h1 => (hstep s s₁ i o hs h1).1) (fun _ _ ho => nomatch ho)
    (fun s i s₁ o _ _ _ hs _ h1 ih => List.forall_mem_cons.mpr ⟨(hstep s s₁ i o hs h1).2, ih⟩)
    ins (v0, []) _ hv (fun _ _ => trivial) (steps_ok hS)

/-- a spill on the grid: updated volume 12 above full supply 10 — the hypotheses of `spill_spec` are satisfiable and the
spill branch is taken -/
example : ∃ t : Tables (RNum T10), 0 ≤ t.volCurveMax.val ∧ t.volCurveMax.val < (t10 12).val ∧
    0 ≤ (spill t (t10 12) (t10 0) (t10 1)).2.1.val :=
  ⟨⟨[], [], [], [], [], t10 0, t10 10, t10 5⟩, by simp only [t10_val]; norm_num, by simp only [t10_val]; norm_num,
    (spill_spec _ _ _ _ (by rw [t10_val]; norm_num) (by simp only [t10_val]; norm_num)).2.1⟩
/-- an empty input series returns at once: `volume_nonneg` is about runs that exist -/
example (t : Tables (RNum Rounding.exact)) (dt v0 : RNum Rounding.exact) :
    steps t false 10 10 dt v0 [] [] = .ok (v0, [], []) := rfl

end OW.Props.Rounded.C13
