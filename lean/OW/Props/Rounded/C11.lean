import OW.Proofs.RoundedRouting
import OW.Proofs.Scan
/-!
C11 under ROUNDED arithmetic — "StorageRouting never returns negative outflow or storage", for every rounding `R : Rounding`.

Every exit of `calcOutflow` reports an outflow that is `0`, `max(0, newStorage − S(q)) ⊘ Δt` or `max(0, …)`, so with `Δt > 0` the
outflow is non-negative whatever the solver did and however its arithmetic rounded (no assumption on the routing parameters, the
root finder, or the inputs). The reported storage is `max(…, 0)` on the zero-outflow and full-drain exits and the index storage
`S(q)` on the others; `S(q) ≥ 0` is a fact about the parameters, proved here for the zero-bias set-up (`|bias| < 0.001`, `k ≥ 0`,
dead storage ≥ 0), where `S(q) = k ⊗ q^m ⊖ 0 ⊕ dead`.

All theorems REQUIRE `Δt > 0`: the division of `RNum` is total (`x ⊘ 0 = 0`, as in `ℝ`), so at `Δt = 0` the statements would hold through
that convention, whereas the Go code computes `max(0, …)/0 = +Inf` or `0/0 = NaN` (and then panics "outflow is nan"); the helper lemmas
of OW/Proofs/RoundedRouting.lean ask for `0 ≤ Δt` only (at `Δt = 0` they hold through that convention) and are used here at `0 < Δt`.

Not restated (exact-arithmetic only): the water balance of each step, `S = k·Q^m + dead` to the solver tolerance, Muskingum's
weights summing to one (the ℝ theorems claim no sign for Muskingum). `Lag` does no arithmetic: OW/Props/C11.lean proves its
theorems (`lag_spec_outflow` …) for the generic list model, they hold verbatim for `RNum R` (and for `Float`).
-/
namespace OW.Props.Rounded.C11
open OW OW.Kernels OW.Kernels.StorageRouting OW.Rounded.Routing

variable {R : Rounding}

/-- **calcOutflow under rounding**: on every exit path the outflow is non-negative (only `Δt > 0` is needed — a real divisor), and the storage is
non-negative provided the index storage `S(q)` is — `Good c r` is `0 ≤ r.outflow ∧ ((∀ q, 0 ≤ S(q)) → 0 ≤ r.storage)`, where
`OW.Props.C11.calcOutflow_nonneg`, which this parallels, has `∀ q, 0 ≤ S(q)` as a hypothesis and the conjunction as conclusion. -/
theorem calcOutflow_nonneg (inflow lateral bias prevQi po prevStorage ner area dead dur rp rc ql kl ko : RNum R)
    (r : CO (RNum R)) (hd : 0 < dur.val)
    (h : calcOutflow inflow lateral bias prevQi po prevStorage ner area dead dur rp rc ql kl ko = .ok r) :
    Good (mkCtx inflow lateral bias prevStorage ner area dead dur rp rc ql kl ko) r := by
  unfold calcOutflow at h
  simp -zeta only [runRouting_ok, RNum.isNaN_eq, Bool.or_self, Bool.false_eq_true, if_false] at h
  extract_lets c minQI mx at h
  split_ifs at h
  · cases h; exact ⟨RNum.sci_nonneg, fun _ => RNum.gmax_nonneg_right RNum.sci_nonneg⟩
  · cases h; exact good_rr hd.le
  · cases h; exact ⟨RNum.sci_nonneg, fun _ => RNum.gmax_nonneg_right RNum.sci_nonneg⟩
  · exact solve_good _ _ _ _ r hd.le h

/-- one step, whatever the state (after a panic it reports zeros): the outflow is non-negative, and so is the storage when the index
storage `S(q)` is in every context the step can hand to `calcOutflow` — the contexts of a run differ in inflow, lateral flow,
previous storage and evaporation rate, which `S` does not read -/
theorem step_good (su : Setup (RNum R)) (k area dead dt : RNum R) (hdt : 0 < dt.val) (st : Except String (St (RNum R)))
    (i : RNum R × RNum R × RNum R × RNum R) :
    0 ≤ (StorageRouting.step su k area dead dt st i).2.outflow.val ∧
    ((∀ inflow lateral prevStorage ner q,
        0 ≤ (sIndex (mkCtx inflow lateral su.bias prevStorage ner area dead dt su.x k su.qlimit su.klimit su.koffset) q).val) →
      0 ≤ (StorageRouting.step su k area dead dt st i).2.storage.val) := by
  obtain ⟨a, b, c, d⟩ := i
  cases st with
  | error e => exact ⟨le_refl _, fun _ => le_refl _⟩
  | ok s0 =>
    simp only [StorageRouting.step]
    split
    · exact ⟨le_refl _, fun _ => le_refl _⟩
    · rename_i r hr
      have hg := calcOutflow_nonneg _ _ _ _ _ _ _ _ _ _ _ _ _ _ _ r hdt hr
      exact ⟨hg.1, fun hS => hg.2 (hS _ _ _ _)⟩

/-- **StorageRouting never returns a negative outflow, under every rounding**: for every parameter set with `Δt > 0`, every
initial storage and every input series (any sign), every outflow of every run is non-negative; a step after a panic reports zeros.
(Parallels the outflow half of `OW.Props.C11.calcOutflow_nonneg` / `run_balance`.) -/
theorem run_outflow_nonneg (bias k x area dead dt s : RNum R) (hdt : 0 < dt.val) (xs : List (RNum R × RNum R × RNum R × RNum R)) :
    ∀ o ∈ (StorageRouting.run bias k x area dead dt s xs).2, 0 ≤ o.outflow.val :=
  scan_out fun st i => (step_good _ k area dead dt hdt st i).1

/-- **StorageRouting with zero inflow bias never returns a negative storage, under every rounding**: `|bias| < 0.001`, `k ≥ 0`,
dead storage ≥ 0, `Δt > 0` ⇒ every reported storage of every run is non-negative (any inputs, any initial storage). -/
theorem run_storage_nonneg_zero_bias (bias k x area dead dt s : RNum R) (hb : Num.abs bias < (0.001 : RNum R))
    (hk : 0 ≤ k.val) (hdead : 0 ≤ dead.val) (hdt : 0 < dt.val) (xs : List (RNum R × RNum R × RNum R × RNum R)) :
    ∀ o ∈ (StorageRouting.run bias k x area dead dt s xs).2, 0 ≤ o.storage.val := by
  -- the zero-bias set-up of `storageRouting`: `Klimit = k`, `Koffset = 0`
  unfold StorageRouting.run setup
  rw [if_pos hb]
  refine scan_out fun st i => (step_good _ k area dead dt hdt st i).2 ?_
  exact fun _ _ _ _ => sIndex_nonneg_zero_offset _ hk hk hdead RNum.sci_zero_val

/-- the theorems speak about real runs: over the exact rounding a one-step run has exactly one output, and it is covered -/
example (bias k x area dead dt s : RNum Rounding.exact) (hdt : 0 < dt.val) (i : RNum Rounding.exact × RNum Rounding.exact × RNum Rounding.exact × RNum Rounding.exact) :
    ∃ o, (StorageRouting.run bias k x area dead dt s [i]).2 = [o] ∧ 0 ≤ o.outflow.val := by
  refine ⟨_, rfl, run_outflow_nonneg bias k x area dead dt s hdt [i] _ ?_⟩
  simp [StorageRouting.run, scan]

/-- the zero-bias hypothesis `|bias| < 0.001` is satisfiable (bias = 0, exact rounding) and the storage theorem then applies -/
example (k x area dead dt s : RNum Rounding.exact) (hk : 0 ≤ k.val) (hdead : 0 ≤ dead.val) (hdt : 0 < dt.val)
    (i : RNum Rounding.exact × RNum Rounding.exact × RNum Rounding.exact × RNum Rounding.exact) :
    ∀ o ∈ (StorageRouting.run (RNum.ofRep 0 Rounding.exact.rep_zero) k x area dead dt s [i]).2, 0 ≤ o.storage.val :=
  run_storage_nonneg_zero_bias _ k x area dead dt s (by
    rw [RNum.lt_iff, RNum.abs_val, RNum.ofRep_val, RNum.ofScientific_val]
    show |(0 : ℝ)| < OfScientific.ofScientific 1 true 3
    norm_num) hk hdead hdt [i]

end OW.Props.Rounded.C11
