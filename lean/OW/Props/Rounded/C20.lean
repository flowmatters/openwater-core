import OW.Proofs.RoundedClimate
/-!
C20 under ROUNDED arithmetic — the order clauses of the derived climate variables, for every rounding `R : Rounding`.

* The wet-bulb bisection starts at the dew point with width `dry − dew` and only ever moves its left end by ADDING a width of the
  same sign: under every rounding the wet bulb is on the dry-bulb side of the dew point (`dew ≤ dry ⇒ dew ≤ wet`;
  `dry ≤ dew ⇒ wet ≤ dew`). This is one half of `OW.Props.C20.wetbulb_between`, for an arbitrary searched function.
* The other half (`wet ≤ dry` when `dew ≤ dry`) is NOT a consequence of monotone rounding: it needs the halving `dx·0.5` and the
  accumulated sums to stay inside the bracket, which an abstract rounding does not give. `bisect_overshoots_away2` exhibits a
  legitimate `Rounding` (half-integers, away from zero) on which the bisection walks past the right end of its bracket because
  `dx·0.5` rounds back up to `dx` and the accuracy exit never fires. For binary64 `dx·0.5` is exact (no underflow: the loop
  exits at `|dx| < 1e-4`) and the bound holds on all generated cases (oracle of check C20); it stays an exact-arithmetic theorem.
* The reported depression `deltaT = dry ⊖ wet` has the sign of `dry − wet` (a rounded difference never changes sign).
* Saturation vapour pressure is non-negative (`101.325 ⊗ 10^…`; strict positivity can be lost to underflow, monotonicity in the
  temperature is a statement about the real functions `pow`/`log10` composed with ten roundings and is not claimed).
-/
namespace OW.Props.Rounded.C20
open OW OW.Kernels.Climate OW.Rounded OW.Rounded.ClimateWalk

variable {R : Rounding}

/-- **left end of the bracket** (the `rtb` end of `OW.Proofs.Climate.bisect_mem_uIcc`): for ANY searched function, level and iteration
count, the result lies on the side of the starting point to which the width points — the loop only ever adds `dx ⊗ 0.5 ⊗ 0.5 …`,
which keeps the sign of `dx` under every rounding. -/
theorem bisect_side (f : RNum R → RNum R) (h : RNum R) (n : Nat) (rtb dx : RNum R) :
    (0 ≤ dx.val → rtb.val ≤ (bisect f h n rtb dx).val) ∧ (dx.val ≤ 0 → (bisect f h n rtb dx).val ≤ rtb.val) := by
  induction n generalizing rtb dx with
  | zero => exact ⟨fun _ => le_refl _, fun _ => le_refl _⟩
  | succ n ih =>
    rw [bisect]
    generalize hdx' : dx * 0.5 = dx'
    generalize hrtb' : (if 0 < h - f (rtb + dx') then rtb + dx' else rtb) = rtb'
    -- the new left end is the old one or the mid-point; the result is the new left end or the result from there
    have hres : ∀ P : RNum R → Prop, P rtb' → P (bisect f h n rtb' dx') →
        P (if Num.abs dx' < acc then rtb' else bisect f h n rtb' dx') := fun P h1 h2 => by split_ifs <;> assumption
    constructor <;> intro hdx
    · have h2 : 0 ≤ dx'.val := hdx' ▸ RNum.mul_nonneg hdx RNum.sci_nonneg
      have hr : rtb.val ≤ rtb'.val := by
        rw [← hrtb']; split_ifs
        exacts [RNum.le_add_right h2, le_refl _]
      exact hres (fun y => rtb.val ≤ y.val) hr (hr.trans ((ih _ _).1 h2))
    · have h2 : dx'.val ≤ 0 := hdx' ▸ R.rnd_nonpos (mul_nonpos_of_nonpos_of_nonneg hdx RNum.sci_nonneg)
      have hr : rtb'.val ≤ rtb.val := by
        rw [← hrtb']; split_ifs
        exacts [R.rnd_le rtb.rep (add_le_of_nonpos_right h2), le_refl _]
      exact hres (fun y => y.val ≤ rtb.val) hr (((ih _ _).2 h2).trans hr)

/-- **wet bulb on the dry-bulb side of the dew point, under every rounding** (one half of `OW.Props.C20.wetbulb_between`): for
any dry bulb, dew point, enthalpy and pressure — any enthalpy / humidity-ratio / vapour-pressure functions and any rounding of
them — `dew ≤ dry ⇒ dew ≤ wet` and `dry ≤ dew ⇒ wet ≤ dew`. -/
theorem wetbulb_side (tDryBulb tDewPoint hEnthalpy pAtmosphere : RNum R) :
    (tDewPoint.val ≤ tDryBulb.val → tDewPoint.val ≤ (wetBulb tDryBulb tDewPoint hEnthalpy pAtmosphere).val) ∧
    (tDryBulb.val ≤ tDewPoint.val → (wetBulb tDryBulb tDewPoint hEnthalpy pAtmosphere).val ≤ tDewPoint.val) := by
  unfold wetBulb
  exact ⟨fun h => (bisect_side _ _ _ _ _).1 (RNum.sub_nonneg h), fun h => (bisect_side _ _ _ _ _).2 (RNum.sub_nonpos h)⟩

/-- the same for the values the kernel reports for one sample, with the sign of the reported depression:
`deltaT = dry ⊖ wet` is non-negative exactly when `wet ≤ dry` can be read off the outputs (parallels `sample_wetbulb_between`,
`deltaT_def`). No `0 < ea` is assumed: when the actual vapour pressure has underflowed to 0, `Climate.dewPoint` is NaN in Go and
`Num.nan = 0` over `RNum`, and the clauses speak of that 0. -/
theorem sample_order (pa t rh : RNum R) :
    ((sample pa t rh).dewPoint.val ≤ t.val → (sample pa t rh).dewPoint.val ≤ (sample pa t rh).wetBulb.val) ∧
    (t.val ≤ (sample pa t rh).dewPoint.val → (sample pa t rh).wetBulb.val ≤ (sample pa t rh).dewPoint.val) ∧
    (sample pa t rh).deltaT.val = R.rnd (t.val - (sample pa t rh).wetBulb.val) ∧
    ((sample pa t rh).wetBulb.val ≤ t.val → 0 ≤ (sample pa t rh).deltaT.val) ∧
    (t.val ≤ (sample pa t rh).wetBulb.val → (sample pa t rh).deltaT.val ≤ 0) ∧
    ((sample pa t rh).deltaT.val < 0 → t.val < (sample pa t rh).wetBulb.val) := by
  have hw := wetbulb_side t (dewPoint t rh) (enthalpy t (humidityRatioActual t rh pa)) pa
  refine ⟨hw.1, hw.2, rfl, fun h => RNum.sub_nonneg h, fun h => RNum.sub_nonpos h, fun h => ?_⟩
  by_contra hc
  exact absurd (RNum.sub_nonneg (not_lt.mp hc)) (not_le.mpr h)

/-- **saturation vapour pressure is non-negative under every rounding** (parallels `OW.Props.C20.vp_pos`, weakened from `<` to `≤`:
the product can underflow to 0). Needs only that the literals `101.325` and `10` are non-negative after rounding. -/
theorem vp_nonneg (t : RNum R) : 0 ≤ (vaporPressure t).val := by
  unfold vaporPressure
  simp only
  split_ifs <;> exact RNum.mul_nonneg RNum.sci_nonneg (RNum.pow_nonneg RNum.ofNat_nonneg)

/-- **the bisection can leave its bracket under a legitimate rounding**: on the half-integer grid with rounding away from zero, the
40-iteration wet-bulb bisection started at 0 with width 1 (bracket `[0, 1]`) returns 20. -/
theorem bisect_overshoots_away2 : (bisect fLow (g 2) 40 (g 0) (g 2)).val = 20 := by
  rw [a2_walk 40 0 2 (Or.inr rfl), g_val]; norm_num

/-- the side theorem on a concrete bracket of the truncating grid: dew point 2 ≤ dry bulb 9 ⇒ 2 ≤ wet bulb -/
example (hE pa : RNum T10) : (2 : ℝ) ≤ (wetBulb (t10 9) (t10 2) hE pa).val := by
  have h := (wetbulb_side (t10 9) (t10 2) hE pa).1 (by simp only [t10_val]; norm_num)
  simpa only [t10_val, Int.cast_ofNat] using h

end OW.Props.Rounded.C20
