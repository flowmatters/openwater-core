import OW.Proofs.RoundedSediment
import OW.Proofs.Scan
/-!
C16 under ROUNDED arithmetic, sediment generation — "every generated load is non-negative when its drivers are", for every
rounding `R : Rounding`, on the BankErosion, DynamicSednetGully(Alt) and USLEFineSedimentGeneration kernels (parallels
`bankErosion_nonneg`, `bankErosion_series_nonneg`, `gully_nonneg`, `usle_nonneg` of OW/Props/C16/{Sediment,Usle}.lean).
`math.Pow` / `math.Cos` are idealised as correctly rounded; only `x^y ≥ 0 for x ≥ 0` is used.
The ℝ theorems assume a POSITIVE time step (and, for the gully models, area); the sign theorems here ask for `0 ≤` only, and at a
zero divisor they hold through `x ⊘ 0 = 0` (the total division of `RNum`, as of `ℝ`), where Go computes `x/0 = +Inf` or `0/0 = NaN`.

The fine/coarse split computes the coarse share as `1 − fineFraction` with `fineFraction = percent ⊗ 0.01` (BankErosion) or
`percent ⊘ 100` (gully). The quotient form is `≤ 1` after rounding for every rounding (`100` representable). The product form
needs `percent ⊗ 0.01 ≤ 1` AS COMPUTED: `0.01` is not a binary float (binary64 rounds it UP), so `100 × fl(0.01) > 1` in exact
arithmetic and the bound holds in binary64 only because that product rounds back to exactly `1.0`; under a rounding that rounds
it up the coarse load for `soilPercentFine = 100` would be negative. The theorem carries that condition as a hypothesis.
The identities (fine + coarse = total, delivered = generated × ratio, fine-fraction split) are exact-arithmetic only.
-/
namespace OW.Props.Rounded.C16
open OW OW.Kernels OW.Rounded.Sediment

variable {R : Rounding}

/-- **BankErosion under rounding, one timestep** (parallels `bankErosion_nonneg`): non-negative mean annual erosion and time
step, `0 ≤ soilPercentFine` and the computed fine fraction `soilPercentFine ⊗ 0.01 ≤ 1` ⇒ fine and coarse loads are non-negative. (`≤ 1` holds in binary64 for every `soilPercentFine ≤ 100` because `fl(100 × fl(0.01)) = 1.0` and the
product is monotone; it is a hypothesis here because it is not a consequence of monotone rounding.) -/
theorem bankErosion_nonneg (p : BankErosion.Params (RNum R)) (ma : RNum R) (hma : 0 ≤ ma.val)
    (hpf0 : 0 ≤ p.soilPercentFine.val) (hfrac : (p.soilPercentFine * Units.percentToProportion).val ≤ 1)
    (hdt : 0 ≤ p.durationInSeconds.val) (x : RNum R × RNum R) :
    0 ≤ (BankErosion.step p ma x).1.val ∧ 0 ≤ (BankErosion.step p ma x).2.val := by
  obtain ⟨outflow, tv⟩ := x
  have ht : 0 ≤ (BankErosion.totalKgPerSecond p ma (outflow, tv)).val := by
    simp only [BankErosion.totalKgPerSecond]
    exact RNum.div_nonneg (RNum.mul_nonneg (RNum.div_nonneg (RNum.mul_nonneg hma (bank_ldf_nonneg p hdt outflow tv))
      RNum.sci_nonneg) RNum.ofNat_nonneg) hdt
  simp only [BankErosion.step]
  exact ⟨RNum.mul_nonneg ht (RNum.mul_nonneg hpf0 RNum.sci_nonneg),
    RNum.mul_nonneg ht (RNum.one_sub_nonneg_of_le_one hfrac)⟩

/-- **BankErosion under rounding, whole series** (parallels `bankErosion_series_nonneg`) -/
theorem bankErosion_series_nonneg (p : BankErosion.Params (RNum R)) (q v : List (RNum R)) (h100 : R.Rep 100)
    (h1 : p.riparianVegPercent.val ≤ 100) (h2 : 0 ≤ p.soilErodibility.val) (h3 : 0 ≤ p.bankErosionCoeff.val)
    (h4 : 0 ≤ p.linkSlope.val) (h5 : 0 ≤ p.bankFullFlow.val) (h6 : 0 ≤ p.bankMgtFactor.val) (h7 : 0 ≤ p.sedBulkDensity.val)
    (h8 : 0 ≤ p.bankHeight.val) (h9 : 0 ≤ p.linkLength.val)
    (hpf0 : 0 ≤ p.soilPercentFine.val) (hfrac : (p.soilPercentFine * Units.percentToProportion).val ≤ 1)
    (hdt : 0 ≤ p.durationInSeconds.val) :
    List.Forall₂ (fun (_ : RNum R × RNum R) (o : RNum R × RNum R) => 0 ≤ o.1.val ∧ 0 ≤ o.2.val)
      (q.zip v) (BankErosion.run p q v) := by
  unfold BankErosion.run
  apply forall₂_map
  intro x
  exact bankErosion_nonneg p _ (bank_meanAnnual_nonneg p h100 h1 h2 h3 h4 h5 h6 h7 h8 h9) hpf0 hfrac hdt x

/-- zero driver ⇒ zero load, exactly (parallels `bankErosion_zero_driver`): no outflow, no volume or no long-term flow, for a
positive time step (the total is `0 ⊘ Δt`; for `Δt = 0` IEEE-754 gives NaN — the `RNum` quotient by 0 follows the ℝ convention,
so the hypothesis is what keeps the statement honest) -/
theorem bankErosion_zero_driver (p : BankErosion.Params (RNum R)) (ma outflow tv : RNum R)
    (hdt : 0 < p.durationInSeconds.val)
    (h : outflow.val ≤ 0 ∨ tv.val ≤ 0 ∨ p.longTermAvDailyFlow.val ≤ 0) :
    (BankErosion.step p ma (outflow, tv)).1.val = 0 ∧ (BankErosion.step p ma (outflow, tv)).2.val = 0 := by
  have _hne : p.durationInSeconds.val ≠ 0 := ne_of_gt hdt   -- the divisor of `0 ⊘ Δt`
  have hl : (BankErosion.linkDischargeFactor p outflow tv).val = 0 := by
    unfold BankErosion.linkDischargeFactor
    rw [if_pos]
    · exact RNum.nat_zero_val
    · simp only [Bool.or_eq_true, decide_eq_true_eq, RNum.le_iff, RNum.nat_zero_val]; tauto
  have ht : (BankErosion.totalKgPerSecond p ma (outflow, tv)).val = 0 := by
    simp only [BankErosion.totalKgPerSecond]
    exact RNum.zero_div_val (RNum.zero_mul_val (RNum.zero_div_val (RNum.mul_zero_val hl)))
  simp only [BankErosion.step]
  exact ⟨RNum.zero_mul_val ht, RNum.zero_mul_val ht⟩

/-- **Gully models under rounding, one timestep** (parallels `gully_nonneg`): time step, area ≥ 0, `0 ≤ percentFine ≤ 100`
(`100` representable), non-negative activity factor, management factor, supply and delivery ratios, non-negative runoff, annual
runoff and annual load ⇒ delivered and generated fine and coarse loads are non-negative, for both export functions. -/
theorem gully_nonneg (alt : Bool) (p : SednetGully.Params (RNum R)) (h100 : R.Rep 100)
    (hts : 0 ≤ p.timestepInSeconds.val) (harea : 0 ≤ p.area.val)
    (hpf0 : 0 ≤ p.percentFine.val) (hpf1 : p.percentFine.val ≤ 100) (haf : 0 ≤ p.averageGullyActivityFactor.val)
    (hmpf : 0 ≤ p.managementPracticeFactor.val) (hsup : 0 ≤ p.annualAverageSedimentSupply.val)
    (hsf : 0 ≤ p.sdrFine.val) (hsc : 0 ≤ p.sdrCoarse.val)
    (q yr ar al : RNum R) (hq : 0 ≤ q.val) (har : 0 ≤ ar.val) (hal : 0 ≤ al.val) :
    let o := SednetGully.step (if alt then SednetGully.gullyLoadDerm else SednetGully.gullyLoadOrig) p (q, yr, ar, al)
    0 ≤ o.fineLoad.val ∧ 0 ≤ o.coarseLoad.val ∧ 0 ≤ o.generatedFine.val ∧ 0 ≤ o.generatedCoarse.val := by
  have hprop0 : 0 ≤ (p.percentFine / 100).val := RNum.div_nonneg hpf0 RNum.ofNat_nonneg
  have hprop1 := percent_le_rnd_one p.percentFine h100 hpf1
  have hact : 0 ≤ (SednetGully.activityFactor p yr).val := by
    unfold SednetGully.activityFactor; split_ifs
    exacts [haf, RNum.sci_nonneg]
  dsimp only
  generalize hr : SednetGully.step _ p (q, yr, ar, al) = r
  unfold SednetGully.step at hr
  dsimp -zeta only at hr
  extract_lets propFine act loads fine coarse at hr
  have hloads : 0 ≤ loads.1.val ∧ 0 ≤ loads.2.val := by
    cases alt
    · exact gullyLoadOrig_nonneg q ar p.area _ _ _ al p.annualAverageSedimentSupply p.longtermRunoffFactor
        p.dailyRunoffPowerFactor hq hprop0 hprop1 hact hmpf hsup
    · exact gullyLoadDerm_nonneg q ar p.area _ _ _ al p.annualAverageSedimentSupply p.longtermRunoffFactor
        p.dailyRunoffPowerFactor hq har harea hprop0 hprop1 hact hmpf hal
  have hfine : 0 ≤ fine.val := RNum.div_nonneg hloads.1 hts
  have hcoarse : 0 ≤ coarse.val := RNum.div_nonneg hloads.2 hts
  split_ifs at hr <;> subst hr
  · exact ⟨RNum.ofNat_nonneg, RNum.ofNat_nonneg, le_refl _, le_refl _⟩
  · exact ⟨RNum.ofNat_nonneg, RNum.ofNat_nonneg, le_refl _, le_refl _⟩
  · exact ⟨RNum.mul_nonneg hfine (RNum.mul_nonneg hsf RNum.sci_nonneg),
      RNum.mul_nonneg hcoarse (RNum.mul_nonneg hsc RNum.sci_nonneg), hfine, hcoarse⟩

/-- **Gully models under rounding, whole series** (parallels `gully_series_nonneg`) -/
theorem gully_series_nonneg (alt : Bool) (p : SednetGully.Params (RNum R)) (h100 : R.Rep 100)
    (hts : 0 ≤ p.timestepInSeconds.val) (harea : 0 ≤ p.area.val)
    (hpf0 : 0 ≤ p.percentFine.val) (hpf1 : p.percentFine.val ≤ 100) (haf : 0 ≤ p.averageGullyActivityFactor.val)
    (hmpf : 0 ≤ p.managementPracticeFactor.val) (hsup : 0 ≤ p.annualAverageSedimentSupply.val)
    (hsf : 0 ≤ p.sdrFine.val) (hsc : 0 ≤ p.sdrCoarse.val) (q yr ar al : List (RNum R)) :
    List.Forall₂ (fun (x : RNum R × RNum R × RNum R × RNum R) (o : SednetGully.Out (RNum R)) =>
        0 ≤ x.1.val → 0 ≤ x.2.2.1.val → 0 ≤ x.2.2.2.val →
        0 ≤ o.fineLoad.val ∧ 0 ≤ o.coarseLoad.val ∧ 0 ≤ o.generatedFine.val ∧ 0 ≤ o.generatedCoarse.val)
      (zip4 q yr ar al)
      (SednetGully.run (if alt then SednetGully.gullyLoadDerm else SednetGully.gullyLoadOrig) p q yr ar al) := by
  unfold SednetGully.run
  apply forall₂_map
  rintro ⟨a, b, c, d⟩ h1 h2 h3
  exact gully_nonneg alt p h100 hts harea hpf0 hpf1 haf hmpf hsup hsf hsc a b c d h1 h2 h3

/-- **USLE under rounding, one timestep** (parallels `usle_nonneg`): for non-negative baseflow, KLSC values with
`KLSC_Fine ≤ KLSC`, non-negative area, maxConc, delivery ratios, DWC and time step, all eight outputs are non-negative —
whatever the sign of the erosivity `R` (on an event day `R ⊗ KLSC > 0` forces `R > 0`; the coarse rate `R⊗KLSC ⊖ R⊗KLSC_Fine` is
non-negative because the two products are rounded monotonically). -/
theorem usle_nonneg (p : UsleFine.Params (RNum R)) (i : UsleFine.In (RNum R))
    (hts : 0 ≤ p.timeStepInSeconds.val) (harea : 0 ≤ p.area.val) (hmax : 0 ≤ p.maxConc.val) (hdwc : 0 ≤ p.dwc.val)
    (hhf : 0 ≤ p.usleHSDRFine.val) (hhc : 0 ≤ p.usleHSDRCoarse.val)
    (hsf : 0 ≤ i.sf.val) (hk : 0 ≤ i.klsc.val) (hkf0 : 0 ≤ i.klscFine.val) (hkf1 : i.klscFine.val ≤ i.klsc.val) :
    0 ≤ (UsleFine.step p i).quickLoadFine.val ∧ 0 ≤ (UsleFine.step p i).slowLoadFine.val ∧
    0 ≤ (UsleFine.step p i).quickLoadCoarse.val ∧ 0 ≤ (UsleFine.step p i).slowLoadCoarse.val ∧
    0 ≤ (UsleFine.step p i).totalFineLoad.val ∧ 0 ≤ (UsleFine.step p i).totalCoarseLoad.val ∧
    0 ≤ (UsleFine.step p i).generatedLoadFine.val ∧ 0 ≤ (UsleFine.step p i).generatedLoadCoarse.val := by
  generalize hstep : UsleFine.step p i = o
  unfold UsleFine.step at hstep
  extract_lets loadS useAvModel theKLSCval theKLSCClayval r total fine coarse rates rateFine rateCoarse loadKgFine loadKgCoarse
    afterHSDRFine afterHSDRCoarse loadQ coarseQuick loadQ0 zero coarseQuick0 at hstep
  have hS : 0 ≤ loadS.val := RNum.mul_nonneg (RNum.mul_nonneg hdwc hsf) RNum.sci_nonneg
  by_cases hc : (decide (i.qf > 0) && decide (total > 0)) = true
  · rw [if_pos hc] at hstep
    subst hstep
    simp only [Bool.and_eq_true, decide_eq_true_eq, RNum.gt_iff, RNum.nat_zero_val] at hc
    obtain ⟨hq, ht⟩ := hc
    have hrpos : 0 < r.val := by
      by_contra hh
      exact absurd ht (not_lt.mpr (R.rnd_nonpos (mul_nonpos_of_nonpos_of_nonneg (not_lt.mp hh) hk)))
    have hF : 0 ≤ fine.val := RNum.mul_nonneg hrpos.le hkf0
    have hC : 0 ≤ coarse.val := RNum.sub_nonneg (RNum.mul_le_mul_left hrpos.le hkf1)
    obtain ⟨a1, a2⟩ : 0 ≤ rateFine.val ∧ 0 ≤ rateCoarse.val := usle_adjustedRates_nonneg p i.qf _ _ hq.le hF hC harea hmax
    have kF : 0 ≤ loadKgFine.val :=
      RNum.mul_nonneg (RNum.mul_nonneg (RNum.mul_nonneg a1 harea) RNum.sci_nonneg) RNum.ofNat_nonneg
    have kC : 0 ≤ loadKgCoarse.val :=
      RNum.mul_nonneg (RNum.mul_nonneg (RNum.mul_nonneg a2 harea) RNum.sci_nonneg) RNum.ofNat_nonneg
    have qF : 0 ≤ loadQ.val := RNum.div_nonneg (RNum.mul_nonneg kF (RNum.mul_nonneg hhf RNum.sci_nonneg)) hts
    have qC : 0 ≤ coarseQuick.val := RNum.div_nonneg (RNum.mul_nonneg kC (RNum.mul_nonneg hhc RNum.sci_nonneg)) hts
    exact ⟨qF, hS, qC, RNum.sci_nonneg, RNum.add_nonneg qF hS, RNum.add_nonneg qC RNum.sci_nonneg,
      RNum.div_nonneg kF hts, RNum.div_nonneg kC hts⟩
  · rw [if_neg hc] at hstep
    subst hstep
    have z0 : 0 ≤ coarseQuick0.val := RNum.div_nonneg RNum.sci_nonneg hts
    exact ⟨RNum.ofNat_nonneg, hS, z0, RNum.sci_nonneg, RNum.add_nonneg RNum.ofNat_nonneg hS, RNum.add_nonneg z0 RNum.sci_nonneg, z0, z0⟩

/-- **USLE under rounding, whole series** (parallels `usle_series_nonneg`) -/
theorem usle_series_nonneg (p : UsleFine.Params (RNum R)) (xs : List (UsleFine.In (RNum R)))
    (hts : 0 ≤ p.timeStepInSeconds.val) (harea : 0 ≤ p.area.val) (hmax : 0 ≤ p.maxConc.val) (hdwc : 0 ≤ p.dwc.val)
    (hhf : 0 ≤ p.usleHSDRFine.val) (hhc : 0 ≤ p.usleHSDRCoarse.val) :
    List.Forall₂ (fun (i : UsleFine.In (RNum R)) (o : UsleFine.Out (RNum R)) =>
        0 ≤ i.sf.val → 0 ≤ i.klsc.val → 0 ≤ i.klscFine.val → i.klscFine.val ≤ i.klsc.val →
        0 ≤ o.quickLoadFine.val ∧ 0 ≤ o.slowLoadFine.val ∧ 0 ≤ o.quickLoadCoarse.val ∧ 0 ≤ o.slowLoadCoarse.val ∧
        0 ≤ o.totalFineLoad.val ∧ 0 ≤ o.totalCoarseLoad.val ∧ 0 ≤ o.generatedLoadFine.val ∧ 0 ≤ o.generatedLoadCoarse.val)
      xs (UsleFine.run p xs) := by
  unfold UsleFine.run
  apply forall₂_map
  intro i h1 h2 h3 h4
  exact usle_nonneg p i hts harea hmax hdwc hhf hhc h1 h2 h3 h4

/-- the hypothesis `soilPercentFine ⊗ 0.01 ≤ 1` of `bankErosion_nonneg` holds in exact arithmetic for every percentage ≤ 100 -/
example (pc : RNum Rounding.exact) (h : pc.val ≤ 100) : (pc * Units.percentToProportion).val ≤ 1 := by
  show pc.val * (OfScientific.ofScientific 1 true 2 : ℝ) ≤ 1
  exact (mul_le_mul_of_nonneg_right h (by norm_num)).trans (by norm_num)
/-- `Rep 100` holds on the truncating grid -/
example : (Rounding.trunc 10 (by norm_num)).Rep 100 := by
  exact_mod_cast Rounding.trunc_rep_int 10 (by norm_num) 100

/-- … and under every truncating grid (each rounding step only lowers the value, and `0.01` is rounded down): the hypothesis of
`bankErosion_nonneg` is satisfiable under a non-trivial rounding -/
example (s : ℕ) (hs : 0 < s) (pc : RNum (Rounding.trunc s hs)) (h0 : 0 ≤ pc.val) (h : pc.val ≤ 100) :
    (pc * Units.percentToProportion).val ≤ 1 := by
  have hlit : (Units.percentToProportion : RNum (Rounding.trunc s hs)).val ≤ 1 / 100 := by
    unfold Units.percentToProportion
    rw [RNum.ofScientific_val]
    refine (Rounding.trunc_le s hs (by norm_num)).trans (le_of_eq (by norm_num))
  rw [RNum.mul_val]
  exact (Rounding.trunc_le s hs (mul_nonneg h0 RNum.sci_nonneg)).trans
    ((mul_le_mul h hlit RNum.sci_nonneg (by norm_num)).trans (by norm_num))

end OW.Props.Rounded.C16
