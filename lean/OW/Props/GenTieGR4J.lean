import OW.Gen.Kernels
import OW.Kernels.GR4J
import OW.Proofs.GenLoops
import OW.Props.GenTieBase
namespace OW.Props.GenTie
open OW OW.Kernels OW.Gen.K OW.Gen.Prelude OW.Proofs.GenLoops

-- which rewrite rules fire depends on how the source is written at the moment
set_option linter.unusedSimpArgs false

/-! ### models/rr/gr4j.go

The tie is proved by NORMALISING the regenerated text: helper functions are unfolded (`gen_unfold`), every loop over a slice
is rewritten by a lemma into the list expression it computes (`forRange_addUH`, `forRange_shift`, `sh_build`, `uh_of_sh`, …),
`len(…)` of such an expression is computed, and the result is compared with the hand-written model. The lemmas are about the
MEANING of a loop form, so the same script goes through when the source moves a loop into a helper function, takes a bound
from `len(xs)` instead of a count that equals it, names a sub-expression, or declares a variable elsewhere. The loop-form lemmas mention
no regenerated name and stand at the end of `OW/Proofs/GenLoops.lean`; here are the literal hypotheses and the two ties,
`gen_eq_GR4J_step` (any ordinate lists of the right lengths) and `gen_eq_GR4J`. -/

/-- the constant expression `4.0/9.0`, folded exactly and rounded once by the Go compiler (printed with the shortest decimal
that round-trips), is the quotient `4 / 9` the hand model computes at run time (the same float64: IEEE division of two
exactly representable numbers is the correctly rounded quotient; `#guard` below. Different reals: at `ℝ` the hypothesis is false and
the tie of `gr4j` says nothing, as with `AnnualToDaily` of GenTie.lean.) -/
def FourNinths (α : Type) [Num α] : Prop := (0.4444444444444444 : α) = 4 / 9

#guard Num.feq (0.4444444444444444 : Float) (4 / 9)

theorem gen_eq_GR4J_step {α} [Num α] (h0 : NatZero α) (h49 : FourNinths α) (s0 r0 x1 x2 x3 x4 : α) (uH1 uH2 : List α)
    (st : GR4J.State α) (n1 n2 : Nat) (hn1 : 0 < n1) (hn2 : 0 < n2) (hq9 : st.q9.length = n1) (hq1 : st.q1.length = n2)
    (hu1 : uH1.length = n1) (hu2 : uH2.length = n2) (rain pet : α) :
    gr4j.step s0 r0 x1 x2 x3 x4 uH1 uH2 st.S st.R n1 n2 st.q1 st.q9 rain pet =
      (let h := GR4J.step x1 x2 x3 uH1 uH2 st (rain, pet)
       ((h.1.S, h.1.R, (n1 : Int), (n2 : Int), h.1.q1, h.1.q9), h.2.runoff)) := by
  unfold NatZero at h0
  unfold FourNinths at h49
  unfold gr4j.step GR4J.step GR4J.production GR4J.capWs GR4J.percolation GR4J.routingOutflow GR4J.addUH GR4J.shift GR4J.head0
  -- the two production branches one at a time: whether the source caps `ws` inside each branch or once after them is then immaterial
  by_cases h1 : pet < rain <;>
    (simp only [gen_unfold, gt_iff_lt, h1, ↓reduceIte, decide_true, decide_false, Bool.false_eq_true, ite_prod, ite_self,
      sliceLen_eq_cast, hq9, hq1, hu1, hu2, forRange_addUH st.q9 uH1 n1 hq9 hu1, forRange_addUH st.q1 uH2 n2 hq1 hu2]
     simp only [forRange_shift, copy_shift, sliceGet_zero_headD (z := (0.0 : α)), List.length_zipWith, hq9, hu1, hq1, hu2, Nat.min_self, hn1, hn2]
     simp only [h0, h49])

/-- `float64(i)` of a non-negative int is the float of the natural number (true at `Float`: `Float.ofInt (Int.ofNat n)` is
`Float.ofNat n` by definition; at `ℝ`: both are the cast) -/
def OfIntNat (α : Type) [Num α] : Prop := ∀ n : Nat, (Num.ofInt (n : Int) : α) = Num.ofNat n

theorem ofIntNat_float : OfIntNat Float := fun _ => rfl

/-- `gr4j` (models/rr/gr4j.go). `n1`, `n2` are the (positive) numbers of ordinates, the two buffers have those lengths (as
`extractGR4JStates` delivers them). Before the loop the code builds the unit-hydrograph ordinates in place (loops over
`SH1/UH1/SH2/UH2`): `pre` = (`GR4J.uh1`, `GR4J.uh2`). One iteration — production store, percolation, the two in-place
convolution loops, the two shift loops, routing store, exchange — is `GR4J.step`; `n1`, `n2` pass through. Variables that
are declared before the loop but assigned in every iteration before they are read (`Ps, Es, Pr, Perc`) are locals of the
regenerated `step`, not state.
Literal identities: `NatZero` (`R = 0`), `FourNinths` (`4.0/9.0` folded by the compiler), `OfIntNat` (`float64(i+1)`). -/
theorem gen_eq_GR4J {α} [Num α] (h0 : NatZero α) (h49 : FourNinths α) (hc : OfIntNat α) (s0 r0 x1 x2 x3 x4 : α)
    (st : GR4J.State α) (n1 n2 : Nat) (hn1 : 0 < n1) (hn2 : 0 < n2) (hq9 : st.q9.length = n1) (hq1 : st.q1.length = n2)
    (rain pet : α) :
    gr4j.guard s0 r0 n1 n2 st.q1 st.q9 x1 x2 x3 x4 = false ∧
    gr4j.pre s0 r0 n1 n2 st.q1 st.q9 x1 x2 x3 x4 = (GR4J.uh1 x4 n1, GR4J.uh2 x4 n2) ∧
    gr4j.init s0 r0 n1 n2 st.q1 st.q9 x1 x2 x3 x4 = (s0, r0, (n1 : Int), (n2 : Int), st.q1, st.q9) ∧
    gr4j.step s0 r0 x1 x2 x3 x4 (GR4J.uh1 x4 n1) (GR4J.uh2 x4 n2) st.S st.R n1 n2 st.q1 st.q9 rain pet =
      (let h := GR4J.step x1 x2 x3 (GR4J.uh1 x4 n1) (GR4J.uh2 x4 n2) st (rain, pet)
       ((h.1.S, h.1.R, (n1 : Int), (n2 : Int), h.1.q1, h.1.q9), h.2.runoff)) := by
  refine ⟨rfl, ?_, rfl, gen_eq_GR4J_step h0 h49 s0 r0 x1 x2 x3 x4 _ _ st n1 n2 hn1 hn2 hq9 hq1 (by simp [GR4J.uh1])
    (by simp [GR4J.uh2]) rain pet⟩
  have hcast : ∀ j : Nat, (Num.ofInt ((j : Int) + 1) : α) = Num.ofNat (j + 1) := by
    intro j
    have : ((j : Int) + 1) = ((j + 1 : Nat) : Int) := by omega
    rw [this, hc]
  unfold gr4j.pre GR4J.uh1 GR4J.uh2 GR4J.uh1At GR4J.uh2At GR4J.sh1At GR4J.sh2At
  simp only [gen_unfold, ite_sliceSet, sliceSet_length, sliceLen_mkSlice, sh_build, sliceLen_map_range, Int.sub_self,
    uh_of_sh _ n1 hn1, uh_of_sh _ n2 hn2, uh_of_sh_down _ n1 hn1, uh_of_sh_down _ n2 hn2, hcast]

end OW.Props.GenTie
