import OW.Proofs.StorageExample2
/-!
C13 — reservoir storage closes its water balance and respects its release rules.

Theorems over the kernel model `OW/Kernels/Storage.lean` (mirror of models/storage/storage.go) at
`α := ℝ` (exact real arithmetic), for runs that return `.ok` (a Go panic is `.error`, fuel exhaustion is `.error "fuel"`).
`keep = true` makes the model record the ghost trace of accepted sub-steps. The theorems that mention the trace are stated for
`keep = true`; the catalogue model `Storage.model` runs `keep = false`. Only the `trace` field of `outerBody`'s result reads
`keep`, but no theorem here carries a statement from one value of `keep` to the other.

Every clause is proved per timestep (`step`) from one invariant of the sub-step loop (`Explained`) and lifted through `Chain` to
every timestep of a whole run (`run`). The clauses about the release and the spill speak about the sub-steps of the ghost trace;
`trace_tie` ties the trace to the REPORTED series. All of them are conditional on the run returning: `terminates` (enough fuel
always exists, because of the 6 s floor of the sub-step) and `run_ok_of*` say when it does, `draw_down_panics` when it does not.

The second evaluation point of the release rule in `release_between` (`x.acc.trialVol`) is the start volume advanced with the
release of the START volume (`SubStepOK.trialVol_eq`): a trial volume, in general not a volume the reservoir ever holds.
At ℝ the test `if volume < 0 { panic }` after the update (Kernels/Storage.lean `outerBody`) is dead: the updated volume equals the
last trial volume, which the trial loop accepted as non-negative (`outerBody_no_panic`); in float64 the two expressions round
differently, the correspondence runs cover that branch.
-/
namespace OW.Props.C13
open OW OW.Kernels.Storage OW.Proofs.Storage

/-- everything the loop guarantees about one accepted sub-step -/
structure SubStepOK (t : Tables ℝ) (inflow demand netFlux : ℝ) (x : SubStep ℝ) : Prop where
  relBefore : releaseRate t demand x.volBefore = .ok x.acc.estOutflow
  relAfter : releaseRate t demand x.acc.trialVol = .ok x.acc.estOutflowAfter
  avg : x.acc.avgOutflow = (x.acc.estOutflowAfter + x.acc.estOutflow) / 2
  /-- the second evaluation point of the release rule: the start volume advanced over the sub-step with the release of the START
  volume (`estOutflow`), not with the accepted average — a trial volume, in general NOT a volume the reservoir holds
  (the volume it holds after the update is `volUpdated`, computed with `avgOutflow`) -/
  trialVol_eq : x.acc.trialVol = x.volBefore + ((inflow - x.acc.estOutflow) + netFlux * x.acc.avgArea) * x.acc.sub
  upd : x.volUpdated = x.volBefore + (inflow + netFlux * x.acc.avgArea - x.acc.avgOutflow) * x.acc.sub
  upd_nonneg : 0 ≤ x.volUpdated
  excess_nonneg : 0 ≤ x.excess
  after : x.volAfter = x.volUpdated - x.excess
  spill_above : x.excess ≠ 0 → t.volCurveMax < x.volUpdated
  spill_le : t.volCurveMax < x.volUpdated → x.excess ≤ x.volUpdated - t.volCurveMax
  /-- the spill of a sub-step is at most (2·spill capacity − release)⁺ · sub-step (the over-topping ratio is capped at 2) -/
  spill_rate : 0 ≤ x.acc.sub → 0 ≤ t.maxSpill → x.excess ≤ max (2 * t.maxSpill - x.acc.avgOutflow) 0 * x.acc.sub

/-- the sub-step that a pass of the loop records is explained by what the pass did -/
theorem subStepOK_of_bodySpec {t : Tables ℝ} {keep : Bool} {inflow demand rps pps netFlux : ℝ}
    {s s' : Loop ℝ} {a : Accepted ℝ} (b : BodySpec t keep inflow demand rps pps netFlux s s' a) :
    SubStepOK t inflow demand netFlux ⟨s.volume, a, updated inflow netFlux s a,
      (spill t (updated inflow netFlux s a) a.avgOutflow a.sub).1, (spill t (updated inflow netFlux s a) a.avgOutflow a.sub).2.1⟩ :=
  have ⟨p1, p2, p3, p4⟩ := spill_spec t (updated inflow netFlux s a) a.avgOutflow a.sub
  ⟨b.est, b.trial.after, b.trial.avg, b.trial.trialVol_eq, rfl, b.upd_nonneg, p1, p2, p3, p4, spill_le_rate t _ _ _⟩

/-- consecutive sub-steps: the first starts at `v`, each starts at the volume the previous one left, the last leaves `v'` -/
def Linked : ℝ → List (SubStep ℝ) → ℝ → Prop
  | v, [], v' => v' = v
  | v, x :: xs, v' => x.volBefore = v ∧ Linked x.volAfter xs v'

theorem linked_snoc (x : SubStep ℝ) (w : ℝ) (hx : x.volBefore = w) :
    ∀ (xs : List (SubStep ℝ)) (v : ℝ), Linked v xs w → Linked v (xs ++ [x]) x.volAfter := by
  intro xs
  induction xs with
  | nil =>
    intro v h
    simp only [Linked] at h
    subst h
    exact ⟨hx, rfl⟩
  | cons y ys ih =>
    intro v h
    obtain ⟨h1, h2⟩ := h
    exact ⟨h1, ih _ h2⟩

/-- volume that leaves the storage over the recorded sub-steps: Σ (average release · sub-step + spilled volume) -/
def released (xs : List (SubStep ℝ)) : ℝ := (xs.map (fun x => x.acc.avgOutflow * x.acc.sub + x.excess)).sum

/-- the state `s` of the sub-step loop of a timestep of length `deltaT` started at volume `v`, after any number of accepted
sub-steps: time left, volume, the three accumulators and (when it is kept) the trace agree -/
structure Explained (t : Tables ℝ) (keep : Bool) (deltaT v inflow demand rps pps : ℝ) (s : Loop ℝ) : Prop where
  time : min deltaT 0 ≤ s.timeRemaining
  sub : 0 < s.timeRemaining → 0 < s.subtimestep
  vol : 0 ≤ t.volCurveMax → 0 ≤ v → 0 ≤ s.volume
  balance : s.volume - v = inflow * (deltaT - s.timeRemaining) - s.outflowVolume + s.rainfallVol - s.evaporationVol
  trace : keep = true → Linked v s.trace.reverse s.volume ∧
    (∀ x ∈ s.trace, SubStepOK t inflow demand ((rps - pps) * mmToM) x ∧ 0 < x.acc.sub) ∧
    (s.trace.map (·.acc.sub)).sum + s.timeRemaining = deltaT ∧ s.outflowVolume = released s.trace

theorem explained_step {t : Tables ℝ} {keep : Bool} {deltaT v inflow demand rps pps : ℝ} {s s' : Loop ℝ} {a : Accepted ℝ}
    (hpos : 0 < s.timeRemaining) (h : Explained t keep deltaT v inflow demand rps pps s)
    (b : BodySpec t keep inflow demand rps pps ((rps - pps) * mmToM) s s' a) :
    Explained t keep deltaT v inflow demand rps pps s' := by
  have hsub0 : 0 < min s.timeRemaining (s.subtimestep * 2) := lt_min hpos (by linarith [h.sub hpos])
  have hsub : 0 < a.sub := lt_of_lt_of_le (lt_min hsub0 (by norm_num)) b.trial.sub_ge
  have hle : a.sub ≤ s.timeRemaining := b.trial.sub_le.trans (min_le_left _ _)
  refine ⟨by rw [b.time]; exact (min_le_right _ _).trans (sub_nonneg.mpr hle), fun _ => by rw [b.sub]; exact hsub,
    fun hfull hv => by rw [b.vol]; exact spill_volume_nonneg _ _ _ _ hfull b.upd_nonneg, ?_, fun hk => ?_⟩
  · rw [b.vol, (spill_spec t _ a.avgOutflow a.sub).2.1, b.out, b.rain, b.evap, b.time]
    unfold updated
    linear_combination h.balance
  · obtain ⟨hl, hok, hsum, ho⟩ := h.trace hk
    rw [b.trace, hk]
    simp only [if_true, List.reverse_cons, List.map_cons, List.sum_cons, List.forall_mem_cons]
    refine ⟨by rw [b.vol]; exact linked_snoc ⟨s.volume, a, _, _, _⟩ s.volume rfl _ _ hl,
      ⟨⟨subStepOK_of_bodySpec b, hsub⟩, hok⟩, by rw [b.time]; linarith, ?_⟩
    rw [b.out, ho]
    unfold released
    simp only [List.map_cons, List.sum_cons]
    ring

theorem step_explained {t : Tables ℝ} {keep : Bool} {fo fi : Nat} {deltaT volume : ℝ} {tags : List String}
    {rainfall pet inflow demand : ℝ} {v' : ℝ} {tags' : List String} {o : StepOut ℝ}
    (h : step t keep fo fi deltaT volume tags (rainfall, pet, inflow, demand) = .ok (v', tags', o)) :
    ∃ r, Explained t keep deltaT volume inflow demand (rainfall / deltaT) (pet / deltaT) r ∧
      (0 ≤ deltaT → r.timeRemaining = 0) ∧ o.volume = r.volume ∧ o.outflow = r.outflowVolume / deltaT ∧
      o.rainfallVolume = r.rainfallVol / deltaT ∧ o.evaporationVolume = r.evaporationVol / deltaT ∧
      o.trace = r.trace.reverse := by
  obtain ⟨r, hO, -, -, rfl⟩ := step_ok h
  obtain ⟨hE, hn⟩ := outer_inv t keep fi inflow demand _ _ _ (Explained t keep deltaT volume inflow demand _ _)
    (fun s s' a hpos hP b => explained_step hpos hP b) fo _ r hO
    ⟨min_le_left _ _, id, fun _ h => h, by simp [loop0], fun _ => by simp [loop0, Linked, released]⟩
  exact ⟨r, hE, fun hdt => le_antisymm (not_lt.mp hn) (by simpa [min_eq_right hdt] using hE.time), rfl, rfl, rfl, rfl, rfl⟩

theorem step_volume_nonneg {t : Tables ℝ} {keep : Bool} {fo fi : Nat} {deltaT volume : ℝ} {tags : List String}
    {rainfall pet inflow demand : ℝ} {v' : ℝ} {tags' : List String} {o : StepOut ℝ}
    (hfull : 0 ≤ t.volCurveMax) (hv0 : 0 ≤ volume)
    (h : step t keep fo fi deltaT volume tags (rainfall, pet, inflow, demand) = .ok (v', tags', o)) :
    0 ≤ o.volume := by
  obtain ⟨r, hE, -, hv, -⟩ := step_explained h
  exact hv ▸ hE.vol hfull hv0

theorem step_trace {t : Tables ℝ} {fo fi : Nat} {deltaT volume : ℝ} {tags : List String}
    {rainfall pet inflow demand : ℝ} {v' : ℝ} {tags' : List String} {o : StepOut ℝ}
    (h : step t true fo fi deltaT volume tags (rainfall, pet, inflow, demand) = .ok (v', tags', o)) :
    Linked volume o.trace o.volume ∧
    (∀ x ∈ o.trace, SubStepOK t inflow demand ((rainfall / deltaT - pet / deltaT) * mmToM) x ∧ 0 < x.acc.sub) ∧
    (0 ≤ deltaT → (o.trace.map (·.acc.sub)).sum = deltaT) ∧ (0 < deltaT → o.outflow * deltaT = released o.trace) := by
  obtain ⟨r, hE, hz, hv, hq, -, -, htr⟩ := step_explained h
  obtain ⟨hl, hok, hsum, ho⟩ := hE.trace rfl
  refine ⟨by rw [htr, hv]; exact hl, fun x hx => hok x (by rwa [htr, List.mem_reverse] at hx), fun hdt => ?_, fun hdt => ?_⟩
  · rw [hz hdt, add_zero] at hsum
    rw [htr, List.map_reverse, List.sum_reverse, hsum]
  · rw [hq, div_mul_cancel₀ _ (ne_of_gt hdt), ho, htr]
    unfold released
    rw [List.map_reverse, List.sum_reverse]

theorem substep_released_bounds (t : Tables ℝ) (inflow demand netFlux : ℝ) (x : SubStep ℝ)
    (hx : SubStepOK t inflow demand netFlux x) (hsub : 0 < x.acc.sub) (m M : ℝ)
    (hm : m ≤ x.acc.avgOutflow) (hM : x.acc.avgOutflow ≤ M) :
    m * x.acc.sub ≤ x.acc.avgOutflow * x.acc.sub + x.excess ∧
    (0 ≤ t.maxSpill → x.acc.avgOutflow * x.acc.sub + x.excess ≤ max M (2 * t.maxSpill) * x.acc.sub) ∧
    (x.excess = 0 → x.acc.avgOutflow * x.acc.sub + x.excess ≤ M * x.acc.sub) := by
  have e0 := hx.excess_nonneg
  have l1 : m * x.acc.sub ≤ x.acc.avgOutflow * x.acc.sub := mul_le_mul_of_nonneg_right hm hsub.le
  have l2 : x.acc.avgOutflow * x.acc.sub ≤ M * x.acc.sub := mul_le_mul_of_nonneg_right hM hsub.le
  refine ⟨by linarith, fun hS => ?_, fun h => by rw [h]; linarith⟩
  have e1 := hx.spill_rate hsub.le hS
  have l3 : M * x.acc.sub ≤ max M (2 * t.maxSpill) * x.acc.sub := mul_le_mul_of_nonneg_right (le_max_left _ _) hsub.le
  have l4 : 2 * t.maxSpill * x.acc.sub ≤ max M (2 * t.maxSpill) * x.acc.sub :=
    mul_le_mul_of_nonneg_right (le_max_right _ _) hsub.le
  rcases le_total (2 * t.maxSpill - x.acc.avgOutflow) 0 with c | c
  · rw [max_eq_right c, zero_mul] at e1
    linarith
  · rw [max_eq_left c, sub_mul] at e1
    linarith

theorem releaseRate_range (t : Tables ℝ) (ht : Total t) (m M : ℝ)
    (hmin : ∀ v y, cappedPiecewise t v t.minRelease = .ok y → m ≤ y)
    (hmax : ∀ v y, cappedPiecewise t v t.maxRelease = .ok y → y ≤ M)
    (hord : ∀ v y₁ y₂, cappedPiecewise t v t.minRelease = .ok y₁ → cappedPiecewise t v t.maxRelease = .ok y₂ → y₁ ≤ y₂)
    (d v q : ℝ) (h : releaseRate t d v = .ok q) : m ≤ q ∧ q ≤ M := by
  obtain ⟨y₁, h1⟩ := ht.minRelease v
  obtain ⟨y₂, h2⟩ := ht.maxRelease v
  obtain ⟨a, b, -⟩ := releaseRate_between t d v q y₁ y₂ h1 h2 (hord v y₁ y₂ h1 h2) h
  exact ⟨le_trans (hmin v y₁ h1) a, le_trans b (hmax v y₂ h2)⟩

theorem step_outflow_bounds {t : Tables ℝ} {fo fi : Nat} {deltaT volume : ℝ} {tags : List String}
    {rainfall pet inflow demand : ℝ} {v' : ℝ} {tags' : List String} {o : StepOut ℝ} (hdt : 0 < deltaT) (m M : ℝ)
    (hrel : ∀ v q, releaseRate t demand v = .ok q → m ≤ q ∧ q ≤ M)
    (h : step t true fo fi deltaT volume tags (rainfall, pet, inflow, demand) = .ok (v', tags', o)) :
    m ≤ o.outflow ∧ (0 ≤ t.maxSpill → o.outflow ≤ max M (2 * t.maxSpill)) ∧
      ((∀ x ∈ o.trace, x.excess = 0) → o.outflow ≤ M) := by
  obtain ⟨-, hok', hd⟩ := step_trace h
  have hsum := hd.1 hdt.le
  have htie := hd.2 hdt
  have hok := fun x hx => (hok' x hx).1
  have hpos := fun x hx => (hok' x hx).2
  have havg : ∀ x ∈ o.trace, m ≤ x.acc.avgOutflow ∧ x.acc.avgOutflow ≤ M := by
    intro x hx
    obtain ⟨a1, a2⟩ := hrel _ _ (hok x hx).relBefore
    obtain ⟨b1, b2⟩ := hrel _ _ (hok x hx).relAfter
    rw [(hok x hx).avg]
    constructor <;> linarith
  have hb := fun x hx =>
    substep_released_bounds t inflow demand _ x (hok x hx) (hpos x hx) m M (havg x hx).1 (havg x hx).2
  have lower : m ≤ o.outflow := by
    have k : (o.trace.map fun x => m * x.acc.sub).sum ≤ released o.trace := List.sum_le_sum fun x hx => (hb x hx).1
    rw [List.sum_map_mul_left, hsum, ← htie] at k
    exact le_of_mul_le_mul_right k hdt
  have upper : ∀ U, (∀ x ∈ o.trace, x.acc.avgOutflow * x.acc.sub + x.excess ≤ U * x.acc.sub) → o.outflow ≤ U := by
    intro U hU
    have k : released o.trace ≤ (o.trace.map fun x => U * x.acc.sub).sum := List.sum_le_sum hU
    rw [List.sum_map_mul_left, hsum, ← htie] at k
    exact le_of_mul_le_mul_right k hdt
  exact ⟨lower, fun hS => upper _ (fun x hx => (hb x hx).2.1 hS), fun h0 => upper _ (fun x hx => (hb x hx).2.2 (h0 x hx))⟩

theorem substep_spill_only_above_full (t : Tables ℝ) (inflow demand netFlux : ℝ) (x : SubStep ℝ)
    (hx : SubStepOK t inflow demand netFlux x) :
    0 ≤ x.excess ∧ x.volAfter = x.volUpdated - x.excess ∧
    (x.excess ≠ 0 → t.volCurveMax < x.volUpdated ∧ t.volCurveMax ≤ x.volAfter) := by
  refine ⟨hx.excess_nonneg, hx.after, fun h => ⟨hx.spill_above h, ?_⟩⟩
  have := hx.spill_le (hx.spill_above h)
  rw [hx.after]; linarith

/-- `R prevVolume inputs outputs` holds for every timestep of a run that starts at volume `v` -/
def Chain (R : ℝ → StepIn ℝ → StepOut ℝ → Prop) : ℝ → List (StepIn ℝ) → List (StepOut ℝ) → Prop
  | _, [], [] => True
  | v, i :: is, o :: os => R v i o ∧ Chain R o.volume is os
  | _, _, _ => False

/-- volume after the last timestep -/
def lastVolume (v : ℝ) : List (StepOut ℝ) → ℝ
  | [] => v
  | o :: os => lastVolume o.volume os

theorem steps_chain (t : Tables ℝ) (keep : Bool) (fo fi : Nat) (deltaT : ℝ) (P : ℝ → Prop)
    (R : ℝ → StepIn ℝ → StepOut ℝ → Prop)
    (hR : ∀ v tags i v' tags' o, P v → step t keep fo fi deltaT v tags i = .ok (v', tags', o) →
      R v i o ∧ P o.volume) :
    ∀ (ins : List (StepIn ℝ)) (v : ℝ) (tags : List String) (v' : ℝ) (tags' : List String) (outs : List (StepOut ℝ)),
      P v → steps t keep fo fi deltaT v tags ins = .ok (v', tags', outs) →
      Chain R v ins outs ∧ v' = lastVolume v outs ∧ P v' := by
  intro ins v tags v' tags' outs hv h
  have := scanM_run (Inv := fun s : ℝ × List String => P s.1) (Ok := fun _ => True)
    (M := fun s xs s' os => Chain R s.1 xs os ∧ s'.1 = lastVolume s.1 os)
    (fun s x s₁ o hs _ hS => step_volume_eq (stepM_ok hS) ▸ (hR _ _ _ _ _ _ hs (stepM_ok hS)).2)
    (fun _ => ⟨trivial, rfl⟩)
    (fun s x s₁ o xs s' os hs _ hS ih => by
      have e : s₁.1 = o.volume := step_volume_eq (stepM_ok hS)
      exact ⟨⟨(hR _ _ _ _ _ _ hs (stepM_ok hS)).1, e ▸ ih.1⟩, show s'.1 = lastVolume o.volume os from e ▸ ih.2⟩)
    ins (v, tags) _ hv (fun _ _ => trivial) (steps_ok h)
  exact ⟨this.2.1, this.2.2, this.1⟩

theorem run_chain (t : Tables ℝ) (keep : Bool) (fo fi : Nat) (deltaT : ℝ) (R : ℝ → StepIn ℝ → StepOut ℝ → Prop)
    (hR : ∀ v tags i v' tags' o, step t keep fo fi deltaT v tags i = .ok (v', tags', o) → R v i o)
    (v0 : ℝ) (ins : List (StepIn ℝ)) (r : RunOut ℝ) (h : run t keep fo fi deltaT v0 ins = .ok r) :
    Chain R v0 ins r.outs := by
  obtain ⟨tags, hS, -⟩ := run_eq_ok.mp h
  exact (steps_chain t keep fo fi deltaT (fun _ => True) R
    (fun v tags i v' tags' o _ hs => ⟨hR v tags i v' tags' o hs, trivial⟩) ins v0 [] _ _ _ trivial hS).1

/-- In every timestep of a successful run the accepted sub-steps sum to Δt. -/
theorem sub_steps_sum (t : Tables ℝ) (fo fi : Nat) (deltaT v0 : ℝ) (ins : List (StepIn ℝ)) (r : RunOut ℝ)
    (hdt : 0 ≤ deltaT) (h : run t true fo fi deltaT v0 ins = .ok r) :
    Chain (fun _ _ o => (o.trace.map (·.acc.sub)).sum = deltaT) v0 ins r.outs :=
  run_chain t true fo fi deltaT _ (fun _ _ ⟨_, _, _, _⟩ _ _ _ hs => (step_trace hs).2.2.1 hdt) v0 ins r h

/-- In every timestep of a successful run (any `keep`), with `V` the volume before the timestep:
`V' − V = (inflow − outflow)·Δt + (rainfallVolume − evaporationVolume)·Δt`, where outflow, rainfallVolume and
evaporationVolume are the series the model REPORTS. -/
theorem storage_balance (t : Tables ℝ) (keep : Bool) (fo fi : Nat) (deltaT v0 : ℝ) (ins : List (StepIn ℝ)) (r : RunOut ℝ)
    (hdt : 0 < deltaT) (h : run t keep fo fi deltaT v0 ins = .ok r) :
    Chain (fun v i o => o.volume - v = (i.2.2.1 - o.outflow) * deltaT + (o.rainfallVolume - o.evaporationVolume) * deltaT)
      v0 ins r.outs :=
  run_chain t keep fo fi deltaT _ (fun _ _ ⟨_, _, inflow, _⟩ _ _ _ hs => by
    obtain ⟨r, hE, hz, hv, hq, hr, he, -⟩ := step_explained hs
    have hne := ne_of_gt hdt
    rw [hv, hq, hr, he, sub_mul, sub_mul, div_mul_cancel₀ _ hne, div_mul_cancel₀ _ hne, div_mul_cancel₀ _ hne]
    linear_combination hE.balance - inflow * hz hdt.le) v0 ins r h

/-- Starting from a non-negative volume (and a non-negative full-supply volume) every reported
volume and the final state volume are non-negative. -/
theorem volume_nonneg (t : Tables ℝ) (keep : Bool) (fo fi : Nat) (deltaT v0 : ℝ) (ins : List (StepIn ℝ)) (r : RunOut ℝ)
    (hfull : 0 ≤ t.volCurveMax) (hv0 : 0 ≤ v0) (h : run t keep fo fi deltaT v0 ins = .ok r) :
    Chain (fun _ _ o => 0 ≤ o.volume) v0 ins r.outs ∧ 0 ≤ r.volume := by
  obtain ⟨tags, hS, -⟩ := run_eq_ok.mp h
  have := steps_chain t keep fo fi deltaT (fun v => 0 ≤ v) (fun _ _ o => 0 ≤ o.volume)
    (fun v tg ⟨_, _, _, _⟩ v' tg' o hv hs => ⟨step_volume_nonneg hfull hv hs, step_volume_nonneg hfull hv hs⟩)
    ins v0 [] _ _ _ hv0 hS
  exact ⟨this.1, this.2.2⟩

/-- The final states are: the volume after the last timestep, and the level / area that the
capped level-volume-area interpolation gives at that volume. -/
theorem final_level_area (t : Tables ℝ) (keep : Bool) (fo fi : Nat) (deltaT v0 : ℝ) (ins : List (StepIn ℝ)) (r : RunOut ℝ)
    (h : run t keep fo fi deltaT v0 ins = .ok r) :
    r.volume = lastVolume v0 r.outs ∧
    cappedPiecewise t r.volume t.levels = .ok r.level ∧ cappedPiecewise t r.volume t.areas = .ok r.area := by
  obtain ⟨tags, hS, hL, hA, -⟩ := run_eq_ok.mp h
  refine ⟨?_, hL, hA⟩
  exact (steps_chain t keep fo fi deltaT (fun _ => True) (fun _ _ _ => True) (fun _ _ _ _ _ _ _ _ => ⟨trivial, trivial⟩)
    ins v0 [] _ _ _ trivial hS).2.1

/-- For every accepted sub-step of every timestep of a successful run: whatever the release curves
evaluate to at the sub-step's start volume (`m₁ ≤ M₁`) and trial end volume (`m₂ ≤ M₂`), the average release of the
sub-step lies in `[min m₁ m₂, max M₁ M₂]` and equals the timestep's demand when the demand lies between the curves. -/
theorem release_between (t : Tables ℝ) (fo fi : Nat) (deltaT v0 : ℝ) (ins : List (StepIn ℝ)) (r : RunOut ℝ)
    (h : run t true fo fi deltaT v0 ins = .ok r) :
    Chain (fun _ i o => ∀ x ∈ o.trace, ∀ m₁ M₁ m₂ M₂ : ℝ,
        cappedPiecewise t x.volBefore t.minRelease = .ok m₁ → cappedPiecewise t x.volBefore t.maxRelease = .ok M₁ →
        cappedPiecewise t x.acc.trialVol t.minRelease = .ok m₂ → cappedPiecewise t x.acc.trialVol t.maxRelease = .ok M₂ →
        m₁ ≤ M₁ → m₂ ≤ M₂ →
        min m₁ m₂ ≤ x.acc.avgOutflow ∧ x.acc.avgOutflow ≤ max M₁ M₂ ∧
        (m₁ ≤ i.2.2.2 → i.2.2.2 ≤ M₁ → m₂ ≤ i.2.2.2 → i.2.2.2 ≤ M₂ → x.acc.avgOutflow = i.2.2.2))
      v0 ins r.outs :=
  run_chain t true fo fi deltaT _ (fun _ _ ⟨_, _, inflow, demand⟩ _ _ _ hs x hx m₁ M₁ m₂ M₂ h1 h2 h3 h4 o1 o2 => by
    -- the accepted release is the mean of the release rule at the two volumes, each clamped between its pair of curves
    have hx := ((step_trace hs).2.1 x hx).1
    obtain ⟨a1, a2, a3⟩ := releaseRate_between t demand _ _ _ _ h1 h2 o1 hx.relBefore
    obtain ⟨b1, b2, b3⟩ := releaseRate_between t demand _ _ _ _ h3 h4 o2 hx.relAfter
    rw [hx.avg]
    have := min_le_left m₁ m₂
    have := min_le_right m₁ m₂
    have := le_max_left M₁ M₂
    have := le_max_right M₁ M₂
    refine ⟨by linarith, by linarith, fun c1 c2 c3 c4 => ?_⟩
    rw [a3 c1 c2, b3 c3 c4]; ring)
    v0 ins r h

/-- For every accepted sub-step of every timestep of a successful run: the spilled volume is
non-negative, it is what separates the updated volume from the volume carried on, and it is non-zero only if the updated
volume exceeds the full-supply volume `volCurveMax` — and then the volume carried on is still at least `volCurveMax`. -/
theorem spill_only_above_full (t : Tables ℝ) (fo fi : Nat) (deltaT v0 : ℝ) (ins : List (StepIn ℝ)) (r : RunOut ℝ)
    (h : run t true fo fi deltaT v0 ins = .ok r) :
    Chain (fun _ _ o => ∀ x ∈ o.trace, 0 ≤ x.excess ∧ x.volAfter = x.volUpdated - x.excess ∧
        (x.excess ≠ 0 → t.volCurveMax < x.volUpdated ∧ t.volCurveMax ≤ x.volAfter))
      v0 ins r.outs :=
  run_chain t true fo fi deltaT _ (fun _ _ ⟨_, _, inflow, demand⟩ _ _ _ hs x hx =>
    substep_spill_only_above_full t inflow demand _ x ((step_trace hs).2.1 x hx).1) v0 ins r h

/-- In every timestep of a successful run the recorded sub-steps are chained from the volume `V` before the
timestep to the REPORTED volume `V'` (first `volBefore = V`, each `volBefore` = the previous `volAfter`, last `volAfter = V'`),
have positive lengths summing to Δt, and the REPORTED outflow is `outflow·Δt = Σ (avgOutflow·sub + excess)`: the statements
`release_between` / `spill_only_above_full` about the trace are statements about the quantities the reported series are made of. -/
theorem trace_tie (t : Tables ℝ) (fo fi : Nat) (deltaT v0 : ℝ) (ins : List (StepIn ℝ)) (r : RunOut ℝ)
    (hdt : 0 < deltaT) (h : run t true fo fi deltaT v0 ins = .ok r) :
    Chain (fun v _ o => Linked v o.trace o.volume ∧ (∀ x ∈ o.trace, 0 < x.acc.sub) ∧
        (o.trace.map (·.acc.sub)).sum = deltaT ∧ o.outflow * deltaT = released o.trace) v0 ins r.outs :=
  run_chain t true fo fi deltaT _ (fun _ _ ⟨_, _, _, _⟩ _ _ _ hs =>
    have ⟨a, b, c⟩ := step_trace hs
    ⟨a, fun x hx => (b x hx).2, c.1 hdt.le, c.2 hdt⟩) v0 ins r h

/-- Corollary of `release_between`, `spill_only_above_full` and `trace_tie` on the REPORTED
series. If every table evaluation returns, the minimum-release curve never evaluates below `m`, the maximum-release curve
never above `M`, the curves are ordered where evaluated and the spill capacity `maxSpill` is non-negative, then in every timestep
of a successful run `m ≤ outflow ≤ max M (2·maxSpill)` (the over-topping ratio is capped at 2), and `outflow ≤ M` in a timestep
without spill. -/
theorem reported_outflow_between (t : Tables ℝ) (ht : Total t) (fo fi : Nat) (deltaT v0 : ℝ) (ins : List (StepIn ℝ))
    (r : RunOut ℝ) (hdt : 0 < deltaT) (hS : 0 ≤ t.maxSpill) (m M : ℝ)
    (hmin : ∀ v y, cappedPiecewise t v t.minRelease = .ok y → m ≤ y)
    (hmax : ∀ v y, cappedPiecewise t v t.maxRelease = .ok y → y ≤ M)
    (hord : ∀ v y₁ y₂, cappedPiecewise t v t.minRelease = .ok y₁ → cappedPiecewise t v t.maxRelease = .ok y₂ → y₁ ≤ y₂)
    (h : run t true fo fi deltaT v0 ins = .ok r) :
    Chain (fun _ _ o => m ≤ o.outflow ∧ o.outflow ≤ max M (2 * t.maxSpill) ∧
        ((∀ x ∈ o.trace, x.excess = 0) → o.outflow ≤ M)) v0 ins r.outs :=
  run_chain t true fo fi deltaT _ (fun _ _ ⟨_, _, _, demand⟩ _ _ _ hs => by
    obtain ⟨a, b, c⟩ := step_outflow_bounds hdt m M (releaseRate_range t ht m M hmin hmax hord demand) hs
    exact ⟨a, b hS, c⟩) v0 ins r h

/-- In every timestep of a successful run whose demand lies between the two release curves
wherever they are evaluated, and in which no sub-step spills, the REPORTED outflow equals the demand. -/
theorem reported_outflow_eq_demand (t : Tables ℝ) (ht : Total t) (fo fi : Nat) (deltaT v0 : ℝ) (ins : List (StepIn ℝ))
    (r : RunOut ℝ) (hdt : 0 < deltaT) (h : run t true fo fi deltaT v0 ins = .ok r) :
    Chain (fun _ i o =>
        (∀ v y, cappedPiecewise t v t.minRelease = .ok y → y ≤ i.2.2.2) →
        (∀ v y, cappedPiecewise t v t.maxRelease = .ok y → i.2.2.2 ≤ y) →
        (∀ x ∈ o.trace, x.excess = 0) → o.outflow = i.2.2.2) v0 ins r.outs :=
  run_chain t true fo fi deltaT _ (fun _ _ ⟨_, _, _, demand⟩ _ _ _ hs hmin hmax h0 => by
    have hrel : ∀ v q, releaseRate t demand v = .ok q → demand ≤ q ∧ q ≤ demand := by
      intro v q hq
      obtain ⟨y₁, h1⟩ := ht.minRelease v
      obtain ⟨y₂, h2⟩ := ht.maxRelease v
      have o1 := hmin v y₁ h1
      have o2 := hmax v y₂ h2
      rw [(releaseRate_between t demand v q y₁ y₂ h1 h2 (le_trans o1 o2) hq).2.2 o1 o2]
      exact ⟨le_rfl, le_rfl⟩
    obtain ⟨a, -, c⟩ := step_outflow_bounds hdt demand demand hrel hs
    exact le_antisymm (c h0) a) v0 ins r h

/-- Enough fuel always exists, because of the 6 s floor of the sub-step: if `Δt ≤ 6·k` and `Δt ≤ 6·2ⁿ`
then with more than `k` units of outer fuel and more than `n` units of inner fuel NO run ends in `.error "fuel"` — for
all tables, inputs and initial volumes (a run may still end in a panic of the code, `.error "other"` etc.). -/
theorem terminates (t : Tables ℝ) (keep : Bool) (fo fi n k : Nat) (deltaT : ℝ)
    (hk : deltaT ≤ 6 * k) (hn : deltaT ≤ 6 * 2 ^ n) (hfo : k + 1 ≤ fo) (hfi : n + 1 ≤ fi)
    (v0 : ℝ) (ins : List (StepIn ℝ)) :
    run t keep fo fi deltaT v0 ins ≠ .error "fuel" := by
  intro h
  rcases run_error t keep fo fi deltaT (fun _ => True) (fun _ _ _ _ _ _ _ _ => trivial) v0 trivial ins _ h with
    ⟨v, tags, i, -, -, hs⟩ | ⟨v, hc | hc⟩
  · obtain ⟨rainfall, pet, inflow, demand⟩ := i
    obtain ⟨f, rfl⟩ : ∃ f, fo = f + 1 := ⟨fo - 1, by omega⟩
    have hkf : (k:ℝ) ≤ f := Nat.cast_le.mpr (Nat.le_of_succ_le_succ hfo)
    refine outer_ne_fuel t keep fi n inflow demand _ _ _ hfi f (loop0 deltaT v tags) (fun hpos => Or.inl ?_)
      (hk.trans (mul_le_mul_of_nonneg_left hkf (by norm_num))) hn (step_error hs)
    simp only [loop0] at hpos ⊢
    linarith
  · exact capped_ne_fuel _ _ _ hc
  · exact capped_ne_fuel _ _ _ hc

/-- The fuel the compiled driver uses (`fuelOuter = 400000`, `fuelInner = 4000`) suffices for every timestep length
of the model's documented range `DeltaT ≤ 86400` s (k = 14400, n = 14: 6·2¹⁴ = 98304). -/
theorem terminates_driver_fuel (t : Tables ℝ) (keep : Bool) (deltaT : ℝ) (hdt : deltaT ≤ 86400)
    (v0 : ℝ) (ins : List (StepIn ℝ)) :
    run t keep fuelOuter fuelInner deltaT v0 ins ≠ .error "fuel" := by
  apply terminates t keep fuelOuter fuelInner 14 14400 deltaT
  · norm_num; linarith
  · norm_num; linarith
  · decide
  · decide

/-- For every timestep length there is a fuel bound that suffices for both loops (`terminates` at `k ≥ Δt/6`). -/
theorem terminates_exists (t : Tables ℝ) (keep : Bool) (deltaT : ℝ) :
    ∃ N : Nat, ∀ fo fi, N ≤ fo → N ≤ fi → ∀ v0 ins, run t keep fo fi deltaT v0 ins ≠ .error "fuel" := by
  obtain ⟨k, hk⟩ := exists_nat_ge (deltaT / 6)
  refine ⟨k + 1, fun fo fi hfo hfi v0 ins => ?_⟩
  have h1 : deltaT ≤ 6 * (k:ℝ) := by
    have := (div_le_iff₀ (by norm_num : (0:ℝ) < 6)).mp hk
    linarith
  have h2 : (k:ℝ) ≤ 2 ^ k := by exact_mod_cast (Nat.lt_two_pow_self (n := k)).le
  exact terminates t keep fo fi k k deltaT h1 (by linarith) hfo hfi v0 ins

/-! ### when does a run return? (no panic)

Every theorem above is about runs that return `.ok`. The code does NOT always return: its sub-step controller ends the process
(`panic("testVol < 0.0 and subtimestep <= MIN_TIMESTEP_SECONDS…")`) when a trial volume is negative and the sub-step is at its
6 s floor — it does not limit the release or the evaporation to the water present. So "V ≥ 0" holds for runs that return
because the run does not return otherwise. -/

/-- the net surface flux (m/s) of a timestep, as the code computes it -/
noncomputable def netFluxOf (deltaT : ℝ) (i : StepIn ℝ) : ℝ := (i.1 / deltaT - i.2.1 / deltaT) * mmToM

/-- **6 s safety of a timestep's inputs**: at every non-negative volume the two "trial volume negative" tests of the sub-step
controller pass for every sub-step of at most 6 s (`SafeAt`, OW/Proofs/StorageNoPanic.lean) -/
def Safe (t : Tables ℝ) (deltaT : ℝ) (i : StepIn ℝ) : Prop :=
  ∀ v est, 0 ≤ v → releaseRate t i.2.2.2 v = .ok est → SafeAt t i.2.2.1 i.2.2.2 (netFluxOf deltaT i) v est

theorem run_no_panic (t : Tables ℝ) (ht : Total t) (hfull : 0 ≤ t.volCurveMax) (keep : Bool) (fo fi : Nat)
    (deltaT v0 : ℝ) (hdt : 0 < deltaT) (hv0 : 0 ≤ v0) (ins : List (StepIn ℝ)) (hsafe : ∀ i ∈ ins, Safe t deltaT i)
    (e : String) (h : run t keep fo fi deltaT v0 ins = .error e) : e = "fuel" := by
  rcases run_error t keep fo fi deltaT (fun v => 0 ≤ v) (fun v tags ⟨_, _, _, _⟩ v' tags' o hv hs =>
      step_volume_eq hs ▸ step_volume_nonneg hfull hv hs) v0 hv0 ins e h with ⟨v, tags, i, hi, hv, hs⟩ | ⟨v, hc | hc⟩
  · obtain ⟨rainfall, pet, inflow, demand⟩ := i
    exact outer_no_panic t ht hfull keep fi inflow demand _ _ _ (hsafe _ hi) fo (loop0 deltaT v tags) _
      (by simpa [loop0] using hv) (by simpa [loop0] using hdt) (step_error hs)
  · exact absurd hc (Except.ok_ne_error (ht.levels v))
  · exact absurd hc (Except.ok_ne_error (ht.areas v))

/-- **No panic.** A run RETURNS — no panic of the code, no fuel exhaustion — when
* every table evaluation returns (`Total`; by `total_of_wellFormed`: at least two knots, the curve ends read from the volume
  table, value tables at least as long as the volume table),
* the full-supply volume and the initial volume are non-negative and `0 < Δt ≤ 6·k`, `Δt ≤ 6·2ⁿ` with fuel `> k` / `> n`, and
* every timestep's inputs are `Safe`: at every non-negative volume the two negative-volume tests pass for sub-steps ≤ 6 s. -/
theorem run_ok_of (t : Tables ℝ) (ht : Total t) (hfull : 0 ≤ t.volCurveMax) (keep : Bool) (fo fi n k : Nat) (deltaT : ℝ)
    (hdt : 0 < deltaT) (hk : deltaT ≤ 6 * k) (hn : deltaT ≤ 6 * 2 ^ n) (hfo : k + 1 ≤ fo) (hfi : n + 1 ≤ fi)
    (v0 : ℝ) (hv0 : 0 ≤ v0) (ins : List (StepIn ℝ)) (hsafe : ∀ i ∈ ins, Safe t deltaT i) :
    ∃ r, run t keep fo fi deltaT v0 ins = .ok r :=
  ok_of_no_panic_of_ne_fuel (run_no_panic t ht hfull keep fo fi deltaT v0 hdt hv0 ins hsafe)
    (terminates t keep fo fi n k deltaT hk hn hfo hfi v0 ins)

/-- `run_ok_of` with the fuel of the compiled driver, for `0 < Δt ≤ 86400` -/
theorem run_ok_of_driver_fuel (t : Tables ℝ) (ht : Total t) (hfull : 0 ≤ t.volCurveMax) (keep : Bool) (deltaT : ℝ)
    (hdt : 0 < deltaT) (hdt' : deltaT ≤ 86400) (v0 : ℝ) (hv0 : 0 ≤ v0) (ins : List (StepIn ℝ))
    (hsafe : ∀ i ∈ ins, Safe t deltaT i) :
    ∃ r, run t keep fuelOuter fuelInner deltaT v0 ins = .ok r :=
  ok_of_no_panic_of_ne_fuel (run_no_panic t ht hfull keep _ _ deltaT v0 hdt hv0 ins hsafe)
    (terminates_driver_fuel t keep deltaT hdt' v0 ins)

/-- **No panic while drawing down.** The run returns when, for every timestep, the release rule
never releases in 6 s more than the water present (`0 ≤ q` and `q·6 ≤ max u 0` for the release `q` at any volume `u` — a
maximum-release curve that goes to zero at the empty storage at least as fast as `V / 6 s`, and a minimum-release curve below it)
and the surface flux never outweighs the inflow (`0 ≤ inflow + netFlux·a` for every value `a` of the area table: rain ≥
evaporation, or no evaporation, or enough inflow). Each of the two conditions fails on one of the two panicking examples of
`draw_down_panics` at the end of this file. -/
theorem run_ok_of_release_limited (t : Tables ℝ) (ht : Total t) (hfull : 0 ≤ t.volCurveMax) (keep : Bool) (fo fi n k : Nat)
    (deltaT : ℝ) (hdt : 0 < deltaT) (hk : deltaT ≤ 6 * k) (hn : deltaT ≤ 6 * 2 ^ n) (hfo : k + 1 ≤ fo) (hfi : n + 1 ≤ fi)
    (v0 : ℝ) (hv0 : 0 ≤ v0) (ins : List (StepIn ℝ))
    (hq : ∀ i ∈ ins, ∀ u q, releaseRate t i.2.2.2 u = .ok q → 0 ≤ q ∧ q * 6 ≤ max u 0)
    (ha : ∀ i ∈ ins, ∀ a, AreaVal t a → 0 ≤ i.2.2.1 + netFluxOf deltaT i * a) :
    ∃ r, run t keep fo fi deltaT v0 ins = .ok r :=
  run_ok_of t ht hfull keep fo fi n k deltaT hdt hk hn hfo hfi v0 hv0 ins
    (fun i hi => safeAt_of_release_limited t i.2.2.1 i.2.2.2 (netFluxOf deltaT i) (hq i hi) (ha i hi))

/-- **No panic while filling.** The run returns when in every timestep the net rate
`inflow − q + netFlux·a` is non-negative for every value `q` of the release rule and `a` of the area table. -/
theorem run_ok_of_net_gain (t : Tables ℝ) (ht : Total t) (hfull : 0 ≤ t.volCurveMax) (keep : Bool) (fo fi n k : Nat)
    (deltaT : ℝ) (hdt : 0 < deltaT) (hk : deltaT ≤ 6 * k) (hn : deltaT ≤ 6 * 2 ^ n) (hfo : k + 1 ≤ fo) (hfi : n + 1 ≤ fi)
    (v0 : ℝ) (hv0 : 0 ≤ v0) (ins : List (StepIn ℝ))
    (hg : ∀ i ∈ ins, ∀ q a, RelVal t i.2.2.2 q → AreaVal t a → 0 ≤ i.2.2.1 - q + netFluxOf deltaT i * a) :
    ∃ r, run t keep fo fi deltaT v0 ins = .ok r :=
  run_ok_of t ht hfull keep fo fi n k deltaT hdt hk hn hfo hfi v0 hv0 ins
    (fun i hi => safeAt_of_net_gain t i.2.2.1 i.2.2.2 (netFluxOf deltaT i) (hg i hi))

/-- **The code ends the process instead of limiting the loss.** Whenever, at the volume a timestep starts
from, the net rate `inflow − release + netFlux·area` is negative and drains more than the volume within `min Δt 6` seconds, the
model — and by the bit-exact correspondence the code — does not return: `.error "other"` is Go's
`panic("testVol < 0.0 and subtimestep <= MIN_TIMESTEP_SECONDS")`. No monotonicity or other table property prevents this: it is
reached by drawing a reservoir down to empty with a release curve that does not vanish at the empty storage, and by evaporation
from a lowest knot with positive area. -/
theorem draw_down_panics (t : Tables ℝ) (keep : Bool) (fo fi n : Nat) (deltaT volume : ℝ) (tags : List String)
    (rainfall pet inflow demand est area : ℝ) (hdt : 0 < deltaT) (hn : deltaT ≤ 6 * 2 ^ n) (hfi : n + 1 ≤ fi) (hfo : 1 ≤ fo)
    (hest : releaseRate t demand volume = .ok est) (harea : cappedPiecewise t volume t.areas = .ok area)
    (hrate : inflow - est + (rainfall / deltaT - pet / deltaT) * mmToM * area < 0)
    (hneg : volume + (inflow - est + (rainfall / deltaT - pet / deltaT) * mmToM * area) * min deltaT 6 < 0) :
    step t keep fo fi deltaT volume tags (rainfall, pet, inflow, demand) = .error "other" := by
  obtain ⟨f, rfl⟩ : ∃ f, fo = f + 1 := ⟨fo - 1, by omega⟩
  have m : min deltaT (deltaT * 2) = deltaT := min_eq_left (by linarith)
  have hT := trial_panics t inflow demand ((rainfall / deltaT - pet / deltaT) * mmToM) volume est area (min deltaT 6)
    (min_le_right _ _) (fun s hs => by
      have := mul_le_mul_of_nonpos_left hs hrate.le
      linarith) n fi deltaT tags (min_le_left _ _) hn hfi
  rw [step_eq, outer_succ, RealNum.lit0, if_pos (show 0 < (loop0 deltaT volume tags).timeRemaining from hdt)]
  simp only [outerBody, loop0, bind, Except.bind, RealNum.ofNat_lit 2, RealNum.gmin_eq, hest, harea, m, hT]

/-! ### non-vacuity: the theorems instantiated on a concrete successful run
(`OW/Proofs/StorageExample.lean`: two-knot table, one timestep of 1 s, inflow 1 m³/s into the empty storage) -/

open OW.Proofs.StorageExample in
/-- the run returns `.ok`, its water balance reads `1 − 0 = (1 − 0)·1 + (0 − 0)·1` -/
example : Chain (fun v i o => o.volume - v = (i.2.2.1 - o.outflow) * 1 + (o.rainfallVolume - o.evaporationVolume) * 1)
    0 [(0, 0, 1, 0)] [⟨1, 0, 0, 0, [⟨0, accEx, 1, 0, 1⟩]⟩] :=
  storage_balance tEx true 2 1 1 0 _ _ (by norm_num) runEx

open OW.Proofs.StorageExample in
example : Chain (fun _ _ o => (o.trace.map (·.acc.sub)).sum = 1) 0 [(0, 0, 1, 0)] [⟨1, 0, 0, 0, [⟨0, accEx, 1, 0, 1⟩]⟩] :=
  sub_steps_sum tEx 2 1 1 0 _ _ (by norm_num) runEx

open OW.Proofs.StorageExample in
example : run tEx true fuelOuter fuelInner 1 0 [(0, 0, 1, 0)] ≠ .error "fuel" :=
  terminates_driver_fuel tEx true 1 (by norm_num) _ _

/-- a panic of the code is an error of the model, not a default value: with an empty volume table the three reads at the
top of `storageWaterBalance` fail -/
example : mkTables ([] : List ℝ) [] [] [] [] = .error "index-out-of-range" := rfl

/-! ### non-vacuity: a run with a HALVED sub-step and a SPILL (`OW/Proofs/StorageExample2.lean`)

Table read through its capped ends (volumes 100 / 200 m³, spill capacity 4.4 m³/s, maximum release 10 m³/s above full supply,
0 below the curve), one timestep of 100 s from 1000 m³ with demand 10: the 100 s trial is rejected and halved; sub-step 1
(50 s, release 10) takes the spill branch with zero spill, sub-step 2 (50 s, force-accepted at the 60 s floor, release 5)
spills 25 m³. Reported: volume 225, outflow 7.75. -/

open OW.Proofs.StorageExample2 in
/-- `trace_tie` on that run: 1000 → 500 → 225 is chained, 50 + 50 = 100, and 7.75·100 = (10·50 + 0) + (5·50 + 25) -/
example : Chain (fun v _ o => Linked v o.trace o.volume ∧ (∀ x ∈ o.trace, 0 < x.acc.sub) ∧
    (o.trace.map (·.acc.sub)).sum = 100 ∧ o.outflow * 100 = released o.trace) 1000 [(0, 0, 0, 10)] [outHS] :=
  trace_tie tHS 3 2 100 1000 _ _ (by norm_num) runHS

open OW.Proofs.StorageExample2 in
/-- the second sub-step of that run spills: `excess = 25 ≠ 0`, so `spill_only_above_full` gives `200 < 250` and `200 ≤ 225` -/
example : (25:ℝ) ≠ 0 ∧ tHS.volCurveMax < subB.volUpdated ∧ tHS.volCurveMax ≤ subB.volAfter := by
  have h := spill_only_above_full tHS 3 2 100 1000 _ _ runHS
  have hB := (h.1 subB (show subB ∈ [subA, subB] from List.mem_cons_of_mem _ (List.mem_cons_self ..))).2.2
  have e : subB.excess = 25 := rfl
  rw [e] at hB
  exact ⟨by norm_num, hB (by norm_num)⟩

open OW.Proofs.StorageExample2 in
/-- the first sub-step of that run was halved (accepted length 50 of a 100 s timestep, tag `halve`) and `release_between` applies
to it with both curve pairs evaluated above full supply (4.4 ≤ 10): its average release is the demand 10 -/
example : accA.sub = 50 ∧ "halve" ∈ accA.tags ∧ subA.acc.avgOutflow = 10 := by
  have h := release_between tHS 3 2 100 1000 _ _ runHS
  have hA := h.1 subA (show subA ∈ [subA, subB] from List.mem_cons_self ..) 4.4 10 4.4 10
    (capHi 1000 _ (by norm_num)) (capHi 1000 _ (by norm_num)) (capHi 500 _ (by norm_num)) (capHi 500 _ (by norm_num))
    (by norm_num) (by norm_num)
  exact ⟨rfl, by decide, hA.2.2 (by norm_num) (by norm_num) (by norm_num) (by norm_num)⟩

open OW.Proofs.StorageExample2 in
/-- `reported_outflow_between` on that run: every evaluation of the minimum-release curve of `tHS` is ≥ 0, of the maximum-release
curve ≤ 10, the curves are ordered and the spill capacity is 4.4 ≥ 0 — so the REPORTED outflow (7.75) lies in [0, max 10 8.8] -/
example : Chain (fun _ _ o => (0:ℝ) ≤ o.outflow ∧ o.outflow ≤ max 10 (2 * tHS.maxSpill) ∧
    ((∀ x ∈ o.trace, x.excess = 0) → o.outflow ≤ 10)) 1000 [(0, 0, 0, 10)] [outHS] :=
  reported_outflow_between tHS totalHS 3 2 100 1000 _ _ (by norm_num) (show (0:ℝ) ≤ 4.4 by norm_num) 0 10 minHS maxHS ordHS runHS

open OW.Proofs.StorageExample2 in
/-- `run_ok_of_release_limited` on the same table and inputs: the table is well-formed (`Total`), the release rule for demand 10
releases nothing below the curve and at most 10 m³/s from 100 m³ on (10·6 ≤ 100), and there is no surface flux — so the run
returns for every fuel above the bounds (here 18 / 6 for Δt = 100 s) -/
example : ∃ r, run tHS true 18 6 100 1000 [(0, 0, 0, 10)] = .ok r := by
  have hq : ∀ u q, releaseRate tHS 10 u = .ok q → 0 ≤ q ∧ q * 6 ≤ max u 0 := by
    intro u q h
    rcases lt_or_ge u 100 with c | c
    · rw [relLo u c] at h
      cases h
      exact ⟨le_refl _, by rw [zero_mul]; exact le_max_right _ _⟩
    · obtain ⟨a, b⟩ := releaseRate_range tHS totalHS 0 10 minHS maxHS ordHS 10 u q h
      exact ⟨a, by have := le_max_left u 0; linarith⟩
  refine run_ok_of_release_limited tHS totalHS (show (0:ℝ) ≤ 200 by norm_num) true 18 6 5 17 100 (by norm_num) (by norm_num)
    (by norm_num) (by decide) (by decide) 1000 (by norm_num) _ ?_ ?_
  · intro i hi
    rw [List.mem_singleton] at hi
    subst hi
    exact hq
  · intro i hi a _
    rw [List.mem_singleton] at hi
    subst hi
    unfold netFluxOf
    norm_num

/-! ### non-vacuity of `draw_down_panics`: two monotone tables inside the property's quantifier on which the run does not return -/

open OW.Proofs.StorageExample2 in
/-- flat maximum release 5 / 5 m³/s, 3 m³ left, demand 1 m³/s, one day: the release rule still releases 1 m³/s, 6 s of it exceed
the 3 m³ present, the sub-step controller panics at its floor -/
example : step tP false 1 15 86400 3 [] (0, 0, 0, 1) = .error "other" :=
  draw_down_panics tP false 1 15 14 86400 3 [] 0 0 0 1 1 _ (by norm_num) (by norm_num) (by decide) (by decide) relP areaP
    (by norm_num) (by rw [min6]; norm_num)

open OW.Proofs.StorageExample2 in
/-- area 100 m² at the empty storage, empty reservoir, PET 5 mm/day, no inflow: evaporation from the empty storage makes every
trial volume negative, the sub-step controller panics at its floor -/
example : step tQ false 1 15 86400 0 [] (0, 5, 0, 0) = .error "other" :=
  draw_down_panics tQ false 1 15 14 86400 0 [] 0 5 0 0 0 _ (by norm_num) (by norm_num) (by decide) (by decide) relQ areaQ
    (by rw [mmToM_eq]; norm_num) (by rw [min6, mmToM_eq]; norm_num)

end OW.Props.C13
