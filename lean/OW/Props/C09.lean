import OW.Gen.Catalog
/-!
C09 — catalogue part: every OW-SPEC model is registered in the catalogue under its name and its Description lists
the spec's parameters (defaults, ranges, dimensions), inputs, states and outputs in spec order.

This is a finite fact about the present tree (level translation_validation, not proof): `OW/Gen/Catalog.lean` is
REGENERATED from the working tree on every run of `bin/check C09` (spec side by the independent extractor
`owextract`, catalogue side by `owharness catalog` on the real code) and the comparison is evaluated by the Lean
kernel there. The byte-for-byte part of C09 (generated files = generator output) is checked outside Lean
(`vlib/c09.py`). Exempt from the range comparison: spec ranges with an open end (`[0,]`), which the present generator
cannot express — a known finding reported by the check's oracle channel.
-/
namespace OW.Props.C09
open OW.Spec.Catalog OW.Gen.Catalog

/-- The Boolean comparison of the regenerated data (kernel-evaluated in `OW.Gen.Catalog`). -/
theorem catalog_matches : checkCatalog specs descs = true := OW.Gen.Catalog.catalog_matches

/-- Every spec model of the present tree has a catalogue entry under its name, built from the Go type of that name in
the spec's package, whose Description lists the spec's parameters (same order; same dimensions, default and closed
range), inputs, states and outputs, in spec order. -/
theorem catalogue_lists_every_spec : ∀ s ∈ specs, ∃ d ∈ descs, Agrees s d :=
  checkCatalog_sound catalog_matches

/-- Consequence in terms of names: the catalogue's parameter names are the spec's, in order. -/
theorem catalogue_parameter_names : ∀ s ∈ specs, ∃ d ∈ descs, d.name = s.name ∧
    d.params.map (·.name) = s.params.map (·.name) ∧ d.inputs = s.inputs ∧ d.states = s.states ∧ d.outputs = s.outputs := by
  intro s hs
  obtain ⟨d, hd, a⟩ := catalogue_lists_every_spec s hs
  exact ⟨d, hd, a.name, a.params.names_eq, a.inputs, a.states, a.outputs⟩

/-- **Backward direction.** Every key of the real `sim.Catalog` of the present tree is the name of an OW-SPEC block:
no model is registered that no spec declares (a hand-registered or left-over wrapper would show here). Together with
`catalogue_lists_every_spec` and the uniqueness of spec names the catalogue keys and the spec names are the same set.
By counting (`checkCatalog_onto`): `catalog_matches` makes the distinct spec names catalogue keys, and the catalogue
has no more entries than there are spec blocks — the count, like `catalog_matches`, is evaluated by the kernel on the
data regenerated by `bin/check C09` on every run. -/
theorem catalogue_only_specs : ∀ d ∈ descs, ∃ s ∈ specs, d.name = s.name :=
  checkCatalog_onto catalog_matches (by decide)

/-- … hence, with the forward direction: a name is a catalogue key iff it is a spec name -/
theorem catalogue_names_eq_spec_names (n : String) : n ∈ descs.map (·.name) ↔ n ∈ specs.map (·.name) := by
  simp only [List.mem_map]
  constructor
  · rintro ⟨d, hd, rfl⟩
    obtain ⟨s, hs, e⟩ := catalogue_only_specs d hd
    exact ⟨s, hs, e.symm⟩
  · rintro ⟨s, hs, rfl⟩
    obtain ⟨d, hd, a⟩ := catalogue_lists_every_spec s hs
    exact ⟨d, hd, a.name⟩

/-- "every catalogue key is the name of some spec block" as a Boolean test, for the example below only
(`catalogue_only_specs` does not evaluate it: it counts) -/
def onlySpecs (specs descs : List Model) : Bool := descs.all (fun d => specs.any (fun s => d.name == s.name))

/-- the test tells a catalogue with an entry no spec declares -/
example : onlySpecs [⟨"M", "M", "p", [], [], [], []⟩]
    [⟨"M", "M", "p", [], [], [], []⟩, ⟨"Extra", "Extra", "p", [], [], [], []⟩] = false := by decide

/-- Non-vacuity: the regenerated data is not empty and the check can fail (a spec model absent from an empty
catalogue; a changed default). -/
example : specs ≠ [] ∧ descs ≠ [] := by decide
example : checkCatalog [⟨"M", "M", "p", [], [], [], []⟩] [] = false := by decide
example : checkCatalog [⟨"M", "M", "p", [⟨"k", [], 1, 0, 0, false, false⟩], [], [], []⟩]
    [⟨"M", "M", "p", [⟨"k", [], 0, 0, 0, false, false⟩], [], [], []⟩] = false := by decide
example : checkCatalog [⟨"M", "M", "p", [], ["a", "b"], [], []⟩] [⟨"M", "M", "p", [], ["b", "a"], [], []⟩] = false := by decide

end OW.Props.C09
