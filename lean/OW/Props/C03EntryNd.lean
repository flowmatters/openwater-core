import OW.Proofs.WrapperNd
import OW.Props.C02
import OW.Proofs.NdOffsetBulk
/-!
C03, clause 3, VIEW LEVEL (part) — the template's per-cell STATE, OUTPUT and INPUT views on C-BACKED roots wrapped around the
caller's buffers (`cdata.NewFloat64CArray`, model `Nd.fromC`) address exactly the rows of those buffers.

`RunSingleModel` (libopenwater/single.go) hands `Run` C-backed roots `states [nCells, nStates]`, `outputs [nOutputCells,
nOutputs, nOutputTimesteps]`. The goroutine of cell `i` builds `states.Slice([i,0],[1,nS],nil).MustReshape([nS])` and
`outputs.Slice([i,o,0],[1,1,T],[1,1,1]).MustReshape([T])`. For GO-backed roots `C04Nd.cell_views_states / _outputs` show these
are re-based aliases (`flat`). For C-backed roots `MustReshape` of a contiguous view keeps the POINTER and returns a root view
whose `Start` is the view's `Start` (`NdC02.cAliasArr`, `reshape_c_alias_norm`): `Get1(s)` / `Set1(s, v)` through it ARE
`Get([i,s])` / `Set([i,s], v)` of the root, at an address inside `[0, Π D)` of the CALLER'S buffer — never the model's out-of-buffer
verdict (`c_inbounds_get/_set`). The first reshape of the two-level input chain returns an OFFSET root (`Start > 0`), handled through
its normal form (`OW/Proofs/NdOffsetRoot.lean`, `OW/Proofs/NdOffsetBulk.lean`).

NOT proved here (declared in checks/C03.py `partial=`): the parameter views on C roots, and the composition into the whole
goroutine / `Run` on C-backed roots (`C04Nd.runNd_refines` is stated for Go-backed roots) incl. the mixed case of `initStates`
(Go-backed states, C-backed rest).
-/
namespace OW.Props.C03EntryNd
open OW OW.Nd OW.Sim OW.Sim.WrapperNd OW.WrapperNd OW.NdOff

section
variable {α : Type}

/-- `a` is a C-BACKED root of shape `D` (non-empty, extents ≥ 1) on a caller buffer that holds at least `Π D` elements
(`ArrOK`, incl. the `1 << 30` bound of the C array type) — what `cdata.New<T>CArray(ptr, D)` returns (`rootOnC_fromC`). -/
structure RootOnC (h : Heap α) (a : Arr) (D : Idx) : Prop where
  view : a.v = rootView D 0
  c : a.isC = true
  ok : ArrOK h a
  pos : Pos D
  ne : D ≠ []

theorem RootOnC.reach {h : Heap α} {a : Arr} {D : Idx} (r : RootOnC h a D) : Reach a.v := by
  rw [r.view]; exact Nd.reach_root r.ne r.pos

theorem rootOnC_mk {h : Heap α} {sid : Nat} {st : List α} {D : Idx} (hne : D ≠ []) (hpos : Pos D)
    (hs : h[sid]? = some st) (hf : product D ≤ st.length) (hsmall : product D ≤ 1073741824) :
    RootOnC h ⟨rootView D 0, sid, 0, st.length, true⟩ D :=
  ⟨rfl, rfl, ⟨⟨st, hs, by simp⟩, by simp, hf, fun _ => hsmall⟩, hpos, hne⟩

/-- **`NewFloat64CArray(ptr, D)`** on a caller buffer (storage `sid`) of at least `Π D` elements, `Π D ≤ 2^30`, is such a
root: same buffer, `base = 0` -/
theorem rootOnC_fromC {h : Heap α} {sid : Nat} {st : List α} {D : Idx} (hne : D ≠ []) (hpos : Pos D)
    (hs : h[sid]? = some st) (hf : product D ≤ st.length) (hsmall : product D ≤ 1073741824) :
    ∃ a, fromC h sid D = .ok a ∧ RootOnC h a D ∧ a.sid = sid ∧ a.base = 0 :=
  ⟨_, by simp [fromC, storeOf, hs, root_eq D 0 hne, bind, Except.bind, pure, Except.pure],
    rootOnC_mk hne hpos hs hf hsmall, rfl, rfl⟩

/-- the 1-D view `MustReshape([n])` returns on the C side: the root's own pointer (`sid`, `base`, `len`, C-backed), root view
`[n]` whose `Start` is `st` -/
def cRow (a : Arr) (st n : Int) : Arr := { a with v := rootView [n] st }

/-- **a dense slice of a C-backed root view from ANY `Start`, at position vector `loc`, reshaped to `s`**: the same pointer, root view
`s` from `Start` + the row-major rank of `loc` (`cRow` for `s = [n]`); no panic, no copy. `st = 0` is a root; `st > 0` is what
`MustReshape` returned one level up, handled through its normal form (`OW/Proofs/NdOffsetRoot.lean`: the root view from 0 over the
window moved forward by `st`). -/
theorem c_slice_reshape {h : Heap α} {a : Arr} {D : Idx} {st : Int} (hv : a.v = rootView D st) (hC : a.isC = true) (hst : 0 ≤ st)
    (hb : st + product D ≤ 1073741824) (hne : D ≠ []) (hpos : Pos D) {loc dims s : Idx} {step : Option Idx}
    (okS : SliceOK D loc dims (stepOr D.length step)) (hD : Nd.Dense dims D (mulL (uniform D.length 1) (stepOr D.length step)))
    (hs : s ≠ []) (hsz : product s = product dims) :
    (do let v ← slice a loc dims step; mustReshape h v s) = .ok (h, { a with v := rootView s (st + ravel loc D) }) ∧
      (sliceView (rootView D 0) loc dims step).contiguous = .ok true := by
  have sh : Sh st a (unshift st a) := ⟨hC, hst, rfl, by rw [hv]; exact hb⟩
  have hv' : (unshift st a).v = rootView D 0 := by
    show shiftV a.v (-st) = _
    rw [hv, shiftV_rootView, Int.add_right_neg]
  obtain ⟨h1, hrb, h3⟩ := dense_slice (a := unshift st a) (loc := loc) (dims := dims) (step := step)
    (by rw [hv']; exact Nd.reach_root hne hpos) (by rw [hv']; exact okS) (by rw [hv']; exact hD)
  obtain ⟨w, hw, shw⟩ := sh.slice h1
  have hm := (Props.C02.mustReshape_spec h _ s).1 _ _ (reshape_c_alias_norm h (Or.inr ⟨st, shw⟩) (reach_geo hrb) hs
    (by simpa [View.size, sliceView] using hsz) h3 (show (unshift st a).isC = true from hC))
  obtain ⟨v', _, rfl⟩ := slice_eq hw
  have e : NdC02.cAliasArr ({ a with v := v' } : Arr) s = { a with v := rootView s (st + ravel loc D) } := by
    have := shw.start
    simp only [sliceView, hv', rootView, Int.zero_add, dot_offsetsT_ravel loc D okS.lengths.1] at this
    simp only [NdC02.cAliasArr, this, Int.add_comm]
  rw [e] at hm
  exact ⟨by simp only [hw, hm, bind, Except.bind], by rw [← hv']; exact h3⟩

theorem RootOnC.slice_reshape {h : Heap α} {a : Arr} {D : Idx} (r : RootOnC h a D) {loc dims s : Idx} {step : Option Idx}
    (okS : SliceOK D loc dims (stepOr D.length step)) (hD : Nd.Dense dims D (mulL (uniform D.length 1) (stepOr D.length step)))
    (hs : s ≠ []) (hsz : product s = product dims) :
    (do let v ← slice a loc dims step; mustReshape h v s) = .ok (h, { a with v := rootView s (ravel loc D) }) ∧
      (sliceView a.v loc dims step).contiguous = .ok true := by
  have hb : (0 : Int) + product D ≤ 1073741824 := by
    have := r.ok.cfits r.c; rw [r.view] at this; rw [Int.zero_add]; exact this
  have := c_slice_reshape (h := h) r.view r.c (Int.le_refl 0) hb r.ne r.pos okS hD hs hsz
  rwa [Int.zero_add, ← r.view] at this

/-- **accesses of a C-backed root.** `Get` / `Set` at an in-bounds index `idx` read / change exactly the cell of the
caller's buffer at the index's row-major rank `p` — an address inside `[0, Π D)`, `Π D = P ≤` the buffer length — and
`Get1(s)` / `Set1(s, v)` through a `cRow` view from `st` with `st + s = p` are the same accesses. -/
theorem RootOnC.access {h : Heap α} {a : Arr} {D : Idx} (r : RootOnC h a D) {idx : Idx}
    (hib : InBounds idx D) {p : Int} (hrav : ravel idx D = p) {P : Int} (hP : product D = P) (st n s : Int) (hs : st + s = p) :
    (∃ x, cell h a.sid (a.base + p).toNat = some x ∧ get1 h (cRow a st n) s = .ok x ∧ Nd.get h a idx = .ok x ∧
        0 ≤ p ∧ p < P ∧ P ≤ a.len) ∧
    ∀ v : α, set1 h (cRow a st n) s v = .ok (setStore h a.sid (a.base + p).toNat v) ∧
      Nd.set h a idx v = .ok (setStore h a.sid (a.base + p).toNat v) := by
  subst hs hP
  have hdims : a.v.dims = D := by rw [r.view]; rfl
  have horig : a.v.orig = D := by rw [r.view]; rfl
  have hib' : InBounds idx a.v.dims := hdims ▸ hib
  have hrow : (cRow a st n).v.index [s] = .ok (st + s) := by
    show (rootView [n] st).index [s] = _
    rw [rootView_index [n] st [s] rfl]
    simp [ravel, product]
  have hidx : a.v.index idx = .ok (st + s) := by
    rw [r.view, rootView_index D 0 idx hib.length, hrav, Int.zero_add]
  -- through the row view and through the root the same position is read / written
  have hget : get1 h (cRow a st n) s = Nd.get h a idx := by
    unfold get1 Nd.get
    rw [if_pos (by simp [cRow, rootView]), hrow, hidx]
    rfl
  have hset : ∀ v : α, set1 h (cRow a st n) s v = Nd.set h a idx v := fun v => by
    unfold set1 Nd.set
    rw [hrow, hidx]
    rfl
  have g := reach_geo r.reach
  have e : addr a.v idx = st + s := Except.ok.inj ((index_addr g idx (Nat.le_of_eq hib'.length)).symm.trans hidx)
  constructor
  · obtain ⟨x, hcell, hg⟩ := get_addr g r.ok hib'
    obtain ⟨q0, q1⟩ := addr_bounds g hib'
    rw [e] at hcell q0 q1
    rw [horig] at q1
    exact ⟨x, hcell, hget.trans hg, hg, q0, q1, horig ▸ r.ok.fits⟩
  · intro v
    have hs := set_addr g r.ok hib' v
    rw [e] at hs
    exact ⟨(hset v).trans hs, hs⟩

/-- **c_cell_views_states.** For a C-backed root `states [N, nS]` on the caller's states buffer and a cell `0 ≤ i < N`:
`states.Slice([i,0],[1,nS],nil).MustReshape([nS])` does not panic and does not copy (heap unchanged); the slice is contiguous;
the result is the caller's own pointer with the root view `[nS]` starting at `i·nS`.
* `Get1(s)`, `0 ≤ s < nS`, through it is `states[i, s]`: it reads the cell `base + i·nS + s` of the caller's buffer, an
  address `< N·nS ≤` the buffer length (never out of the buffer);
* `Set1(s, v)` through it is `states.Set([i,s], v)`: it changes exactly that cell of the caller's buffer — the kernel's state
  write-back reaches the caller's memory, row `i` only. -/
theorem c_cell_views_states {h : Heap α} {states : Arr} {N nS i : Int} (r : RootOnC h states [N, nS])
    (hi0 : 0 ≤ i) (hi : i < N) :
    stateView h states i nS = .ok (h, cRow states (i * nS) nS) ∧
      (sliceView states.v [i, 0] [1, nS] none).contiguous = .ok true ∧
      (∀ s, 0 ≤ s → s < nS → ∃ x, cell h states.sid (states.base + (i * nS + s)).toNat = some x ∧
          get1 h (cRow states (i * nS) nS) s = .ok x ∧ Nd.get h states [i, s] = .ok x ∧
          0 ≤ i * nS + s ∧ i * nS + s < N * nS ∧ N * nS ≤ states.len) ∧
      (∀ s, 0 ≤ s → s < nS → ∀ v : α,
          set1 h (cRow states (i * nS) nS) s v = .ok (setStore h states.sid (states.base + (i * nS + s)).toNat v) ∧
          Nd.set h states [i, s] v = .ok (setStore h states.sid (states.base + (i * nS + s)).toNat v)) := by
  obtain ⟨_, hnS⟩ := pos2 r.pos
  obtain ⟨h4, h3⟩ := r.slice_reshape (loc := [i, 0]) (dims := [1, nS]) (s := [nS]) (step := none)
    (by simp [stepOr, uniform]; omega) (by simp [stepOr, uniform, Nd.Dense]) (by simp) (by simp [product])
  rw [ravel2, Int.add_zero] at h4
  have acc := fun s (s0 : 0 ≤ s) (s1 : s < nS) =>
    r.access (idx := [i, s]) (by simp [InBounds]; omega) (ravel2 ..) (P := N * nS) (by simp [product]) (i * nS) nS s rfl
  exact ⟨h4, h3, fun s s0 s1 => (acc s s0 s1).1, fun s s0 s1 => (acc s s0 s1).2⟩

/-- **c_cell_views_outputs.** For a C-backed root `outputs [M, nO, T']` on the caller's outputs buffer (possibly oversized:
`T ≤ T'`), a cell `0 ≤ i < M`, an output `0 ≤ o < nO`: `outputs.Slice([i,o,0],[1,1,T],[1,1,1]).MustReshape([T])` does not panic
and does not copy; the result is the caller's own pointer with the root view `[T]` starting at `(i·nO+o)·T'`; `Get1(t)` /
`Set1(t, v)`, `0 ≤ t < T`, through it are `outputs[i,o,t]` / `outputs.Set([i,o,t], v)`: cell `base + (i·nO+o)·T' + t` of the caller's
buffer, an address `< M·nO·T' ≤` the buffer length. -/
theorem c_cell_views_outputs {h : Heap α} {outputs : Arr} {M nO T' T i o : Int} (r : RootOnC h outputs [M, nO, T'])
    (hi0 : 0 ≤ i) (hi : i < M) (ho0 : 0 ≤ o) (ho : o < nO) (hT0 : 1 ≤ T) (hT : T ≤ T') :
    outputView h outputs i o T = .ok (h, cRow outputs ((i * nO + o) * T') T) ∧
      (sliceView outputs.v [i, o, 0] [1, 1, T] (some [1, 1, 1])).contiguous = .ok true ∧
      (∀ t, 0 ≤ t → t < T → ∃ x, cell h outputs.sid (outputs.base + ((i * nO + o) * T' + t)).toNat = some x ∧
          get1 h (cRow outputs ((i * nO + o) * T') T) t = .ok x ∧ Nd.get h outputs [i, o, t] = .ok x ∧
          0 ≤ (i * nO + o) * T' + t ∧ (i * nO + o) * T' + t < M * (nO * T') ∧ M * (nO * T') ≤ outputs.len) ∧
      (∀ t, 0 ≤ t → t < T → ∀ v : α,
          set1 h (cRow outputs ((i * nO + o) * T') T) t v =
            .ok (setStore h outputs.sid (outputs.base + ((i * nO + o) * T' + t)).toNat v) ∧
          Nd.set h outputs [i, o, t] v = .ok (setStore h outputs.sid (outputs.base + ((i * nO + o) * T' + t)).toNat v)) := by
  obtain ⟨h4, h3⟩ := r.slice_reshape (loc := [i, o, 0]) (dims := [1, 1, T]) (s := [T]) (step := some [1, 1, 1])
    (by simp [stepOr]; omega) (by simp [stepOr, uniform, Nd.Dense]) (by simp) (by simp [product])
  rw [ravel3, Int.add_zero] at h4
  have acc := fun t (t0 : 0 ≤ t) (t1 : t < T) =>
    r.access (idx := [i, o, t]) (p := (i * nO + o) * T' + t) (by simp [InBounds]; omega)
      (ravel3 ..) (P := M * (nO * T')) (by simp [product]) ((i * nO + o) * T') T t rfl
  exact ⟨h4, h3, fun t t0 t1 => (acc t t0 t1).1, fun t t0 t1 => (acc t t0 t1).2⟩

/-- the 2-D view `MustReshape([r, c])` returns on the C side: the root's own pointer, root view `[r, c]` from `st` -/
def cBlock (a : Arr) (st r c : Int) : Arr := { a with v := rootView [r, c] st }

/-- first level of the input chain on a C-backed root: block `i % nIn`, the caller's own pointer, root view `[nI, T]` from
`(i % nIn)·nI·T` (an offset root); no panic, no copy -/
theorem c_cellInputs_eq {h : Heap α} {inputs : Arr} {nIn nI T i : Int} (r : RootOnC h inputs [nIn, nI, T]) (hi0 : 0 ≤ i) :
    cellInputs h inputs i nIn nI T = .ok (h, cBlock inputs ((i % nIn) * (nI * T)) nI T) := by
  obtain ⟨hnIn, hnI, hT⟩ := pos3 r.pos
  obtain ⟨hc0, hc1⟩ := emod_range i hnIn
  obtain ⟨h4, _⟩ := r.slice_reshape (loc := [i % nIn, 0, 0]) (dims := [1, nI, T]) (s := [nI, T]) (step := none)
    (by simp [stepOr, uniform]; omega) (by simp [stepOr, uniform, Nd.Dense]) (by simp) (by simp [product])
  rw [ravel3, Int.add_zero, Int.add_zero, Int.mul_assoc] at h4
  unfold cellInputs
  simp only [goMod_eq hi0 hnIn, bind, Except.bind]
  exact h4

/-- second level: `Slice([k,0],[1,T],nil).MustReshape([T])` of that offset root: the caller's own pointer, root view `[T]` from
`st + k·T`; no panic, no copy -/
theorem c_inputOf_eq {h : Heap α} {inputs : Arr} {nIn nI T st k : Int} (r : RootOnC h inputs [nIn, nI, T])
    (hst0 : 0 ≤ st) (hst : st + nI * T ≤ nIn * (nI * T)) (hk0 : 0 ≤ k) (hk : k < nI) :
    inputOf h (cBlock inputs st nI T) k T = .ok (h, cRow inputs (st + k * T) T) := by
  obtain ⟨hnIn, hnI, hT⟩ := pos3 r.pos
  have hb : st + product [nI, T] ≤ 1073741824 := by
    have := r.ok.cfits r.c
    rw [r.view] at this
    have e : product (rootView [nIn, nI, T] 0).orig = nIn * (nI * T) := by simp [rootView, product]
    have e' : product [nI, T] = nI * T := by simp [product]
    omega
  have := (c_slice_reshape (h := h) (a := cBlock inputs st nI T) (D := [nI, T]) (loc := [k, 0]) (dims := [1, T]) (s := [T])
    (step := none) rfl r.c hst0 hb (by simp) (by intro x hx; simp at hx; omega) (by simp [stepOr, uniform]; omega)
    (by simp [stepOr, uniform, Nd.Dense]) (by simp) (by simp [product])).1
  rwa [ravel2, Int.add_zero] at this

/-- **c_cell_views_inputs.** For a C-backed root `inputs [nIn, nI, T]` on the caller's inputs buffer, ANY cell `i ≥ 0` (blocks are
reused cyclically) and an input `0 ≤ k < nI`: the two-level chain `inputs.Slice([i % nIn,0,0],[1,nI,T],nil).MustReshape([nI,T])`
(an OFFSET root on the C side: same pointer, `Start = (i % nIn)·nI·T`) then `.Slice([k,0],[1,T],nil).MustReshape([T])` does not panic
and does not copy; the result is the caller's own pointer with the root view `[T]` starting at `((i % nIn)·nI + k)·T`; `Get1(t)`,
`0 ≤ t < T`, through it is `inputs[i % nIn, k, t]`: cell `base + ((i % nIn)·nI + k)·T + t` of the caller's buffer, inside it. -/
theorem c_cell_views_inputs {h : Heap α} {inputs : Arr} {nIn nI T i k : Int} (r : RootOnC h inputs [nIn, nI, T])
    (hi0 : 0 ≤ i) (hk0 : 0 ≤ k) (hk : k < nI) :
    inputView h inputs i k nIn nI T = .ok (h, cRow inputs ((i % nIn) * (nI * T) + k * T) T) ∧
      (∀ t, 0 ≤ t → t < T → ∃ x,
          cell h inputs.sid (inputs.base + (((i % nIn) * nI + k) * T + t)).toNat = some x ∧
          get1 h (cRow inputs ((i % nIn) * (nI * T) + k * T) T) t = .ok x ∧ Nd.get h inputs [i % nIn, k, t] = .ok x ∧
          0 ≤ ((i % nIn) * nI + k) * T + t ∧ ((i % nIn) * nI + k) * T + t < nIn * (nI * T) ∧ nIn * (nI * T) ≤ inputs.len) := by
  obtain ⟨hnIn, hnI, hT⟩ := pos3 r.pos
  obtain ⟨hc0, hc1⟩ := emod_range i hnIn
  have hst0 : 0 ≤ (i % nIn) * (nI * T) := Int.mul_nonneg hc0 (Int.mul_nonneg (by omega) (by omega))
  have hst : (i % nIn) * (nI * T) + nI * T ≤ nIn * (nI * T) := by
    have : (i % nIn + 1) * (nI * T) ≤ nIn * (nI * T) :=
      Int.mul_le_mul_of_nonneg_right (by omega) (Int.mul_nonneg (by omega) (by omega))
    rw [Int.add_mul, Int.one_mul] at this; exact this
  have e1 := c_cellInputs_eq r hi0
  have e2 := c_inputOf_eq r hst0 hst hk0 hk
  exact ⟨by unfold inputView; simp only [e1, e2, bind, Except.bind], fun t t0 t1 =>
    (r.access (idx := [i % nIn, k, t]) (p := ((i % nIn) * nI + k) * T + t) (by simp [InBounds]; omega)
      (ravel3 ..) (P := nIn * (nI * T)) (by simp [product]) ((i % nIn) * (nI * T) + k * T) T t (by ring)).1⟩

end

section Example

/-- the caller's memory: one states buffer -/
def heapE : Heap Int := [[10, 11, 20, 21, 30, 31]]

/-- `NewFloat64CArray(ptr, [3, 2])` on it -/
def sE : Arr := ⟨rootView [3, 2] 0, 0, 0, 6, true⟩

example : fromC heapE 0 [3, 2] = .ok sE := by decide

theorem rsE : RootOnC heapE sE [3, 2] :=
  rootOnC_mk (st := heapE[0]) (List.cons_ne_nil _ _) (by unfold Pos; decide) rfl (by decide) (by decide)

/-- cell 1's state view: the caller's pointer, root view `[2]` from position 2; no copy -/
example : stateView heapE sE 1 2 = .ok (heapE, cRow sE 2 2) := (c_cell_views_states rsE (by decide) (by decide)).1

/-- reading state 1 of cell 1 through it reads `buffer[3]` -/
example : get1 heapE (cRow sE 2 2) 1 = .ok 21 := by decide

/-- writing it changes `buffer[3]` of the caller's memory and nothing else -/
example : set1 heapE (cRow sE 2 2) 1 99 = .ok [[10, 11, 20, 99, 30, 31]] :=
  ((c_cell_views_states rsE (i := 1) (by decide) (by decide)).2.2.2 1 (by decide) (by decide) 99).1

/-- the C view is NOT fenced like the Go one (`flat_set1_oob`): index 2 of cell 1's view is cell 2's first state — the
unchecked `*[1<<30]C.double`; the kernels only use indices `< nS` (`wrapperNd_refines` hypothesis `hK`) -/
example : set1 heapE (cRow sE 2 2) 2 99 = .ok [[10, 11, 20, 21, 99, 31]] := by decide

/-- an inputs buffer of 2 blocks × 2 inputs × 3 timesteps wrapped as a C-backed root; cell 3 uses block 3 % 2 = 1, its
input 1 is positions 9 … 11 of the caller's buffer -/
def heapI : Heap Int := [[0, 1, 2, 3, 4, 5, 6, 7, 8, 9, 10, 11]]
def iE : Arr := ⟨rootView [2, 2, 3] 0, 0, 0, 12, true⟩

theorem riE : RootOnC heapI iE [2, 2, 3] :=
  rootOnC_mk (st := heapI[0]) (List.cons_ne_nil _ _) (by unfold Pos; decide) rfl (by decide) (by decide)

example : inputView heapI iE 3 1 2 2 3 = .ok (heapI, cRow iE 9 3) :=
  (c_cell_views_inputs riE (i := 3) (k := 1) (by decide) (by decide) (by decide)).1

example : get1 heapI (cRow iE 9 3) 2 = .ok 11 := by decide

end Example

end OW.Props.C03EntryNd
