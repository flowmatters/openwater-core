import OW.Props.C06Laws
import OW.Props.C06Real
import OW.Proofs.HotStartN
import OW.Proofs.StorageExample
import OW.Proofs.GR4JModel
/-!
C06 — N-way splits, split-pair non-vacuity, and what an empty part does.

`HotStart` (OW/Proofs/HotStart.lean) is the statement for ONE cut. The property quantifies over every way of cutting a period into
consecutive parts: `HotStartN`, `HotStartWhenN` (a side condition at EVERY cut, `CutsOk`; when it only constrains the parameter
column it is assumed once, `cutsOk_of_param`), obtained from the two-way statements by `HotStart.toN`, `HotStartWhen.toN`
(OW/Proofs/HotStartN.lean).

Below: the instances for the catalogue models that have a `hotstart_…` theorem in OW/Props/C06.lean / C06Laws.lean.
StorageRouting has no N-way instance: its partial two-way theorem `hotstart_StorageRouting_partial` is not of the `HotStartWhen`
form (its hypothesis is about the root-finder seed `qi`, which is not in the state row).
-/
namespace OW.Props.C06
open OW OW.Kernels

variable {α : Type} [Num α]

/-! ### N-way hot-start continuity, any arithmetic -/

theorem hotstartN_Muskingum : HotStartN (Muskingum.model (α := α)) := hotstart_Muskingum.toN
theorem hotstartN_LumpedConstituentRouting : HotStartN (LumpedConstituent.model (α := α)) := hotstart_LumpedConstituentRouting.toN
theorem hotstartN_ConstituentDecay : HotStartN (ConstituentDecay.model (α := α)) := hotstart_ConstituentDecay.toN
theorem hotstartN_StorageDissolvedDecay : HotStartN (StorageDissolvedDecay.model (α := α)) := hotstart_StorageDissolvedDecay.toN
theorem hotstartN_StorageParticulateTrapping : HotStartN (StorageParticulateTrapping.model (α := α)) :=
  hotstart_StorageParticulateTrapping.toN
theorem hotstartN_InstreamCoarseSediment : HotStartN (InstreamCoarseSediment.model (α := α)) := hotstart_InstreamCoarseSediment.toN
theorem hotstartN_InstreamParticulateNutrient : HotStartN (InstreamParticulateNutrient.model (α := α)) :=
  hotstart_InstreamParticulateNutrient.toN
theorem hotstartN_Simhyd : HotStartN (Simhyd.model (α := α)) := hotstart_Simhyd.toN
theorem hotstartN_Surm : HotStartN (Surm.model (α := α)) := hotstart_Surm.toN
/-- Lag: any number of cuts (parts shorter or longer than the lag, in any mixture). -/
theorem hotstartN_Lag : HotStartN (Lag.model (α := α)) := hotstart_Lag.toN
theorem hotstartN_Storage : HotStartN (Storage.model (α := α)) := hotstart_Storage.toN

/-! ### N-way, one arithmetic law -/

theorem hotstartN_GR4J_lawful [IntRoundTripLaw α] : HotStartN (GR4J.model (α := α)) := hotstart_GR4J_lawful.toN

theorem hotstartN_StorageTrapAll_lawful [AddZeroLaw α] : HotStartN (StorageTrapAll.model (α := α)) :=
  hotstart_StorageTrapAll_lawful.toN

/-- GR4J, bounded law: any number of cuts, provided that at every cut the arithmetic round-trips the integers up to the length
of the state row the block STARTED from (`CutsOk`; the packed row never gets longer: 4 + n1 + n2 columns; the side condition is
`IntRoundTripUpToRow`, OW/Proofs/HotStartGR4J.lean, written out). -/
theorem hotstartN_GR4J_bounded :
    HotStartWhenN (GR4J.model (α := α)) (fun _ st _ => ∀ n : Nat, n ≤ st.length → Num.toInt (Num.ofNat n : α) = (n : Int)) :=
  hotstart_GR4J_bounded.toN

/-! ### N-way for three of the four `_partial` models: the side condition at every cut -/

/-- InstreamFineSediment: any number of cuts, provided `FineSedimentSplitOk` holds at EVERY cut (no bank-full flow, or the
channel store handed over is not negative) — assumed cut by cut (`CutsOk`). -/
theorem hotstartN_InstreamFineSediment_partial :
    HotStartWhenN (InstreamFineSediment.model (α := α)) FineSedimentSplitOk := hotstart_InstreamFineSediment_partial.toN

/-- InstreamFineSediment (ℝ): for a parameter column with maximum storage ≥ 0 the side condition is re-established at every
cut by the run itself (`OW.C12.fine_run_store_nonneg`, inside `hotstart_InstreamFineSediment_real`): any number of cuts,
no hypothesis on the intermediate state rows. -/
theorem hotstartN_InstreamFineSediment_real (p : List ℝ) (hp : FineSedimentMaxStorageNonneg p [] [])
    (b : List (List ℝ)) (bs : List (List (List ℝ))) (st : List ℝ) (k : Nat) (ns : List Nat) (o : KOut ℝ)
    (hok : BlocksOk k ns (b :: bs)) (hr : runBlocks InstreamFineSediment.model p b bs st = .ok o) :
    ∃ o', (InstreamFineSediment.model (α := ℝ)).run p (catBlocks b bs) st = .ok o' ∧ o'.outputs = o.outputs ∧ o'.states = o.states :=
  hotstart_InstreamFineSediment_real.toN p b bs st k ns o hok (cutsOk_of_param _ p (fun _ _ => hp) b bs st) hr

/-- InstreamDissolvedNutrientDecay with decay disabled (`doDecay < 0.5`, a condition on the parameter column only): any number
of cuts. (With decay enabled the two-way statement is already false: `hotstart_InstreamDissolvedNutrientDecay_counterexample`.) -/
theorem hotstartN_InstreamDissolvedNutrientDecay_partial (p : List α) (hp : DecayDisabled p [] [])
    (b : List (List α)) (bs : List (List (List α))) (st : List α) (k : Nat) (ns : List Nat) (o : KOut α)
    (hok : BlocksOk k ns (b :: bs)) (hr : runBlocks InstreamDissolvedNutrient.model p b bs st = .ok o) :
    ∃ o', (InstreamDissolvedNutrient.model (α := α)).run p (catBlocks b bs) st = .ok o' ∧ o'.outputs = o.outputs ∧
      o'.states = o.states :=
  hotstart_InstreamDissolvedNutrientDecay_partial.toN p b bs st k ns o hok (cutsOk_of_param _ p (fun _ _ => hp) b bs st) hr

/-- Sacramento (ℝ) without unit-hydrograph spreading (`SacramentoNoSpread`: uh2..uh5 = 0, uh1 ≠ 0, 1 + side ≠ 0, a condition on
the parameter column only): any number of cuts. (With spreading the two-way statement is false:
`hotstart_Sacramento_counterexample`.) -/
theorem hotstartN_Sacramento_partial (p : List ℝ) (hp : SacramentoNoSpread p [] [])
    (b : List (List ℝ)) (bs : List (List (List ℝ))) (st : List ℝ) (k : Nat) (ns : List Nat) (o : KOut ℝ)
    (hok : BlocksOk k ns (b :: bs)) (hr : runBlocks Sacramento.model p b bs st = .ok o) :
    ∃ o', (Sacramento.model (α := ℝ)).run p (catBlocks b bs) st = .ok o' ∧ o'.outputs = o.outputs ∧ o'.states = o.states :=
  hotstart_Sacramento_partial.toN p b bs st k ns o hok (cutsOk_of_param _ p (fun _ _ => hp) b bs st) hr

/-- InstreamDissolvedNutrientDecay reads `prevVolume := reachVolume.Get([0])` BEFORE the loop and before the `doDecay` test
(models/routing/instream_dissolved_nutrient.go:58): a call over zero timesteps panics with an index out of range, decay enabled
or not. `HotStart`/`HotStartN` assume that every call of the split run succeeds, so for this model a split with an EMPTY part is
outside the statements (all other stateful models accept an empty part, and for them the theorems about the model cover it;
the KSPLIT correspondence cuts inside 1..T-1 and so never runs the code over an empty part). -/
theorem instreamDissolvedNutrient_empty_part_errors (dd psl lh lw ll uv dur sm : α) (up lat out fp : List α) :
    (InstreamDissolvedNutrient.model (α := α)).run [dd, psl, lh, lw, ll, uv, dur] [up, lat, [], out, fp] [sm] =
      .error "index-out-of-range" := rfl

/-- Muskingum, split pair: a 2-step part, then a 1-step part started from the state row the first call returned -/
example : ∃ o₁ o₂, (Muskingum.model (α := Float)).run [86400, 0.25, 86400] [[1, 2], [0, 1]] [0, 0, 0] = .ok o₁ ∧
    (Muskingum.model (α := Float)).run [86400, 0.25, 86400] [[5], [3]] o₁.states = .ok o₂ := ⟨_, _, rfl, rfl⟩

/-- the blocks of the next example are well shaped: 2 series per block, block lengths 2, 1, 0, 1 (an empty part included) -/
example : BlocksOk (β := Float) 2 [2, 1, 0, 1] [[[1, 2], [0, 1]], [[5], [3]], [[], []], [[4], [0]]] :=
  ⟨rfl, List.forall_iff_forall_mem.mp ⟨rfl, rfl⟩, rfl, List.forall_iff_forall_mem.mp ⟨rfl, rfl⟩,
    rfl, List.forall_iff_forall_mem.mp ⟨rfl, rfl⟩, rfl, List.forall_iff_forall_mem.mp ⟨rfl, rfl⟩, trivial⟩

/-- Muskingum, a 4-way split (lengths 2, 1, 0, 1): the split run of `hotstartN_Muskingum` succeeds -/
example : ∃ o, runBlocks (Muskingum.model (α := Float)) [86400, 0.25, 86400] [[1, 2], [0, 1]] [[[5], [3]], [[], []], [[4], [0]]]
    [0, 0, 0] = .ok o := ⟨_, rfl⟩

/-- and `catBlocks` of those blocks is the uninterrupted period -/
example : catBlocks [[1, 2], [0, 1]] [[[5], [3]], [[], []], [[4], [0]]] = [[1, 2, 5, 4], [0, 1, 3, 0]] := rfl

/-- `CutsOk` is satisfiable with a state-dependent condition: InstreamFineSediment on the lumped path (no bank-full flow),
three blocks -/
example (b b' b'' : List (List α)) (st : List α) (rest : List α) (bff : α) (h : bff ≤ (1e-8 : α)) :
    CutsOk (InstreamFineSediment.model (α := α)) FineSedimentSplitOk (bff :: rest) b [b', b''] st :=
  fun _ _ => ⟨Or.inl ⟨bff, rest, rfl, h⟩, fun _ _ => ⟨Or.inl ⟨bff, rest, rfl, h⟩, trivial⟩⟩

section NonVacuityReal
attribute [-simp] OW.RealNum.ofNat_eq

/-- GR4J (ℝ), split pair, x4 = 1 so that n1 = 1, n2 = 2: the first call succeeds on the row [S, R, 1, 2, q1a, q1b, q9a], and the
packed row it returns (`GR4J.pack`: [S', R', float 1, float 2] ++ q1 ++ q9, seven columns again) is re-accepted by the second
call — `int(float 1) = 1`, `int(float 2) = 2`, three store columns present. -/
example : ∃ o₁ o₂, (GR4J.model (α := ℝ)).run [350, 0, 90, 1] [[10, 0], [1, 2]] [100, 30, Num.ofNat 1, Num.ofNat 2, 0, 0, 0] = .ok o₁ ∧
    (GR4J.model (α := ℝ)).run [350, 0, 90, 1] [[5], [1]] o₁.states = .ok o₂ :=
  ⟨_, _, RR.GR4J.model_run_pack 350 0 90 1 1 2 (by decide) (by decide) ⟨100, 30, [0, 0], [0]⟩ rfl rfl [10, 0] [1, 2],
    RR.GR4J.model_run_chain 350 0 90 1 1 2 (by decide) (by decide) ⟨100, 30, [0, 0], [0]⟩ rfl rfl [10, 0] [1, 2] [5] [1]⟩

/-- Storage (ℝ), split pair on the MAIN path (valid configuration, the adaptive sub-stepping loop runs): the two-knot table of
`OW.Proofs.StorageExample.tEx` (volumes 0 / 1000 m³, levels 0 / 10 m, areas 0 / 100 m², releases 0), Δt = 1 s, inflow 1 m³/s.
The first call fills the empty storage to 1 m³ and returns the row [1, level, area]; the second call, started from THAT row,
succeeds as well and returns volume 2 (`OW.Proofs.StorageExampleHot.runGen_driver`, with the driver's fuel). The non-zero returned
volumes show that this is not the early-return path (which returns a zero row). -/
example : ∃ o₁ o₂,
    (Storage.model (α := ℝ)).run ((1 : ℝ) :: Num.ofNat 2 :: (OW.Proofs.StorageExample.tEx.levels ++ OW.Proofs.StorageExample.tEx.volumes ++
        OW.Proofs.StorageExample.tEx.areas ++ OW.Proofs.StorageExample.tEx.minRelease ++ OW.Proofs.StorageExample.tEx.maxRelease))
      [[0], [0], [1], [0], [0], [0]] [0, 0, 0] = .ok o₁ ∧
    (Storage.model (α := ℝ)).run ((1 : ℝ) :: Num.ofNat 2 :: (OW.Proofs.StorageExample.tEx.levels ++ OW.Proofs.StorageExample.tEx.volumes ++
        OW.Proofs.StorageExample.tEx.areas ++ OW.Proofs.StorageExample.tEx.minRelease ++ OW.Proofs.StorageExample.tEx.maxRelease))
      [[0], [0], [1], [0], [0], [0]] o₁.states = .ok o₂ ∧
    (∃ l a, o₁.states = [0 + 1, l, a]) ∧ (∃ l a, o₂.states = [0 + 1 + 1, l, a]) := by
  have e2 : Num.toInt (Num.ofNat 2 : ℝ) = 2 := RealNum.toInt_natCast 2
  have hsp : Storage.splitTables 2 (OW.Proofs.StorageExample.tEx.levels ++ OW.Proofs.StorageExample.tEx.volumes ++
      OW.Proofs.StorageExample.tEx.areas ++ OW.Proofs.StorageExample.tEx.minRelease ++ OW.Proofs.StorageExample.tEx.maxRelease) =
      (OW.Proofs.StorageExample.tEx.levels, OW.Proofs.StorageExample.tEx.volumes, OW.Proofs.StorageExample.tEx.areas,
        OW.Proofs.StorageExample.tEx.minRelease, OW.Proofs.StorageExample.tEx.maxRelease) := rfl
  have hm : Storage.mkTables OW.Proofs.StorageExample.tEx.levels OW.Proofs.StorageExample.tEx.volumes
      OW.Proofs.StorageExample.tEx.areas OW.Proofs.StorageExample.tEx.minRelease OW.Proofs.StorageExample.tEx.maxRelease =
      .ok OW.Proofs.StorageExample.tEx := rfl
  have hc : Storage.checkConfig (2 : Int) OW.Proofs.StorageExample.tEx.volumes = .ok .ok := by
    have hv : OW.Proofs.StorageExample.tEx.volumes = [0, 1000] := rfl
    rw [hv]
    simp only [Storage.checkConfig, Storage.maximum, List.foldl]
    realnum
    norm_num
  have key : ∀ cv lv ar : ℝ, 0 ≤ cv → cv + 1 < 1000 → ∃ o,
      (Storage.model (α := ℝ)).run ((1 : ℝ) :: Num.ofNat 2 :: (OW.Proofs.StorageExample.tEx.levels ++ OW.Proofs.StorageExample.tEx.volumes ++
          OW.Proofs.StorageExample.tEx.areas ++ OW.Proofs.StorageExample.tEx.minRelease ++ OW.Proofs.StorageExample.tEx.maxRelease))
        [[0], [0], [1], [0], [0], [0]] [cv, lv, ar] = .ok o ∧ (∃ l a, o.states = [cv + 1, l, a]) := by
    intro cv lv ar h0 h1
    obtain ⟨r, hr, hv⟩ := OW.Proofs.StorageExampleHot.runGen_driver cv h0 h1
    have hlen : ((OW.Proofs.StorageExample.tEx.levels ++ OW.Proofs.StorageExample.tEx.volumes ++
        OW.Proofs.StorageExample.tEx.areas ++ OW.Proofs.StorageExample.tEx.minRelease ++ OW.Proofs.StorageExample.tEx.maxRelease).length
          != 5 * (2 : Int).toNat) = false := by decide
    have hneg : ¬ ((2 : Int) < 0) := by decide
    have htn : (2 : Int).toNat = 2 := rfl
    simp only [Storage.model, e2, if_neg hneg, htn, hsp, hm, hc, zip4, hr]
    exact ⟨_, rfl, _, _, by rw [hv]⟩
  obtain ⟨o₁, h1, l1, a1, hs1⟩ := key 0 0 0 (le_refl _) (by norm_num)
  obtain ⟨o₂, h2, hs2⟩ := key (0 + 1) l1 a1 (by norm_num) (by norm_num)
  rw [← hs1] at h2
  exact ⟨o₁, o₂, h1, h2, ⟨l1, a1, hs1⟩, hs2⟩
end NonVacuityReal

end OW.Props.C06
