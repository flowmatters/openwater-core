import OW.Proofs.Lag
import OW.Proofs.StorageRoutingStall
import OW.Proofs.Muskingum
import OW.Proofs.ScanBudget
import OW.Props.C18
/-!
C11 — flow routing conserves volume and honours its storage-discharge relation.

Models: `OW/Kernels/Muskingum.lean`, `OW/Kernels/Lag.lean`, `OW/Kernels/StorageRouting.lean` (line-by-line models of
`models/routing/{muskingum,lag,storage_routing}.go`), at `ℝ` (exact arithmetic) for Muskingum and StorageRouting; the
theorems on Lag's core loop (`lag_spec_*`) are pure list theory and hold for every element type, those on the kernel `Lag.run`
(`lag_zero`, `lag_run_short`, `lag_run_spec`) are stated at `ℝ`.
-/
namespace OW.Props.C11
open OW

attribute [-simp] OW.RealNum.ofNat_eq  -- as a simp lemma it loops with `Nat.cast_ofNat` on numerals ≥ 2 (see OW/Proofs/RealNum.lean, "literals")

section Muskingum
open OW.Kernels.Muskingum OW.Proofs.Muskingum

theorem weights_sum_one (k x dt : ℝ) (hden : 2 * k * (1 - x) + dt ≠ 0) :
    (coef k x dt).a1 + (coef k x dt).a2 + (coef k x dt).a3 = 1 := by
  rw [coef_eq]
  simp only
  field_simp
  ring

theorem steady_passes (k x dt : ℝ) (hden : 2 * k * (1 - x) + dt ≠ 0) (q : ℝ) (xs : List (ℝ × ℝ))
    (hxs : ∀ i ∈ xs, i.1 + i.2 = q) :
    run k x dt (q, q) xs = ((q, q), xs.map (fun _ => q)) := by
  unfold run
  induction xs with
  | nil => rfl
  | cons i xs ih =>
    obtain ⟨a, b⟩ := i
    have h1 : step (coef k x dt) (q, q) (a, b) = ((q, q), q) := by
      unfold step
      simp only
      rw [show a + b = q from hxs (a, b) (List.mem_cons_self ..), ← add_mul, ← add_mul, weights_sum_one k x dt hden, one_mul]
    simp only [scan, h1, List.map_cons]
    rw [ih (fun j hj => hxs j (List.mem_cons_of_mem _ hj))]

/-- upstream + lateral inflow, summed over the series -/
def totalIn (xs : List (ℝ × ℝ)) : ℝ := (xs.map (fun i => i.1 + i.2)).sum

/-- for every series, every carried-over state `(I_0, O_0) = st` and all parameters with a defined denominator
(`I_t` = upstream + lateral inflow). The right-hand side is the change of the Muskingum storage `K[X·I + (1−X)·O]` between `st` and
the final state, plus the half-step correction between the rectangle sums on the left and the trapezoid sums of the textbook form
(`budget_trapezoid`). -/
theorem budget (k x dt : ℝ) (hden : 2 * k * (1 - x) + dt ≠ 0) (xs : List (ℝ × ℝ)) (st : ℝ × ℝ) :
    dt * (totalIn xs - (run k x dt st xs).2.sum) =
      k * (x * ((run k x dt st xs).1.1 - st.1) + (1 - x) * ((run k x dt st xs).1.2 - st.2)) +
        dt / 2 * (((run k x dt st xs).1.1 - st.1) - ((run k x dt st xs).1.2 - st.2)) := by
  -- the one-step balance `step_budget` of the reach storage `stor`, summed along the run
  have h := scan_mass (inn := fun i => dt * (i.1 + i.2)) (out := fun o => dt * o) (step_budget k x dt hden) (xs := xs) (s := st)
  rw [List.sum_map_mul_left, List.sum_map_mul_left, List.map_id'] at h
  unfold run totalIn
  unfold stor at h
  linear_combination h

/-- the form of DESIGN §6 C11, `Δt·Σ[(I_t+I_{t−1})/2 − (O_t+O_{t−1})/2] = K[X(I_T−I_0) + (1−X)(O_T−O_0)]`, written with the
rectangle sums: `Σ(I_t+I_{t−1})/2 = ΣI_t − (I_T − I_0)/2` -/
theorem budget_trapezoid (k x dt : ℝ) (hden : 2 * k * (1 - x) + dt ≠ 0) (xs : List (ℝ × ℝ)) (st : ℝ × ℝ) :
    dt * ((totalIn xs - ((run k x dt st xs).1.1 - st.1) / 2) - ((run k x dt st xs).2.sum - ((run k x dt st xs).1.2 - st.2) / 2)) =
      k * (x * ((run k x dt st xs).1.1 - st.1) + (1 - x) * ((run k x dt st xs).1.2 - st.2)) := by
  have := budget k x dt hden xs st
  generalize run k x dt st xs = R at this ⊢
  linear_combination this

/-- The hypothesis is an EXACT equality of states: it holds for steady runs (`steady_passes`), but a reach that
starts at rest and has received water never returns exactly to rest (the recession is geometric: `run_zero_tail`). The clause for
a real event — start at rest, any inflow series, then a recession — is `event_volume_remainder` / `event_volume_limit`. -/
theorem event_volume (k x dt : ℝ) (hden : 2 * k * (1 - x) + dt ≠ 0) (xs : List (ℝ × ℝ)) (st : ℝ × ℝ)
    (hend : (run k x dt st xs).1 = st) :
    dt * (run k x dt st xs).2.sum = dt * totalIn xs := by
  have := budget k x dt hden xs st
  rw [hend] at this
  simp only [sub_self, mul_zero, add_zero] at this
  linarith

theorem totalIn_append_zeros (xs : List (ℝ × ℝ)) (m : ℕ) : totalIn (xs ++ List.replicate m (0, 0)) = totalIn xs := by
  unfold totalIn
  simp

/-- start at rest, let any series enter, then `n + 1` steps without inflow: the volume not yet delivered at the outlet is the
water still stored in the reach, `(K(1−X) − Δt/2)·a3ⁿ·O₁` with `O₁ = a2·I_end + a3·O_end` the outflow of the first dry step; it decays
with ratio `a3` (`|a3| < 1` for `K(1−X) > 0`, `Δt > 0`: `OW.Proofs.Muskingum.a3_abs_lt_one`) -/
theorem event_volume_remainder (k x dt : ℝ) (hden : 2 * k * (1 - x) + dt ≠ 0) (xs : List (ℝ × ℝ)) (n : ℕ) :
    dt * totalIn xs - dt * (run k x dt (0, 0) (xs ++ List.replicate (n + 1) (0, 0))).2.sum =
      (k * (1 - x) - dt / 2) * ((coef k x dt).a3 ^ n *
        ((coef k x dt).a2 * (run k x dt (0, 0) xs).1.1 + (coef k x dt).a3 * (run k x dt (0, 0) xs).1.2)) := by
  have hb := budget k x dt hden (xs ++ List.replicate (n + 1) (0, 0)) (0, 0)
  rw [run_event_tail_state, totalIn_append_zeros] at hb
  generalize (coef k x dt).a3 ^ n *
    ((coef k x dt).a2 * (run k x dt (0, 0) xs).1.1 + (coef k x dt).a3 * (run k x dt (0, 0) xs).1.2) = W at hb ⊢
  generalize (run k x dt (0, 0) (xs ++ List.replicate (n + 1) (0, 0))).2.sum = O at hb ⊢
  linear_combination hb

/-- the hypotheses cover every parameter set of the stable region `2KX ≤ Δt ≤ 2K(1−X)` with `Δt > 0`; the divisor `2K(1−X)+Δt`
is positive under them -/
theorem event_volume_limit (k x dt : ℝ) (hk : 0 < k * (1 - x)) (hdt : 0 < dt) (xs : List (ℝ × ℝ)) (ε : ℝ) (hε : 0 < ε) :
    ∃ N, ∀ n, N ≤ n →
      |dt * totalIn xs - dt * (run k x dt (0, 0) (xs ++ List.replicate (n + 1) (0, 0))).2.sum| < ε := by
  have hden : 2 * k * (1 - x) + dt ≠ 0 := by rw [mul_assoc]; exact ne_of_gt (by linarith)
  obtain ⟨N, hN⟩ := geometric_small (a3_abs_lt_one k x dt hk hdt)
    (mul_nonneg (abs_nonneg (k * (1 - x) - dt / 2))
      (abs_nonneg ((coef k x dt).a2 * (run k x dt (0, 0) xs).1.1 + (coef k x dt).a3 * (run k x dt (0, 0) xs).1.2))) hε
  refine ⟨N, fun n hn => ?_⟩
  rw [event_volume_remainder k x dt hden xs n, abs_mul, abs_mul, abs_pow, mul_left_comm, mul_comm (|(coef k x dt).a3| ^ n)]
  exact hN n hn

/-- non-vacuity of `event_volume_remainder` / `event_volume_limit`: `K = Δt = 86400`, `X = 0.25` lie in the stable region, `a3 = 1/5`;
one unit of inflow for one step, then two dry steps. The undelivered volume `Δt·(1 − 121/125)` is not zero, so the hypothesis of
`event_volume` fails for this run while the remainder theorem applies -/
example : (0 : ℝ) < 86400 * (1 - 0.25) ∧ 2 * (86400 : ℝ) * 0.25 ≤ 86400 ∧ (86400 : ℝ) ≤ 2 * 86400 * (1 - 0.25) ∧
    (coef (86400 : ℝ) 0.25 86400).a3 = 1 / 5 ∧
    (run (86400 : ℝ) 0.25 86400 (0, 0) ([(1, 0)] ++ List.replicate (1 + 1) (0, 0))).2 = [1 / 5, 16 / 25, 16 / 125] := by
  have hc : coef (86400 : ℝ) 0.25 86400 = ⟨1 / 5, 3 / 5, 1 / 5⟩ := by
    rw [coef_eq]; norm_num
  refine ⟨by norm_num, by norm_num, by norm_num, by rw [hc], ?_⟩
  unfold run
  rw [hc]
  simp only [List.replicate, List.cons_append, List.nil_append, scan, step]
  norm_num

/-- non-vacuity: parameters of the stable region have a non-zero denominator; a concrete steady run -/
example : (2 : ℝ) * 86400 * (1 - 0.25) + 86400 ≠ 0 ∧
    run (86400 : ℝ) 0.25 86400 (3, 3) [(2, 1), (3, 0), (1, 2)] = ((3, 3), [3, 3, 3]) := by
  refine ⟨by norm_num, ?_⟩
  have := steady_passes 86400 0.25 86400 (by norm_num) 3 [(2, 1), (3, 0), (1, 2)]
    (List.forall_iff_forall_mem.mp ⟨by norm_num, by norm_num, by norm_num⟩)
  simpa using this

end Muskingum

section Lag
open OW.Kernels.Lag OW.Proofs.Lag
variable {α : Type} [Inhabited α]

/-- **lag_spec (outflow)**, any lag ≥ 1 and any series length. `lag ≤ lagged.length`: a shorter buffer is the Go code's
index-out-of-range panic (`lag_run_short`); the statement uses `[i]?`, so no default value stands in for a cell that does not
exist. Lag 0: `lag_zero`; the kernel: `lag_run_spec`. -/
theorem lag_spec_outflow (lag : Nat) (inflow lagged out0 : List α) (hout : out0.length = inflow.length)
    (hlen : lag ≤ lagged.length) :
    (lagCore lag inflow lagged out0).outflow.length = inflow.length ∧
    ∀ i, i < inflow.length → (lagCore lag inflow lagged out0).outflow[i]? =
      if i < lag then lagged[i]? else inflow[i - lag]? := by
  rw [lagCore_outflow_eq lag inflow lagged out0 hout hlen]
  refine ⟨by simp only [List.length_take, List.length_append]; omega, fun i hi => ?_⟩
  rw [List.getElem?_take_of_lt hi, List.getElem?_append, List.length_take, Nat.min_eq_left hlen, List.getElem?_take]
  split <;> rfl

/-- a state row longer than the lag: the cells beyond the lag are carried through untouched -/
theorem lag_spec_buffer_padded (lag : Nat) (inflow lagged out0 : List α) (hlen : lag ≤ lagged.length) :
    (lagCore lag inflow lagged out0).lagged.length = lagged.length ∧
    ∀ j, (lagCore lag inflow lagged out0).lagged.getD j default =
      if j < lag then ((lagged.take lag ++ inflow).drop inflow.length).getD j default else lagged.getD j default := by
  have hd : ((lagged.take lag ++ inflow).drop inflow.length).length = lag := by
    simp only [List.length_drop, List.length_append, List.length_take]; omega
  rw [lagCore_lagged_eq lag inflow lagged out0 hlen]
  refine ⟨by rw [List.length_append, hd, List.length_drop]; omega, fun j => ?_⟩
  simp only [List.getD_eq_getElem?_getD, List.getElem?_append, hd]
  split
  · rfl
  · rw [List.getElem?_drop, Nat.add_sub_cancel' (by omega)]

/-- **lag_spec (buffer)**: a buffer of exactly `lag` cells -/
theorem lag_spec_buffer (inflow lagged out0 : List α) :
    (lagCore lagged.length inflow lagged out0).lagged = (lagged ++ inflow).drop inflow.length := by
  rw [lagCore_lagged_eq _ inflow lagged out0 (Nat.le_refl _), List.take_length, List.drop_length, List.append_nil]

end Lag

section LagKernel
open OW.Kernels.Lag

theorem lag_zero (timeLag : ℝ) (inflow lagged : List ℝ) (h : Num.toInt timeLag = 0) :
    run timeLag inflow lagged = .ok ⟨inflow, lagged⟩ :=
  OW.Proofs.Lag.run_zero h inflow lagged

/-- a state row shorter than the lag is the Go code's index-out-of-range panic (`lagged[i]`) -/
theorem lag_run_short (timeLag : ℝ) (inflow lagged : List ℝ) (h : 0 < Num.toInt timeLag)
    (hshort : lagged.length < (Num.toInt timeLag).toNat) :
    run timeLag inflow lagged = .error "index-out-of-range" := by
  unfold run
  have h1 : (Num.toInt timeLag == 0) = false := by simp; omega
  simp only [h1, Bool.false_eq_true, if_false, if_neg (by omega : ¬ Num.toInt timeLag < 0), if_pos hshort]

/-- the kernel `Lag.run`, not only its core loop. With a shorter state row the run is the panic of
`lag_run_short`; a negative `int(timeLag)` is a panic by the definition of `run`. -/
theorem lag_run_spec (timeLag : ℝ) (inflow lagged : List ℝ) (h : 0 < Num.toInt timeLag)
    (hlen : (Num.toInt timeLag).toNat ≤ lagged.length) :
    ∃ o, run timeLag inflow lagged = .ok o ∧ o.outflow.length = inflow.length ∧
      (∀ i, i < inflow.length → o.outflow[i]? =
        if i < (Num.toInt timeLag).toNat then lagged[i]? else inflow[i - (Num.toInt timeLag).toNat]?) ∧
      o.lagged.length = lagged.length ∧
      ∀ j, o.lagged.getD j default =
        if j < (Num.toInt timeLag).toNat then
          ((lagged.take (Num.toInt timeLag).toNat ++ inflow).drop inflow.length).getD j default
        else lagged.getD j default := by
  have hz : (zeros inflow.length : List ℝ).length = inflow.length := by simp [zeros]
  refine ⟨_, OW.Proofs.Lag.run_pos h hlen inflow, ?_⟩
  obtain ⟨o1, o2⟩ := lag_spec_outflow (Num.toInt timeLag).toNat inflow lagged (zeros inflow.length) hz hlen
  obtain ⟨b1, b2⟩ := lag_spec_buffer_padded (Num.toInt timeLag).toNat inflow lagged (zeros inflow.length) hlen
  exact ⟨o1, o2, b1, b2⟩

/-- non-vacuity: lag 2 on a series of length 1 (lag longer than the series) and of length 3 -/
example : (lagCore 2 [7] [1, 2] [0] : Out Nat).outflow = [1] ∧ (lagCore 2 [7] [1, 2] [0] : Out Nat).lagged = [2, 7] ∧
    (lagCore 2 [7, 8, 9] [1, 2] [0, 0, 0] : Out Nat).outflow = [1, 2, 7] ∧
    (lagCore 2 [7, 8, 9] [1, 2] [0, 0, 0] : Out Nat).lagged = [8, 9] := by
  decide

/-- why `lag_spec_outflow` assumes `lag ≤ lagged.length`: with a SHORTER buffer `lagCore` reads a default value
(`default = 0` goes into `outflow[1]`) where the Go code panics -/
example : (lagCore 2 [7, 8, 9] [1] [0, 0, 0] : Out Nat).outflow = [1, 0, 7] ∧ ¬ (2 ≤ ([1] : List Nat).length) ∧
    (2 ≤ ([1, 2] : List Nat).length) := by
  decide

/-- non-vacuity of `lag_run_spec` / `lag_run_short`: `timeLag = 2` is a positive lag; a two-cell state row is long enough, a one-cell
row is the panic case -/
example : 0 < Num.toInt (2 : ℝ) ∧ (Num.toInt (2 : ℝ)).toNat ≤ ([1, 2] : List ℝ).length ∧
    ([7] : List ℝ).length < (Num.toInt (2 : ℝ)).toNat := by
  have h : Num.toInt (2 : ℝ) = 2 := by
    show (if (0:ℝ) ≤ 2 then ⌊(2:ℝ)⌋ else ⌈(2:ℝ)⌉) = 2
    rw [if_pos (by norm_num)]
    exact Int.floor_ofNat 2
  rw [h]
  decide

end LagKernel

section StorageRouting
open OW.Kernels.StorageRouting OW.Proofs.StorageRouting OW.Fn

variable (inflow lateral bias prevQi po prevStorage ner area dead dur rp rc ql kl ko : ℝ)

/-- the zero-outflow exits (`delta ≥ massBalanceLimit` at `minQI`; `maxQI ≤ minQI`) report the water-balance storage,
not `SIndex(minQI)` -/
theorem balance_path_zero_at_minqi (hd : 0 < dur) (hp : 0 ≤ prevStorage) (hl : 0 ≤ lateral) (tag : String) :
    let c := mkCtx inflow lateral bias prevStorage ner area dead dur rp rc ql kl ko
    balanceErr c ⟨bias * (inflow + lateral), 0, newStorage c, tag⟩ = 0 := by
  intro c
  exact zero_exit_err (mkCtx_ok hd hp hl) rfl rfl

/-- the `delta < massBalanceLimit` at `maxQI` exit drains the lateral inflow too:
everything present leaves -/
theorem balance_path_full_drain (hd : 0 < dur) (hp : 0 ≤ prevStorage) (hl : 0 ≤ lateral) (q : ℝ) (tag : String) :
    let c := mkCtx inflow lateral bias prevStorage ner area dead dur rp rc ql kl ko
    balanceErr c ⟨q, drainOutflow c, drainStorage c, tag⟩ = 0 ∧ drainStorage c = 0 ∧ 0 ≤ drainOutflow c := by
  intro c
  have hok : CtxOK c := mkCtx_ok hd hp hl
  exact ⟨drain_exit_err hok rfl rfl, (drain_facts hok).2.2, (drain_facts hok).2.1⟩

/-- in exact arithmetic the `maxQI ≤ minQI` exit cannot be taken: a residual below `−massBalanceLimit` at `minQI` means water is
present, and all of it may leave, so `maxQI > minQI`. (The generator reaches the exit only through rounding at 10¹⁴ m³.) -/
theorem zero_maxqi_unreachable (hd : 0 < dur) (hp : 0 ≤ prevStorage) (hl : 0 ≤ lateral) (hb : bias < 0.999) :
    let c := mkCtx inflow lateral bias prevStorage ner area dead dur rp rc ql kl ko
    let minQI := bias * (inflow + lateral)
    0 ≤ sIndex c minQI → (rr c minQI).massBalance < -massBalanceLimit → minQI < maxQI c minQI := by
  intro c minQI _ hmb
  have hok : CtxOK c := mkCtx_ok hd hp hl
  rw [rr_massBalance c minQI hb, (avail_nonneg hok).2.1, show c.bias * (c.inflow + c.lateral) = minQI from rfl, sub_self,
    zero_mul, zero_div, zero_add] at hmb
  have hW : 0 < drainOutflow c * c.duration := by rw [(drain_facts hok).1]; linarith [mbl_pos]
  rw [maxQI_eq]
  exact lt_add_of_pos_right _ (mul_pos (one_sub_pos_of_lt hb) ((mul_pos_iff_of_pos_right hd).mp hW))

/-- what the root search of `calcOutflow` guarantees for EVERY context (any parameters, any shape of the residual function),
given only the bracket under which `calcOutflow` calls it: the C18 theorems at the residual function. The convergence-in-x exit
is never taken because `convergenceLimit = 0`. -/
theorem root_exit_unconditional (c : Ctx ℝ) (minQI mx : ℝ) (hle : minQI ≤ mx)
    (h1 : (rr c minQI).massBalance ≤ 0) (h2 : 0 ≤ (rr c mx).massBalance) {fr : Res ℝ}
    (hfr : findRoot (massBalanceFn c) (some (slopeOfMassBalance c)) minQI minQI mx massBalanceLimit convergenceLimit
      maxIterations = .ok fr) :
    (minQI ≤ fr.x ∧ fr.x ≤ mx) ∧ fr.delta = (rr c fr.x).massBalance ∧
    (minQI ≤ fr.b.minX ∧ fr.b.minX ≤ fr.b.maxX ∧ fr.b.maxX ≤ mx ∧
      (rr c fr.b.minX).massBalance ≤ 0 ∧ 0 ≤ (rr c fr.b.maxX).massBalance) ∧
    fr.exit ≠ .conv ∧
    (fr.exit = .tol → |(rr c fr.x).massBalance| < massBalanceLimit) ∧
    (fr.exit = .fuel → fr.b.maxX - fr.b.minX ≤ (mx - minQI) / 2 ^ 20 ∧
      |(rr c fr.x).massBalance| ≤ |(rr c fr.b.minX).massBalance| ∧
      |(rr c fr.x).massBalance| ≤ (rr c fr.b.maxX).massBalance) := by
  -- over ℝ `massBalanceFn c q` is `(rr c q).massBalance` by definition (nothing is NaN): FindRoot's contract at the residual function
  have p := OW.Proofs.FindRoot.findRoot_spec (f := massBalanceFn c) hle h1 h2 hfr
  have hb := p.binv
  have hval : fr.delta = (rr c fr.x).massBalance := p.val rfl
  refine ⟨p.mem (Or.inr ⟨le_refl _, hle⟩), hval, ⟨hb.lo_le, hb.le, hb.le_hi, hb.fmin_le, hb.fmax_ge⟩,
    p.noconv (le_of_eq conv_eq), fun he => hval ▸ p.tol he, fun he => ?_⟩
  have hne : fr.exit ≠ .tol := by rw [he]; nofun
  rw [← hval]
  exact ⟨p.width he, p.delta_le_ends (by unfold maxIterations; norm_num) hne⟩

/-- the water balance of one timestep on every exit path, with
`balanceErr c r = storage' − (prevStorage + (inflow + lateral − netEvaporation − outflow)·Δt)`: never negative (the solver never
loses water), zero on the three exits without a solver, below the tolerance where an index flow was accepted by the residual
test, and on `root` bounded by the residual `delta` that FindRoot returned — through its tolerance test or by running out of its
20 iterations. -/
theorem calcOutflow_balance (hd : 0 < dur) (hp : 0 ≤ prevStorage) (hl : 0 ≤ lateral) (hb : bias < 0.999) (r : CO ℝ)
    (h : calcOutflow inflow lateral bias prevQi po prevStorage ner area dead dur rp rc ql kl ko = .ok r) :
    let c := mkCtx inflow lateral bias prevStorage ner area dead dur rp rc ql kl ko
    0 ≤ balanceErr c r ∧
    ((r.tag = "zero-at-minqi" ∨ r.tag = "zero-maxqi-le-minqi" ∨ r.tag = "full-drain-at-maxqi") ∧ balanceErr c r = 0 ∨
     (r.tag = "balanced-at-minqi" ∨ r.tag = "prev-qi" ∨ r.tag = "mid-qi") ∧ balanceErr c r < massBalanceLimit ∨
     r.tag = "root" ∧ ∃ fr, findRoot (massBalanceFn c) (some (slopeOfMassBalance c)) (bias * (inflow + lateral))
          (bias * (inflow + lateral)) (maxQI c (bias * (inflow + lateral))) massBalanceLimit convergenceLimit maxIterations = .ok fr ∧
        r.qi = fr.x ∧ fr.delta = (rr c fr.x).massBalance ∧ balanceErr c r ≤ max 0 fr.delta ∧ fr.exit ≠ .conv ∧
        (fr.exit = .tol → balanceErr c r < massBalanceLimit)) := by
  intro c
  have hok : CtxOK c := mkCtx_ok hd hp hl
  obtain ⟨e, ht, hs⟩ := calcOutflow_ret h
  rcases e with _ | _ | _ | k
  · have e := zero_exit_err hok hs.outflow hs.storage
    exact ⟨e.ge, Or.inl ⟨Or.inl ht, e⟩⟩
  · have e := zero_exit_err hok hs.outflow hs.storage
    exact ⟨e.ge, Or.inl ⟨Or.inr (Or.inl ht), e⟩⟩
  · have e := drain_exit_err hok hs.outflow hs.storage
    exact ⟨e.ge, Or.inl ⟨Or.inr (Or.inr ht), e⟩⟩
  · -- the exits that report the values of `runRouting` at `r.qi ≥ minQI`: the error is at most the residual there
    obtain ⟨hge, hk⟩ := hs.qi
    obtain ⟨e1, e2⟩ := sindex_exit_err hok r.qi r hb hge hs.outflow hs.storage
    have hlt : (rr c r.qi).massBalance < massBalanceLimit → balanceErr c r < massBalanceLimit := fun hm =>
      lt_of_le_of_lt e2 (max_lt mbl_pos hm)
    have habs : |(rr c r.qi).massBalance| < massBalanceLimit → balanceErr c r < massBalanceLimit := fun hm =>
      hlt (lt_of_le_of_lt (le_abs_self _) hm)
    refine ⟨by rw [e1]; exact le_max_left _ _, ?_⟩
    rcases k with _ | _ | _ | _
    · exact Or.inr (Or.inl ⟨Or.inl ht, hlt hk.2.2⟩)
    · exact Or.inr (Or.inl ⟨Or.inr (Or.inl ht), habs hk⟩)
    · exact Or.inr (Or.inl ⟨Or.inr (Or.inr ht), habs hk⟩)
    · obtain ⟨fr, hfr, hq, hv, hnc, htol⟩ := hk
      rw [hq] at e2 habs
      exact Or.inr (Or.inr ⟨ht, fr, hfr, hq, hv, by rw [hv]; exact e2, hnc, fun hex => habs (htol hex)⟩)

/-- the hypothesis on the index storage is what `sIndex_nonneg` / `setup_facts` establish for the parameter region -/
theorem calcOutflow_nonneg (hd : 0 < dur) (r : CO ℝ)
    (hS : ∀ q, 0 ≤ sIndex (mkCtx inflow lateral bias prevStorage ner area dead dur rp rc ql kl ko) q)
    (h : calcOutflow inflow lateral bias prevQi po prevStorage ner area dead dur rp rc ql kl ko = .ok r) :
    0 ≤ r.outflow ∧ 0 ≤ r.storage := by
  obtain ⟨e, -, hs⟩ := calcOutflow_ret h
  rw [hs.outflow, hs.storage]
  rcases e with _ | _ | _ | k
  exacts [⟨le_refl _, newStorage_nonneg _⟩, ⟨le_refl _, newStorage_nonneg _⟩, ⟨le_max_left _ _, le_max_right _ _⟩,
    ⟨rr_outflow_nonneg _ _ hd, hS _⟩]

/-- a fact about `runRouting` at an ARBITRARY index flow `q ≥ 0` for zero inflow bias, not about what
`calcOutflow` returns (that is `sq_calcOutflow`, `sq_calcOutflow_converged`, `sq_full_drain`) -/
theorem sq_relation (hd : 0 < dur) (q : ℝ) (hq : 0 ≤ q) (hrp : rp ≤ 1) :
    let c := mkCtx inflow lateral 0 prevStorage ner area dead dur rp rc 0 rc 0
    (rr c q).sIndex = (if q ≤ 0 then dead else rc * q ^ rp + dead) ∧
      |q - (rr c q).outflow| * dur ≤ |(rr c q).massBalance| := by
  intro c
  have h := sq_index_flow c q hd (by show (0 : ℝ) < 0.999; norm_num) (by show (0:ℝ) * (inflow + lateral) ≤ q; rw [zero_mul]; exact hq)
  rw [show c.bias * (c.inflow + c.lateral) = 0 from zero_mul _, show (1:ℝ) - c.bias = 1 from sub_zero _, sub_zero, div_one] at h
  exact ⟨sIndex_power_law c rfl rfl hrp q, h⟩

/-- the four exits of `calcOutflow` that report the values of `runRouting` -/
def SIndexExit (tag : String) : Prop :=
  tag = "balanced-at-minqi" ∨ tag = "prev-qi" ∨ tag = "mid-qi" ∨ tag = "root"

/-- what `calcOutflow` RETURNS on the four exits that report the index storage, for any inflow bias `< 0.999`: the reported storage
IS the index storage of the returned index flow (`sIndex_eq`: dead storage / linear extension / power law), and the reported
outflow differs from the one the index-flow definition gives by at most the residual as a volume. On `root` the residual need
not be below the tolerance: `root_not_converged_counterexample`. -/
theorem sq_calcOutflow_bias (hd : 0 < dur) (hb : bias < 0.999) (r : CO ℝ)
    (h : calcOutflow inflow lateral bias prevQi po prevStorage ner area dead dur rp rc ql kl ko = .ok r)
    (htag : SIndexExit r.tag) :
    let c := mkCtx inflow lateral bias prevStorage ner area dead dur rp rc ql kl ko
    let minQI := bias * (inflow + lateral)
    minQI ≤ r.qi ∧ r.storage = sIndex c r.qi ∧
    |(r.qi - minQI) / (1 - bias) - r.outflow| * dur ≤ |(rr c r.qi).massBalance| ∧
    (r.tag = "balanced-at-minqi" → r.qi = minQI ∧ |(rr c r.qi).massBalance| ≤ massBalanceLimit) ∧
    (r.tag = "prev-qi" ∨ r.tag = "mid-qi" → |(rr c r.qi).massBalance| < massBalanceLimit) ∧
    (r.tag = "root" → ∃ fr, findRoot (massBalanceFn c) (some (slopeOfMassBalance c)) minQI minQI (maxQI c minQI)
          massBalanceLimit convergenceLimit maxIterations = .ok fr ∧
        r.qi = fr.x ∧ fr.delta = (rr c r.qi).massBalance ∧ fr.exit ≠ .conv ∧
        (fr.exit = .tol → |(rr c r.qi).massBalance| < massBalanceLimit)) := by
  intro c minQI
  obtain ⟨k, hk⟩ : ∃ k : SRet, r.tag = (Ret.sindex k).tag := by
    rcases htag with ht | ht | ht | ht
    exacts [⟨.balanced, ht⟩, ⟨.prevQi, ht⟩, ⟨.midQi, ht⟩, ⟨.root, ht⟩]
  have hs := calcOutflow_by_tag h _ hk
  have hflow := sq_index_flow c r.qi hd hb hs.qi.1
  rw [← show r.outflow = (rr c r.qi).outflow from hs.outflow] at hflow
  -- the tag names the exit, and with it what is known of the residual
  refine ⟨hs.qi.1, hs.storage, hflow, fun ht => ?_, fun ht => ?_, fun ht => ?_⟩
  · obtain ⟨e, hge', hlt'⟩ := (calcOutflow_by_tag h (.sindex .balanced) ht).qi.2
    exact ⟨e, abs_le.mpr ⟨hge', le_of_lt hlt'⟩⟩
  · exact ht.elim (fun ht => (calcOutflow_by_tag h (.sindex .prevQi) ht).qi.2) fun ht =>
      (calcOutflow_by_tag h (.sindex .midQi) ht).qi.2
  · obtain ⟨fr, hfr, e, hv, hnc, htol⟩ := (calcOutflow_by_tag h (.sindex .root) ht).qi.2
    exact ⟨fr, hfr, e, by rw [e]; exact hv, hnc, by rw [e]; exact htol⟩

/-- `sq_calcOutflow_bias` for zero inflow bias, the power law written out -/
theorem sq_calcOutflow (hd : 0 < dur) (hrp : rp ≤ 1) (r : CO ℝ)
    (h : calcOutflow inflow lateral 0 prevQi po prevStorage ner area dead dur rp rc 0 rc 0 = .ok r)
    (htag : SIndexExit r.tag) :
    let c := mkCtx inflow lateral 0 prevStorage ner area dead dur rp rc 0 rc 0
    0 ≤ r.qi ∧ r.storage = (if r.qi ≤ 0 then dead else rc * r.qi ^ rp + dead) ∧
    |r.qi - r.outflow| * dur ≤ |(rr c r.qi).massBalance| ∧
    (r.tag = "balanced-at-minqi" → r.qi = 0 ∧ |(rr c r.qi).massBalance| ≤ massBalanceLimit) ∧
    (r.tag = "prev-qi" ∨ r.tag = "mid-qi" → |(rr c r.qi).massBalance| < massBalanceLimit) ∧
    (r.tag = "root" → ∃ fr, findRoot (massBalanceFn c) (some (slopeOfMassBalance c)) 0 0 (maxQI c 0)
          massBalanceLimit convergenceLimit maxIterations = .ok fr ∧
        r.qi = fr.x ∧ fr.delta = (rr c r.qi).massBalance ∧ fr.exit ≠ .conv ∧
        (fr.exit = .tol → |(rr c r.qi).massBalance| < massBalanceLimit)) := by
  intro c
  have hb : (0 : ℝ) < 0.999 := by norm_num
  obtain ⟨h1, h2, h3, h4, h5, h6⟩ :=
    sq_calcOutflow_bias inflow lateral 0 prevQi po prevStorage ner area dead dur rp rc 0 rc 0 hd hb r h htag
  simp only [zero_mul, sub_zero, div_one] at h1 h3 h4 h6
  rw [sIndex_power_law c rfl rfl hrp] at h2
  exact ⟨h1, h2, h3, h4, h5, h6⟩

/-- the assembled storage-discharge statement: on `balanced-at-minqi`, `prev-qi`, `mid-qi`, and on
`root` when FindRoot returned through its tolerance test. Not strict on `balanced-at-minqi`, whose acceptance test
`−massBalanceLimit ≤ residual` is not strict. -/
theorem sq_calcOutflow_converged (hd : 0 < dur) (hrp : rp ≤ 1) (r : CO ℝ)
    (h : calcOutflow inflow lateral 0 prevQi po prevStorage ner area dead dur rp rc 0 rc 0 = .ok r)
    (htag : SIndexExit r.tag)
    (hconv : r.tag = "root" → ∀ fr,
      findRoot (massBalanceFn (mkCtx inflow lateral 0 prevStorage ner area dead dur rp rc 0 rc 0))
        (some (slopeOfMassBalance (mkCtx inflow lateral 0 prevStorage ner area dead dur rp rc 0 rc 0))) 0 0
        (maxQI (mkCtx inflow lateral 0 prevStorage ner area dead dur rp rc 0 rc 0) 0)
        massBalanceLimit convergenceLimit maxIterations = .ok fr → fr.exit = .tol) :
    0 ≤ r.qi ∧ r.storage = (if r.qi ≤ 0 then dead else rc * r.qi ^ rp + dead) ∧
    |r.qi - r.outflow| * dur ≤ massBalanceLimit ∧
    (r.tag ≠ "balanced-at-minqi" → |r.qi - r.outflow| * dur < massBalanceLimit) := by
  obtain ⟨h1, h2, h3, h4, h5, h6⟩ :=
    sq_calcOutflow inflow lateral prevQi po prevStorage ner area dead dur rp rc hd hrp r h htag
  have hstrict : r.tag ≠ "balanced-at-minqi" →
      |(rr (mkCtx inflow lateral 0 prevStorage ner area dead dur rp rc 0 rc 0) r.qi).massBalance| < massBalanceLimit := by
    intro hne
    rcases htag with ht | ht | ht | ht
    · exact absurd ht hne
    · exact h5 (Or.inl ht)
    · exact h5 (Or.inr ht)
    · obtain ⟨fr, hfr, _, _, _, htol⟩ := h6 ht
      exact htol (hconv ht fr hfr)
  refine ⟨h1, h2, ?_, fun hne => lt_of_le_of_lt h3 (hstrict hne)⟩
  by_cases hbal : r.tag = "balanced-at-minqi"
  · exact le_trans h3 (h4 hbal).2
  · exact le_of_lt (lt_of_le_of_lt h3 (hstrict hbal))

/-- the `full-drain-at-maxqi` exit: the residual test that selects it says precisely that the index storage of the returned index
flow is below the tolerance, so with `S ≥ 0` the storage-discharge relation holds within the tolerance on this exit too -/
theorem sq_full_drain (hd : 0 < dur) (hp : 0 ≤ prevStorage) (hl : 0 ≤ lateral) (hb : bias < 0.999) (r : CO ℝ)
    (h : calcOutflow inflow lateral bias prevQi po prevStorage ner area dead dur rp rc ql kl ko = .ok r)
    (htag : r.tag = "full-drain-at-maxqi") :
    let c := mkCtx inflow lateral bias prevStorage ner area dead dur rp rc ql kl ko
    let minQI := bias * (inflow + lateral)
    r.qi = maxQI c minQI ∧ minQI < r.qi ∧ 0 < r.outflow ∧ r.qi = minQI + (1 - bias) * r.outflow ∧ r.storage = 0 ∧
      sIndex c r.qi < massBalanceLimit ∧ (0 ≤ sIndex c r.qi → |r.storage - sIndex c r.qi| < massBalanceLimit) := by
  intro c minQI
  have hb1 : (0:ℝ) < 1 - c.bias := one_sub_pos_of_lt hb
  have hok : CtxOK c := mkCtx_ok hd hp hl
  have hns := (avail_nonneg hok).2.1
  obtain ⟨hvol, _, hds⟩ := drain_facts hok
  have hs := calcOutflow_by_tag h .fullDrain htag
  obtain ⟨hqi, hlt, hmx⟩ := hs.qi
  have hmq : maxQI c minQI = minQI + (1 - c.bias) * drainOutflow c := maxQI_eq c minQI
  have e : maxQI c minQI - minQI = (1 - c.bias) * drainOutflow c := by rw [hmq, add_sub_cancel_left]
  have hpos : 0 < drainOutflow c := (mul_pos_iff_of_pos_left hb1).mp (by rw [← e]; exact sub_pos.mpr hlt)
  -- the residual at `maxQI`: its flow term is the water present, so what is left of it is the index storage
  have hS : sIndex c (maxQI c minQI) < massBalanceLimit := by
    rw [rr_massBalance c _ hb, hns, show c.bias * (c.inflow + c.lateral) = minQI from rfl, e, mul_assoc,
      mul_div_cancel_left₀ _ hb1.ne', hvol, add_sub_cancel_left] at hmx
    exact hmx
  rw [hqi, show r.outflow = drainOutflow c from hs.outflow, show r.storage = drainStorage c from hs.storage]
  refine ⟨rfl, hlt, hpos, hmq, hds, hS, fun hnn => ?_⟩
  rw [hds, zero_sub, abs_neg, abs_of_nonneg hnn]
  exact hS

/-- why the storage-discharge relation is NOT claimed on `zero-at-minqi`: the reported (water-balance) storage lies at least
`massBalanceLimit` BELOW the index storage — a reach filling up below its index storage releases nothing. (Witness: the last
`example` of this file. The other zero-outflow exit cannot be taken in exact arithmetic: `zero_maxqi_unreachable`.) -/
theorem sq_zero_at_minqi (hb : bias < 0.999) (r : CO ℝ)
    (h : calcOutflow inflow lateral bias prevQi po prevStorage ner area dead dur rp rc ql kl ko = .ok r)
    (htag : r.tag = "zero-at-minqi") :
    let c := mkCtx inflow lateral bias prevStorage ner area dead dur rp rc ql kl ko
    r.qi = bias * (inflow + lateral) ∧ r.outflow = 0 ∧ r.storage = newStorage c ∧
      r.storage + massBalanceLimit ≤ sIndex c r.qi := by
  intro c
  have hr := calcOutflow_by_tag h .zeroAtMin htag
  obtain ⟨hq, hm⟩ := hr.qi
  have hs : r.storage = newStorage c := hr.storage
  refine ⟨hq, hr.outflow, hs, ?_⟩
  -- at `minQI` the flow term of the residual vanishes: the test of this exit compares index storage and water present
  rw [rr_massBalance c _ hb, show c.bias * (c.inflow + c.lateral) = bias * (inflow + lateral) from rfl, sub_self, zero_mul,
    zero_div, zero_add] at hm
  rw [hs, hq]
  linarith

/-- non-vacuity of `sq_calcOutflow` / `sq_calcOutflow_converged` / `sq_calcOutflow_bias`: a call that leaves through `balanced-at-minqi`
(zero bias, `k = 5000`, `m = 0.8`, no dead storage, empty reach, no inflow: index flow 0, storage 0, outflow 0) -/
example : calcOutflow (0 : ℝ) 0 0 0 0 0 0 0 0 86400 0.8 5000 0 5000 0 = .ok ⟨0, 0, 0, "balanced-at-minqi"⟩ ∧
    SIndexExit "balanced-at-minqi" ∧ (0 : ℝ) < 86400 ∧ (0.8 : ℝ) ≤ 1 := by
  refine ⟨?_, Or.inl rfl, by norm_num, by norm_num⟩
  have d := dry_ctx 0 0 0 86400 0.8 5000 (le_refl _) (by norm_num) (le_refl _) (by norm_num)
  rw [calcOutflow_real rfl, d.massBalance_eq, d.outflow_eq, rr_sIndex, d.sIndex_eq, mbl_eq]
  norm_num

/-- non-vacuity of `sq_full_drain`: zero bias, `k = 1/2`, `m = 1`, 100 m³ in the reach, no inflow, Δt = 86400 s; the index storage at the
maximum index flow is 50/86400 m³ < `massBalanceLimit` -/
example : calcOutflow (0:ℝ) 0 0 0 0 100 0 0 0 86400 1 (1/2) 0 (1/2) 0 = .ok ⟨100/86400, 100/86400, 0, "full-drain-at-maxqi"⟩ := by
  have d := dry_ctx 0 100 0 86400 1 (1/2) (by norm_num) (by norm_num) (le_refl _) (le_refl _)
  have hds : drainStorage (mkCtx (0:ℝ) 0 0 100 0 0 0 86400 1 (1/2) 0 (1/2) 0) = 0 :=
    (drain_facts (mkCtx_ok (by norm_num) (by norm_num) (le_refl _))).2.2
  rw [calcOutflow_real rfl, d.massBalance_eq, d.sIndex_eq, mbl_eq, if_neg (by norm_num), if_neg (by norm_num), d.maxQI_eq,
    if_neg (by norm_num), solve_real _ _ _ _ rfl, d.massBalance_eq, d.sIndex_eq, mbl_eq, if_pos (by norm_num), d.drainOutflow_eq, hds]
  norm_num

theorem findRoot_first_halving_tol {f : ℝ → ℝ} {f' : Option (ℝ → ℝ)} {x0 lo hi tol conv : ℝ} {n : Nat}
    (h1 : f lo ≤ 0) (h2 : 0 ≤ f hi) (ht : |f (halvingX ⟨lo, f lo, hi, f hi⟩)| < tol) :
    ∃ r, findRoot f f' x0 lo hi tol conv (n + 1) = .ok r ∧ r.x = halvingX ⟨lo, f lo, hi, f hi⟩ ∧ r.exit = .tol := by
  rw [OW.Proofs.FindRoot.findRoot_eq h1 h2]
  obtain ⟨rest, hrest⟩ := OW.Proofs.FindRoot.trialXs_head f' x0 (f x0) ⟨lo, f lo, hi, f hi⟩
  refine ⟨_, rfl, ?_⟩
  unfold iterate
  simp only [hrest, trialLoop, trialStep, RealNum.abs_eq, if_pos ht]
  exact ⟨trivial, trivial⟩

/-- zero bias, `k = 86400`, `m = 1`, Δt = 86400 s, 172800 m³ in the reach, no inflow -/
noncomputable abbrev cConv : Ctx ℝ := mkCtx (0:ℝ) 0 0 172800 0 0 0 86400 1 86400 0 86400 0

theorem cConv_facts :
    cConv.initialFluxMax = 2 ∧ netEvaporationFlux cConv = 0 ∧ newStorage cConv = 172800 ∧
    maxQI cConv (0 * (0 + 0)) = 2 ∧
    (∀ q : ℝ, 0 < q → (rr cConv q).massBalance = q * 86400 + 86400 * q - 172800) ∧
    (rr cConv (0 * (0 + 0))).massBalance = -172800 := by
  have hifm : cConv.initialFluxMax = 2 := by
    rw [(mkCtx_ok (by norm_num) (by norm_num) (le_refl _)).ifm]; show (172800:ℝ) / 86400 + 0 = 2; norm_num
  have hnef : netEvaporationFlux cConv = 0 := by
    rw [nef_eq, hifm]; simp only [mkCtx]; norm_num
  have d := dry_ctx 0 172800 0 86400 1 86400 (by norm_num) (by norm_num) (le_refl _) (le_refl _)
  refine ⟨hifm, hnef, by rw [d.newStorage_eq]; norm_num, by rw [d.maxQI_eq]; norm_num, fun q hq => ?_, ?_⟩
  · rw [d.massBalance_eq, d.sIndex_eq, if_neg (not_le.mpr hq), Real.rpow_one]; ring
  · rw [d.massBalance_eq, d.sIndex_eq, if_pos (by norm_num)]; norm_num

/-- non-vacuity of the `root` branch of `sq_calcOutflow` / `sq_calcOutflow_converged` with a CONVERGED root search: `cConv`, carried
index flow 1/2. The residual there is −86400 m³, so `calcOutflow` calls FindRoot on `[0, 2]`; its first halving trial `q = 1` has
residual 0 and is returned through the tolerance test -/
example : calcOutflow (0:ℝ) 0 0 (1/2) 0 172800 0 0 0 86400 1 86400 0 86400 0 = .ok ⟨1, 1, 86400, "root"⟩ ∧
    (∀ fr, findRoot (massBalanceFn cConv) (some (slopeOfMassBalance cConv)) 0 0 (maxQI cConv 0)
        massBalanceLimit convergenceLimit maxIterations = .ok fr → fr.exit = .tol) := by
  obtain ⟨_, _, _, hmx, hmb, hmb0⟩ := cConv_facts
  have d := dry_ctx 0 172800 0 86400 1 86400 (by norm_num) (by norm_num) (le_refl _) (le_refl _)
  rw [zero_mul] at hmx hmb0
  have hh : halvingX (⟨0, massBalanceFn cConv 0, 2, massBalanceFn cConv 2⟩ : Bracket ℝ) = 1 := by
    unfold halvingX; norm_num
  obtain ⟨fr, hfr, hx, hex⟩ := findRoot_first_halving_tol (f := massBalanceFn cConv) (f' := some (slopeOfMassBalance cConv))
    (x0 := 0) (tol := massBalanceLimit) (conv := convergenceLimit) (n := 19)
    (le_of_eq_of_le hmb0 (by norm_num)) (le_of_le_of_eq (by norm_num) (hmb 2 (by norm_num)).symm)
    (by rw [hh, show massBalanceFn cConv 1 = _ from hmb 1 (by norm_num), mbl_eq]; norm_num)
  rw [hh] at hx
  constructor
  · have hr : ¬ ((1/2 : ℝ) ≤ 0 ∨ (2:ℝ) ≤ 1/2) := by norm_num
    rw [calcOutflow_real (c := cConv) rfl, zero_mul, hmb0, mbl_eq, if_neg (by norm_num), if_neg (by norm_num), hmx,
      if_neg (by norm_num), solve_real _ _ _ _ (if_neg hr), hmb 2 (by norm_num), if_neg (by rw [mbl_eq]; norm_num),
      hmb (1/2) (by norm_num), if_neg (by rw [mbl_eq]; norm_num), show maxIterations = 19 + 1 from rfl, hfr]
    show Except.ok (⟨fr.x, (rr cConv fr.x).outflow, (rr cConv fr.x).sIndex, "root"⟩ : CO ℝ) = _
    rw [hx, d.outflow_eq, rr_sIndex, d.sIndex_eq, if_neg (by norm_num), Real.rpow_one]
    norm_num
  · intro fr' hfr'
    rw [hmx, show maxIterations = 19 + 1 from rfl, hfr] at hfr'
    cases hfr'
    exact hex

/- FULL STATEMENT: on the `root` exit FindRoot always returns through its tolerance test, i.e.
   `|residual(q)| < massBalanceLimit` for the returned index flow, for all parameters of the region and all inputs.
   THIS IS FALSE for the code (exact arithmetic AND the real float code): `root_not_converged_counterexample` below.
   What the algorithm supports without further hypotheses is `root_exit_unconditional` / `root_residual_le_ends_zero_bias`;
   what is proved under a sufficient-budget hypothesis is: -/
/-- The returned residual is below `massBalanceLimit` whenever interval halving alone suffices within
the 20 iterations. Without the Lipschitz/budget hypothesis the statement fails: for `m < 1` the slope `k·m·q^(m−1)` of the residual
is unbounded near `q = 0` (`root_not_converged_counterexample`, m = 0.05; on the real code unconverged steps appear for m ≲ 0.15). -/
theorem root_converges_partial (c : Ctx ℝ) (minQI mx L : ℝ) (hle : minQI ≤ mx)
    (h1 : (rr c minQI).massBalance ≤ 0) (h2 : 0 ≤ (rr c mx).massBalance)
    (hmono : MonotoneOn (massBalanceFn c) (Set.Icc minQI mx))
    (hlip : ∀ a ∈ Set.Icc minQI mx, ∀ b ∈ Set.Icc minQI mx, a ≤ b → massBalanceFn c b - massBalanceFn c a ≤ L * (b - a))
    (hbudget : L * (mx - minQI) / 2 ^ maxIterations < massBalanceLimit) {fr : Res ℝ}
    (hfr : findRoot (massBalanceFn c) (some (slopeOfMassBalance c)) minQI minQI mx massBalanceLimit convergenceLimit
      maxIterations = .ok fr) :
    |(rr c fr.x).massBalance| < massBalanceLimit := by
  rw [← (root_exit_unconditional c minQI mx hle h1 h2 hfr).2.1]
  exact C18.tolerance_reached hmono hlip (le_of_eq conv_eq) hle h1 h2 (by unfold maxIterations; norm_num) hbudget hfr

/-- with NO hypothesis on slopes or iteration budget the search never makes things worse than the better end of its starting
bracket, unless it returns within the tolerance -/
theorem root_residual_le_ends_zero_bias (c : Ctx ℝ) (hb : c.bias = 0) (hq : c.qlimit = 0) (hko : c.koffset = 0)
    (hk : 0 ≤ c.routingConstant) (hm0 : 0 ≤ c.routingPower) (hm1 : c.routingPower ≤ 1) (hd : 0 ≤ c.duration)
    (minQI mx : ℝ) (hle : minQI ≤ mx)
    (h1 : (rr c minQI).massBalance ≤ 0) (h2 : 0 ≤ (rr c mx).massBalance) {fr : Res ℝ}
    (hfr : findRoot (massBalanceFn c) (some (slopeOfMassBalance c)) minQI minQI mx massBalanceLimit convergenceLimit
      maxIterations = .ok fr) :
    |(rr c fr.x).massBalance| ≤ min |(rr c minQI).massBalance| |(rr c mx).massBalance| ∨
      |(rr c fr.x).massBalance| < massBalanceLimit := by
  rw [← (root_exit_unconditional c minQI mx hle h1 h2 hfr).2.1]
  exact C18.better_end_any_guess ((massBalanceFn_mono_zero_bias c hb hq hko hk hm0 hm1 hd).monotoneOn _) hle h1 h2
    (by unfold maxIterations; norm_num) hfr

/-- "20 iterations always suffice" is FALSE for the code. Zero inflow bias, `k = 10⁶`, `m = 0.05` (inside the property's region
`k > 0`, `0 < m ≤ 1`), no evaporation, no dead storage, Δt = 86400 s, 1000 m³ in the reach, no inflow, first timestep. The root
search uses all 20 iterations without ever moving its lower end (`OW.Proofs.FindRoot.stalled_findRoot` with the certificate
`stall_cert`) and `calcOutflow` reports the values of the index flow `q = 0`: the reach is emptied, the residual is 1000 m³, and
every index flow whose outflow volume is within `massBalanceLimit` of the reported one has an index storage ≥ 999 m³ while the
reported storage is 0. (The solution of the step's equation is `q ≈ 10⁻⁶⁰` m³/s: practically all 1000 m³ should stay.) The real
code returns the same numbers bit for bit (outflow 0.011574074074074073, storage 0; corpus case `C11:StorageRouting` of the K
family, known finding KF-C11-StorageRouting-unconverged-small-power). -/
theorem root_not_converged_counterexample :
    calcOutflow (0:ℝ) 0 0 0 0 1000 0 0 0 86400 0.05 1000000 0 1000000 0 = .ok ⟨0, 1000 / 86400, 0, "root"⟩ ∧
    |(rr cStall 0).massBalance| = 1000 ∧ (massBalanceLimit : ℝ) < 1000 ∧
    (∀ q : ℝ, |q - 1000 / 86400| * 86400 ≤ massBalanceLimit → 999 ≤ sIndex cStall q) := by
  refine ⟨calcOutflow_stall 0, ?_, by rw [mbl_eq]; norm_num, ?_⟩
  · rw [show (rr cStall 0).massBalance = -1000 from fStall_zero]; norm_num
  · intro q hq
    rw [mbl_eq] at hq
    obtain ⟨hlo, hhi⟩ := abs_le.mp ((le_div_iff₀ (by norm_num : (0:ℝ) < 86400)).mpr hq)
    have hq500 : (1:ℝ) / 500 ≤ q := by linarith
    have hqpos : 0 < q := by linarith
    have hf := fStall_ge_of_ge q hq500
    rw [fStall_pos q hqpos, ← sIndex_stall_pos q hqpos] at hf
    linarith

/-- the same on the whole kernel: a one-step run from 1000 m³ -/
theorem run_not_converged_counterexample :
    ((run (0:ℝ) 1000000 0.05 0 0 86400 1000 [(0, 0, 0, 0)]).2.map fun o => (o.outflow, o.storage, o.tag))
      = [(1000 / 86400, 0, "root")] := by
  unfold run
  have hsu : setup (0:ℝ) 1000000 0.05 86400 = ⟨0, 0.05, 1000000, 0, 0⟩ :=
    setup_zero_bias 0 1000000 0.05 86400 (by norm_num) (by norm_num)
  rw [hsu]
  simp only [scan, step]
  have e : ((0:ℝ) - 0) / 86400 = 0 := by norm_num
  rw [e, RealNum.sci_zero, calcOutflow_stall 0]
  rfl

/-- non-vacuity of `root_exit_unconditional` / `root_residual_le_ends_zero_bias`, and tightness of the latter: on the context of
`root_not_converged_counterexample` the search exhausts its iterations and the returned residual EQUALS the residual at the
better end of the initial bracket -/
example : ∃ fr, findRoot (massBalanceFn cStall) (some (slopeOfMassBalance cStall)) 0 0 (1000 / 86400) massBalanceLimit
      convergenceLimit maxIterations = .ok fr ∧ fr.exit = .fuel ∧
      |(rr cStall fr.x).massBalance| = min |(rr cStall 0).massBalance| |(rr cStall (1000 / 86400)).massBalance| := by
  obtain ⟨fr, hfr, hexit, hx, _⟩ := findRoot_stall
  refine ⟨fr, hfr, hexit, ?_⟩
  have h0 : (rr cStall 0).massBalance = -1000 := fStall_zero
  have h1 : (1000:ℝ) ≤ (rr cStall (1000 / 86400)).massBalance :=
    fStall_ge_of_ge _ (by norm_num)
  rw [hx, h0, abs_neg, abs_of_pos (by norm_num : (0:ℝ) < 1000), abs_of_nonneg (by linarith), min_eq_left h1]

example : (rr cStall 0).massBalance ≤ 0 ∧ 0 ≤ (rr cStall (1000 / 86400)).massBalance ∧
    cStall.bias = 0 ∧ cStall.qlimit = 0 ∧ cStall.koffset = 0 ∧ 0 ≤ cStall.routingConstant ∧
    0 ≤ cStall.routingPower ∧ cStall.routingPower ≤ 1 ∧ 0 ≤ cStall.duration := by
  have h0 : (rr cStall 0).massBalance = -1000 := fStall_zero
  have h1 : (1000:ℝ) ≤ (rr cStall (1000 / 86400)).massBalance :=
    fStall_ge_of_ge _ (by norm_num)
  refine ⟨by rw [h0]; norm_num, by linarith, rfl, rfl, rfl, ?_, ?_, ?_, ?_⟩
  · show (0:ℝ) ≤ 1000000; norm_num
  · show (0:ℝ) ≤ 0.05; norm_num
  · show (0.05:ℝ) ≤ 1; norm_num
  · show (0:ℝ) ≤ 86400; norm_num

/-- what must hold between the storage before a step, the step's inputs and its reported outputs; `err` is the balance error of
`calcOutflow_balance`, the last clause its `root` clause (the search is a function of the storage before the step, the step's
inputs and the parameters only) -/
def StepOK (su : Setup ℝ) (k area dead dt : ℝ) (prev : ℝ) (i : ℝ × ℝ × ℝ × ℝ) (o : Out ℝ) : Prop :=
  let c := mkCtx i.1 i.2.1 su.bias prev ((i.2.2.2 - i.2.2.1) / dt) area dead dt su.x k su.qlimit su.klimit su.koffset
  let err := o.storage - (prev + (i.1 + i.2.1 - netEvaporationFlux c - o.outflow) * dt)
  0 ≤ o.outflow ∧ 0 ≤ o.storage ∧ 0 ≤ err ∧ (err < massBalanceLimit ∨ o.tag = "root") ∧
    (o.tag = "zero-at-minqi" ∨ o.tag = "zero-maxqi-le-minqi" ∨ o.tag = "full-drain-at-maxqi" → err = 0) ∧
    (o.tag = "root" → ∃ fr, findRoot (massBalanceFn c) (some (slopeOfMassBalance c)) (su.bias * (i.1 + i.2.1))
        (su.bias * (i.1 + i.2.1)) (maxQI c (su.bias * (i.1 + i.2.1))) massBalanceLimit convergenceLimit maxIterations = .ok fr ∧
      fr.delta = (rr c fr.x).massBalance ∧ err ≤ max 0 fr.delta ∧ fr.exit ≠ .conv ∧
      (fr.exit = .tol → err < massBalanceLimit))

def Chain (P : ℝ → ℝ × ℝ × ℝ × ℝ → Out ℝ → Prop) : ℝ → List (ℝ × ℝ × ℝ × ℝ) → List (Out ℝ) → Prop
  | _, [], [] => True
  | s, i :: is, o :: os => P s i o ∧ Chain P o.storage is os
  | _, _, _ => False

section run
variable {su : Setup ℝ} {k : ℝ} (hsu : SetupOK su k) (hk : 0 ≤ k) (area : ℝ) {dead dt : ℝ} (hdead : 0 ≤ dead) (hdt : 0 < dt)
include hsu hk hdead hdt

/-- one timestep from a storage `≥ 0` with lateral inflow `≥ 0`: no panic, the storage carried on is the reported one, `StepOK` -/
theorem step_ok (st : St ℝ) (hst : 0 ≤ st.storage) (i : ℝ × ℝ × ℝ × ℝ) (hl : 0 ≤ i.2.1) :
    ∃ st' o, step su k area dead dt (.ok st) i = (.ok st', o) ∧ st'.storage = o.storage ∧ 0 ≤ o.storage ∧
      StepOK su k area dead dt st.storage i o := by
  obtain ⟨inflow, lateral, rain, evap⟩ := i
  obtain ⟨r, hr⟩ := calcOutflow_ok inflow lateral su.bias st.qi st.outflow st.storage ((evap - rain) / dt) area dead dt
    su.x k su.qlimit su.klimit su.koffset
  have hbal := calcOutflow_balance _ _ _ _ _ _ _ _ _ _ _ _ _ _ _ hdt hst hl hsu.bias r hr
  have hnn := calcOutflow_nonneg _ _ _ _ _ _ _ _ _ _ _ _ _ _ _ hdt r (fun q =>
    sIndex_nonneg _ hdead hsu.klimit hk hsu.qlimit hsu.x_nonneg (fun _ => hsu.koffset) (fun h => absurd hsu.x_le (not_le.mpr h)) q) hr
  simp only at hbal
  refine ⟨⟨r.qi, r.outflow, r.storage, inflow⟩, ⟨r.outflow, r.storage, r.tag⟩, by simp only [step, hr], rfl, hnn.2, ?_⟩
  unfold StepOK
  simp only
  rw [balanceErr_eq] at hbal
  obtain ⟨e0, ecase⟩ := hbal
  -- the exits by tag of `calcOutflow_balance`, as the implications by tag of `StepOK`
  rcases ecase with ⟨ht, h0⟩ | ⟨ht, hlt⟩ | ⟨ht, fr, hfr, _, hval, hle, hnc, htol⟩
  · refine ⟨hnn.1, hnn.2, e0, Or.inl (lt_of_eq_of_lt h0 mbl_pos), fun _ => h0, fun htag => ?_⟩
    rw [htag] at ht; exact absurd ht (by decide)
  · refine ⟨hnn.1, hnn.2, e0, Or.inl hlt, fun htag => ?_, fun htag => ?_⟩
    · rcases htag with h | h | h <;> rw [h] at ht <;> exact absurd ht (by decide)
    · rw [htag] at ht; exact absurd ht (by decide)
  · refine ⟨hnn.1, hnn.2, e0, Or.inr ht, fun htag => ?_, fun _ => ⟨fr, hfr, hval, hle, hnc, htol⟩⟩
    rcases htag with h | h | h <;> rw [h] at ht <;> exact absurd ht (by decide)

theorem scan_chain : ∀ (xs : List (ℝ × ℝ × ℝ × ℝ)) (st : St ℝ), 0 ≤ st.storage → (∀ i ∈ xs, 0 ≤ i.2.1) →
      (∃ fin, (scan (step su k area dead dt) (.ok st) xs).1 = .ok fin) ∧
      Chain (StepOK su k area dead dt) st.storage xs (scan (step su k area dead dt) (.ok st) xs).2
  | [], st, _, _ => ⟨⟨st, rfl⟩, trivial⟩
  | i :: xs, st, hst, hlat => by
    obtain ⟨st', o, hstep, hso, ho, hok⟩ := step_ok hsu hk area hdead hdt st hst i (hlat _ (List.mem_cons_self ..))
    obtain ⟨hfin, hchain⟩ := scan_chain xs st' (hso ▸ ho) (fun j hj => hlat j (List.mem_cons_of_mem _ hj))
    simp only [scan, hstep]
    exact ⟨hfin, hok, hso ▸ hchain⟩

end run

/-- for every parameter set of the region, every initial storage `≥ 0` and every series with non-negative
lateral inflow: the run completes (no panic) and `StepOK` holds AT EVERY TIMESTEP. A run with an unconverged root step exists:
`run_not_converged_counterexample` (there `δ = −1000 m³`, so `err = 0`: the balance closes, the S–Q relation does not). -/
theorem run_balance (bias k x area dead dt s : ℝ) (hb0 : 0 ≤ bias) (hb1 : bias < 0.999) (hk : 0 < k) (hx0 : 0 < x) (hx1 : x ≤ 1)
    (hdead : 0 ≤ dead) (hdt : 0 < dt) (hs : 0 ≤ s) (xs : List (ℝ × ℝ × ℝ × ℝ)) (hlat : ∀ i ∈ xs, 0 ≤ i.2.1) :
    (∃ fin, (run bias k x area dead dt s xs).1 = .ok fin) ∧
      Chain (StepOK (setup bias k x dt) k area dead dt) s xs (run bias k x area dead dt s xs).2 := by
  exact scan_chain (setup_facts bias k x dt hb0 hb1 hk hx0 hx1 hdt) (le_of_lt hk) area hdead hdt xs ⟨0.0, 0.0, s, 0.0⟩ hs hlat

/-- a zero-outflow exit that does not report the index storage: dead storage 1000 m³, empty start, inflow 0.001 m³/s,
Δt = 86400 s, `k = 5000`, `m = 0.8`, zero bias. The call takes the `zero-at-minqi` exit and reports the balance storage 86.4 m³
(`SIndex(minQI)` would be the dead storage, 1000 m³, and the balance would not close). -/
example : (0 : ℝ) < 86400 ∧ (0 : ℝ) ≤ 0 ∧ (0 : ℝ) < 0.999 ∧
    calcOutflow (1/1000 : ℝ) 0 0 0 0 0 0 0 1000 86400 0.8 5000 0 5000 0 = .ok ⟨0, 0, 432/5, "zero-at-minqi"⟩ := by
  refine ⟨by norm_num, le_refl _, by norm_num, ?_⟩
  have d := dry_ctx (1/1000) 0 1000 86400 0.8 5000 (le_refl _) (by norm_num) (by norm_num) (by norm_num)
  rw [calcOutflow_real rfl, d.massBalance_eq, d.sIndex_eq, mbl_eq, if_pos (by norm_num), d.newStorage_eq]
  norm_num

end StorageRouting

end OW.Props.C11
