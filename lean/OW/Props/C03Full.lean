import OW.Props.C03Bulk
/-!
C03 (full fragment) — the whole-program equivalence between Go-backed and C-backed arrays WITHOUT the exclusion of
`observational_equivalence_partial` (`OW/Props/C03Bulk.lean`): a successful `Reshape` of a CONTIGUOUS view with
`Start > 0` is in the fragment.

On the C side such a reshape returns `cAliasArr c s`: the same pointer with the root view `View.root s Start` — an
OFFSET ROOT, which is not `Reach` (its roots start at 0). `ReachOff st v` (`OW/Proofs/NdOffsetRoot.lean`) lets the root
start at `st ≥ 0`; `unshift st c` — the view shifted back by `st` over the window `(sid, base + st, len - st)` — is the
NORMAL FORM of an offset-root array: it denotes the same cells and is in the domain of the C01/C02/C03 theorems about
`Reach` views, and every operation of the program fragment on the array equals the operation on its normal form (the
lemmas `*_norm` of `OW/Proofs/NdOffsetRoot.lean` / `NdOffsetBulk.lean`), so those theorems transfer.

Two vocabularies say "`c` has the normal form `c'`". The proofs use `Norm c c'` (`c'` is `c` or an `unshift` of it) beside
`Reach` / `ArrOK` of `c'`: so `RelO`, `relO_*`, `observational_equivalence`. `OffOK h st c` says the same of `c` alone
(`OffOK.normal`: the normal form is `unshift st c`): so `offset_transfer` (the `*_norm` lemmas in one statement) and
`c_never_oob_off`. The relations nest: `Rel` ⊆ `RelW` (`Rel.toW`), and a `RelW` pair is a `RelO` pair with the C-side array its
own normal form (`Norm.refl`; so `Rel.toO`); each `relO_*` is the pair lemma `RelW.*` on the normal form followed by the
transfer lemma, which is also the case of its operation in `NdOff.step_simN`.
-/
namespace OW.Props.C03
open OW.Nd OW.NdC02 OW.NdC03 OW.NdOff

variable {α : Type}

/-- **reachOff_translate.** A view is reachable from a root that starts at `st` iff `st ≥ 0` and the view with its `Start`
reduced by `st` is reachable from a root that starts at 0; `ReachOff 0` is `Reach`; the root view `Reshape` builds for a
contiguous C-backed view (`rootView s st`) is `ReachOff st`. -/
theorem reachOff_translate {st : Int} {v : View} :
    (ReachOff st v ↔ 0 ≤ st ∧ Reach (shiftV v (-st))) ∧ (ReachOff 0 v ↔ Reach v) ∧
    (∀ s : Idx, s ≠ [] → Pos s → 0 ≤ st → ReachOff st (rootView s st)) :=
  ⟨reachOff_iff, by rw [reachOff_iff]; simp [shiftV_zero], fun _ hs hp h0 => reachOff_rootView hs hp h0⟩

/-- **offset_index_inbounds** (`index_inbounds` for offset roots). In-bounds indices of a `ReachOff st` view are
addressed inside `[st, st + Π OriginalDims)`; `Index` does not panic; the address is `st` plus the address in the
shifted (`Reach`) view. -/
theorem offset_index_inbounds {st : Int} {v : View} (h : ReachOff st v) {i : Idx} (hi : InBounds i v.dims) :
    ∃ p, v.index i = .ok p ∧ st ≤ p ∧ p < st + product v.orig ∧ (shiftV v (-st)).index i = .ok (p - st) := by
  obtain ⟨p', hp', p0, p1⟩ := index_inbounds (reach_geo h.shift) (i := i) hi
  have hv : v = shiftV (shiftV v (-st)) st := (shiftV_neg_cancel v st).symm
  refine ⟨p' + st, ?_, by omega, ?_, ?_⟩
  · rw [hv, shiftV_index, hp']; rfl
  · have : product (shiftV v (-st)).orig = product v.orig := rfl
    omega
  · rw [hp']; congr 1; omega

/-- Window conditions of a C-backed offset-root array `c` (root offset `st`) in heap `h` — `ArrOK` generalised: the
storage exists and holds the window, and the addresses `st + [0, Π OriginalDims)` lie inside the window and below the
`1 << 30` bound of the C array type. -/
structure OffOK (h : Heap α) (st : Int) (c : Arr) : Prop where
  cBacked : c.isC = true
  reach : ReachOff st c.v
  store : ∃ s, h[c.sid]? = some s ∧ c.base + c.len ≤ s.length
  base_nonneg : 0 ≤ c.base
  fits : st + product c.v.orig ≤ c.len
  cfits : st + product c.v.orig ≤ 1073741824

theorem OffOK.normal {h : Heap α} {st : Int} {c : Arr} (o : OffOK h st c) :
    Reach (unshift st c).v ∧ ArrOK h (unshift st c) ∧ Sh st c (unshift st c) ∧ (unshift st c).isC = true := by
  have h0 := o.reach.nonneg
  exact ⟨o.reach.shift, arrOK_unshift o.store o.base_nonneg h0 o.fits o.cfits, ⟨o.cBacked, h0, rfl, o.cfits⟩, o.cBacked⟩

/-- **offset_cells.** `Impl[p + st]` of a C-backed array is `Impl[p]` of its `unshift` (reads and writes), for
`0 ≤ p`, `p + st < 1 << 30`: the translation between the two windows, cell by cell. -/
theorem offset_cells (h : Heap α) {c : Arr} {st p : Int} (hC : c.isC = true) (hst : 0 ≤ st) (p0 : 0 ≤ p)
    (p1 : p + st < 1073741824) :
    readAt h c (p + st) = readAt h (unshift st c) p ∧
    ∀ x, writeAt h c (p + st) x = writeAt h (unshift st c) p x :=
  cells_unshift h hC hst p0 p1

/-- **offset_transfer.** Every operation of the program fragment on an offset-root array `c` (`OffOK h st c`) equals the
same operation on its normal form `unshift st c`, for in-domain requests; two-array operations with a second array `b`
that is itself an offset-root array or a `Reach` array (`Norm b b'`, `Geo b'.v`). -/
theorem offset_transfer {h : Heap α} {st : Int} {c : Arr} (o : OffOK h st c) :
    (∀ i, InBounds i c.v.dims → get h c i = get h (unshift st c) i) ∧
    (∀ i x, InBounds i c.v.dims → set h c i x = set h (unshift st c) i x) ∧
    (∀ loc dims step w', slice (unshift st c) loc dims step = .ok w' →
      ∃ w, slice c loc dims step = .ok w ∧ Sh st w w') ∧
    (∀ (loc : Idx) (dim step : Int) (vals : List α), 0 ≤ dim → dim < c.v.dims.length →
      SliceOK c.v.dims loc (applyDims c dim vals.length) (applySteps c dim step) →
      apply h c loc dim step vals = apply h (unshift st c) loc dim step vals) ∧
    unroll h c = unroll h (unshift st c) ∧
    c.v.contiguous = (unshift st c).v.contiguous ∧
    (∀ better, extremum better h c = extremum better h (unshift st c)) ∧
    (∀ (b b' : Arr), Norm b b' → Geo b'.v →
      (∀ loc step, SliceOK c.v.dims loc b'.v.dims (stepOr c.v.dims.length step) →
        applySlice h c loc step b = applySlice h (unshift st c) loc step b') ∧
      (∀ loc step, SliceOK b'.v.dims loc c.v.dims (stepOr b'.v.dims.length step) →
        applySlice h b loc step c = applySlice h b' loc step (unshift st c)) ∧
      (b'.v.dims = c.v.dims → copyFrom h c b = copyFrom h (unshift st c) b' ∧
        copyFrom h b c = copyFrom h b' (unshift st c) ∧
        ∀ f, zipWithInto f h c b = zipWithInto f h (unshift st c) b' ∧
          zipWithInto f h b c = zipWithInto f h b' (unshift st c))) ∧
    (∀ shape, reshape h c shape = (reshape h (unshift st c) shape).map (reshiftRes st)) := by
  obtain ⟨hr, _, sh, _⟩ := o.normal
  have n : Norm c (unshift st c) := Or.inr ⟨st, sh⟩
  have g := reach_geo hr
  refine ⟨fun i hi => get_norm h n g hi, fun i x hi => set_norm h n g hi x, fun loc dims step w' hw => ?_,
    fun loc dim step vals h0 h1 hok => apply_norm h n g h0 h1 hok, unroll_norm h n g, n.contiguous,
    fun better => extremum_norm better h n g, fun b b' nb gb => ⟨fun loc step okS => ?_, fun loc step okS => ?_,
      fun hd => ⟨?_, ?_, fun f => ⟨?_, ?_⟩⟩⟩, fun shape => reshape_sh h sh g shape⟩
  · exact sh.slice hw
  · exact applySlice_norm h n nb g gb okS
  · exact applySlice_norm h nb n gb g okS
  · exact copyFrom_norm h n nb g gb hd
  · exact copyFrom_norm h nb n gb g hd.symm
  · exact zipWithInto_norm f h n nb g gb hd
  · exact zipWithInto_norm f h nb n gb g hd.symm

/-- **c_never_oob_off.** Memory safety for offset-root arrays (the transfer of `c_never_oob`): none of `Get`, `Set`,
`Apply`, `Unroll`, `Maximum/Minimum` on a C-backed offset-root array can leave the caller's buffer under the in-bounds
hypotheses — each returns `.ok`, never the out-of-buffer verdict `oob-c`. -/
theorem c_never_oob_off {h : Heap α} {st : Int} {c : Arr} (o : OffOK h st c) :
    (∀ i, InBounds i c.v.dims → Succeeds (get h c i)) ∧
    (∀ i x, InBounds i c.v.dims → Succeeds (set h c i x)) ∧
    (∀ (loc : Idx) (dim step : Int) (vals : List α), 0 ≤ dim → dim < c.v.dims.length →
      SliceOK c.v.dims loc (applyDims c dim vals.length) (applySteps c dim step) →
      Succeeds (apply h c loc dim step vals)) ∧
    Succeeds (unroll h c) ∧
    (∀ better, Succeeds (extremum better h c)) := by
  obtain ⟨hr, ok, _, hC⟩ := o.normal
  obtain ⟨t1, t2, _, t4, t5, _, t7, _⟩ := offset_transfer o
  obtain ⟨s1, s2, s3, s4, s5, _⟩ := c_never_oob hC hr ok
  exact ⟨fun i hi => by rw [t1 i hi]; exact s1 i hi, fun i x hi => by rw [t2 i x hi]; exact s2 i x hi,
    fun loc dim step vals h0 h1 hok => by rw [t4 loc dim step vals h0 h1 hok]; exact s3 loc dim step vals h0 h1 hok,
    by rw [t5]; exact s4, fun b => by rw [t7 b]; exact s5 b⟩

/-- the simulation relation in the offset-root vocabulary: the C-side array has a normal form (itself, or its `unshift`)
that is related (`RelW`: same view, reachable, both windows valid, cell-wise equal) to the Go-side array -/
def RelO (hg hc : Heap α) (g c : Arr) : Prop := ∃ c', Norm c c' ∧ RelW hg hc g c'

theorem Rel.toO {hg hc : Heap α} {g c : Arr} (r : Rel hg hc g c) : RelO hg hc g c := ⟨c, Norm.refl c, r.toW⟩

/-- **rel_after_c_reshape.** After a successful `Reshape` of a CONTIGUOUS view — ANY `Start` — on both sides of a related
pair (no heap change; Go: `aliasArr`, the slice re-based to `base + Start`; C: `cAliasArr`, the same pointer with a root
view starting at `Start`), the two results are in the simulation relation `RelO` again: the C-side result is an offset
root (`OffOK` at `Start`, the hypothesis of `offset_transfer` / `c_never_oob_off`) whose normal form `unshift Start …` is
`RelW`-related to the Go-side result. `RelO` is preserved by every single operation (`relO_get`, `relO_set`, `relO_slice`,
`relO_apply`, `relO_unroll`, `relO_extremum`, `relO_reshape_contig`, two-array operations: `step_simN` /
`observational_equivalence`). -/
theorem rel_after_c_reshape {hg hc : Heap α} {g c : Arr} (r : Rel hg hc g c) (hcg : g.v.contiguous = .ok true)
    {s : Idx} (hsz : product s = g.v.size) (hs : s ≠ []) (hp : Pos s) :
    reshape hg g s = .ok (hg, .inr (aliasArr g s)) ∧ reshape hc c s = .ok (hc, .inr (cAliasArr c s)) ∧
    RelO hg hc (aliasArr g s) (cAliasArr c s) ∧ OffOK hc c.v.start (cAliasArr c s) ∧
    RelW hg hc (aliasArr g s) (unshift c.v.start (cAliasArr c s)) := by
  obtain ⟨e1, e2, nb, rN, _⟩ := reshape_contig_pair r.toW (Norm.refl c) r.goBacked hsz hs hp hcg
  rw [reshapedArr, if_pos r.cBacked] at e2 nb
  -- the block `Start + [0, Π s)` of the view lies inside the allocated shape, which the window holds
  obtain ⟨w0, w1⟩ := contig_window r.toW.geoC (r.view ▸ hcg)
  have w1' : c.v.start + product s ≤ product c.v.orig := (r.view ▸ hsz : product s = product c.v.dims) ▸ w1
  exact ⟨e1, e2, ⟨_, nb, rN⟩,
    ⟨r.cBacked, reachOff_rootView hs hp w0, r.okC.store, r.okC.base_nonneg, Int.le_trans w1' r.okC.fits,
      Int.le_trans w1' (r.okC.cfits r.cBacked)⟩, aliasN_c r.cBacked s ▸ rN⟩

theorem relO_get {hg hc : Heap α} {g c : Arr} (r : RelO hg hc g c) {i : Idx} (hi : InBounds i g.v.dims) :
    ∃ x, get hg g i = .ok x ∧ get hc c i = .ok x := by
  obtain ⟨c', n, r⟩ := r
  obtain ⟨x, h1, h2⟩ := r.get hi
  exact ⟨x, h1, by rw [get_norm hc n r.geoC (by rw [← r.view]; exact hi)]; exact h2⟩

theorem relO_set {hg hc : Heap α} {g c : Arr} (r : RelO hg hc g c) {i : Idx} (hi : InBounds i g.v.dims) (x : α) :
    ∃ hg' hc', set hg g i x = .ok hg' ∧ set hc c i x = .ok hc' ∧ RelO hg' hc' g c := by
  obtain ⟨c', n, r⟩ := r
  obtain ⟨hg', hc', h1, h2, pw⟩ := r.set hi x
  exact ⟨hg', hc', h1, by rw [set_norm hc n r.geoC (by rw [← r.view]; exact hi)]; exact h2,
    c', n, r.paired_self pw⟩

theorem relO_slice {hg hc : Heap α} {g c : Arr} (r : RelO hg hc g c) {loc dims : Idx} {step : Option Idx}
    (hok : SliceOK g.v.dims loc dims (stepOr g.v.dims.length step)) :
    ∃ g' c', slice g loc dims step = .ok g' ∧ slice c loc dims step = .ok c' ∧ RelO hg hc g' c' := by
  obtain ⟨c', n, r⟩ := r
  obtain ⟨h1, h2, r'⟩ := r.slice hok
  obtain ⟨cs, h3, ncs⟩ := slice_norm n h2
  exact ⟨_, cs, h1, h3, _, ncs, r'⟩

theorem relO_apply {hg hc : Heap α} {g c : Arr} (r : RelO hg hc g c) {loc : Idx} {dim step : Int} {vals : List α}
    (h0 : 0 ≤ dim) (h1 : dim < g.v.dims.length)
    (hok : SliceOK g.v.dims loc (applyDims g dim vals.length) (applySteps g dim step)) :
    ∃ hg' hc', apply hg g loc dim step vals = .ok hg' ∧ apply hc c loc dim step vals = .ok hc' ∧ RelO hg' hc' g c := by
  obtain ⟨c', n, r⟩ := r
  obtain ⟨hg', hc', e1, e2, pw⟩ := r.apply h0 h1 hok
  exact ⟨hg', hc', e1,
    by rw [apply_norm hc n r.geoC h0 (by rw [← r.view]; exact h1) (r.applyOK hok)]; exact e2,
    c', n, r.paired_self pw⟩

theorem relO_unroll {hg hc : Heap α} {g c : Arr} (r : RelO hg hc g c) :
    ∃ sg sc vals, unroll hg g = .ok sg ∧ unroll hc c = .ok sc ∧ sliceVals hg sg = .ok vals ∧
      sliceVals hc sc = .ok vals := by
  obtain ⟨c', n, r⟩ := r
  obtain ⟨sg, sc, vals, h1, h2, h3, h4, _⟩ := r.unroll
  exact ⟨sg, sc, vals, h1, by rw [unroll_norm hc n r.geoC]; exact h2, h3, h4⟩

theorem relO_extremum {hg hc : Heap α} {g c : Arr} (r : RelO hg hc g c) (better : α → α → Bool) :
    ∃ x, extremum better hg g = .ok x ∧ extremum better hc c = .ok x := by
  obtain ⟨c', n, r⟩ := r
  obtain ⟨x, h1, h2⟩ := r.extremum better
  exact ⟨x, h1, by rw [extremum_norm better hc n r.geoC]; exact h2⟩

/-- a contiguous reshape of a `RelO` pair (Go side Go-backed) gives a `RelO` pair again — reshapes can be iterated -/
theorem relO_reshape_contig {hg hc : Heap α} {g c : Arr} (r : RelO hg hc g c) (hgo : g.isC = false)
    (hcg : g.v.contiguous = .ok true) {s : Idx} (hsz : product s = g.v.size) (hs : s ≠ []) (hp : Pos s) :
    ∃ bc, reshape hg g s = .ok (hg, .inr (aliasArr g s)) ∧ reshape hc c s = .ok (hc, .inr bc) ∧
      RelO hg hc (aliasArr g s) bc := by
  obtain ⟨c', n, r⟩ := r
  obtain ⟨e1, e2, nb, rN, _⟩ := reshape_contig_pair r n hgo hsz hs hp hcg
  exact ⟨_, e1, e2, _, nb, rN⟩

/-- **B7 observational_equivalence.** Programs over the fragment
`slice / get / set / apply / applySlice / copyFrom / unroll / contiguous / extremum / zipWithInto / reshape /
reshapeFast`, interpreted by `NdC03.run` on a Go-side state and a C-side state in lock step up to normal forms
(`NdOff.WorldO`: the C-side state has a normal form — every offset-root array replaced by its `unshift` — that is in lock
step `World` with the Go-side state). If every request is in the domain when it is issued (`NdOff.ProgOK'` = `ProgOK`
with the reshape requests widened to EVERY request of the right size with a non-empty shape of extents ≥ 1: non-contiguous
views, contiguous views with `Start = 0` AND contiguous views with `Start > 0`), then both runs complete, return the SAME
observation list, and end in lock step up to normal forms; the C-side run never produces the out-of-buffer verdict
`oob-c`. The domain `ProgOK` of `observational_equivalence_partial` is contained in `ProgOK'` (`progOK_widened`). -/
theorem observational_equivalence {sg sc : St α} (w : WorldO sg sc) (prog : List (Op α)) (ok : ProgOK' sg prog) :
    ∃ sg' sc' obs, run sg prog = .ok (sg', obs) ∧ run sc prog = .ok (sc', obs) ∧ WorldO sg' sc' ∧
      run sc prog ≠ .error "oob-c" := by
  obtain ⟨hgo, scN, w, ns⟩ := w
  obtain ⟨sg', sc', obs, e1, e2, scN', w', ns', _, hgo'⟩ := run_simA prog w ns ok (Or.inr hgo)
  exact ⟨sg', sc', obs, e1, e2, ⟨hgo' hgo, scN', w', ns'⟩, by rw [e2]; intro e; cases e⟩

/-- **B7 observational_equivalence_roots.** The end-to-end form: any in-domain program of the FULL fragment run on
Go-allocated arrays and on arrays wrapped around caller-owned C memory of the same shapes and contents returns the same
observations, and the C-side run never leaves the callers' buffers. -/
theorem observational_equivalence_roots (bufs : Heap α) (shapes : List Idx) (ok : ShapesOK bufs shapes)
    (prog : List (Op α)) (pok : ProgOK' ⟨bufs, rootArrs bufs false shapes⟩ prog) :
    ∃ sg' sc' obs, run ⟨bufs, rootArrs bufs false shapes⟩ prog = .ok (sg', obs) ∧
      run ⟨bufs, rootArrs bufs true shapes⟩ prog = .ok (sc', obs) ∧ WorldO sg' sc' ∧
      run ⟨bufs, rootArrs bufs true shapes⟩ prog ≠ .error "oob-c" :=
  observational_equivalence ⟨fun i g h => by obtain ⟨_, _, rfl⟩ := rootArrs_some h; rfl, _, world_roots bufs shapes ok,
    NormSt.refl _⟩ prog pok

/-- what lock step up to normal forms gives for each live pair: the Go-side array is Go-backed, and the C-side array is
related to it through its normal form (`RelO`) — so `relO_get`, …, apply to every live pair at the end of a run -/
theorem worldO_pairs {sg sc : St α} (w : WorldO sg sc) :
    sg.arrs.length = sc.arrs.length ∧
    ∀ (i : Nat) (g c : Arr), sg.arrs[i]? = some g → sc.arrs[i]? = some c → g.isC = false ∧ RelO sg.heap sc.heap g c := by
  obtain ⟨hgo, scN, w, ns⟩ := w
  refine ⟨by rw [w.len, ns.len], fun i g c hg hc => ⟨hgo i g hg, ?_⟩⟩
  obtain ⟨c', hc', r⟩ := w.partner hg
  refine ⟨c', ns.norm i c c' hc hc', ?_⟩
  rw [← ns.heap]; exact r

namespace ExFull

def bufs : Heap Int := Ex.bufs
def shapes : List Idx := Ex.shapes
def sg0 : St Int := ⟨bufs, rootArrs bufs false shapes⟩
def sc0 : St Int := ⟨bufs, rootArrs bufs true shapes⟩

/-- the Go-side 3×4 root and its rows 1..2 (contiguous, `Start = 4`) -/
def g0 : Arr := rootArr bufs false 0 [3, 4]
def g2 : Arr := { g0 with v := sliceView g0.v [1, 0] [2, 4] none }

/-- the C-side rows 1..2, their reshape to `[8]` — an OFFSET ROOT (same pointer, root view from `Start = 4`) — and a
stepped view of it; the last two are not `Reach` views -/
def c2 : Arr := { rootArr bufs true 0 [3, 4] with v := sliceView (rootView [3, 4] 0) [1, 0] [2, 4] none }
def c3 : Arr := ⟨rootView [8] 4, 0, 0, 12, true⟩
def c4 : Arr := { c3 with v := sliceView c3.v [1] [3] (some [2]) }

/-- a program of the full fragment: the reshape of the contiguous rows 1..2 (`Start = 4`), then every operation through
the reshaped pair and through views derived from it -/
def prog : List (Op Int) :=
  [ .slice 0 [1, 0] [2, 4] none,                 -- arrs[2] := rows 1..2 of the 3×4 root (contiguous, Start = 4)
    .reshape 2 [8],                              -- arrs[3] := reshaped to [8]: Go alias / C OFFSET ROOT
    .set 3 [5] 99,                               -- a write through the reshaped pair …
    .get 3 [5],
    .get 0 [2, 1],                               -- … is seen through the root pair
    .unroll 3,
    .slice 3 [1] [3] (some [2]),                 -- arrs[4] := a stepped view of the reshaped pair
    .unroll 4,
    .apply 3 [0] 0 1 [70, 80],
    .extremum (fun v r => decide (v > r)) 3,
    .contiguous 4,
    .reshape 3 [2, 4],                           -- arrs[5] := the reshaped pair reshaped again (Start = 4 once more)
    .get 5 [1, 1],
    .reshape 1 [6],                              -- arrs[6] := the 3×2 root flattened (Start = 0)
    .slice 6 [0] [3] none,                       -- arrs[7]
    .copyFrom 4 7,                               -- into the stepped view of the offset root
    .unroll 0,
    .zipWithInto (· + ·) 4 7,
    .unroll 3,
    .reshapeFast 5 [8],                          -- arrs[8]
    .applySlice 8 7 [2] none,
    .reshape 4 [3],                              -- arrs[9] := non-contiguous view of the offset root: fresh copies
    .reshapeFast 4 [3],                          -- not contiguous: error value
    .reshape 3 [7],                              -- size mismatch: error value
    .unroll 0 ]

def expected : List (Obs Int) :=
  [.unit, .unit, .unit, .val 99, .val 99, .vals [4, 5, 6, 7, 8, 99, 10, 11], .unit, .vals [5, 7, 99], .unit, .val 99,
   .flag false, .unit, .val 99, .unit, .unit, .unit, .vals [0, 1, 2, 3, 70, 100, 6, 200, 8, 300, 10, 11], .unit,
   .vals [70, 200, 6, 400, 8, 600, 10, 11], .unit, .unit, .unit, .err "not-contiguous", .err "size-mismatch",
   .vals [0, 1, 2, 3, 70, 200, 100, 200, 300, 600, 10, 11]]

open Check

-- the C-side reshape result IS an offset root, and it is not `Reach` (its root starts at 4)
example : reshape bufs c2 [8] = .ok (bufs, .inr c3) ∧ c3 = cAliasArr c2 [8] ∧ c3.v.start = 4 := by decide
example : ReachOff 4 c3.v := reachOff_rootView (by decide) (by decide) (by decide)
example : slice c3 [1] [3] (some [2]) = .ok c4 ∧ c4.v.start = 5 := by decide

-- the contiguous rows 1..2 of the related root pair; `rel_after_c_reshape` on them gives the offset root `c3` with its
-- window conditions
theorem rel2 : Rel bufs bufs g2 c2 :=
  (Ex.rel0.toW.slice (loc := [1, 0]) (dims := [2, 4]) (step := none) (by decide)).2.2.toRel rfl rfl

theorem offOK3 : OffOK bufs 4 c3 :=
  (rel_after_c_reshape rel2 (by decide) (s := [8]) (by decide) (by decide) (by decide)).2.2.2.1

-- single operations through the offset root: equal to the operation on the normal form; memory safe
example := offset_transfer offOK3
example := c_never_oob_off offOK3
example : get bufs c3 [5] = get bufs (unshift 4 c3) [5] ∧ get bufs c3 [5] = .ok 9 ∧
    set bufs c3 [5] 99 = set bufs (unshift 4 c3) [5] 99 := by decide
/-- outside the hypotheses the two differ (index `-1`: the offset root reads the cell BEFORE its window — no bounds
check on C memory —, the normal form panics), which is why the transfer is stated for in-bounds requests -/
example : get bufs c3 [-1] = .ok 3 ∧ get bufs (unshift 4 c3) [-1] = .error "index-out-of-range" := by decide

example := rel_after_c_reshape rel2 (by decide) (s := [8]) (by decide) (by decide) (by decide)

theorem relO3 : RelO bufs bufs (aliasArr g2 [8]) (cAliasArr c2 [8]) :=
  (rel_after_c_reshape rel2 (by decide) (s := [8]) (by decide) (by decide) (by decide)).2.2.1

example := relO_get relO3 (i := [5]) (by decide)
example := relO_set relO3 (i := [5]) (by decide) 99
example := relO_unroll relO3
example := relO_extremum relO3 (fun v r => decide (v > r))
example := relO_slice relO3 (loc := [1]) (dims := [3]) (step := some [2]) (by decide)
example := relO_reshape_contig relO3 rfl (by decide) (s := [2, 4]) (by decide) (by decide) (by decide)

-- one checked run of the Go side: every request is in the domain when it is issued, and these are the observations
theorem checkedProg : checked OpOK' sg0 prog = some expected := by decide

theorem progOK : ProgOK' sg0 prog := (checked_progOK' checkedProg).1

-- evaluated: both back-ends return the same observations (the C side by the theorem)
example : (run sg0 prog).map (·.2) = .ok expected ∧ (run sc0 prog).map (·.2) = .ok expected := by
  obtain ⟨_, _, obs, h1, h2, _⟩ := observational_equivalence_roots bufs shapes Ex.shapesOK prog progOK
  obtain ⟨_, hg⟩ := (checked_progOK' checkedProg).2
  obtain rfl : expected = obs := (Prod.mk.inj (Except.ok.inj (hg.symm.trans h1))).2
  exact ⟨by rw [hg]; rfl, by rw [show run sc0 prog = _ from h2]; rfl⟩

-- B7 instantiated: hypotheses discharged on the concrete program
example := observational_equivalence_roots bufs shapes Ex.shapesOK prog progOK

/-- this program is OUTSIDE the domain of `observational_equivalence_partial`: its second request is the reshape of a
contiguous view with `Start = 4` -/
example : ¬ ProgOK sg0 prog := fun h =>
  absurd (h.2 _ _ (by rfl : stepOp sg0 (.slice 0 [1, 0] [2, 4] none) = .ok (⟨bufs, sg0.arrs ++ [g2]⟩, .unit))).1
    (by decide)

end ExFull

end OW.Props.C03
