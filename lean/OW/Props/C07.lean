import OW.Proofs.SimBridge
import OW.Proofs.SimFootprint
/-!
C07 — ow-sim executes a model graph exactly like the sequential reference semantics.

Models (core Lean, executed by the driver against the real `ow-sim` binary on every run):
* OW/Sim/Graph.lean — `refSem` (SPECIFICATION: generations in order, each node once, node input = stored input or zeros
  plus the linked outputs, links read through their global node columns) and `exec`/`owsimSched`/`owsim`
  (IMPLEMENTATION-SHAPED: lazily loaded generations keyed by (model, generation) with row ranges from `batches`, the
  `nextLink` cursor with `linkGen > i → break`, `AddTo`, `WriteData` at `generationLocation`, `PurgeGeneration`);
* OW/Sim/Writer.lean — the writer protocol (main loop, one writer goroutine per generation, unbuffered `writingDone`).
Only the property theorems are stated here. The schedules T1 quantifies over (`SafeComplete`, `progStep`) are defined in
OW/Proofs/SimSchedule.lean; the data invariant is in OW/Proofs/SimGraph.lean, the invariant of the writer protocol
(`Writer.InvP`, in every `Writer.Reachable` state) in SimWriter.lean, the projection of a protocol run to a schedule (`Writer.Run`, `Writer.project`) in
SimBridge.lean, the footprints of the main loop's actions in SimFootprint.lean. Where a lemma of those files is itself what
the documents cite, it is restated here under the cited name (`refSem_node_equations` = `ref_fixed`, `run_footprint` =
`OW.Sim.run_footprint`).
The kernel is an ARBITRARY function `run : RunFn α` over an arbitrary `Num α` in every theorem.
-/
namespace OW.Props.C07
open OW OW.Sim

variable {α : Type} [Num α]

/-- **T3 `batches_rows`.** For cumulative (non-decreasing) batch counts, the row ranges
`[batches[g-1], batches[g])` of the generations partition `[0, total)`: every row below the total lies in exactly one
generation, every row of a generation lies below the total, consecutive ranges adjoin, and an empty batch contains no
row. -/
theorem batches_rows (b : List Nat) (hlen : 1 ≤ b.length) (hm : MonoBatches b) :
    (∀ r, r < totalOf b → ∃ g, g < b.length ∧ inGen b g r ∧ ∀ g', g' < b.length → inGen b g' r → g' = g) ∧
    (∀ g r, g < b.length → inGen b g r → r < totalOf b) ∧
    (∀ g, startOf b (g + 1) = stopOf b g) ∧
    (∀ g r, stopOf b g = startOf b g → ¬ inGen b g r) := by
  have _ := hlen -- not needed: a row below the total already lies in a generation of the list
  refine ⟨?_, ?_, startOf_succ b, ?_⟩
  · intro r hr
    obtain ⟨g, hg, hin⟩ := inGen_cover hr
    exact ⟨g, hg, hin, fun g' _ hin' => inGen_inj hm hin' hin⟩
  · intro g r hg hin
    exact inGen_lt_total hm hin
  · intro g r he hin
    exact Nat.lt_irrefl r (Nat.lt_of_lt_of_le hin.2 (Nat.le_trans (Nat.le_of_eq he) hin.1))

/-- non-vacuity: three generations with an empty middle batch, rows 0,1 | (none) | 2,3,4 -/
example : MonoBatches [2, 2, 5] ∧ inGen [2, 2, 5] 0 1 ∧ ¬ inGen [2, 2, 5] 1 2 ∧ inGen [2, 2, 5] 2 2 ∧
    totalOf [2, 2, 5] = 5 := by decide

/-- The specification is what it says: in the reference result, the entry of every node (model `m`, node `k` of
generation `gen`) is that node run ONCE on its own parameters and initial states with the input "stored input (or
zeros) plus, in link order, the output of every node linked to it", all taken from the reference result itself. -/
theorem refSem_node_equations (run : RunFn α) (g : Graph α) (hv : ValidGraph g) {m gen k : Nat}
    (hm : m < g.models.length) (hk : k < countOf g m gen) :
    refDone run g g.genCount m (rowOf g m gen k) =
      ⟨nodeInput g (refDone run g g.genCount) m (rowOf g m gen k),
       run (g.model m).name ((g.model m).params.getD (rowOf g m gen k) [])
         (nodeInput g (refDone run g g.genCount) m (rowOf g m gen k))
         ((g.model m).states.getD (rowOf g m gen k) [])⟩ :=
  ref_fixed run g hv hm hk

/-- **T1 for every schedule of the data actions.** For every valid model-graph file and every kernel function, the output
file produced by the implementation-shaped semantics (outputs, final states, final inputs where requested, each at the
node's global row; which datasets exist) equals the sequential reference semantics, under EVERY complete interleaving of
the main loop's actions (`run i`, `links i`) with the writers' actions (`write g`, `purge k`) in which: the main loop is
sequential; a generation is written once, after it has run and before it is purged; a generation is purged only after it
is written and its outgoing links are applied. -/
theorem owsim_eq_ref_safe_schedule (run : RunFn α) (g : Graph α) (hv : ValidGraph g) (acts : List Act)
    (hs : SafeComplete g.genCount acts) : owsimSched run g acts = refSem run g := by
  obtain ⟨p, hrun, hran, hlinked, hwritten⟩ := hs
  have hS := sinv_run run hv acts Prog.init p initState (sinv_init run g) hrun
  obtain ⟨pre, post, _, _, _, hI⟩ := hS.ex
  unfold owsimSched resultOf refSem execAll
  apply List.map_congr_left
  intro m hm
  have hm' : m < g.models.length := List.mem_range.mp hm
  have hlen := hv.len hm'
  have hmono := hv.mono hm'
  -- every row lies in a generation, and every generation is written
  have hgen : ∀ r, r < totalOf (g.model m).batches → ∃ gen k, p.written gen = true ∧ k < countOf g m gen ∧
      rowOf g m gen k = r := fun r hr => by
    obtain ⟨gen, hg, hin⟩ := inGen_cover hr
    obtain ⟨k, hk, e⟩ := exists_rowOf hin
    exact ⟨gen, k, hwritten gen (hlen ▸ hg), hk, e⟩
  unfold fileModelOut refModelOut
  congr 1
  · rw [Bool.eq_iff_iff, decide_eq_true_iff, hI.init m hm']
    constructor
    · rintro ⟨gen, _, hc⟩
      exact Nat.lt_of_le_of_lt (Nat.zero_le _) (inGen_lt_total hmono (inGen_rowOf hc))
    · intro hpos
      obtain ⟨gen, k, hw, hk, _⟩ := hgen 0 hpos
      exact ⟨gen, hw, by omega⟩
  · apply List.map_congr_left
    intro r hr
    obtain ⟨gen, k, hw, hk, rfl⟩ := hgen r (List.mem_range.mp hr)
    rw [hI.file m gen k hm' hk, if_pos hw]
    rfl

/-- **T1 `owsim_eq_ref`.** In particular under the schedule of `owsim` (`earlySchedule`: every writer acts as early as the
protocol allows), which respects the protocol (`earlySchedule_safe`). -/
theorem owsim_eq_ref (run : RunFn α) (g : Graph α) (hv : ValidGraph g) : owsim run g = refSem run g :=
  owsim_eq_ref_safe_schedule run g hv _ (earlySchedule_safe _)

/-- **T1 for every scheduling of the goroutines.** Every complete run of the writer-protocol transition system (any
interleaving of the main goroutine, the writer goroutines and the channel rendezvous, including bounced tokens) induces
a schedule of data actions, and the output file of that schedule is the reference result. -/
theorem owsim_eq_ref_every_interleaving (run : RunFn α) (g : Graph α) (hv : ValidGraph g)
    {ls : List Writer.Label} {s : Writer.State} (hr : Writer.Run g.genCount Writer.init ls s)
    (he : s.mpc = .exited) : owsimSched run g (ls.flatMap Writer.project) = refSem run g :=
  owsim_eq_ref_safe_schedule run g hv _ (Writer.run_safeComplete hv.genPos hr he)

/-- a concrete 3-generation graph: model A has nodes 0,1 in generation 0 and node 2 in generation 2 (empty batch in
generation 1), model B (no stored inputs) has node 0 in generation 1 and node 1 in generation 2; fan-in (two links into
input 0 of B0), fan-out (A0 feeds B0 and B1), a chain A→B→A. -/
def g3 : Graph α :=
  { T := 2
    models := [
      { name := "A", nInputs := 1, nOutputs := 1, batches := [2, 2, 3], params := [[], [], []], states := [[], [], []],
        inputs := some [[[Num.one, Num.one]], [[Num.zero, Num.one]], [[Num.zero, Num.zero]]] },
      { name := "B", nInputs := 2, nOutputs := 1, batches := [0, 1, 2], params := [[], []], states := [[], []], inputs := none } ]
    links := [
      ⟨0, 0, 0, 0, 0, 1, 1, 0, 0, 0⟩, ⟨0, 0, 1, 1, 0, 1, 1, 0, 0, 0⟩, ⟨0, 0, 0, 0, 0, 2, 1, 1, 0, 1⟩,
      ⟨1, 1, 0, 0, 0, 2, 0, 2, 0, 0⟩ ] }

/-- non-vacuity: the graph is valid, so T1 applies to it for every kernel -/
theorem g3_valid : ValidGraph (g3 : Graph α) := of_decide_eq_true rfl

example (run : RunFn α) : owsim run g3 = refSem run g3 := owsim_eq_ref run g3 g3_valid

/-- non-vacuity: the sorted-links hypothesis matters. With the two generation-0 links placed AFTER the generation-1
link, the cursor stops at the generation-1 link in iteration 0 (`linkGen > i → break`): the graph is not valid. -/
example : ¬ ValidGraph ({ (g3 : Graph α) with links := [⟨1, 1, 0, 0, 0, 2, 0, 2, 0, 0⟩, ⟨0, 0, 0, 0, 0, 1, 1, 0, 0, 0⟩] }) :=
  of_decide_eq_false rfl

/-- non-vacuity of the hypotheses of `ValidGraph` that only the Go code needs (the list-based model would
silently read `[]` where Go panics or races): two models with ONE name (Go keys `models` by name: two goroutines on one
`*modelGeneration`), a link whose `srcVar` is not an output variable of its source model (Go: index out of range in
`Outputs.Slice`), a `parameters` dataset with a column missing — each makes the graph invalid. -/
example : ¬ ValidGraph ({ (g3 : Graph α) with models := (g3 : Graph α).models.map fun md => { md with name := "A" } }) :=
  of_decide_eq_false rfl
example : ¬ ValidGraph ({ (g3 : Graph α) with links := [⟨0, 0, 0, 0, 7, 1, 1, 0, 0, 0⟩] }) := of_decide_eq_false rfl
example : ¬ ValidGraph ({ (g3 : Graph α) with models := (g3 : Graph α).models.map fun md => { md with params := [[]] } }) :=
  of_decide_eq_false rfl

/-- what `ValidGraph` gives beyond batches and link order: pairwise different model names, every link's source variable
below the number of outputs of its source model, every dataset of the prescribed shape -/
theorem validGraph_go_preconditions (g : Graph α) (hv : ValidGraph g) :
    (g.models.map (·.name)).Nodup ∧ (∀ l ∈ g.links, l.srcVar < (g.model l.srcModel).nOutputs) ∧
    (∀ md ∈ g.models, md.params.length = totalOf md.batches ∧ md.states.length = totalOf md.batches) :=
  ⟨hv.names, fun _ hl => hv.srcVar hl, fun _ hm => ⟨(hv.shape hm).1, (hv.shape hm).2.1⟩⟩

/-! ### T1, atomicity of `write g`: footprints of the main loop on the generation objects

`write g` is ONE action of the model although the real writer goroutine runs concurrently with the main loop. By
`writer_no_conflict` (below) the main loop is, while generation `g` is being written, at `run i` with `i > g` or at
`links i` with `i ≥ g`; the two theorems say that neither touches the generation objects `gens · g` the writer reads. -/

/-- **footprint of `run i`**: every generation object of another generation is untouched -/
theorem run_footprint (run : RunFn α) (g : Graph α) (i : Nat) (s : SimState α) (m k : Nat) (hk : k ≠ i) :
    (exec run g s (.run i)).gens m k = s.gens m k :=
  OW.Sim.run_footprint run g i s m k hk

/-- **footprint of `links i`** in every state a protocol-respecting schedule reaches (`SInv`) and in which the protocol
admits `links i`: the generation objects of all generations `≤ i` are untouched (the loop adds to inputs of generations
`> i` only; generation `i` is cached, so `GetGeneration` does not reload it). -/
theorem links_footprint (run : RunFn α) (g : Graph α) (hv : ValidGraph g) {p p' : Prog} {s : SimState α} {i : Nat}
    (h : SInv run g p s) (hs : progStep g.genCount p (.links i) = some p') (m k : Nat) (hk : k ≤ i) :
    (exec run g s (.links i)).gens m k = s.gens m k := by
  simp only [progStep, Option.ite_none_right_eq_some] at hs
  obtain ⟨⟨hran, hlinked⟩, -⟩ := hs
  obtain ⟨pre, post, hsplit, _, hpost, hI⟩ := h.ex
  refine OW.Sim.links_footprint run hv i s (fun l hl => ?_) (fun m' hm' => ?_) m k hk
  · have : g.links.drop s.nextLink = post := by rw [hI.cursor, hsplit]; exact List.drop_left' rfl
    rw [this] at hl
    have := hpost l hl
    omega
  · obtain ⟨d, hd, _⟩ := hI.fin m' i hm' (by omega) (h.pinv.not_purged (Nat.le_of_eq hlinked))
    rw [hd]; rfl

/-- non-vacuity of the invariant only: the initial state satisfies `SInv`, but no `links i` is admitted there yet
(`progStep G Prog.init (.links i) = none`); on the 3-generation graph the first action `run 0` leaves generation 1 alone -/
example (run : RunFn α) : SInv run (g3 : Graph α) Prog.init initState := sinv_init run g3
example (run : RunFn α) : (exec run (g3 : Graph α) initState (.run 0)).gens 1 1 = none := rfl

/-- **`WriteData` of a generation that never ran** (possible only outside the protocol): Go dereferences the nil
`Outputs`; the model reports the panic class in the rows concerned instead of skipping the write silently. -/
example (run : RunFn α) :
    (execAll run (g3 : Graph α) [Act.write 0]).file 0 0 = some crashRow ∧
    (crashRow : Row α).err = some "nil" := ⟨rfl, rfl⟩

/-! ## T2 — writer protocol, for every number of generations `G ≥ 1` and every reachable state -/

open Writer

/-- **written generations form a prefix, each written exactly once** -/
theorem writer_written_prefix_once {G : Nat} (hG : 1 ≤ G) {s : State} (h : Reachable G s) :
    ∃ w, w ≤ G ∧ ∀ g, s.writes g = if g < w then 1 else 0 := by
  obtain ⟨w, hd, I⟩ := reachable_inv hG h
  exact ⟨w, I.wle, I.writes⟩

/-- **`purge k` only when generation `k` is written, its outgoing links are applied, and the main loop is past it**
(the main loop, at generation `i`, only touches generations `≥ i`) -/
theorem writer_purge_safe {G : Nat} (hG : 1 ≤ G) {s s' : State} {h k : Nat} (hr : Reachable G s)
    (hs : step G s (.purge h k) = some s') :
    s.writes k = 1 ∧ s.links k = true ∧ (∀ i, s.mpc = .run i ∨ s.mpc = .links i → k < i) := by
  obtain ⟨w, hd, I⟩ := reachable_inv hG hr
  simp only [step, Option.ite_none_right_eq_some] at hs
  obtain ⟨e, -, hk⟩ := got_safe I hs.1.2
  refine ⟨(I.writes k).trans (if_pos (by omega)), (I.links k).trans (decide_eq_true hk), ?_⟩
  intro i hi
  rcases hi with hi | hi <;> (rw [hi] at hk; exact hk)

/-- a generation that has been purged was written before and its links were applied -/
theorem writer_purged_written {G : Nat} (hG : 1 ≤ G) {s : State} (hr : Reachable G s) {k : Nat}
    (hp : 0 < s.purges k) : s.writes k = 1 ∧ s.links k = true := by
  obtain ⟨w, hd, I⟩ := reachable_inv hG hr
  obtain ⟨a, b⟩ := I.purges k hp
  exact ⟨by rw [I.writes k]; simp [a], by rw [I.links k]; simp [b]⟩

/-- **tokens are never lost or duplicated**: at most one writer is in a pc other than not-spawned / waiting / done
(i.e. holds a token or is writing); while one is, the main goroutine holds nothing; and once W(0) exists there is
always exactly one holder (a writer, or the main goroutine holding a token / having received the last one) -/
theorem writer_token_unique {G : Nat} (hG : 1 ≤ G) {s : State} (hr : Reachable G s) :
    (∀ g1 g2, active (s.wpc g1) → active (s.wpc g2) → g1 = g2) ∧
    (∀ g, active (s.wpc g) → mainFree s.mpc) ∧
    (s.wpc 0 ≠ .notSpawned → (∃ g, g < G ∧ active (s.wpc g)) ∨ ¬ mainFree s.mpc) := by
  obtain ⟨w, hd, I⟩ := reachable_inv hG hr
  refine ⟨?_, ?_, ?_⟩
  · intro g1 g2 a1 a2
    have e2 := (I.holder rfl a2).1
    rw [(I.holder rfl a1).1] at e2
    cases e2; rfl
  · exact fun g a => (I.holder rfl a).2.2.1
  · intro h0
    by_cases hf : mainFree s.mpc
    · -- W(0) exists, so the main goroutine is past `run 0`; it is free, so a writer holds the token
      obtain ⟨h, p, rfl⟩ := holder_of_mainFree I.hok hf fun e => h0 (by rw [I.wpc 0, e]; rfl)
      have := I.hok.1
      have := spawned_le G I.mok
      exact Or.inl ⟨h, by omega, I.wpc_holder ▸ pcOK_active I.hok.2.2⟩
    · exact Or.inr hf

/-- **no stuck state**: in every reachable state in which the main goroutine has not exited some transition is enabled -/
theorem writer_no_stuck {G : Nat} (hG : 1 ≤ G) {s : State} (hr : Reachable G s) (hne : s.mpc ≠ .exited) :
    ∃ l s', step G s l = some s' := by
  obtain ⟨w, hd, I⟩ := reachable_inv hG hr
  obtain ⟨l, s', _, _, hs, _, _⟩ := progress I hne
  exact ⟨l, s', hs⟩

/-- **the main goroutine exits only when everything is done**: every generation written exactly once, every link
batch applied, every writer finished — "every generation is written exactly once before the process exits" -/
theorem writer_exit_all_written {G : Nat} (hG : 1 ≤ G) {s : State} (hr : Reachable G s) (he : s.mpc = .exited) :
    terminal G s = true ∧ ∀ g, g < G → s.writes g = 1 := by
  have hI := reachable_inv hG hr
  exact ⟨exited_terminal hI he, fun g hg => (exited_all hI he hg).2.1⟩

/-- **termination is always possible**: from every reachable state the terminal state (all written, main exited) is
reachable -/
theorem writer_terminal_reachable {G : Nat} (hG : 1 ≤ G) {s : State} (hr : Reachable G s) :
    ∃ s', Reach G s s' ∧ s'.mpc = .exited ∧ terminal G s' = true := by
  obtain ⟨w, hd, I⟩ := reachable_inv hG hr
  obtain ⟨s', hre, he⟩ := reach_exit _ s w hd I (Nat.lt_succ_self _)
  exact ⟨s', hre, he, exited_terminal (reachable_inv hG (reachable_reach hr hre)) he⟩

/-- **no conflicting access** (C05-T3): whenever a writer is writing generation `g` or has just received token `k`
(and is about to purge generation `k`), the main loop is past that generation: it runs generation `i > g` / `i > k`,
or processes the links of generation `i ≥ g` (reading generation `i`, writing inputs of generations `> i`) / `i > k` -/
theorem writer_no_conflict {G : Nat} (hG : 1 ≤ G) {s : State} (hr : Reachable G s) :
    (∀ g, s.wpc g = .writing → (∀ i, s.mpc = .run i → g < i) ∧ (∀ i, s.mpc = .links i → g ≤ i)) ∧
    (∀ h k, s.wpc h = .got k → ∀ i, s.mpc = .run i ∨ s.mpc = .links i → k < i) := by
  obtain ⟨w, hd, I⟩ := reachable_inv hG hr
  refine ⟨?_, ?_⟩
  · intro g hw
    obtain ⟨-, h1⟩ := writing_safe I hw
    exact ⟨fun i hi => by rw [hi] at h1; exact h1, fun i hi => by rw [hi] at h1; exact Nat.le_of_lt_succ h1⟩
  · intro h k hw i hi
    obtain ⟨-, -, hk⟩ := got_safe I hw
    rcases hi with hi | hi <;> (rw [hi] at hk; exact hk)

/-! ### non-vacuity of T2: concrete runs with three generations -/

def replay (G : Nat) : State → List Label → Option State
  | s, [] => some s
  | s, l :: ls => match step G s l with
    | some s' => replay G s' ls
    | none => none

theorem replay_run {G : Nat} : ∀ (ls : List Label) (s s' : State), replay G s ls = some s' → Run G s ls s' := by
  intro ls
  induction ls with
  | nil => intro s s' h; simp only [replay] at h; cases h; exact Run.nil s
  | cons l rest ih =>
    intro s s' h
    simp only [replay] at h
    split at h
    · rename_i s1 hs; exact Run.cons hs (ih s1 s' h)
    · cases h

theorem run_reachable {G : Nat} {s s' : State} {ls : List Label} (h : Run G s ls s') (hs : Reachable G s) :
    Reachable G s' := by
  induction h with
  | nil => exact hs
  | cons h1 _ ih => exact ih (Reachable.step hs h1)

/-- a run in which the main loop finishes first and token 0 BOUNCES: it is received by W(2) (which purges generation
0, re-sends and sleeps) and then by the main goroutine's final loop (which re-sends it) before W(1) gets it -/
def bounceRun : List Label :=
  [.spawn 0, .links 0, .spawn 1, .links 1, .spawn 2, .links 2,
   .wstart 0, .wdone 0, .sent 0,
   .recv 2 0 .own, .purge 2 0, .resent 2 0, .mrecv 0 (.bouncer 2),
   .recv 1 0 .main, .purge 1 0, .wstart 1, .wdone 1, .sent 1,
   .recv 2 1 .own, .purge 2 1, .wstart 2, .wdone 2, .sent 2, .mrecv 2 .own]

theorem bounceRun_exits : (replay 3 init bounceRun).map (·.mpc) = some .exited := by decide

example : (replay 3 init bounceRun).map (·.mpc) = some .exited := bounceRun_exits

example : (replay 3 init bounceRun).map (fun s => (s.writes 0, s.writes 1, s.writes 2, s.purges 0, s.purges 1)) =
    some (1, 1, 1, 2, 1) := by decide

/-- the bounced run is a run of the system, so by `owsim_eq_ref_every_interleaving` the schedule it induces
(`run 0, links 0, run 1, links 1, run 2, links 2, write 0, purge 0, purge 0, write 1, purge 1, write 2`) yields the
reference result on the 3-generation graph, for every kernel -/
example (run : RunFn α) : owsimSched run g3 (bounceRun.flatMap Writer.project) = refSem run g3 := by
  have he := bounceRun_exits
  cases h : replay 3 init bounceRun with
  | none => rw [h] at he; cases he
  | some s =>
    rw [h] at he
    exact owsim_eq_ref_every_interleaving run g3 g3_valid (replay_run _ _ _ h) (Option.some.inj he)

/-- a purge of a generation that is not yet written is NOT a step of the system (the label is refused) -/
example : replay 3 init [.spawn 0, .links 0, .spawn 1, .purge 1 0] = none := by decide

end OW.Props.C07
