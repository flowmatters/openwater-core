import OW.Gen.Attr
import OW.Gen.Prelude
/-!
# GenTieBase — what the tie theorems (`OW/Props/GenTie*.lean`) share: the tactic `tie`, the two literal identities most of them carry, and
`exceptToOption`, which relates a panic of the hand model (`.error`) to one of the regenerated definitions (`none`), with how it passes a bind
-/
namespace OW.Props.GenTie
open OW

/-! Two programs that test the same conditions have ONE normal form, a tuple whose components are nested `if`s with `if`-free leaves:
`Gen.Prelude.ite_prod` distributes a merge of the regenerated code (`phiN := if c then (a, b) else (a', b')`) over the tuple,
`apply_ite Record.field` does the same for the result record of a hand model, `ite_self` drops the test of a variable that neither
branch assigns. Constants of a hand model that occur in a condition are unfolded with `unfold`, not handed to `tie`: rewriting
them with `simp only` leaves the `Decidable` instance of the `if` behind and `ite_prod` no longer applies to it. -/

/-- path analysis, for the places where the normal form does not identify the two sides — an `if` AROUND an arithmetic expression
on one side and inside it on the other, conditions spelled differently (`a && b` / `b && a`, a test and its negation): one case per
path through the remaining `if`s, each the same term; a path on which the two sides took contradictory branches has contradictory
hypotheses (`simp_all`) -/
macro "tie_paths" : tactic =>
  `(tactic| ((repeat' (split <;> rename_i h <;> (try simp only [h, ↓reduceIte]))) <;> (first | rfl | simp_all)))

/-- the helper functions of the regenerated file are unfolded (`gen_unfold`: whichever helpers the source has at the moment), both
sides are brought to the normal form (extra rules: the literal identities of the theorem, `apply_ite Record.field`) and are then
the same term; failing that, `tie_paths` -/
syntax "tie" (" [" Lean.Parser.Tactic.simpLemma,* "]")? : tactic
macro_rules
  | `(tactic| tie) => `(tactic| first | rfl | tie [])
  | `(tactic| tie [$ls,*]) => `(tactic|
      (simp only [gen_unfold, OW.Gen.Prelude.ite_prod, ite_self, Bool.false_eq_true, ↓reduceIte, $ls,*] <;> first | rfl | tie_paths))

/-- the float literal `0.0` is the zero a fresh array holds -/
def LitZero (α : Type) [Num α] : Prop := (0.0 : α) = Num.zero
/-- the integer literal `0` (converted to float64 by Go) and the float literal `0.0` are the same number -/
def NatZero (α : Type) [Num α] : Prop := (0 : α) = 0.0

theorem litZero_float : LitZero Float := rfl

/-- a panic of the Go code: `.error` of the hand-written model, `none` of the regenerated definitions -/
def exceptToOption {ε β : Type} : Except ε β → Option β
  | .ok b => some b
  | .error _ => none

/-! `exceptToOption` is a monad morphism (`Except ε` → `Option`). Pushing it through the `do` block of a hand model, with the ties of
the functions the block calls, gives the regenerated text: its `match … with | none => none | some v => …` is the bind of `Option`. -/
theorem exceptToOption_bind {ε β γ : Type} (x : Except ε β) (f : β → Except ε γ) :
    exceptToOption (x >>= f) = (match exceptToOption x with | none => none | some b => exceptToOption (f b)) := by
  cases x <;> rfl

theorem map_optBind {β γ δ : Type} (f : γ → δ) (o : Option β) (k : β → Option γ) :
    (match o with | none => none | some b => k b).map f = (match o with | none => none | some b => (k b).map f) := by
  cases o <;> rfl

end OW.Props.GenTie
