import OW.Gen.RunFacts
/-!
C05, tie A — the structural facts extracted from the CURRENT source (OW/Gen/RunFacts.lean, regenerated by
/verif/vlib/c05.py on every run) satisfy the rules of OW/Sim/RunFactsCheck.lean. Core Lean only.
-/
namespace OW.Props.C05
open OW.Sim.RunFactsCheck OW.Gen.RunFacts

/-- **`current_run_facts_ok`.** For every goroutine closure of the generated `Run` methods (how many there are is
regenerated data, restated by the `example` at the end of OW/Gen/RunFacts.lean; `runFactsOk` itself only asks that every
wrapper file yielded a site), for every expansion of the wrapper template, and for the goroutine-per-model closure of
ow-sim, as they are in the working tree now — the closure
body together with the bodies of the module's functions and methods it calls with something shared (a named per-cell
method, per-cell view helpers), which the extractor walks as part of the task: no shared write, no shared location
vector, read-only use of the shared index vectors; every cell index reaches the per-cell body exactly once (`cover`:
the launch loop variable passed as the closure's parameter, or a worker pool ranging over a channel filled with exactly
`0 … B-1` and closed before the first worker starts); a complete join (`join`: exactly one send on the done channel at
the end of every path and as many receives as goroutines launched, or a `sync.WaitGroup` with `Add` of the launch
count before the launches, one `Done()` at the end of every path and `Wait()` after the launch loop); and no reachable
callee assigning to package-level state. Evaluated on the regenerated data (`Gen.RunFacts.facts_ok`, next to the table).

Reading for the theorems of `OW.Props.C05`: T2 (`disjoint_interleaving`, `TasksDisjoint`) quantifies over ANY list of
tasks with pairwise disjoint footprints. With `cover = direct` a task is a cell (T3 `cells_disjoint`). With
`cover = pool` a task is a WORKER: the concatenation of the steps of the cells whose indices it received; since every
index is received by exactly one worker (trusted channel semantics) and the per-cell footprints are pairwise disjoint
(T3), the workers' footprints — unions of disjoint families of rows — are pairwise disjoint as well
(`OW.Props.C05.workers_disjoint`), so T2 applies to the pool unchanged. T4 `join_complete` covers the channel join (one
token per goroutine: per cell, or per worker), `wg_join_complete` the WaitGroup join. -/
theorem current_run_facts_ok : runFactsOk runFacts = true := facts_ok

/-- spelled out: no analysed closure contains a write to anything shared other than through its own cell -/
theorem current_no_shared_write :
    ∀ s, s ∈ runFacts.sites → ∀ e, e ∈ s.events → e.sharedWrite = false ∧ e.sharedLoc = false := by
  intro s hs e he
  have h := (runFactsOk_sound runFacts current_run_facts_ok s hs).1 e he
  exact ⟨h.1, h.2.1⟩

/-- spelled out: the launch/join skeleton of every analysed closure is the `doneChan` pattern of `join_complete` or the
WaitGroup pattern of `wg_join_complete`, and every cell index reaches the per-cell body once -/
theorem current_join_skeleton :
    ∀ s, s ∈ runFacts.sites → s.loopVarOk = true ∧ s.sendOk = true ∧ s.launchOk = true ∧ s.recvOk = true ∧ s.coverOk = true := by
  intro s hs
  have h := runFactsOk_sound runFacts current_run_facts_ok s hs
  exact ⟨h.2.1, h.2.2.1, h.2.2.2.1, h.2.2.2.2.1, h.2.2.2.2.2.2⟩

/-! non-vacuity of the checker: it rejects the seeded defects (each is one event or one flag away from a real site) -/

/-- a well-formed one-event site (a per-cell `Set1` through the goroutine's own view) -/
def goodSite : Site :=
  { file := "x.go", func := "M.Run", kind := .cells, cellParamBound := true, capturesLoopVar := false, loopBodyVarsCaptured := 0,
    unsupported := 0, hasChan := true, sends := 1, sendTail := true, returnsInClosure := 0, launch := .counted,
    goTopLevelOnce := true, launchLoopClean := true, countReassigned := false, recvLoopFound := true, sameBound := true,
    recvPerIter := 1, recvLoopClean := true, otherChanUses := 0, calleeWrites := 0,
    events := [⟨10, "initialStates", .viewOwn, false, .call, .set1, .other, 0, true, false⟩] }

example : goodSite.ok = true := rfl
/-- position vector hoisted out of the closure: its per-cell element assignment is a shared write -/
example : ({ goodSite with events := [⟨11, "outputPosSlice", .captured, false, .elemAssign, .other, .none, 0, false, false⟩] } : Site).violated
    = ["shared-write"] := rfl
/-- … and using it as `loc` is flagged on its own -/
example : ({ goodSite with events := [⟨12, "outputs", .captured, false, .call, .slice, .sharedVec, 0, true, false⟩] } : Site).violated
    = ["shared-loc"] := rfl
/-- a mutating call on the whole shared array at a location that is not the goroutine's own cell -/
example : ({ goodSite with events := [⟨13, "states", .captured, false, .call, .applySlice, .modLit, 0, true, false⟩] } : Site).violated
    = ["shared-write"] := rfl
/-- a write through an input view (shared between cells when there are fewer input blocks than cells) -/
example : ({ goodSite with events := [⟨14, "rainfall", .viewShared, false, .call, .set1, .other, 0, true, false⟩] } : Site).violated
    = ["shared-write"] := rfl
/-- the closure uses the loop variable -/
example : ({ goodSite with capturesLoopVar := true } : Site).violated = ["loop-var"] := rfl
/-- one receive dropped -/
example : ({ goodSite with recvPerIter := 0 } : Site).violated = ["join"] := rfl
/-- a kernel writing a package-level buffer -/
example : ({ goodSite with calleeWrites := 1 } : Site).violated = ["callee-global-write"] := rfl
/-! the re-plumbings the checker accepts, and what it keeps rejecting in them -/

/-- `sync.WaitGroup` join: `Add(numCells)` before the loop, `Done()` last in the closure, `Wait()` after the loop -/
def wgSite : Site := { goodSite with join := .waitGroup, addOk := true }
example : wgSite.ok = true := rfl
/-- … `Add` missing or with another count, `Wait()` missing, `Done()` not on every path, the WaitGroup used elsewhere -/
example : ({ wgSite with addOk := false } : Site).violated = ["join"] := rfl
example : ({ wgSite with sameBound := false } : Site).violated = ["join"] := rfl
example : ({ wgSite with recvLoopFound := false } : Site).violated = ["join"] := rfl
example : ({ wgSite with sendTail := false } : Site).violated = ["join"] := rfl
example : ({ wgSite with otherChanUses := 1 } : Site).violated = ["join"] := rfl
/-- … an early `return` is fine only with the deferred `Done()` -/
example : ({ wgSite with returnsInClosure := 1 } : Site).violated = ["join"] := rfl
example : ({ wgSite with returnsInClosure := 1, doneDeferred := true } : Site).ok = true := rfl
/-- neither join form recognised -/
example : ({ goodSite with join := .none } : Site).violated = ["join"] := rfl

/-- bounded worker pool ranging over a channel of cell indices -/
def goodPool : Pool :=
  { buffered := true, fillOk := true, capMatches := true, closed := true, rangeClean := true, otherChanUses := 0,
    boundReassigned := false, workersPositive := true }
def poolSite : Site := { goodSite with cover := .pool, pool := goodPool }
example : poolSite.ok = true := rfl
/-- … not closed before the workers start, not filled with exactly `0 … B-1`, a `break` in the range body, the channel
used elsewhere, possibly no worker at all: cells could be lost or handled twice -/
example : ({ poolSite with pool := { goodPool with closed := false } } : Site).violated = ["cell-coverage"] := rfl
example : ({ poolSite with pool := { goodPool with fillOk := false } } : Site).violated = ["cell-coverage"] := rfl
example : ({ poolSite with pool := { goodPool with rangeClean := false } } : Site).violated = ["cell-coverage"] := rfl
example : ({ poolSite with pool := { goodPool with otherChanUses := 1 } } : Site).violated = ["cell-coverage"] := rfl
example : ({ poolSite with pool := { goodPool with workersPositive := false } } : Site).violated = ["cell-coverage"] := rfl
/-- a write through the whole shared array reached inside a followed helper (`v.outputs.ApplySlice(c.outputPosSlice, …)`)
is the goroutine's own only at a location pinned to its cell -/
example : ({ goodSite with events := [⟨15, "v.outputs", .whole, false, .call, .applySlice, .ownVec, 0, true, false⟩] } : Site).ok = true := rfl
example : ({ goodSite with events := [⟨15, "v.outputs", .whole, false, .call, .applySlice, .localOther, 0, true, false⟩] } : Site).violated
    = ["shared-write"] := rfl

/-- the data is there (the exact counts are restated, regenerated, in OW/Gen/RunFacts.lean) -/
example : 1 ≤ runFacts.wrapperSites ∧ runFacts.wrapperSites < runFacts.sites.length := by decide

end OW.Props.C05
