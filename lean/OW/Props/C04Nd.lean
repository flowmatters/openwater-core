import OW.Props.C04NdTables
import OW.Kernels.Muskingum
import OW.Kernels.Coeff
/-!
C04 (n-d level) — the view algebra of the wrapper template yields the cell views the list-level semantics assumes.

The model `OW/Sim/WrapperNd.lean` performs the template's `Slice … MustReshape` chains on the verified n-d array
model `OW/Nd` (C01/C02). The theorems are about ROOT arrays (`RootOn h a D`: Go-backed, root view of shape `D`,
extents ≥ 1, window conditions — what `arrayFromSlice`/`NewArray` return, `rootOn_rootArr`, `rootOn_newArray`):
`inputs [nIn, nI, T]`, `states [N, nS]`, `outputs [M, nO, T']`, `parameters [rows, nSets]`.
Storage positions are `a.base + …`; for the arrays made by the constructors `a.base = 0`.

All statements rest on the lemmas about the n-d array model that the C01/C02 theorems rest on (`slice_eq_dstSlice`,
`contiguous_eq`, `reshape_go_alias`, `get_addr`), through the helper lemmas of `OW/Proofs/WrapperNd.lean`. The refinement theorems
here are the theorems of `OW/Props/C04NdTables.lean` at the all-scalar spec; the view theorems are in `OW/Props/C04NdViews.lean`.
-/
namespace OW.Props.C04Nd
open OW OW.Nd OW.Sim OW.Sim.WrapperNd OW.WrapperNd

section Refine
variable {α : Type} [Num α]

/-- **wrapperNd_refines** (specs with scalar parameters only). Root arrays `parameters [rows, nSets]`,
`inputs [nIn, nI, T]`, `states [N, nS]`, `outputs [M, nO, T']` (`T ≤ T'`, oversized allowed) on storages `pst, ist, sst,
ost`, states and outputs in different storages; a cell `i < N`, `i < M`; a model with `nP ≤ rows` scalar parameters
(rows `0 … nP-1`) and ANY kernel function `km.run` on lists whose results fit the arrays WHEN IT IS CALLED ON ARGUMENTS OF
THE SHAPE THE WRAPPER PASSES (`hK`: on `nI` input series of exactly `T` values and a state row of exactly `nS` values it
returns at most `nO` series of at most `T` values and at most `nS` states — otherwise the Go code panics where the
list-level `overwrite` truncates). The hypothesis is met by the registry kernels (`ExRefine.muskingum_fits`;
`ExRefine.coeff_fits` with `nS = 0`, a shape `RootOn h states [N, nS]` excludes — extents are `≥ 1` — so stateless models are
outside this theorem); quantified over ALL inputs it would be met by no real kernel (`ExRefine.unrestricted_fit_is_unsatisfiable`:
a kernel returns series as long as its inputs).
Let `paramsL`, `inputsL`, `st`, `orow` be the row-major list denotations of the storages (`rowAt` / `mat` / `cube`; `mat` is
`chunks` of the storage from `base`, `mat_eq_chunks`). Then the goroutine body on the template's views (`cellStepNd`: decode the parameters through
the `ApplyParameters` views, read the states and the input series through the state/input views, run the kernel, write
the series through the output views and the states through the state view):
* fails with the same error whenever `OW.Sim.cellStep` fails (only the kernel can);
* otherwise does not panic, keeps the heap's shape, and the resulting heap holds exactly `cellStep`'s result: state
  row `i` is `s'`, output rows `(i, o, ·)` are `o'[o]` (all `T'` positions: the first `T` written, the rest as
  before), and every other cell of every storage — other cells' rows, rows `≥ N`, inputs, parameters — is unchanged. -/
theorem wrapperNd_refines (km : KModel α) {h : Heap α} {parameters inputs states outputs : Arr}
    {rows nSets nIn nI T N nS M nO T' nP i pb ib sb ob : Nat} {pst ist sst ost : List α}
    (rp : RootOn h parameters [(rows : Int), (nSets : Int)])
    (ri : RootOn h inputs [(nIn : Int), (nI : Int), (T : Int)])
    (rs : RootOn h states [(N : Int), (nS : Int)])
    (ro : RootOn h outputs [(M : Int), (nO : Int), (T' : Int)])
    (hpb : parameters.base = (pb : Int)) (hib : inputs.base = (ib : Int)) (hsb : states.base = (sb : Int))
    (hob : outputs.base = (ob : Int))
    (hp : h[parameters.sid]? = some pst) (hi : h[inputs.sid]? = some ist)
    (hs : h[states.sid]? = some sst) (ho : h[outputs.sid]? = some ost)
    (hso : states.sid ≠ outputs.sid)
    (hnP : nP ≤ rows) (hiN : i < N) (hiM : i < M) (hT : T ≤ T')
    {rd : RunDims} (hrd : runDims inputs states outputs = .ok rd)
    (hK : ∀ p ins st r, ins.length = nI → (∀ s ∈ ins, s.length = T) → st.length = nS → km.run p ins st = .ok r →
      r.outputs.length ≤ nO ∧ (∀ ser ∈ r.outputs, ser.length ≤ T) ∧ r.states.length ≤ nS) :
    (∀ e, cellStep km (List.replicate nP none) ((List.range nP).map fun j => (j, 1)) (mat pst pb rows nSets)
          (cube ist ib nIn nI T) i (rowAt sst (sb + i * nS) nS) (mat ost (ob + i * (nO * T')) nO T') = .error e →
        cellStepNd km.run nP nI h parameters inputs states outputs rd (i : Int) = .error e) ∧
    (∀ s' o', cellStep km (List.replicate nP none) ((List.range nP).map fun j => (j, 1)) (mat pst pb rows nSets)
          (cube ist ib nIn nI T) i (rowAt sst (sb + i * nS) nS) (mat ost (ob + i * (nO * T')) nO T') = .ok (s', o') →
      ∃ h', cellStepNd km.run nP nI h parameters inputs states outputs rd (i : Int) = .ok h' ∧ SameShape h h' ∧
        (∀ s, s < nS → cell h' states.sid (sb + i * nS + s) = s'[s]?) ∧
        (∀ o t, o < nO → t < T' → cell h' outputs.sid (ob + (i * nO + o) * T' + t) = (o'[o]?).bind (·[t]?)) ∧
        (∀ u q, ¬ (u = states.sid ∧ ∃ s, s < nS ∧ q = sb + i * nS + s) →
                ¬ (u = outputs.sid ∧ ∃ o t, o < nO ∧ t < T' ∧ q = ob + (i * nO + o) * T' + t) →
                cell h' u q = cell h u q)) := by
  rw [← C04NdTables.cellStepNdT_scalar]
  exact C04NdTables.wrapperNd_refines_tables km rp ri rs ro hpb hib hsb hob hp hi hs ho hso hiN hiM hT hrd hK _ _
    (C04NdTables.specWF_scalar nP)
    (C04NdTables.scalar_rows hnP) fun j k _ _ hj _ => C04NdTables.scalar_no_tables j k hj

/-- **runNd_refines** (specs with scalar parameters only; the cells executed one after the other — C05 is about why
the order does not matter). Root arrays `parameters [rows, nSets]`, `inputs [nIn, nI, T]`, `states [N, nS]`,
`outputs [M, nO, T']` with `N ≤ M`, `T ≤ T'`, in pairwise different storages (parameters and inputs may share one); a
kernel whose results fit the arrays. If the list-level vectorised run `runCells` on the row-major denotations of the
storages succeeds with `(ss, os)`, then `Run` through the template's views (`runNd`: the preamble, then `cellStepNd` for
`i = 0 … N-1`) does not panic, keeps the heap's shape, and afterwards
* the states storage denotes `ss` and the outputs storage denotes `os` (ALL `M` rows and `T'` timesteps: rows `≥ N` and
  timesteps `≥ T` as before, by `C04.runCells_spec` / `C04.cellStep_frame`);
* every other storage (parameters, inputs, anything else in the heap) is the same list as before, and the states and
  outputs storages are unchanged outside the windows of the two arrays (`run_frame`). -/
theorem runNd_refines (km : KModel α) {h : Heap α} {parameters inputs states outputs : Arr}
    {rows nSets nIn nI T N nS M nO T' nP pb ib sb ob : Nat} {pst ist sst ost : List α}
    (rp : RootOn h parameters [(rows : Int), (nSets : Int)])
    (ri : RootOn h inputs [(nIn : Int), (nI : Int), (T : Int)])
    (rs : RootOn h states [(N : Int), (nS : Int)])
    (ro : RootOn h outputs [(M : Int), (nO : Int), (T' : Int)])
    (hpb : parameters.base = (pb : Int)) (hib : inputs.base = (ib : Int)) (hsb : states.base = (sb : Int))
    (hob : outputs.base = (ob : Int))
    (hp : h[parameters.sid]? = some pst) (hi : h[inputs.sid]? = some ist)
    (hs : h[states.sid]? = some sst) (ho : h[outputs.sid]? = some ost)
    (hso : states.sid ≠ outputs.sid) (hps : parameters.sid ≠ states.sid) (hpo : parameters.sid ≠ outputs.sid)
    (his : inputs.sid ≠ states.sid) (hio : inputs.sid ≠ outputs.sid)
    (hnP : nP ≤ rows) (hNM : N ≤ M) (hT : T ≤ T')
    (hK : ∀ p ins st r, ins.length = nI → (∀ s ∈ ins, s.length = T) → st.length = nS → km.run p ins st = .ok r →
      r.outputs.length ≤ nO ∧ (∀ ser ∈ r.outputs, ser.length ≤ T) ∧ r.states.length ≤ nS)
    {ss : List (List α)} {os : List (List (List α))}
    (hrun : runCells km (List.replicate nP none) ((List.range nP).map fun j => (j, 1)) (mat pst pb rows nSets)
      (cube ist ib nIn nI T) 0 (mat sst sb N nS) (cube ost ob M nO T') = .ok (ss, os)) :
    ∃ h' sst' ost', runNd km.run nP nI h parameters inputs states outputs = .ok h' ∧ SameShape h h' ∧
      h'[states.sid]? = some sst' ∧ h'[outputs.sid]? = some ost' ∧
      (∀ u, u ≠ states.sid → u ≠ outputs.sid → h'[u]? = h[u]?) ∧
      mat sst' sb N nS = ss ∧ cube ost' ob M nO T' = os ∧
      (∀ q, (q < sb ∨ sb + N * nS ≤ q) → sst'[q]? = sst[q]?) ∧
      (∀ q, (q < ob ∨ ob + N * (nO * T') ≤ q) → ost'[q]? = ost[q]?) := by
  rw [← C04NdTables.runNdT_scalar]
  exact C04NdTables.runNd_refines_tables km rp ri rs ro hpb hib hsb hob hp hi hs ho hso hps hpo his hio _ _
    (C04NdTables.specWF_scalar nP) (C04NdTables.scalar_rows hnP) (fun _ _ j k _ _ hj _ => C04NdTables.scalar_no_tables j k hj)
    hNM hT hK hrun

end Refine

namespace ExRefine
variable {α : Type} [Num α]

/-- parameters 3×2, inputs 2×2×3, states 3×2, outputs 4×1×5, all filled with `z` -/
def heap (z : α) : Heap α := [List.replicate 6 z, List.replicate 12 z, List.replicate 6 z, List.replicate 20 z]
/-- a kernel whose results fit the arrays: the first input series (at most 3 values), at most 2 states -/
def toyKm : KModel α :=
  { name := "toy", init := fun _ => .ok [],
    run := fun _ ins st => .ok { outputs := [(ins.headD []).take 3], states := st.take 2 } }

section
omit [Num α]
theorem root32 {h : Heap α} {sid : Nat} (z : α) (hs : h[sid]? = some (List.replicate 6 z)) :
    RootOn h (rootArr sid [((3 : Nat) : Int), ((2 : Nat) : Int)] 6) [((3 : Nat) : Int), ((2 : Nat) : Int)] :=
  rootOn_replicate hs (List.cons_ne_nil _ _) (by unfold Pos; decide) (by decide)
theorem root33 {h : Heap α} {sid : Nat} (z : α) (hs : h[sid]? = some (List.replicate 9 z)) :
    RootOn h (rootArr sid [((3 : Nat) : Int), ((3 : Nat) : Int)] 9) [((3 : Nat) : Int), ((3 : Nat) : Int)] :=
  rootOn_replicate hs (List.cons_ne_nil _ _) (by unfold Pos; decide) (by decide)
theorem root223 {h : Heap α} {sid : Nat} (z : α) (hs : h[sid]? = some (List.replicate 12 z)) :
    RootOn h (rootArr sid [((2 : Nat) : Int), ((2 : Nat) : Int), ((3 : Nat) : Int)] 12)
      [((2 : Nat) : Int), ((2 : Nat) : Int), ((3 : Nat) : Int)] :=
  rootOn_replicate hs (List.cons_ne_nil _ _) (by unfold Pos; decide) (by decide)
theorem root415 {h : Heap α} {sid : Nat} (z : α) (hs : h[sid]? = some (List.replicate 20 z)) :
    RootOn h (rootArr sid [((4 : Nat) : Int), ((1 : Nat) : Int), ((5 : Nat) : Int)] 20)
      [((4 : Nat) : Int), ((1 : Nat) : Int), ((5 : Nat) : Int)] :=
  rootOn_replicate hs (List.cons_ne_nil _ _) (by unfold Pos; decide) (by decide)

theorem toyKm_fits : ∀ (p : List α) ins st r, ins.length = 2 → (∀ s ∈ ins, s.length = 3) → st.length = 2 →
    (toyKm (α := α)).run p ins st = .ok r →
    r.outputs.length ≤ 1 ∧ (∀ ser ∈ r.outputs, ser.length ≤ 3) ∧ r.states.length ≤ 2 := by
  intro p ins st r _ _ _ hr
  simp only [toyKm, Except.ok.injEq] at hr
  subst hr
  refine ⟨by simp, fun ser hs => ?_, by simp⟩
  simp only [List.mem_singleton] at hs
  subst hs
  simp

end

example (z : α) :=
  wrapperNd_refines (toyKm (α := α)) (h := heap z) (nP := 3) (i := 2) (pb := 0) (ib := 0) (sb := 0) (ob := 0)
    (root32 (sid := 0) z rfl) (root223 (sid := 1) z rfl) (root32 (sid := 2) z rfl) (root415 (sid := 3) z rfl)
    rfl rfl rfl rfl rfl rfl rfl rfl (by decide) (by decide) (by decide) (by decide) (by decide)
    (runDims_eq rfl rfl rfl)
    toyKm_fits

theorem toy_runCells (z : α) : runCells (toyKm (α := α)) (List.replicate 3 none)
    ((List.range 3).map fun j => (j, 1)) (mat (List.replicate 6 z) 0 3 2) (cube (List.replicate 12 z) 0 2 2 3) 0
    (mat (List.replicate 6 z) 0 3 2) (cube (List.replicate 20 z) 0 4 1 5) =
    .ok ([[z, z], [z, z], [z, z]], List.replicate 4 [List.replicate 5 z]) := by
  have r3 : List.range 3 = [0, 1, 2] := by decide
  have r2 : List.range 2 = [0, 1] := by decide
  have r4 : List.range 4 = [0, 1, 2, 3] := by decide
  have r1 : List.range 1 = [0] := by decide
  simp [runCells, cellStep, cellParams, cellParams.go, toyKm, overwrite, mat, cube, rowAt, r1, r2, r3, r4,
    List.replicate, bind, Except.bind, pure, Except.pure]

example (z : α) :=
  runNd_refines (toyKm (α := α)) (h := heap z) (nP := 3) (pb := 0) (ib := 0) (sb := 0) (ob := 0)
    (root32 (sid := 0) z rfl) (root223 (sid := 1) z rfl) (root32 (sid := 2) z rfl) (root415 (sid := 3) z rfl)
    rfl rfl rfl rfl rfl rfl rfl rfl (by decide) (by decide) (by decide) (by decide) (by decide) (by decide) (by decide)
    (by decide)
    toyKm_fits (toy_runCells z)

/-- `Muskingum.model` meets the kernel-fit hypothesis `hK` for every series length `T`: on 2 input series of `T` values and
3 states it returns 1 series of `T` values and 3 states. -/
theorem muskingum_fits (T : Nat) : ∀ (p : List α) ins st r, ins.length = 2 → (∀ s ∈ ins, s.length = T) → st.length = 3 →
    (Kernels.Muskingum.model (α := α)).run p ins st = .ok r →
    r.outputs.length ≤ 1 ∧ (∀ ser ∈ r.outputs, ser.length ≤ T) ∧ r.states.length ≤ 3 := by
  intro p ins st r _ hT _ hr
  simp only [Kernels.Muskingum.model] at hr
  split at hr
  · injection hr with hr
    subst hr
    refine ⟨by simp, fun ser hs => ?_, by simp⟩
    simp only [List.mem_singleton] at hs
    subst hs
    simp only [Kernels.Muskingum.run, scan_length, List.length_zip]
    have := hT _ (List.mem_cons_self)
    omega
  · cases hr

/-- `RunoffCoefficient` (`Coeff.model`) has the kernel-fit property at `nS = 0`: 1 input series of `T` values, no states → 1
series of `T` values. A fact about the kernel alone: `RootOn h states [N, nS]` in `wrapperNd_refines` needs `nS ≥ 1`, so
only `muskingum_fits` is used as its `hK` below. -/
theorem coeff_fits (T : Nat) : ∀ (p : List α) ins st r, ins.length = 1 → (∀ s ∈ ins, s.length = T) → st.length = 0 →
    (Kernels.Coeff.model (α := α)).run p ins st = .ok r →
    r.outputs.length ≤ 1 ∧ (∀ ser ∈ r.outputs, ser.length ≤ T) ∧ r.states.length ≤ 0 := by
  intro p ins st r _ hT _ hr
  simp only [Kernels.Coeff.model] at hr
  split at hr
  · injection hr with hr
    subst hr
    refine ⟨by simp, fun ser hs => ?_, by simp⟩
    simp only [List.mem_singleton] at hs
    subst hs
    simp only [Kernels.Coeff.run, List.length_map]
    exact Nat.le_of_eq (hT _ (List.mem_cons_self))
  · cases hr

/-- why `hK` must be restricted to the shapes the wrapper passes: quantified over ALL inputs it is FALSE for `Muskingum.model` at `T = 3` — on 5-step inputs the kernel returns a 5-step series. -/
theorem unrestricted_fit_is_unsatisfiable (z : α) :
    ¬ (∀ (p : List α) ins st r, (Kernels.Muskingum.model (α := α)).run p ins st = .ok r →
      r.outputs.length ≤ 1 ∧ (∀ ser ∈ r.outputs, ser.length ≤ 3) ∧ r.states.length ≤ 3) := by
  intro hall
  have h := (hall [z, z, z] [List.replicate 5 z, List.replicate 5 z] [z, z, z] _ rfl).2.1 _ (List.mem_cons_self)
  simp [Kernels.Muskingum.run, scan_length] at h

/-- parameters 3×2 (k, x, deltaT for 2 sets), inputs 2×2×3 (2 blocks of inflow + lateral, 3 steps), states 3×3,
outputs 4×1×5 (oversized), all filled with `z` -/
def heapM (z : α) : Heap α := [List.replicate 6 z, List.replicate 12 z, List.replicate 9 z, List.replicate 20 z]

example (z : α) :=
  wrapperNd_refines (Kernels.Muskingum.model (α := α)) (h := heapM z) (nP := 3) (i := 2) (pb := 0) (ib := 0) (sb := 0) (ob := 0)
    (root32 (sid := 0) z rfl) (root223 (sid := 1) z rfl) (root33 (sid := 2) z rfl) (root415 (sid := 3) z rfl)
    rfl rfl rfl rfl rfl rfl rfl rfl (by decide) (by decide) (by decide) (by decide) (by decide)
    (runDims_eq rfl rfl rfl) (muskingum_fits 3)

end ExRefine

end OW.Props.C04Nd
