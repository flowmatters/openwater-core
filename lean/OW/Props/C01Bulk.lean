import OW.Props.C01
/-!
C01, continued — the bulk writes are visible through every overlapping view, and histories that interleave
`Set | Apply | ApplySlice | CopyFrom`.

`OW/Props/C01.lean` states WHICH storage cells each write changes (`set_footprint`, `apply_footprint`,
`applySlice_footprint`, `copyFrom_footprint`) and composes that into what every view reads for `Set` only (`write_visible*`,
`interleaved_writes_visible_partial`). Here the same composition is made for the three bulk writes
(`apply_visible`, `applySlice_visible`, `copyFrom_visible`: each write by its footprint, `Wrote.visible_index`), for one request of any kind
(`op_visible`), and for every history of requests of the four kinds (`interleaved_bulk_writes_visible`), which generalises
`interleaved_writes_visible_partial`. The rank-1 accessors `Set1` / `Apply1` get their footprints (`set1_footprint`,
`apply1_footprint`).

Hypotheses are those of the footprint theorems: views reachable from roots (`Reach`), window conditions (`ArrOK`), in-bounds
requests, steps ≥ 1, and — for the two-array writes — source and destination in DIFFERENT storages (`hdisj`, stated in each
theorem; the overlapping case is excluded, see `applySlice_footprint`). Vocabulary: `OW/Proofs/NdHist.lean`
(`WOp`, `runOps`, `WOp.OK`, `WOp.targets`, `WOp.hit`, `stepRead`, `readBackOps`, `RdOK`).
-/
namespace OW.Props.C01Bulk
open OW.Nd OW.Props.C01
open OW.NdC02 (rowMajor)

/-- **apply_visible.** After `Apply(loc, d, step, vals)` through view `a` (hypotheses of `apply_footprint`: in-bounds run,
`step ≥ 1`, `vals` non-empty), `Get(j)` through ANY reachable array `b` satisfying the window conditions (any chain of
slices, any window, any storage, either back-end) at an in-bounds `j` — nothing panics, the heap keeps its shape, and
* if `b` is on the storage of `a` and `j` addresses the cell of the `k`-th element of the run
  (`b.base + Index_b(j) = a.base + Index_a(loc + k·step·e_d)`), the read returns `vals[k]`;
* if `j` addresses none of the run's cells (other storage, or an address different from all `len(vals)` of them), the read
  returns what it returned before the call. -/
theorem apply_visible {α : Type} {h : Heap α} {a b : Arr} (hr : Reach a.v) (hok : ArrOK h a) (hb : Reach b.v)
    (okb : ArrOK h b) {loc j : Idx} {d : Nat} {step : Int} {vals : List α} {D l : Int}
    (hloc : InBounds loc a.v.dims) (hD : a.v.dims[d]? = some D) (hl : loc[d]? = some l) (hne : vals ≠ [])
    (hstep : 1 ≤ step) (hlast : l + ((vals.length : Int) - 1) * step < D) (hj : InBounds j b.v.dims) :
    ∃ h' pb, apply h a loc (d : Int) step vals = .ok h' ∧ SameShape h h' ∧ b.v.index j = .ok pb ∧
      (∀ (k : Nat) (hk : k < vals.length) (pa : Int), a.v.index (loc.set d (l + k * step)) = .ok pa →
        b.sid = a.sid → b.base + pb = a.base + pa → get h' b j = .ok vals[k]) ∧
      ((b.sid ≠ a.sid ∨ ∀ k : Nat, k < vals.length → ∀ pa : Int, a.v.index (loc.set d (l + k * step)) = .ok pa →
        b.base + pb ≠ a.base + pa) → get h' b j = get h b j) := by
  have g := reach_geo hr
  obtain ⟨hd, okS⟩ := run_sliceOK hloc hD hl hne hstep hlast
  obtain ⟨h', he, w⟩ := apply_wrote g hok hd okS hl
  obtain ⟨pb, hpb, hitV, missV⟩ := w.visible_index g hok (reach_geo hb) okb hj
  exact ⟨h', pb, he, w.shape, hpb, fun k hk pa hpa => hitV _ _ ⟨k, hk, rfl, rfl⟩ pa hpa,
    fun hm => missV (hm.imp id fun h2 i x ⟨k, hk, hi, _⟩ pa hpa => h2 k hk pa (hi ▸ hpa))⟩

/-- **applySlice_visible.** After `ApplySlice(loc, step, src)` through view `a` (hypotheses of `applySlice_footprint`:
in-bounds request, and **source and destination in different storages, `hdisj : src.sid ≠ a.sid` — the overlapping case is
excluded**), `Get(j)` through ANY reachable array `b` satisfying the window conditions at an in-bounds `j`:
* if `b` is on the storage of `a` and `j` addresses the destination cell of source element `i`
  (`b.base + Index_b(j) = a.base + Index_a(loc + i ⊙ step)`), the read returns what `src` read at `i` before the call;
* if `j` addresses no destination cell (other storage — in particular every view of the source's storage — or a different
  address), the read returns what it returned before the call. -/
theorem applySlice_visible {α : Type} {h : Heap α} {a src b : Arr} (hr : Reach a.v) (hok : ArrOK h a)
    (hrs : Reach src.v) (hoks : ArrOK h src) (hdisj : src.sid ≠ a.sid) (hb : Reach b.v) (okb : ArrOK h b)
    {loc j : Idx} {step : Option Idx}
    (okS : SliceOK a.v.dims loc src.v.dims (stepOr a.v.dims.length step)) (hj : InBounds j b.v.dims) :
    ∃ h' pb, applySlice h a loc step src = .ok h' ∧ SameShape h h' ∧ b.v.index j = .ok pb ∧
      (∀ i, InBounds i src.v.dims → ∀ pa : Int, a.v.index (affine loc i (stepOr a.v.dims.length step)) = .ok pa →
        b.sid = a.sid → b.base + pb = a.base + pa → get h' b j = get h src i) ∧
      ((b.sid ≠ a.sid ∨ ∀ i, InBounds i src.v.dims →
          ∀ pa : Int, a.v.index (affine loc i (stepOr a.v.dims.length step)) = .ok pa → b.base + pb ≠ a.base + pa) →
        get h' b j = get h b j) := by
  have g := reach_geo hr
  have gs := reach_geo hrs
  obtain ⟨h', he, w⟩ := applySlice_wrote g hok gs hoks hdisj okS
  obtain ⟨pb, hpb, hitV, missV⟩ := w.visible_index g hok (reach_geo hb) okb hj
  refine ⟨h', pb, he, w.shape, hpb, fun i hi pa hpa hsid e => ?_,
    fun hm => missV (hm.imp id fun h2 i' x ⟨i, ⟨hi, _⟩, e⟩ pa hpa => h2 i hi pa (e ▸ hpa))⟩
  obtain ⟨x, _, gx⟩ := get_addr gs hoks hi
  rw [gx]
  exact hitV _ x ⟨i, ⟨hi, gx⟩, rfl⟩ pa hpa hsid e

/-- **copyFrom_visible.** After `CopyFrom(src)` through view `a` (hypotheses of `copyFrom_footprint`: same extents, and
**source and destination in different storages, `hdisj : src.sid ≠ a.sid`**), `Get(j)` through ANY reachable array `b`
satisfying the window conditions at an in-bounds `j`: if `b` is on the storage of `a` and `j` addresses the cell of
element `i` of `a`, the read returns what `src` read at `i` before the call; if `j` addresses no cell of `a`, the read
returns what it returned before. -/
theorem copyFrom_visible {α : Type} {h : Heap α} {a src b : Arr} (hr : Reach a.v) (hok : ArrOK h a)
    (hrs : Reach src.v) (hoks : ArrOK h src) (hdisj : src.sid ≠ a.sid) (hshape : src.v.dims = a.v.dims)
    (hb : Reach b.v) (okb : ArrOK h b) {j : Idx} (hj : InBounds j b.v.dims) :
    ∃ h' pb, copyFrom h a src = .ok h' ∧ SameShape h h' ∧ b.v.index j = .ok pb ∧
      (∀ i, InBounds i a.v.dims → ∀ pa : Int, a.v.index i = .ok pa →
        b.sid = a.sid → b.base + pb = a.base + pa → get h' b j = get h src i) ∧
      ((b.sid ≠ a.sid ∨ ∀ i, InBounds i a.v.dims → ∀ pa : Int, a.v.index i = .ok pa → b.base + pb ≠ a.base + pa) →
        get h' b j = get h b j) := by
  have g := reach_geo hr
  have gs := reach_geo hrs
  obtain ⟨h', he, w⟩ := copyFrom_wrote g hok gs hoks hdisj hshape
  obtain ⟨pb, hpb, hitV, missV⟩ := w.visible_index g hok (reach_geo hb) okb hj
  refine ⟨h', pb, he, w.shape, hpb, fun i hi pa hpa hsid e => ?_,
    fun hm => missV (hm.imp id fun h2 i x ⟨hi, _⟩ pa hpa => h2 i hi pa hpa)⟩
  obtain ⟨x, _, gx⟩ := get_addr gs hoks (hshape ▸ hi)
  rw [gx]
  exact hitV i x ⟨hi, gx⟩ pa hpa hsid e

/-- **op_visible.** One write request of any of the four kinds (`WOp`: `Set | Apply | ApplySlice | CopyFrom`) under the
hypotheses of its footprint theorem (`WOp.OK`; for the two-array requests this includes source and destination in
different storages): the model's operation does not panic, the heap keeps its shape, and EVERY valid read afterwards
(`RdOK`: reachable array, window conditions, in-bounds index — any view of any storage) returns `stepRead op (get h)`:
what the request wrote into the addressed cell (`WOp.hit`: a given value, or what the source read before), else the old
value. -/
theorem op_visible {α : Type} {h : Heap α} {op : WOp α} (ok : op.OK h) :
    ∃ h', runOp h op = .ok h' ∧ SameShape h h' ∧
      ∀ (b : Arr) (j : Idx), RdOK h b j → get h' b j = stepRead op (get h) b j :=
  runOp_visible ok

/-- **interleaved_bulk_writes_visible.** All interleavings of reads and writes of the four kinds through any views: after
ANY history `ops` of `Set | Apply | ApplySlice | CopyFrom` requests, each through its own reachable array (any chain of
slices, any storage, either back-end) and each satisfying the hypotheses of its footprint theorem in the initial heap
(`WOp.OK h`; they depend on the heap only through its shape, which no request changes) — nothing has panicked, the heap has
kept its shape, and a `Get` through ANY reachable array `b` at an in-bounds `j` returns `readBackOps ops (get h) b j`:
the value written by the LAST request of the history that addressed that storage cell (same storage and
`b.base + Index_b(j) = a.base + Index_a(target)`: `WOp.hit`, written with `addr`, which is what `Index` returns on these views,
`index_addr`) — for `Set` / `Apply` the given value, for `ApplySlice` /
`CopyFrom` what the source element read at that moment, which is given by the same rule applied to the earlier part of the
history — or, if no request addressed the cell, what the read returned before the history. Reads do not change the heap,
so this covers reads placed after every prefix of the writes. Generalises `interleaved_writes_visible_partial` (histories of
`Set` only). The restriction inherited from `applySlice_footprint` / `copyFrom_footprint`: each two-array request has its
source and its destination in different storages. -/
theorem interleaved_bulk_writes_visible {α : Type} : ∀ (ops : List (WOp α)) (h : Heap α), (∀ op ∈ ops, op.OK h) →
    ∃ h', runOps h ops = .ok h' ∧ SameShape h h' ∧
      ∀ (b : Arr) (j : Idx), Reach b.v → ArrOK h b → InBounds j b.v.dims →
        get h' b j = readBackOps ops (get h) b j :=
  runOps_visible

/-- **sets_history_is_bulk_history.** A history of `Set`s only (the `WriteOp` lists of `interleaved_writes_visible_partial`)
is a `WOp` history: `runOps` on it is `setMany` and `readBackOps` on it is `readBack` — so
`interleaved_bulk_writes_visible` restricted to such histories is exactly `interleaved_writes_visible_partial`. -/
theorem sets_history_is_bulk_history {α : Type} (ws : List (WriteOp α)) (h : Heap α) :
    runOps h (ws.map WriteOp.toWOp) = setMany h ws ∧
      (∀ op ∈ ws.map WriteOp.toWOp, op.OK h) =
        (∀ w ∈ ws, Reach w.arr.v ∧ ArrOK h w.arr ∧ InBounds w.loc w.arr.v.dims) ∧
      ∀ (rd : Arr → Idx → R α) (b : Arr) (j : Idx),
        readBackOps (ws.map WriteOp.toWOp) rd b j = readBack ws b j (rd b j) := by
  refine ⟨runOps_sets ws h, ?_, fun rd b j => readBackOps_sets ws b j rd⟩
  simp only [List.mem_map, forall_exists_index, and_imp, forall_apply_eq_imp_iff₂]
  rfl

theorem inBounds_run1 {α : Type} {dims : Idx} {loc step D : Int} {vals : List α} (hdims : dims = [D]) (h0 : 0 ≤ loc)
    (hne : vals ≠ []) (hstep : 1 ≤ step) (hlast : loc + ((vals.length : Int) - 1) * step < D) :
    InBounds [loc] dims := by
  have := List.length_pos_iff.mpr hne
  have : 0 ≤ ((vals.length : Int) - 1) * step := Int.mul_nonneg (by omega) (by omega)
  rw [hdims]
  exact ⟨h0, by omega, trivial⟩

/-- **set1_footprint.** `Set1(loc, x)` on a reachable 1-D view (`dims = [D]`, `0 ≤ loc < D`) satisfying the window
conditions never panics; afterwards the storage `a.sid` equals the old one updated at position `base + Index([loc])` with
`x`, every other storage is unchanged, the number of storages is unchanged (`Set1` is `Set([loc], x)`). -/
theorem set1_footprint {α : Type} {h : Heap α} {a : Arr} (hr : Reach a.v) (hok : ArrOK h a) {loc : Int}
    (hloc : InBounds [loc] a.v.dims) (x : α) :
    ∃ p s h', a.v.index [loc] = .ok p ∧ 0 ≤ p ∧ h[a.sid]? = some s ∧ (a.base + p).toNat < s.length ∧
      set1 h a loc x = .ok h' ∧
      h'[a.sid]? = some (s.set (a.base + p).toNat x) ∧ (∀ t : Nat, t ≠ a.sid → h'[t]? = h[t]?) ∧
      h'.length = h.length :=
  set_footprint hr hok hloc x

/-- **apply1_eq_apply.** On a reachable 1-D view, for an in-bounds run with `step ≥ 1`, `Apply1(loc, step, vals)` (the
element loop of `Set1`) gives the same heap as `Apply([loc], 0, step, vals)` — on whichever path `Apply` takes. -/
theorem apply1_eq_apply {α : Type} {h : Heap α} {a : Arr} (hr : Reach a.v) (hok : ArrOK h a) {loc step D : Int}
    {vals : List α} (hdims : a.v.dims = [D]) (h0 : 0 ≤ loc) (hne : vals ≠ []) (hstep : 1 ≤ step)
    (hlast : loc + ((vals.length : Int) - 1) * step < D) :
    apply1 h a loc step vals = apply h a [loc] ((0 : Nat) : Int) step vals := by
  have hloc := inBounds_run1 hdims h0 hne hstep hlast
  obtain ⟨hd, okS⟩ := run_sliceOK (d := 0) hloc (by rw [hdims]; rfl) rfl hne hstep hlast
  rw [apply1_eq_setAll, (bulk_apply (reach_geo hr) hok hd okS rfl).eq]

/-- **apply1_footprint.** `Apply1(loc, step, vals)` on a reachable 1-D view (`dims = [D]`) satisfying the window
conditions, for an in-bounds run (`0 ≤ loc`, `step ≥ 1`, `vals` non-empty, `loc + (len-1)·step < D`): never panics, the
heap keeps its shape, for every `k < len(vals)` the storage cell addressed by `[loc + k·step]` holds `vals[k]` afterwards,
and every other cell of every storage is unchanged. -/
theorem apply1_footprint {α : Type} {h : Heap α} {a : Arr} (hr : Reach a.v) (hok : ArrOK h a) {loc step D : Int}
    {vals : List α} (hdims : a.v.dims = [D]) (h0 : 0 ≤ loc) (hne : vals ≠ []) (hstep : 1 ≤ step)
    (hlast : loc + ((vals.length : Int) - 1) * step < D) :
    ∃ h', apply1 h a loc step vals = .ok h' ∧ SameShape h h' ∧
      (∀ (k : Nat) (hk : k < vals.length), InBounds [loc + k * step] a.v.dims ∧
        ∃ p, a.v.index [loc + k * step] = .ok p ∧ cell h' a.sid (a.base + p).toNat = some vals[k]) ∧
      (∀ t q : Nat, (t ≠ a.sid ∨ ∀ k : Nat, k < vals.length →
          ∀ p, a.v.index [loc + k * step] = .ok p → q ≠ (a.base + p).toNat) →
        cell h' t q = cell h t q) := by
  -- `[loc].set 0 (loc + k·step)` is `[loc + k·step]`: this is `apply_footprint` at `[loc]`, axis 0
  rw [apply1_eq_apply hr hok hdims h0 hne hstep hlast]
  exact apply_footprint hr hok (inBounds_run1 hdims h0 hne hstep hlast) (by rw [hdims]; rfl) rfl hne hstep hlast

/-- **rank1_requests_are_requests.** The rank-1 accessors inside a history: `Set1(loc, x)` is literally the request
`Set([loc], x)`, and — on a reachable 1-D view, for an in-bounds run with `step ≥ 1` — `Apply1(loc, step, vals)` is the
request `Apply([loc], 0, step, vals)`; so `op_visible` / `interleaved_bulk_writes_visible` cover histories that contain them. -/
theorem rank1_requests_are_requests {α : Type} {h : Heap α} {a : Arr} (hr : Reach a.v) (hok : ArrOK h a)
    {loc step D : Int} {vals : List α} (hdims : a.v.dims = [D]) (x : α) :
    (∀ l : Int, runOp h (.set a [l] x) = set1 h a l x) ∧
    (0 ≤ loc → vals ≠ [] → 1 ≤ step → loc + ((vals.length : Int) - 1) * step < D →
      runOp h (.apply a [loc] 0 step vals) = apply1 h a loc step vals ∧ (WOp.apply a [loc] 0 step vals).OK h) := by
  exact ⟨fun _ => rfl, fun h0 hne hstep hlast => ⟨(apply1_eq_apply hr hok hdims h0 hne hstep hlast).symm, hr, hok,
    inBounds_run1 hdims h0 hne hstep hlast,
    Or.inr ⟨D, loc, by rw [hdims]; rfl, rfl, hne, hstep, hlast⟩⟩⟩

/-! ### Non-vacuity (heaps and views of `OW/Props/C01.lean`: `h24 / a24 / s1 / s2`, `hB / a46 / src23`) -/

section Examples

/-- `apply_visible` instantiated: the run `s1[2], s1[5], s1[8]` (root elements 5, 11, 17) written through the stepped
slice `s1` is read through the nested slice `s2` (whose elements are exactly those) and through the root -/
example := apply_visible (h := h24) (vals := [100, 101, 102]) (step := 3) (D := 10) (l := 2) (j := [1])
  reach_s1 arrOK_s1 reach_s2 arrOK_s2 (loc := [2]) (d := 0) (by simp [s1]) rfl rfl (by simp) (by decide) (by decide)
  (by simp [s2])
example : ∃ h', apply h24 s1 [2] ((0 : Nat) : Int) 3 [100, 101, 102] = .ok h' ∧ get h' s2 [1] = .ok 101 := by
  obtain ⟨h', pb, e, _, hpb, hit, _⟩ := apply_visible (h := h24) (vals := [100, 101, 102]) (step := 3) (D := 10)
    (l := 2) (j := [1]) reach_s1 arrOK_s1 reach_s2 arrOK_s2 (loc := [2]) (d := 0) (by simp [s1]) rfl rfl (by simp)
    (by decide) (by decide) (by simp [s2])
  injection hpb with hpb
  subst hpb
  exact ⟨h', e, hit 1 (by decide) 11 (by decide) rfl rfl⟩
example : ∃ h', apply h24 s1 [2] 0 3 [100, 101, 102] = .ok h' ∧ get h' s2 [0] = .ok 100 ∧ get h' s2 [1] = .ok 101 ∧
    get h' s2 [2] = .ok 102 ∧ get h' a24 [17] = .ok 102 ∧ get h' a24 [12] = .ok 12 ∧ get h' s1 [4] = .ok 9 :=
  ⟨_, rfl, by decide⟩

/-- a `2 × 3` block of `a46` (rows 2..3, columns 3..5) and row 3 of `a46`, as views of storage 0 -/
def c23 : Arr := { a46 with v := ⟨[4, 6], [2, 3], 15, [6, 1], [1, 1], [6, 1]⟩ }
def row3 : Arr := { a46 with v := ⟨[4, 6], [1, 6], 18, [6, 1], [1, 1], [6, 1]⟩ }
example : slice a46 [2, 3] [2, 3] none = .ok c23 ∧ slice a46 [3, 0] [1, 6] none = .ok row3 := by decide
theorem reach_c23 : Reach c23.v :=
  .slice (loc := [2, 3]) (dims := [2, 3]) (step := none) reach_a46 (by simp [a46, rootView, stepOr, uniform]) rfl
theorem reach_row3 : Reach row3.v :=
  .slice (loc := [3, 0]) (dims := [1, 6]) (step := none) reach_a46 (by simp [a46, rootView, stepOr, uniform]) rfl
theorem arrOK_c23 : ArrOK hB c23 := arrOK_a46.slice (loc := [2, 3]) (dims := [2, 3]) (step := none) rfl
theorem arrOK_row3 : ArrOK hB row3 := arrOK_a46.slice (loc := [3, 0]) (dims := [1, 6]) (step := none) rfl

/-- `applySlice_visible` instantiated: the `2 × 3` source written at `loc = [1,0]`, `step = [2,2]` is read through the row
view `row3` (source element `[1,1]` = 5 lands at `(3,2)` = `row3[0,2]`); the source reads as before -/
example := applySlice_visible (j := [0, 2]) reach_a46 arrOK_a46 reach_src23 arrOK_src23 (by decide) reach_row3
  arrOK_row3 okS_B (by simp [row3])
example : ∃ h', applySlice hB a46 [1, 0] (some [2, 2]) src23 = .ok h' ∧ get h' row3 [0, 2] = get hB src23 [1, 1] := by
  obtain ⟨h', pb, e, _, hpb, hit, _⟩ := applySlice_visible (j := [0, 2]) reach_a46 arrOK_a46 reach_src23 arrOK_src23
    (by decide) reach_row3 arrOK_row3 okS_B (by simp [row3])
  injection hpb with hpb
  subst hpb
  exact ⟨h', e, hit [1, 1] (by simp [src23, rootView]) 20 (by decide) rfl rfl⟩
example : ∃ h', applySlice hB a46 [1, 0] (some [2, 2]) src23 = .ok h' ∧ get h' row3 [0, 2] = .ok 5 ∧
    get h' row3 [0, 1] = .ok 0 ∧ get h' c23 [1, 1] = .ok 6 ∧ get h' src23 [1, 1] = .ok 5 := ⟨_, rfl, by decide⟩

/-- `copyFrom_visible` instantiated: `CopyFrom(src23)` through the block `c23` is read through `row3` and the root -/
example := copyFrom_visible (j := [0, 4]) reach_c23 arrOK_c23 reach_src23 arrOK_src23 (by decide) rfl reach_row3
  arrOK_row3 (by simp [row3])
example : ∃ h', copyFrom hB c23 src23 = .ok h' ∧ get h' row3 [0, 4] = get hB src23 [1, 1] := by
  obtain ⟨h', pb, e, _, hpb, hit, _⟩ := copyFrom_visible (j := [0, 4]) reach_c23 arrOK_c23 reach_src23 arrOK_src23
    (by decide) rfl reach_row3 arrOK_row3 (by simp [row3])
  injection hpb with hpb
  subst hpb
  exact ⟨h', e, hit [1, 1] (by simp [c23]) 22 (by decide) rfl rfl⟩
example : copyFrom hB c23 src23 =
    .ok [[0,0,0,0,0,0, 0,0,0,0,0,0, 0,0,0,1,2,3, 0,0,0,4,5,6], [1, 2, 3, 4, 5, 6]] := by decide +kernel

/-- a history of all four kinds on two storages: a stepped sub-array write into `a46`, a `Set` into the SOURCE, a run that
overwrites two of the cells just written, and a `CopyFrom` through the block `c23` (which overwrites `(3,4)` again and
copies the source as it is AFTER the `Set`) -/
def ops4 : List (WOp Int) :=
  [.applySlice a46 [1, 0] (some [2, 2]) src23, .set src23 [0, 0] 50, .apply a46 [1, 0] 1 1 [7, 8], .copyFrom c23 src23]

theorem ops4_ok : ∀ op ∈ ops4, op.OK hB := by
  intro op ho
  simp only [ops4, List.mem_cons, List.not_mem_nil, or_false] at ho
  rcases ho with rfl | rfl | rfl | rfl
  · exact ⟨reach_a46, arrOK_a46, reach_src23, arrOK_src23, by decide, okS_B⟩
  · exact ⟨reach_src23, arrOK_src23, by simp [src23, rootView]⟩
  · exact ⟨reach_a46, arrOK_a46, by simp [a46, rootView], Or.inr ⟨6, 0, rfl, rfl, by simp, by decide, by decide⟩⟩
  · exact ⟨reach_c23, arrOK_c23, reach_src23, arrOK_src23, by decide, rfl⟩

/-- `op_visible` instantiated on the first request of the history; `interleaved_bulk_writes_visible` on the whole history -/
example := op_visible (ops4_ok _ List.mem_cons_self)
example : ∃ h', runOps hB ops4 = .ok h' ∧ SameShape hB h' ∧
    ∀ (b : Arr) (j : Idx), Reach b.v → ArrOK hB b → InBounds j b.v.dims →
      get h' b j = readBackOps ops4 (get hB) b j :=
  interleaved_bulk_writes_visible ops4 hB ops4_ok
/-- the model's heap after the history, and the reference reading: `(1,0)` was written by `ApplySlice` then by `Apply` (7);
`(1,2)` only by `ApplySlice` (2); `(3,4)` by `ApplySlice` (6) then by `CopyFrom` (5); `(2,3)` by `CopyFrom` from the source
element that the `Set` had changed to 50; `(0,0)` by nobody -/
example : runOps hB ops4 =
      .ok [[0,0,0,0,0,0, 7,8,2,0,3,0, 0,0,0,50,2,3, 4,0,5,4,5,6], [50, 2, 3, 4, 5, 6]] ∧
    readBackOps ops4 (get hB) a46 [1, 0] = .ok 7 ∧ readBackOps ops4 (get hB) a46 [1, 2] = .ok 2 ∧
    readBackOps ops4 (get hB) row3 [0, 4] = .ok 5 ∧ readBackOps ops4 (get hB) a46 [2, 3] = .ok 50 ∧
    readBackOps ops4 (get hB) c23 [0, 0] = .ok 50 ∧ readBackOps ops4 (get hB) a46 [0, 0] = .ok 0 ∧
    readBackOps ops4 (get hB) src23 [0, 0] = .ok 50 ∧ readBackOps ops4 (get hB) src23 [1, 2] = .ok 6 := by decide +kernel

/-- `sets_history_is_bulk_history` on the three `Set`s of `OW/Props/C01.lean` (`ops3`) -/
example := sets_history_is_bulk_history ops3 h24
example : runOps h24 (ops3.map WriteOp.toWOp) = setMany h24 ops3 ∧
    readBackOps (ops3.map WriteOp.toWOp) (get h24) s2 [1] = .ok 77 := by decide +kernel

/-- `set1_footprint` / `apply1_eq_apply` / `apply1_footprint` on the 1-D stepped slice `s1` (root elements 1, 3, …, 19) -/
example := set1_footprint (x := (99 : Int)) reach_s1 arrOK_s1 (loc := 5) (by simp [s1])
example : set1 h24 s1 5 99 = .ok [((List.range 24).map Int.ofNat).set 11 99] := by decide +kernel
example : apply1 h24 s1 2 3 [100, 101, 102] = apply h24 s1 [2] ((0 : Nat) : Int) 3 [100, 101, 102] :=
  apply1_eq_apply (D := 10) reach_s1 arrOK_s1 rfl (by decide) (by simp) (by decide) (by decide)
example : ∃ h', apply1 h24 s1 2 3 [100, 101, 102] = .ok h' ∧ SameShape h24 h' :=
  let ⟨h', e, s, _⟩ := apply1_footprint (D := 10) (vals := [100, 101, 102]) reach_s1 arrOK_s1 rfl (by decide) (by simp)
    (by decide) (by decide)
  ⟨h', e, s⟩
example : apply1 h24 s1 2 3 [100, 101, 102] =
    .ok [(((((List.range 24).map Int.ofNat).set 5 100).set 11 101).set 17 102)] := by decide +kernel

/-- `rank1_requests_are_requests` on `s1`: the `Set1` / `Apply1` calls are the requests `.set s1 [5] 99` /
`.apply s1 [2] 0 3 [100,101,102]` of a `WOp` history -/
example := rank1_requests_are_requests (h := h24) (x := (99 : Int)) (D := 10) (vals := [100, 101, 102]) (loc := 2) (step := 3)
  reach_s1 arrOK_s1 rfl
example : (WOp.apply s1 [2] 0 3 [100, 101, 102] : WOp Int).OK h24 :=
  ⟨reach_s1, arrOK_s1, by simp [s1], Or.inr ⟨10, 2, rfl, rfl, by simp, by decide, by decide⟩⟩

end Examples

end OW.Props.C01Bulk
