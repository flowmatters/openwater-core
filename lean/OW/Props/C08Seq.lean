import OW.Props.C08
import OW.Proofs.C08Trace
/-!
C08 — SEQUENCES of io calls on one file: every outcome of every operation keeps the file well-formed (`WF`, the standing
hypothesis of T2/T3/T4), and one trace theorem over lists of operations (`ops_trace`); then, in `Ex`, one worked file on
which the hypotheses of T3, T4, T5, T5', T7, T8 are exhibited together with the theorems (`OW/Props/C08Persist.lean`
continues it for T9).
Vocabulary (`Op`, `stepOp`, `applyOps`, `DiskWF`): `OW/Proofs/C08Defs.lean`.
-/
namespace OW.Props.C08
open OW.Nd OW.Sim.H5 OW.Proofs.C08H5

/-- T7a. `Write(data)` keeps the file well-formed WHATEVER its outcome (nil, returned error, panic — e.g. the file
was created and then `data.Get` panicked, or groups were created and then the library refused the dataset), for any
source array (no `Reach` hypothesis) and either element width. -/
theorem write_preserves_WF (narrow : Bool) (h : Heap Int) (a : Arr) (d : Disk) (path : String) (wf : DiskWF d) :
    DiskWF (write narrow h a d path).1 := stepOp_wf narrow (.write h a path) wf

/-- T7b. `WriteSlice(data, loc)` keeps the file well-formed whatever its outcome (including the swallowed library
error, a wrong rank, a missing dataset), for any source array and location. -/
theorem writeSlice_preserves_WF (narrow : Bool) (h : Heap Int) (a : Arr) (d : Disk) (path : String) (loc : Idx)
    (wf : DiskWF d) : DiskWF (writeSlice narrow h a d path loc).1 := stepOp_wf narrow (.writeSlice h a path loc) wf

/-- T7c. `Create(shape, …)` keeps the file well-formed whatever its outcome: dataset exists with the same shape (file
unchanged), with another shape (error), new dataset (zeros), groups made and dataset refused, panic on the path. -/
theorem create_preserves_WF (d : Disk) (path : String) (shape : Idx) (wf : DiskWF d) :
    DiskWF (create d path shape).1 := stepOp_wf false (.create path shape) wf

/-- T7d. `Load` (and `Shape`, `Exists`, `GetDatasets`, `GetGroups`) are read-only: in the model they are functions of
the file that return no file, so a `load` step of a trace leaves the file as it is. -/
theorem load_readonly (narrow : Bool) (d : Disk) (path : String) (sel : Option Sel) :
    stepOp narrow d (.load path sel) = d := rfl

/-- What the property says about ONE call `op` made on the file `d`: the statements T2 (`load_selection`),
T3 (`write_load_roundtrip`), T4 (`writeSlice_footprint`), T5/T5' (`create_existing`, `create_new`) with their own
hypotheses on the ARGUMENTS of the call, but WITHOUT any hypothesis on the well-formedness of the file (for `load`,
"the dataset holds as many elements as its shape says" is a conclusion). -/
def OpSpec (d : Disk) : Op → Prop
  | .write h a path =>
    Reach a.v → ArrOK h a → ∀ d', write false h a d path = (d', .ok ()) →
      ∃ vals, OW.NdC02.getAll h a (OW.NdC02.rowMajor a.v.dims) = .ok vals ∧
        load false d' path none = .ok (a.v.dims, vals)
  | .writeSlice h a path loc =>
    Reach a.v → ArrOK h a → ∀ t p s v, d = some t → openDataset t path = .ok (p, s, v) →
      BlockIn (intsToUints loc) (intsToUints a.v.dims) s →
      ∃ vals v', OW.NdC02.getAll h a (OW.NdC02.rowMajor a.v.dims) = .ok vals ∧
        writeSlice false h a d path loc = (some (setVals t p v'), .ok ()) ∧
        find (setVals t p v') p = some (.ds s v') ∧ v'.length = v.length ∧
        (∀ c, CoordIn c s → v'[ravelN c s]? =
          if inBlock c (intsToUints loc) (intsToUints a.v.dims) = true
          then vals[ravelN (List.zipWith (· - ·) c (intsToUints loc)) (intsToUints a.v.dims)]?
          else v[ravelN c s]?) ∧
        (∀ q, q ≠ p → find (setVals t p v') q = find t q)
  | .create path shape =>
    ∀ t, d = some t →
      (∀ p s v, openDataset t path = .ok (p, s, v) →
        (uintsToInts s = shape → create d path shape = (d, .ok ())) ∧
        (uintsToInts s ≠ shape → create d path shape = (d, .err "shape"))) ∧
      ((∀ p s v, openDataset t path ≠ .ok (p, s, v)) → (∀ x ∈ shape, 0 ≤ x) →
        ∀ t', create d path shape = (some t', .ok ()) →
          load false (some t') path none = .ok (shape, List.replicate (product shape).toNat 0) ∧
          (∀ r, find t r ≠ none → find t' r = find t r))
  | .load path sel =>
    ∀ t p s v, d = some t → openDataset t path = .ok (p, s, v) →
      v.length = prodN s ∧
      load false d path none = .ok (uintsToInts s, v) ∧
      ∀ sl, sel = some sl → sl.length = s.length → sl.any Option.isSome = true → (∀ x ∈ sl, SelDimOK x) →
        load false d path (some sl) =
          .ok ((selIdx sl s).map (fun l => ((l.length : Nat) : Int)),
               (cartesian (selIdx sl s)).map (fun c => v.getD (ravelN c s) 0))

/-- on a well-formed file every call satisfies its statement -/
theorem opSpec_of_WF {d : Disk} (wf : DiskWF d) (op : Op) : OpSpec d op := by
  cases op with
  | write h a path =>
    intro hr ok d' hw
    obtain ⟨vals, h1, h2, -⟩ := write_load_roundtrip h a hr ok d d' path wf hw
    exact ⟨vals, h1, h2⟩
  | writeSlice h a path loc =>
    intro hr ok t p s v hd hod hb
    subst hd
    obtain ⟨vals, v', h1, h2, h3, h4, h5, h6, -⟩ := writeSlice_footprint h a hr ok hod (wf t rfl) loc hb
    exact ⟨vals, v', h1, h2, h3, h4, h5, h6⟩
  | create path shape =>
    intro t hd
    subst hd
    refine ⟨fun p s v hod => create_existing hod shape, ?_⟩
    intro hno hpos t' hc
    obtain ⟨h1, h2, -⟩ := create_new hpos hno hc
    exact ⟨h1, h2⟩
  | load path sel =>
    intro t p s v hd hod
    subst hd
    have hv : v.length = prodN s := wf_of_find (wf t rfl) (openDataset_eq.mp hod).2.2
    refine ⟨hv, load_full hod hv, ?_⟩
    intro sl _ hl hsome hok
    exact (load_selection hod hv sl hl hsome hok).2

/-- T7 (WF along every sequence, either element width). Started on no file (`none`) or on any well-formed file, after
EVERY sequence of `Write / WriteSlice / Create / Load` calls with ARBITRARY arguments and outcomes (errors and panics
included) the file is well-formed. -/
theorem ops_preserve_WF (narrow : Bool) (d0 : Disk) (wf0 : DiskWF d0) (ops : List Op) :
    DiskWF (applyOps narrow d0 ops) := by
  induction ops generalizing d0 with
  | nil => exact wf0
  | cons op ops ih => exact ih _ (stepOp_wf narrow op wf0)

/-- T7 (the trace theorem). For every sequence `ops` of calls started on no file or on a well-formed file `d0`
(element types with `narrow = false`):
1. after every prefix of the sequence the file is well-formed;
2. at every position — `ops = pre ++ op :: post` — the call `op`, made on the file `applyOps d0 pre` that the earlier
   calls left, satisfies its per-operation statement `OpSpec` (T2: Load with a selection returns exactly the selected
   elements and the dataset is as long as its shape says; T3: a Write that returns nil is read back by Load; T4:
   WriteSlice changes exactly the block; T5/T5': Create), and the file handed to the next call is `stepOp` of it.
The arguments of the calls are arbitrary; each statement carries only its own hypotheses on the arguments (`Reach`,
`ArrOK`, `BlockIn`, `SelDimOK`, non-negative shape). What an EARLIER Write/WriteSlice stored and a LATER Load at the
same path returns across intervening calls on other paths is composed in `OW/Props/C08Persist.lean`. -/
theorem ops_trace (d0 : Disk) (wf0 : DiskWF d0) (ops : List Op) :
    (∀ k, DiskWF (applyOps false d0 (ops.take k))) ∧
    (∀ pre op post, ops = pre ++ op :: post →
      OpSpec (applyOps false d0 pre) op ∧
      applyOps false d0 (pre ++ [op]) = stepOp false (applyOps false d0 pre) op) := by
  refine ⟨fun k => ops_preserve_WF false d0 wf0 _, ?_⟩
  intro pre op post _
  refine ⟨opSpec_of_WF (ops_preserve_WF false d0 wf0 pre) op, ?_⟩
  rw [applyOps_append]
  rfl

namespace Ex
open OW.Props.C02.Ex

set_option linter.deprecated false in
/-- `strings.Split(s, "/")` for a one-character `s` other than "/" (the string functions do not reduce in the kernel:
unfolded by hand; for a literal the four hypotheses are closed by `decide`) -/
theorem splitOn_one (s : String) (h1 : String.Pos.Raw.atEnd s 0 = false)
    (h2 : ¬ (String.Pos.Raw.get s 0 = String.Pos.Raw.get "/" 0))
    (h3 : String.Pos.Raw.atEnd s (String.Pos.Raw.next s 0) = true)
    (h4 : String.Pos.Raw.extract s 0 (String.Pos.Raw.next s 0) = s) : s.splitOn "/" = [s] := by
  simp only [String.splitOn]
  rw [String.splitOnAux]
  simp [h1, h2]
  rw [String.splitOnAux]
  simp [h3, h4]

theorem split_a : "a".splitOn "/" = ["a"] := splitOn_one "a" (by decide) (by decide) (by decide) (by decide)

theorem splitPath_a : splitPath "a" = ["a"] := by
  simp only [splitPath, split_a]; decide

/-- the source of the examples: the stepped view `[0:3:2, 0:4:2]` (elements 0, 2, 8, 10) of the 3×4 root `0 … 11` of
`OW.Props.C02.Ex` — reachable, well-windowed, not contiguous -/
theorem ok_stepped : ArrOK heap stepped := ⟨⟨_, rfl, by decide⟩, by decide, by decide, by simp [stepped, root]⟩

theorem getAll_stepped : OW.NdC02.getAll heap stepped (OW.NdC02.rowMajor stepped.v.dims) = .ok [0, 2, 8, 10] := by decide

theorem dims_stepped : intsToUints stepped.v.dims = [2, 2] := by decide

theorem unroll_stepped : unrollVals heap stepped = .ok [0, 2, 8, 10] := by decide

/-- a file whose only object is a dataset at "a" -/
theorem openDataset_a (s : List Nat) (v : List Int) : openDataset [(["a"], .ds s v)] "a" = .ok (["a"], s, v) :=
  openDataset_eq.mpr ⟨splitPath_a.symm, List.cons_ne_nil _ _, rfl⟩

/-- `openOrCreateDataset` of "a" in the empty file, any shape: one dataset of zeros -/
theorem openOrCreate_a (shape : Idx) :
    openOrCreate [] "a" shape =
      ([(["a"], .ds (intsToUints shape) (List.replicate (prodN (intsToUints shape)) 0))], .ok ["a"]) := by
  simp only [openOrCreate, openDataset, splitPath_a, split_a]
  rw [createDs]
  rfl

/-- a `Write` that returns nil: the stepped view into the dataset "a" of a file that does not exist yet -/
theorem write_stepped :
    write false heap stepped none "a" = (some [(["a"], .ds [2, 2] [0, 2, 8, 10])], .ok ()) := by
  have hget : get heap stepped (stepped.v.newIndex 0) = .ok 0 := by decide
  have hdims : stepped.v.dims = [2, 2] := rfl
  simp only [write, openW, if_true, hget, hdims, openOrCreate_a, unroll_stepped]
  decide

/-- T3 instance: all hypotheses of `write_load_roundtrip` hold together (`Reach`, `ArrOK`, no file yet, `Write` returns
nil) and its conclusion is the concrete `Load` result: shape 2×2, elements 0, 2, 8, 10 -/
example : load false (some [(["a"], .ds [2, 2] [0, 2, 8, 10])]) "a" none = .ok ([2, 2], [0, 2, 8, 10]) := by
  obtain ⟨vals, h1, h2, -⟩ :=
    write_load_roundtrip heap stepped reach_stepped ok_stepped none _ "a" (fun _ h => by cases h) write_stepped
  cases getAll_stepped.symm.trans h1
  exact h2

/-- a 3×4 dataset of zeros at "a" -/
def file34 : Tree := [(["a"], .ds [3, 4] (List.replicate 12 0))]

theorem open_file34 : openDataset file34 "a" = .ok (["a"], [3, 4], List.replicate 12 0) := openDataset_a _ _

theorem wf_file34 : WF file34 := by
  intro p s v hm
  simp only [file34, List.mem_singleton, Prod.mk.injEq, Obj.ds.injEq] at hm
  obtain ⟨_, rfl, rfl⟩ := hm
  decide

theorem blockIn_ex : BlockIn (intsToUints [1, 1]) (intsToUints stepped.v.dims) [3, 4] := by
  rw [dims_stepped]
  exact ⟨by decide, by decide, trivial⟩

/-- T4 instance: all hypotheses of `writeSlice_footprint` hold together (`Reach`, `ArrOK`, a well-formed file with a
3×4 dataset, the 2×2 block at (1,1) inside it), so its conclusion holds for this call -/
example : ∃ vals v', OW.NdC02.getAll heap stepped (OW.NdC02.rowMajor stepped.v.dims) = .ok vals ∧
    writeSlice false heap stepped (some file34) "a" [1, 1] = (some (setVals file34 ["a"] v'), .ok ()) ∧
    WF (setVals file34 ["a"] v') := by
  obtain ⟨vals, v', h1, h2, -, -, -, -, h7⟩ :=
    writeSlice_footprint heap stepped reach_stepped ok_stepped open_file34 wf_file34 [1, 1] blockIn_ex
  exact ⟨vals, v', h1, h2, h7⟩

/-- … and evaluated: `WriteSlice` returns nil and the dataset holds the four elements 0, 2, 8, 10 of the view at
(1,1), (1,2), (2,1), (2,2) and zeros elsewhere -/
example : writeSlice false heap stepped (some file34) "a" [1, 1] =
    (some [(["a"], .ds [3, 4] [0, 0, 0, 0, 0, 0, 2, 0, 0, 8, 10, 0])], .ok ()) := by
  simp only [writeSlice, openW, open_file34, unroll_stepped]
  decide

/-- T5 instance: `Create` on the existing 3×4 dataset — same shape: nil, file unchanged; other shape: error, file
unchanged -/
example : create (some file34) "a" [3, 4] = (some file34, .ok ()) ∧
    create (some file34) "a" [4, 3] = (some file34, .err "shape") :=
  ⟨(create_existing open_file34 [3, 4]).1 (by decide), (create_existing open_file34 [4, 3]).2 (by decide)⟩

/-- T5' instance: `Create` of "a" with shape 2 × 0 × 3 (a zero extent, as ow-sim does) in an existing empty file
returns nil … -/
theorem create_empty_shape : create (some []) "a" [2, 0, 3] = (some [(["a"], .ds [2, 0, 3] [])], .ok ()) := by
  simp only [create, openW, openOrCreate_a]
  decide

/-- … and the hypotheses of `create_new` hold for it: the dataset reads as the empty list and the file is well-formed -/
example : load false (some [(["a"], .ds [2, 0, 3] [])]) "a" none = .ok ([2, 0, 3], []) ∧
    WF [(["a"], .ds [2, 0, 3] [])] := by
  have hno : ∀ p s v, openDataset ([] : Tree) "a" ≠ .ok (p, s, v) := by
    intro p s v h
    simp [openDataset, splitPath_a, find] at h
  obtain ⟨h1, -, h3⟩ := create_new (shape := [2, 0, 3]) (by decide) hno create_empty_shape
  exact ⟨by simpa [product] using h1, h3 wf_nil⟩

/-- T7 instance: a sequence `Create; WriteSlice; Write; Load` on no file — the trace theorem applies to it -/
example : DiskWF (applyOps false none
    [.create "a" [3, 4], .writeSlice heap stepped "a" [1, 1], .write heap stepped "a", .load "a" none]) :=
  ops_preserve_WF false none diskWF_none _

/-- the Go-backed root array `NewArray([0, 0, 0])` on a heap of its own -/
def empty000 : Arr := { v := rootView [0, 0, 0] 0, sid := 0, base := 0, len := 0, isC := false }

theorem newArray_000 : newArray (0 : Int) [] [0, 0, 0] = .ok ([[]], empty000) := by decide

/-- T8a instance: `NewArray([0, 0, 0])` exists in the model and `Write` of it panics (the file has been created) -/
example : write false [[]] empty000 none "a" = (some [], .panic "index-out-of-range") := by
  obtain ⟨t0, h1, h2⟩ := write_empty_panics false [] [[]] [0, 0, 0] empty000 (by decide) (by decide)
    newArray_000 none "a"
  simp only [openW, if_true, Prod.mk.injEq, Option.some.injEq] at h1
  rw [h2, ← h1.1]

/-- T8b instance: `Unroll()` of the root arrays 0×0×0 and 2×0×3 returns the empty slice (hypothesis `hu` of
`writeSlice_empty_noop`), and `WriteSlice` of the 0×0×0 array into a 2×0×0 dataset leaves the file as it is -/
example : unrollVals ([[]] : Heap Int) empty000 = .ok [] ∧
    unrollVals ([[]] : Heap Int) { v := rootView [2, 0, 3] 0, sid := 0, base := 0, len := 0, isC := false } = .ok [] := by
  decide

example : writeSlice false ([[]] : Heap Int) empty000
    (some [(["a"], .ds [2, 0, 0] [])]) "a" [1, 0, 0] = (some [(["a"], .ds [2, 0, 0] [])], .ok ()) := by
  exact writeSlice_empty_noop false _ _ (by decide) (vals := []) (by decide) (openDataset_a _ _) [1, 0, 0] rfl rfl

end Ex

end OW.Props.C08
