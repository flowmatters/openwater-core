import OW.Proofs.ClimateBisect
import OW.Proofs.ClimateCont
import OW.Proofs.ClimateFreezing
import OW.Proofs.ClimateDewCounter
import OW.Proofs.ClimateRange
import OW.Proofs.Scan
/-!
C20 — derived climate variables are physically ordered (`climateVariables`, models/climate/climate_variables.go).

Theorems over the kernel model `OW/Kernels/Climate.lean` at `α := ℝ` (exact real arithmetic), clause by clause of the property:
saturation vapour pressure positive and strictly increasing (also across 0 °C, where the two Goff-Gratch branches do not meet);
wet bulb between dew point and dry bulb in the ORDER-FREE sense `min ≤ wet ≤ max`, for any function searched by the bisection
(the ordered reading "dew ≤ wet ≤ dry" is false at 40 °C / 100 %, known finding KF-C20-dewpoint-above-drybulb); depression =
dry bulb − wet bulb; dew point strictly increasing in humidity; and, as the ℝ content of "finite", every divisor, logarithm
argument and power base positive on the property's range. Beyond the clauses: the bisection ends within `acc = 1e-4` (or
`|dx|/2^40`) of a point where the searched function equals the level, given continuity (IVT) and a bracketed level.
NOT proved (listed as such in checks/C20.py): finiteness in IEEE arithmetic (ℝ has no non-finite values; finiteness is checked by the
oracle on the real code); continuity of the searched function ACROSS 0 °C is false (jump), so `wetbulb_converges_*` are per side.
-/
namespace OW.Props.C20
open OW OW.Kernels.Climate OW.Proofs.Climate Set

/-- For any dry bulb, dew point, enthalpy and pressure — hence for ANY enthalpy, humidity-ratio and
vapour-pressure functions feeding them — `calcWetBulb` returns a value between the dew point and the dry bulb
(`min ≤ wet ≤ max`: the dew point may exceed the dry bulb, see DESIGN §6 C20). -/
theorem wetbulb_between (tDryBulb tDewPoint hEnthalpy pAtmosphere : ℝ) :
    min tDewPoint tDryBulb ≤ wetBulb tDryBulb tDewPoint hEnthalpy pAtmosphere ∧
    wetBulb tDryBulb tDewPoint hEnthalpy pAtmosphere ≤ max tDewPoint tDryBulb := by
  -- membership in `uIcc a b` unfolds to `min a b ≤ · ∧ · ≤ max a b`
  have := bisect_mem_uIcc (satEnthalpy pAtmosphere) hEnthalpy 40 tDewPoint (tDryBulb - tDewPoint)
  rwa [add_sub_cancel] at this

theorem sample_wetbulb_between (pa t rh : ℝ) :
    min (sample pa t rh).dewPoint t ≤ (sample pa t rh).wetBulb ∧
    (sample pa t rh).wetBulb ≤ max (sample pa t rh).dewPoint t :=
  wetbulb_between t (dewPoint t rh) _ pa

/-- The reported wet-bulb depression is dry bulb minus wet bulb. -/
theorem deltaT_def (pa t rh : ℝ) : (sample pa t rh).deltaT = t - (sample pa t rh).wetBulb := rfl

/-- Saturation vapour pressure is positive at every temperature (both Goff-Gratch branches). -/
theorem vp_pos (t : ℝ) : 0 < vaporPressure t := by
  unfold vaporPressure
  simp only [RealNum.pow_eq, RealNum.ofNat_eq]
  split_ifs <;>
  · apply mul_pos (by norm_num)
    exact Real.rpow_pos_of_pos (by norm_num) _

/-- Below freezing (the `else` branch: T ≤ 0) the Goff-Gratch vapour pressure over ice is strictly
increasing in temperature, on the whole branch down to absolute zero of the formula (⊇ [−40, 0]). -/
theorem vp_strictMono_ice (t1 t2 : ℝ) (h0 : -273.16 < t1) (h12 : t1 < t2) (h2 : t2 ≤ 0) :
    vaporPressure t1 < vaporPressure t2 := by
  rw [vp_ice t1 (not_lt.mpr (h12.le.trans h2)), vp_ice t2 (not_lt.mpr h2)]
  exact branch_strictMono expIce 101.325 273.16 273.16 (by norm_num) (by norm_num) @expIce_strictAnti h0 h12 (by linarith)

/-- Above freezing (the `if temperature > 0` branch) the Goff-Gratch vapour pressure over water is
strictly increasing in temperature up to the boiling point (⊇ (0, 55]). -/
theorem vp_strictMono_water (t1 t2 : ℝ) (h0 : 0 < t1) (h12 : t1 < t2) (h2 : t2 ≤ 100) :
    vaporPressure t1 < vaporPressure t2 := by
  rw [vp_water t1 h0, vp_water t2 (h0.trans h12)]
  exact branch_strictMono expWater 101.325 373.16 273.16 (by norm_num) (by norm_num) @expWater_strictAnti (by linarith) h12
    (by linarith)

/-- The two Goff-Gratch branches do not meet at 0 °C: with `L = 101.325·10^expWater(373.16/273.16)`, the
limit of the water branch as T → 0⁺ (0.610782… kPa), the ice value at 0 (0.610716… kPa) is strictly below `L` and every value
on (0, 100] is strictly above `L`. So `vaporPressure` is increasing but has an upward JUMP (relative size 1.08·10⁻⁴) at 0 °C. -/
theorem vp_jump_at_zero :
    vaporPressure (0:ℝ) < 101.325 * (10:ℝ) ^ expWater (373.16 / 273.16) ∧
    ∀ t : ℝ, 0 < t → t ≤ 100 → 101.325 * (10:ℝ) ^ expWater (373.16 / 273.16) < vaporPressure t := by
  constructor
  · rw [vp_zero]
    exact mul_lt_mul_of_pos_left
      (Real.rpow_lt_rpow_of_exponent_lt (by norm_num) expIce_one_lt_expWater_z0) (by norm_num)
  · intro t h0 h2
    have := branch_strictMono expWater 101.325 373.16 273.16 (by norm_num) (by norm_num) @expWater_strictAnti (t1 := 0)
      (by norm_num) h0 (by linarith)
    rwa [zero_add, ← vp_water t h0] at this

theorem vp_strictMono_across (t1 t2 : ℝ) (h0 : -273.16 < t1) (h1 : t1 ≤ 0) (h2 : 0 < t2) (h3 : t2 ≤ 100) :
    vaporPressure t1 < vaporPressure t2 := by
  have hle : vaporPressure t1 ≤ vaporPressure 0 := by
    rcases eq_or_lt_of_le h1 with h | h
    · rw [h]
    · exact (vp_strictMono_ice t1 0 h0 h (le_refl _)).le
  have hj := vp_jump_at_zero
  exact lt_of_le_of_lt hle (lt_trans hj.1 (hj.2 t2 h2 h3))

/-- The modelled `calcVaporPressure` is strictly increasing on the whole interval (−273.16, 100] °C —
within the ice branch, within the water branch, and across 0 °C. -/
theorem vp_strictMono (t1 t2 : ℝ) (h0 : -273.16 < t1) (h12 : t1 < t2) (h2 : t2 ≤ 100) :
    vaporPressure t1 < vaporPressure t2 := by
  rcases le_or_gt t2 0 with h | h
  · exact vp_strictMono_ice t1 t2 h0 h12 h
  · rcases le_or_gt t1 0 with h' | h'
    · exact vp_strictMono_across t1 t2 h0 h' h h2
    · exact vp_strictMono_water t1 t2 h' h12 h2

theorem vp_mono (t1 t2 : ℝ) (h0 : -273.16 < t1) (h12 : t1 ≤ t2) (h2 : t2 ≤ 100) :
    vaporPressure t1 ≤ vaporPressure t2 := by
  rcases h12.eq_or_lt with rfl | h
  · exact le_rfl
  · exact (vp_strictMono t1 t2 h0 h h2).le

/-- No continuity, any sign of `dx`, any `f`: if the level is bracketed on entry,
`f rtb < h ≤ f (rtb + dx)`, then after the loop (at most `n` iterations, `k` of them executed) the returned point `r` and the
final signed width `w = dx / 2^k` satisfy `f r < h ≤ f (r + w)`; the final bracket `[[r, r + w]]` lies inside the initial one;
and the loop ended by the accuracy test (`|w| < 1e-4`) or after all `n` iterations (`k = n`). -/
theorem bisect_bracket_invariant (f : ℝ → ℝ) (h : ℝ) (n : Nat) (rtb dx : ℝ)
    (hlo : f rtb < h) (hhi : h ≤ f (rtb + dx)) :
    ∃ k : Nat, k ≤ n ∧
      f (bisect f h n rtb dx) < h ∧ h ≤ f (bisect f h n rtb dx + dx / 2 ^ k) ∧
      (|dx / 2 ^ k| < 0.0001 ∨ k = n) ∧
      uIcc (bisect f h n rtb dx) (bisect f h n rtb dx + dx / 2 ^ k) ⊆ uIcc rtb (rtb + dx) := by
  obtain ⟨k, hk, he, hs, hf⟩ := bisect_bracket f h n rtb dx
  exact ⟨k, hk, (hf hlo hhi).1, (hf hlo hhi).2, he, hs⟩

/-- If the searched function is continuous on the initial bracket and the level is bracketed
(`f rtb < h ≤ f (rtb + dx)`), there is a point `c` of the bracket with `f c = h` such that the returned value is within the
required accuracy `1e-4` of `c` (accuracy exit) or within `|dx| / 2^n` of `c` (all `n` halvings done). -/
theorem bisect_converges (f : ℝ → ℝ) (h : ℝ) (n : Nat) (rtb dx : ℝ)
    (hc : ContinuousOn f (uIcc rtb (rtb + dx))) (hlo : f rtb < h) (hhi : h ≤ f (rtb + dx)) :
    ∃ c ∈ uIcc rtb (rtb + dx), f c = h ∧
      (|bisect f h n rtb dx - c| < 0.0001 ∨ |bisect f h n rtb dx - c| ≤ |dx| / 2 ^ n) := by
  obtain ⟨k, _, h3, h4, hf⟩ := bisect_bracket f h n rtb dx
  obtain ⟨h1, h2⟩ := hf hlo hhi
  obtain ⟨c, hcm, hfc, hd⟩ := crossing_in_bracket f h _ _ (hc.mono h4) h1 h2
  refine ⟨c, h4 hcm, hfc, ?_⟩
  rcases h3 with h3 | h3
  · exact Or.inl (lt_of_le_of_lt hd h3)
  · right
    rw [h3] at hd
    have : |dx / 2 ^ n| = |dx| / 2 ^ n := by
      rw [abs_div, abs_pow, abs_two]
    rw [← this]; exact hd

/-- `calcWetBulb` (40 halvings, accuracy 1e-4): if the saturated-air enthalpy is continuous between dew
point and dry bulb and the enthalpy `hE` is bracketed there, the returned wet bulb is within 1e-4 °C (or within
`|dry − dew| / 2^40`) of a temperature `c` between dew point and dry bulb whose saturated-air enthalpy equals `hE`. -/
theorem wetbulb_converges (tDryBulb tDewPoint hE pa : ℝ)
    (hc : ContinuousOn (satEnthalpy pa) (uIcc tDewPoint tDryBulb))
    (hlo : satEnthalpy pa tDewPoint < hE) (hhi : hE ≤ satEnthalpy pa tDryBulb) :
    ∃ c ∈ uIcc tDewPoint tDryBulb, satEnthalpy pa c = hE ∧
      (|wetBulb tDryBulb tDewPoint hE pa - c| < 0.0001 ∨
       |wetBulb tDryBulb tDewPoint hE pa - c| ≤ |tDryBulb - tDewPoint| / 2 ^ 40) := by
  have e : tDewPoint + (tDryBulb - tDewPoint) = tDryBulb := by ring
  have := bisect_converges (satEnthalpy pa) hE 40 tDewPoint (tDryBulb - tDewPoint)
    (by rw [e]; exact hc) hlo (by rw [e]; exact hhi)
  rw [e] at this
  exact this

/-- the continuity hypothesis discharged above freezing — dew point and dry bulb both > 0 °C and the
saturation vapour pressure different from the atmospheric pressure on the bracket (the divisor of `calcHumidityRatio`). -/
theorem wetbulb_converges_water (tDryBulb tDewPoint hE pa : ℝ) (hd : 0 < tDewPoint) (ht : 0 < tDryBulb)
    (hne : ∀ x ∈ uIcc tDewPoint tDryBulb, pa - vaporPressure x ≠ 0)
    (hlo : satEnthalpy pa tDewPoint < hE) (hhi : hE ≤ satEnthalpy pa tDryBulb) :
    ∃ c ∈ uIcc tDewPoint tDryBulb, satEnthalpy pa c = hE ∧
      (|wetBulb tDryBulb tDewPoint hE pa - c| < 0.0001 ∨
       |wetBulb tDryBulb tDewPoint hE pa - c| ≤ |tDryBulb - tDewPoint| / 2 ^ 40) :=
  wetbulb_converges _ _ _ _ (satEnthalpy_continuousOn pa _
    (vaporPressure_continuousOn_water.mono (ordConnected_Ioi.uIcc_subset hd ht)) hne) hlo hhi

/-- the same at or below freezing — dew point and dry bulb both in (−273.16, 0]. -/
theorem wetbulb_converges_ice (tDryBulb tDewPoint hE pa : ℝ)
    (hd0 : -273.16 < tDewPoint) (hd : tDewPoint ≤ 0) (ht0 : -273.16 < tDryBulb) (ht : tDryBulb ≤ 0)
    (hne : ∀ x ∈ uIcc tDewPoint tDryBulb, pa - vaporPressure x ≠ 0)
    (hlo : satEnthalpy pa tDewPoint < hE) (hhi : hE ≤ satEnthalpy pa tDryBulb) :
    ∃ c ∈ uIcc tDewPoint tDryBulb, satEnthalpy pa c = hE ∧
      (|wetBulb tDryBulb tDewPoint hE pa - c| < 0.0001 ∨
       |wetBulb tDryBulb tDewPoint hE pa - c| ≤ |tDryBulb - tDewPoint| / 2 ^ 40) :=
  wetbulb_converges _ _ _ _ (satEnthalpy_continuousOn pa _
    (vaporPressure_continuousOn_ice.mono (ordConnected_Ioc.uIcc_subset ⟨hd0, hd⟩ ⟨ht0, ht⟩)) hne) hlo hhi

/-- Above freezing and below the boiling point of the given pressure (`vp x2 < pa`) the function
searched by the bisection is strictly increasing, so the crossing of `wetbulb_converges_water` is unique. -/
theorem satEnthalpy_strictMono_water (pa x1 x2 : ℝ) (h0 : 0 < x1) (h12 : x1 < x2) (h2 : x2 ≤ 100)
    (hpa : vaporPressure x2 < pa) : satEnthalpy pa x1 < satEnthalpy pa x2 := by
  rw [satEnthalpy_eq, satEnthalpy_eq]
  have hv := vp_strictMono_water x1 x2 h0 h12 h2
  have hd : 0 < pa - vaporPressure x1 := by linarith
  exact enthalpy_lt (by norm_num) (by norm_num) (by norm_num) h0 h12 (div_nonneg (mul_nonneg (by norm_num) (vp_pos x1).le) hd.le)
    (mul_div_sub_lt ((vp_pos x1).trans (hv.trans hpa)) (by norm_num) hv hpa)

theorem dewPoint_eq (t rh : ℝ) (hrh : 0 < rh) :
    dewPoint t rh = 237.3 * Real.log (vaporPressure t * rh / 100 / 0.6108) /
      (17.27 - Real.log (vaporPressure t * rh / 100 / 0.6108)) := by
  unfold dewPoint
  simp only [RealNum.lit0, RealNum.ofNat_lit 100]
  have h1 : ¬ rh ≤ 0 := not_le.mpr hrh
  have h2 : 0 < vaporPressure t * rh / 100 := by
    have := vp_pos t
    positivity
  rw [if_neg h1, if_pos h2]
  rfl

/-- At a fixed temperature the dew point is strictly increasing in relative humidity, as long as
the Magnus denominator `17.27 − ln(ea/0.6108)` stays positive at the larger humidity (i.e. `ea < 0.6108·e^17.27 ≈ 1.9·10⁷ kPa`,
true for every meteorological input: `ea ≤ vp(55 °C) ≈ 15.7 kPa`). -/
theorem dewpoint_mono_humidity (t rh1 rh2 : ℝ) (h1 : 0 < rh1) (h12 : rh1 < rh2)
    (hden : Real.log (vaporPressure t * rh2 / 100 / 0.6108) < 17.27) :
    dewPoint t rh1 < dewPoint t rh2 := by
  rw [dewPoint_eq t rh1 h1, dewPoint_eq t rh2 (h1.trans h12)]
  have hv := vp_pos t
  refine mul_div_sub_lt (by norm_num) (by norm_num) (Real.log_lt_log (by positivity) ?_) hden
  apply div_lt_div_of_pos_right _ (by norm_num)
  apply div_lt_div_of_pos_right _ (by norm_num)
  exact mul_lt_mul_of_pos_left h12 hv

/-- What "dew point ≤ dry bulb" means for this code. `calcDewPoint` inverts the MAGNUS formula
`es(T) = 0.6108·exp(17.27 T / (T + 237.3))` on an actual vapour pressure computed with the GOFF-GRATCH formula
(`calcVaporPressure(T)·RH/100`). Hence (for RH > 0, T > −237.3 and a positive Magnus denominator) the dew point is at most the
dry bulb EXACTLY when the Goff-Gratch actual vapour pressure does not exceed the Magnus saturation pressure at the dry bulb.
The two formulas differ by up to ≈ 10⁻³ relative, so at RH = 100 % this fails where Goff-Gratch > Magnus (on the real code: from
T ≈ 31 °C upward, dew − dry ≤ 0.006 °C); `wetbulb_between` therefore uses the order-free `min/max` form and nothing about
dew ≤ dry is assumed anywhere. -/
theorem dewPoint_le_dryBulb_iff (t rh : ℝ) (hrh : 0 < rh) (ht : -237.3 < t)
    (hden : Real.log (vaporPressure t * rh / 100 / 0.6108) < 17.27) :
    dewPoint t rh ≤ t ↔ vaporPressure t * rh / 100 ≤ 0.6108 * Real.exp (17.27 * t / (t + 237.3)) := by
  have hv := vp_pos t
  rw [dewPoint_eq t rh hrh, magnusInv_le_iff hden ht, log_div_le_iff (by positivity)]

/-- Sufficient condition with no side hypothesis: wherever the Goff-Gratch saturation pressure
is at most the Magnus one, the dew point is at most the dry bulb for every humidity 0 < RH ≤ 100. -/
theorem dewPoint_le_dryBulb_of_magnus (t rh : ℝ) (hrh : 0 < rh) (hrh' : rh ≤ 100) (ht : -237.3 < t)
    (hgm : vaporPressure t ≤ 0.6108 * Real.exp (17.27 * t / (t + 237.3))) : dewPoint t rh ≤ t := by
  have hv := vp_pos t
  have hle := (RealNum.mul_div_hundred_le hv.le hrh').trans hgm
  have hden := ((log_div_le_iff (by positivity)).mpr hle).trans_lt (magnus_exponent_lt (by norm_num) (by norm_num) ht)
  exact (dewPoint_le_dryBulb_iff t rh hrh ht hden).mpr hle

/-- An instance where the sufficient condition is verified exactly: at 0 °C (ice branch:
0.61071617… kPa ≤ 0.6108 kPa) the dew point is at most the dry bulb for every humidity 0 < RH ≤ 100. -/
theorem dewPoint_le_dryBulb_at_zero (rh : ℝ) (hrh : 0 < rh) (hrh' : rh ≤ 100) : dewPoint 0 rh ≤ 0 := by
  apply dewPoint_le_dryBulb_of_magnus 0 rh hrh hrh' (by norm_num)
  rw [vp_zero_val]
  norm_num

/-- **The Magnus denominator is positive on the meteorological range**: for `−273.16 < T ≤ 100` and `0 < RH ≤ 100`,
`ln(ea / 0.6108) < 17.27` (`ea ≤ vp(100 °C) = 101.325 kPa`, `101.325 / 0.6108 < 2¹⁷ ≤ e^17.27`) — the divisor
`17.27 − Func` of `calcDewPoint` is positive. -/
theorem magnus_denominator_pos (t rh : ℝ) (h0 : -273.16 < t) (h1 : t ≤ 100) (hrh : 0 < rh) (hrh' : rh ≤ 100) :
    Real.log (vaporPressure t * rh / 100 / 0.6108) < 17.27 := by
  have hpos := vp_pos t
  exact log_div_lt_of_le (by positivity) ((RealNum.mul_div_hundred_le hpos.le hrh').trans (vp_hundred ▸ vp_mono t 100 h0 h1 le_rfl))

/-- "dew point ≤ dry bulb for 0 < RH ≤ 100" is FALSE for this code (model and real code
agree: `ClimateVariables` at dryBulb = 40, humidity = 100 returns dewPoint = 40.00548757635144, deltaT = −0.0054875…): at 40 °C
the Goff-Gratch saturation pressure 7.37777 kPa exceeds the Magnus one 7.37561 kPa (`magnus_lt_goffGratch_40`, verified
numerics), so saturated air gets a dew point strictly above the dry bulb. Known finding KF-C20-dewpoint-above-drybulb (a property of
the chosen pair of published formulas; oracle scope `ClimateVariables:dewpoint-above-drybulb`); it is why `wetbulb_between`
is stated with `min`/`max`, and `ordered_reading_counterexample` draws the consequence for wet bulb and depression. -/
theorem dewPoint_exceeds_dryBulb_example : (40:ℝ) < dewPoint 40 100 := by
  have hden := magnus_denominator_pos 40 100 (by norm_num) (by norm_num) (by norm_num) le_rfl
  by_contra hcon
  have := (dewPoint_le_dryBulb_iff 40 100 (by norm_num) (by norm_num) hden).mp (not_lt.mp hcon)
  rw [mul_div_assoc, div_self (by norm_num), mul_one] at this
  exact absurd magnus_lt_goffGratch_40 (not_lt.mpr this)

/-- the bisection does move: with `f = id` and level 3 in the bracket [0, 8] two steps give 2 -/
example : bisect (fun x : ℝ => x) 3 2 0 8 = 2 := by
  simp only [bisect, acc, RealNum.abs_eq]
  simp only [RealNum.ofNat_eq, Nat.cast_zero]
  norm_num

example : 0 < vaporPressure (20 : ℝ) := vp_pos 20
example : vaporPressure (-40 : ℝ) < vaporPressure (0 : ℝ) := vp_strictMono_ice (-40) 0 (by norm_num) (by norm_num) (le_refl _)
example : vaporPressure (1 : ℝ) < vaporPressure (55 : ℝ) := vp_strictMono_water 1 55 (by norm_num) (by norm_num) (by norm_num)

example : vaporPressure (-5 : ℝ) < vaporPressure (5 : ℝ) := vp_strictMono (-5) 5 (by norm_num) (by norm_num) (by norm_num)
example : vaporPressure (0 : ℝ) < vaporPressure (0.001 : ℝ) :=
  vp_strictMono_across 0 0.001 (by norm_num) (le_refl _) (by norm_num) (by norm_num)

/-- the hypotheses of `bisect_converges` are satisfiable and the conclusion is informative: `f = id`, level 3 in [0, 8] -/
example : ∃ c ∈ uIcc (0:ℝ) (0 + 8), (fun x : ℝ => x) c = 3 ∧
    (|bisect (fun x : ℝ => x) 3 40 0 8 - c| < 0.0001 ∨ |bisect (fun x : ℝ => x) 3 40 0 8 - c| ≤ |(8:ℝ)| / 2 ^ 40) :=
  bisect_converges (fun x : ℝ => x) 3 40 0 8 continuousOn_id (by norm_num) (by norm_num)

/-- the hypotheses of `wetbulb_converges_water` are satisfiable with the real searched function: dew point 10 °C, dry bulb 20 °C,
standard pressure 101.325 kPa (= vp(100 °C) exactly), enthalpy level = the saturated enthalpy at the dry bulb (RH = 100 %) -/
example : ∃ c ∈ uIcc (10:ℝ) 20, satEnthalpy 101.325 c = satEnthalpy 101.325 20 ∧
    (|wetBulb 20 10 (satEnthalpy 101.325 20) 101.325 - c| < 0.0001 ∨
     |wetBulb 20 10 (satEnthalpy 101.325 20) 101.325 - c| ≤ |(20:ℝ) - 10| / 2 ^ 40) := by
  have hlt : ∀ x : ℝ, 0 < x → x ≤ 20 → vaporPressure x < 101.325 := by
    intro x h0 h1
    rw [← vp_hundred]; exact vp_strictMono_water x 100 h0 (by linarith) (le_refl _)
  apply wetbulb_converges_water 20 10 _ 101.325 (by norm_num) (by norm_num)
  · intro x hx
    rw [mem_uIcc] at hx
    have : vaporPressure x < 101.325 := by
      rcases hx with hx | hx
      · exact hlt x (by linarith [hx.1]) hx.2
      · exact hlt x (by linarith [hx.1]) (by linarith [hx.2])
    linarith
  · exact satEnthalpy_strictMono_water 101.325 10 20 (by norm_num) (by norm_num) (by norm_num) (hlt 20 (by norm_num) (le_refl _))
  · exact le_refl _

example : dewPoint (0:ℝ) 80 ≤ 0 := dewPoint_le_dryBulb_at_zero 80 (by norm_num) (by norm_num)

/-- at 0 °C the ice branch gives exactly 101.325 × 0.0060273 kPa, so at 50 % and 100 % humidity `ea/0.6108 < 1` and the
hypothesis of `dewpoint_mono_humidity` holds -/
example : dewPoint (0:ℝ) 50 < dewPoint (0:ℝ) 100 := by
  apply dewpoint_mono_humidity 0 50 100 (by norm_num) (by norm_num)
  rw [vp_zero_val]
  have : Real.log (101.325 * 0.0060273 * 100 / 100 / 0.6108) < 0 := by
    apply Real.log_neg (by norm_num) (by norm_num)
  linarith

/-- "Dew point rises with humidity" on the meteorological range (`−273.16 < T ≤ 100` ⊇ [−40, 55], `0 < RH ≤ 100`): the
denominator hypothesis of `dewpoint_mono_humidity` is discharged by `magnus_denominator_pos`. -/
theorem dewpoint_mono_humidity_range (t rh1 rh2 : ℝ) (h0 : -273.16 < t) (h1 : t ≤ 100)
    (hr1 : 0 < rh1) (h12 : rh1 < rh2) (hr2 : rh2 ≤ 100) : dewPoint t rh1 < dewPoint t rh2 :=
  dewpoint_mono_humidity t rh1 rh2 hr1 h12 (magnus_denominator_pos t rh2 h0 h1 (by linarith) hr2)

/-- the enthalpy the kernel searches for (`e` of `sample`): `calcEnthalpy(T, calcHumidityRatioActual(T, RH, pa))`,
in closed form -/
theorem sample_enthalpy_eq (pa t rh : ℝ) :
    enthalpy t (humidityRatioActual t rh pa) =
      1.006 * t + (1.84 * t + 2501) * (0.62198 * vaporPressure t / (pa - vaporPressure t) * rh / 100) := by
  unfold enthalpy humidityRatioActual humidityRatio
  simp only [RealNum.ofNat_lit 2501, RealNum.ofNat_lit 100]

/-- **Upper half of the bracketing hypothesis of `wetbulb_converges*`, derived from the humidity**: for `RH ≤ 100`,
below the boiling point of the given pressure (`vp T < pa`, the divisor of `calcHumidityRatio` positive) and
`1.84·T + 2501 > 0` (T > −1359 °C), the enthalpy of the air is at most the saturated-air enthalpy at the dry bulb:
`hE ≤ satEnthalpy pa T` — the `hhi` of `wetbulb_converges`, `wetbulb_converges_water`, `wetbulb_converges_ice`. -/
theorem sample_enthalpy_le_sat (pa t rh : ℝ) (hrh : rh ≤ 100) (hpa : vaporPressure t < pa) (ht : 0 < 1.84 * t + 2501) :
    enthalpy t (humidityRatioActual t rh pa) ≤ satEnthalpy pa t := by
  rw [sample_enthalpy_eq, satEnthalpy_eq]
  have hW : 0 ≤ 0.62198 * vaporPressure t / (pa - vaporPressure t) :=
    div_nonneg (mul_nonneg (by norm_num) (vp_pos t).le) (sub_pos.mpr hpa).le
  exact add_le_add le_rfl (mul_le_mul_of_nonneg_left (RealNum.mul_div_hundred_le hW hrh) ht.le)

/-- `wetbulb_converges_water` for the kernel's own sample, with the upper bracketing half discharged: dry bulb and dew
point above freezing, `RH ≤ 100`, `vp < pa` on the bracket; what remains a hypothesis is the LOWER half
`satEnthalpy pa dew < hE` (it mixes the Magnus inversion with Goff-Gratch). -/
theorem sample_wetbulb_converges_water (pa t rh : ℝ) (ht : 0 < t) (hd : 0 < dewPoint t rh) (hrh : rh ≤ 100)
    (hne : ∀ x ∈ uIcc (dewPoint t rh) t, vaporPressure x < pa)
    (hlo : satEnthalpy pa (dewPoint t rh) < enthalpy t (humidityRatioActual t rh pa)) :
    ∃ c ∈ uIcc (dewPoint t rh) t, satEnthalpy pa c = enthalpy t (humidityRatioActual t rh pa) ∧
      (|(sample pa t rh).wetBulb - c| < 0.0001 ∨ |(sample pa t rh).wetBulb - c| ≤ |t - dewPoint t rh| / 2 ^ 40) :=
  wetbulb_converges_water t (dewPoint t rh) _ pa hd ht
    (fun x hx => by have := hne x hx; linarith) hlo
    (sample_enthalpy_le_sat pa t rh hrh (hne t right_mem_uIcc) (by linarith))

/-- **The ℝ content of "all outputs are finite"** on the property's range `T ∈ [−40, 55]`,
`RH ∈ (0, 100]`, `elevation ∈ [0, 10000]`, with `pa = barometricPressure elevation`: every divisor and every argument of
a logarithm / fractional power on the path to the four outputs is positive —
* `T + 273.16 > 0` (divisor of `z` in `calcVaporPressure`; then `z > 0`, the divisor `1/z` and argument of `log10`);
* the base `(293 − 0.0065·elevation)/293` of the barometric power is positive, and `22.4 ≤ pa ≤ 101.3` kPa;
* `vp(x) < pa` for EVERY `x ∈ (−273.16, 55]` (`vp(55) ≤ 18.04 < 22.4 ≤ pa(10000)`): the divisor `pa − vp` of
  `calcHumidityRatio` is positive at the dry bulb and at every bisection midpoint that is not above 55 °C;
* `ea = vp·RH/100 > 0` (the `if ea > 0` branch of `calcDewPoint` is taken; `ea/0.6108 > 0` is the argument of `log`);
* `17.27 − ln(ea/0.6108) > 0` (divisor of the dew point).
NOT covered: bisection midpoints ABOVE the dry bulb (they exist only when dew > dry, by < 0.006 °C, known finding
KF-C20-dewpoint-above-drybulb) and IEEE overflow/underflow, which ℝ cannot express (sampled by the oracle). -/
theorem no_zero_divisor (t rh elev : ℝ) (ht0 : -40 ≤ t) (ht1 : t ≤ 55) (hrh0 : 0 < rh) (hrh1 : rh ≤ 100)
    (he0 : 0 ≤ elev) (he1 : elev ≤ 10000) :
    0 < t + 273.16 ∧
    0 < (293 - 0.0065 * elev) / 293 ∧
    22.4 ≤ barometricPressure elev ∧ barometricPressure elev ≤ 101.3 ∧
    (∀ x : ℝ, -273.16 < x → x ≤ 55 → 0 < barometricPressure elev - vaporPressure x) ∧
    0 < vaporPressure t * rh / 100 ∧
    0 < 17.27 - Real.log (vaporPressure t * rh / 100 / 0.6108) := by
  obtain ⟨hb0, _⟩ := baro_base_range elev he0 he1
  obtain ⟨hp0, hp1⟩ := barometricPressure_range elev he0 he1
  have h273 : -273.16 < t := lt_of_lt_of_le (by norm_num) ht0
  refine ⟨neg_lt_iff_pos_add.mp h273, lt_of_lt_of_le (by norm_num) hb0, hp0, hp1, ?_,
    div_pos (mul_pos (vp_pos t) hrh0) (by norm_num), ?_⟩
  · intro x hx0 hx1
    have h55 := (vp_mono x 55 hx0 hx1 (by norm_num)).trans vp_55_upper
    exact sub_pos.mpr (h55.trans_lt (lt_of_lt_of_le (by norm_num) hp0))
  · exact sub_pos.mpr (magnus_denominator_pos t rh h273 (ht1.trans (by norm_num)) hrh0 hrh1)

/-- **run = map sample.** The kernel's loop over the days is the per-sample computation at the barometric pressure of
the elevation, day by day (no state is carried between days). -/
theorem run_eq_map_sample (elevation : ℝ) (xs : List (ℝ × ℝ)) :
    run elevation xs = xs.map (fun x => sample (barometricPressure elevation) x.1 x.2) := by
  unfold run
  rfl

/-- The one-sample theorems for every day of a run: as many outputs as days, and for the `i`-th day
(dry bulb `t`, humidity `rh`): the vapour pressure is positive, the wet bulb lies between dew point and dry bulb (order-free)
and the reported depression is dry bulb minus wet bulb. -/
theorem run_spec (elevation : ℝ) (xs : List (ℝ × ℝ)) :
    List.Forall₂ (fun (x : ℝ × ℝ) (o : Out ℝ) =>
        o = sample (barometricPressure elevation) x.1 x.2 ∧
        0 < o.vaporPressure ∧ o.vaporPressure = vaporPressure x.1 ∧ o.dewPoint = dewPoint x.1 x.2 ∧
        min o.dewPoint x.1 ≤ o.wetBulb ∧ o.wetBulb ≤ max o.dewPoint x.1 ∧ o.deltaT = x.1 - o.wetBulb)
      xs (run elevation xs) := by
  rw [run_eq_map_sample]
  exact forall₂_map _ _ (fun x => ⟨rfl, vp_pos x.1, rfl, rfl, (sample_wetbulb_between _ x.1 x.2).1,
    (sample_wetbulb_between _ x.1 x.2).2, rfl⟩) xs

theorem sample_deltaT_nonpos_of_dew_gt (pa t rh : ℝ) (h : t < dewPoint t rh) :
    t ≤ (sample pa t rh).wetBulb ∧ (sample pa t rh).wetBulb ≤ dewPoint t rh ∧ (sample pa t rh).deltaT ≤ 0 := by
  have hb := sample_wetbulb_between pa t rh
  rw [show (sample pa t rh).dewPoint = dewPoint t rh from rfl, min_eq_right h.le, max_eq_left h.le] at hb
  exact ⟨hb.1, hb.2, by rw [deltaT_def]; linarith [hb.1]⟩

/-- Known finding KF-C20-dewpoint-above-drybulb: the ORDERED reading of the clause,
"dew point ≤ wet bulb ≤ dry bulb", is FALSE for the code at 40 °C / 100 %, at every pressure: the dew point is above the
dry bulb (`dewPoint_exceeds_dryBulb_example`), the wet bulb is not below the dry bulb, the depression is ≤ 0. The
order-free reading (`wetbulb_between`) holds. -/
theorem ordered_reading_counterexample (pa : ℝ) :
    ¬ (dewPoint 40 100 ≤ (sample pa 40 100).wetBulb ∧ (sample pa 40 100).wetBulb ≤ (40:ℝ)) ∧
    (40:ℝ) ≤ (sample pa 40 100).wetBulb ∧ (sample pa 40 100).deltaT ≤ 0 := by
  have h := dewPoint_exceeds_dryBulb_example
  obtain ⟨a, _, c⟩ := sample_deltaT_nonpos_of_dew_gt pa 40 100 h
  exact ⟨fun hh => by linarith [hh.1, hh.2], a, c⟩

example : dewPoint (30:ℝ) 40 < dewPoint (30:ℝ) 90 :=
  dewpoint_mono_humidity_range 30 40 90 (by norm_num) (by norm_num) (by norm_num) (by norm_num) (by norm_num)
example : dewPoint (-40:ℝ) 0.0001 < dewPoint (-40:ℝ) 100 :=
  dewpoint_mono_humidity_range (-40) 0.0001 100 (by norm_num) (by norm_num) (by norm_num) (by norm_num) (by norm_num)
/-- the hottest day at the highest station: every divisor positive -/
example : 0 < barometricPressure (10000:ℝ) - vaporPressure (55:ℝ) :=
  (no_zero_divisor 55 100 10000 (by norm_num) (le_refl _) (by norm_num) (le_refl _) (by norm_num) (le_refl _)).2.2.2.2.1
    55 (by norm_num) (le_refl _)
example : enthalpy (25:ℝ) (humidityRatioActual 25 60 (barometricPressure 0)) ≤ satEnthalpy (barometricPressure 0) 25 :=
  sample_enthalpy_le_sat _ 25 60 (by norm_num)
    (by have := (no_zero_divisor 25 60 0 (by norm_num) (by norm_num) (by norm_num) (by norm_num) (le_refl _) (by norm_num)).2.2.2.2.1
          25 (by norm_num) (by norm_num); linarith)
    (by norm_num)
example : (run (100:ℝ) [(20, 50), (-5, 80)]).length = 2 := (run_spec 100 [(20, 50), (-5, 80)]).length_eq.symm

end OW.Props.C20

