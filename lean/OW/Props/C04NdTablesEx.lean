import OW.Props.C04NdTables
/-! C04 (n-d level, table parameters): the theorems of `OW/Props/C04NdTables.lean` evaluated and instantiated on a concrete heap. -/
namespace OW.Props.C04NdTables
open OW OW.Nd OW.Sim OW.Sim.WrapperNd OW.WrapperNd

/-! ## Non-vacuity: a Storage-like spec `nLVA; levels[nLVA]; volumes[nLVA]` with 2 parameter sets, table lengths 2 and 3

`parameters` is `7 × 2`: row 0 = `nLVA` (`[2, 3]`, so `maxLen = 3`), rows 1–3 = `levels`, rows 4–6 = `volumes`; cell 0 and
cell 2 use set 0 (own length 2), cell 1 uses set 1 (own length 3). The models are executed on `Int` with a toy `Num Int`
(`toInt = id`), only to evaluate them with `decide`. -/
namespace Ex

/-- a toy `Num Int` (what matters here: `toInt := id`, `<`, `zero`); the transcendental fields are dummies -/
@[reducible] def numInt : Num Int :=
  { toAdd := inferInstance, toSub := inferInstance, toMul := inferInstance, toDiv := inferInstance,
    toNeg := inferInstance, toLT := inferInstance, toLE := inferInstance,
    toOfScientific := ⟨fun m _ _ => (m : Int)⟩, toInhabited := inferInstance,
    decLt := fun a b => Int.decLt a b, decLe := fun a b => Int.decLe a b, feq := fun a b => a == b,
    zero := 0, one := 1, ofNat := fun n => (n : Int), ofInt := id, exp := id, pow := fun a _ => a, log := id, log10 := id,
    tanh := id, cos := id, sqrt := id, abs := fun a => (a.natAbs : Int), floor := id, ceil := id, toInt := id,
    isNaN := fun _ => false, nan := 0, gmin := fun a b => if a ≤ b then a else b, gmax := fun a b => if a ≤ b then b else a }

attribute [local instance] numInt

def spec : ParamSpec := [none, some 0, some 0]
def dims : Nat → Nat := fun _ => 3
def lay : List (Nat × Nat) := [(0, 1), (1, 3), (4, 3)]

/-- storage 0: parameters `7 × 2`; storage 1: inputs `2×2×3`; storage 2: states `3×2`; storage 3: outputs `4×1×5` -/
def pst : List Int := [2, 3,  10, 11, 20, 21, 30, 31,  100, 101, 200, 201, 300, 301]
def heap : Heap Int :=
  [pst, (List.range 12).map (fun k => 1000 + Int.ofNat k), [1, 2, 3, 4, 5, 6], List.replicate 20 (-1)]
def pA : Arr := rootArr 0 [7, 2] 14
def iA : Arr := rootArr 1 [2, 2, 3] 12
def sA : Arr := rootArr 2 [3, 2] 6
def oA : Arr := rootArr 3 [4, 1, 5] 20
def paramsL : List (List Int) := [[2, 3], [10, 11], [20, 21], [30, 31], [100, 101], [200, 201], [300, 301]]

example : mat pst 0 7 2 = paramsL := by decide
example : tplRows dims spec 0 = lay ∧ tplEnd dims spec 0 = 7 := by decide

theorem specWF : SpecWF spec := by
  intro j k h
  match j, h with
  | 0, h => simp [spec] at h
  | 1, h => simp [spec] at h; subst h; exact ⟨by omega, rfl⟩
  | 2, h => simp [spec] at h; subst h; exact ⟨by omega, rfl⟩
  | n + 3, h => simp [spec] at h

example : layout spec paramsL = .ok lay := by decide
example : layout spec paramsL = .ok (tplRows dims spec 0) :=
  layout_tables spec paramsL dims specWF
    (by
      intro j k h
      match j, h with
      | 0, h => simp [spec] at h
      | 1, h => simp [spec] at h; subst h; exact ⟨0, by decide, by decide⟩
      | 2, h => simp [spec] at h; subst h; exact ⟨0, by decide, by decide⟩
      | n + 3, h => simp [spec] at h)
    (by decide)

-- the list-level columns: cell 0 (set 0, own length 2), cell 1 (set 1, own length 3), cell 2 (set 0 again)
example : cellParams spec lay paramsL 0 = .ok [2, 10, 20, 100, 200] ∧
    cellParams spec lay paramsL 1 = .ok [3, 11, 21, 31, 101, 201, 301] ∧
    cellParams spec lay paramsL 2 = .ok [2, 10, 20, 100, 200] := by decide
example : (spec.zip lay).flatMap (entries paramsL lay 1) = [3, 11, 21, 31, 101, 201, 301] ∧
    ownLenZ paramsL 0 (rowOf lay 0) = 2 ∧ ownLenZ paramsL 1 (rowOf lay 0) = 3 := by decide

-- the same columns at the view level, through `scalarParam` / `tableParam` + `readTable`
example : decodeNd heap pA 0 (spec.zip lay) [] [] = .ok [2, 10, 20, 100, 200] ∧
    decodeNd heap pA 1 (spec.zip lay) [] [] = .ok [3, 11, 21, 31, 101, 201, 301] := by decide

theorem rp : RootOn heap pA [((7 : Nat) : Int), ((2 : Nat) : Int)] :=
  (rootOn_rootArr (st := pst) (List.cons_ne_nil _ _) (by unfold Pos; decide) rfl (by decide)).2
theorem ri : RootOn heap iA [((2 : Nat) : Int), ((2 : Nat) : Int), ((3 : Nat) : Int)] :=
  (rootOn_rootArr (st := heap[1]) (List.cons_ne_nil _ _) (by unfold Pos; decide) rfl (by decide)).2
theorem rs : RootOn heap sA [((3 : Nat) : Int), ((2 : Nat) : Int)] :=
  (rootOn_rootArr (st := heap[2]) (List.cons_ne_nil _ _) (by unfold Pos; decide) rfl (by decide)).2
theorem ro : RootOn heap oA [((4 : Nat) : Int), ((1 : Nat) : Int), ((5 : Nat) : Int)] :=
  (rootOn_rootArr (st := heap[3]) (List.cons_ne_nil _ _) (by unfold Pos; decide) rfl (by decide)).2

theorem hSc : ∀ (j row sz : Nat), spec[j]? = some none → lay[j]? = some (row, sz) → row < 7 := by
  intro j row sz h1 h2
  match j, h1, h2 with
  | 0, _, h2 => simp [lay] at h2; omega
  | 1, h1, _ => simp [spec] at h1
  | 2, h1, _ => simp [spec] at h1
  | n + 3, h1, _ => simp [spec] at h1

/-- both tables have 3 rows inside the array: they fit every cell whose own length is at most 3 -/
theorem tables_fit (i : Nat) (hown : (ownLenZ (mat pst 0 7 2) i (rowOf lay 0)).toNat ≤ 3) :
    ∀ (j k row sz : Nat), spec[j]? = some (some k) → lay[j]? = some (row, sz) →
      1 ≤ sz ∧ row + sz ≤ 7 ∧ (ownLenZ (mat pst 0 7 2) i (rowOf lay k)).toNat ≤ sz := by
  intro j k row sz h1 h2
  match j, h1, h2 with
  | 0, h1, _ => simp [spec] at h1
  | 1, h1, h2 =>
    simp [spec] at h1; simp [lay] at h2; subst h1; obtain ⟨rfl, rfl⟩ := h2; exact ⟨by omega, by omega, hown⟩
  | 2, h1, h2 =>
    simp [spec] at h1; simp [lay] at h2; subst h1; obtain ⟨rfl, rfl⟩ := h2; exact ⟨by omega, by omega, hown⟩
  | n + 3, h1, _ => simp [spec] at h1

theorem hTb (i : Nat) (hi : i < 2) : ∀ (j k row sz : Nat), spec[j]? = some (some k) → lay[j]? = some (row, sz) →
    1 ≤ sz ∧ row + sz ≤ 7 ∧ (ownLenZ (mat pst 0 7 2) i (rowOf lay k)).toNat ≤ sz :=
  tables_fit i (by
    match i, hi with
    | 0, _ => decide
    | 1, _ => decide)

example := param_decoding_tables (i := 1) rp rfl rfl spec lay specWF hSc (hTb 1 (by omega))

/-- a toy kernel: the output series is the first input series (at most 3 values) plus the SUM of the parameter column
(so the decoded table entries matter); the new states are the first two old ones -/
def toyKm : KModel Int :=
  { name := "toy", init := fun _ => .ok [],
    run := fun p ins st => .ok { outputs := [((ins.headD []).take 3).map (· + p.foldl (· + ·) 0)], states := st.take 2 } }

theorem toyFits : ∀ p ins st r, ins.length = 2 → (∀ s ∈ ins, s.length = 3) → st.length = 2 → toyKm.run p ins st = .ok r →
    r.outputs.length ≤ 1 ∧ (∀ ser ∈ r.outputs, ser.length ≤ 3) ∧ r.states.length ≤ 2 := by
  intro p ins st r _ _ _ hr
  simp only [toyKm, Except.ok.injEq] at hr
  subst hr
  refine ⟨by simp, fun ser hs => ?_, by simp⟩
  simp only [List.mem_singleton] at hs
  subst hs
  simp

-- one whole cell step of cell 1 (parameter set 1: column sum 3+11+21+31+101+201+301 = 669; input block 1) through the
-- views, evaluated: output row (1,0,·) receives the series in its first 3 positions, nothing else changes
example : (do let rd ← runDims iA sA oA; cellStepNdT toyKm.run spec lay 2 heap pA iA sA oA rd 1) =
    .ok [heap[0], heap[1], [1, 2, 3, 4, 5, 6],
      [-1, -1, -1, -1, -1,  1675, 1676, 1677, -1, -1,  -1, -1, -1, -1, -1,  -1, -1, -1, -1, -1]] := by decide

-- cell 1: own table length 3 = maxLen
example :=
  wrapperNd_refines_tables toyKm (i := 1) (pb := 0) (ib := 0) (sb := 0) (ob := 0) rp ri rs ro rfl rfl rfl rfl rfl rfl rfl rfl
    (by decide) (by decide) (by decide) (by decide) (runDims_eq rfl rfl rfl) toyFits spec lay specWF hSc (hTb 1 (by omega))

-- cell 0: own table length 2 < maxLen 3
example :=
  wrapperNd_refines_tables toyKm (i := 0) (pb := 0) (ib := 0) (sb := 0) (ob := 0) rp ri rs ro rfl rfl rfl rfl rfl rfl rfl rfl
    (by decide) (by decide) (by decide) (by decide) (runDims_eq rfl rfl rfl) toyFits spec lay specWF hSc (hTb 0 (by omega))

-- the whole `Run` (3 cells; 2 parameter sets and 2 input blocks reused cyclically: cells 0 and 2 use set 0 / block 0 with
-- column sum 332, cell 1 set 1 / block 1 with column sum 669) through the views, evaluated; and the list level
example : runNdT toyKm.run spec lay 2 heap pA iA sA oA =
    .ok [heap[0], heap[1], [1, 2, 3, 4, 5, 6],
      [1332, 1333, 1334, -1, -1,  1675, 1676, 1677, -1, -1,  1332, 1333, 1334, -1, -1,  -1, -1, -1, -1, -1]] := by decide

theorem toy_runCells : runCells toyKm spec lay (mat pst 0 7 2) (cube heap[1] 0 2 2 3) 0 (mat heap[2] 0 3 2)
    (cube heap[3] 0 4 1 5) =
    .ok ([[1, 2], [3, 4], [5, 6]],
      [[[1332, 1333, 1334, -1, -1]], [[1675, 1676, 1677, -1, -1]], [[1332, 1333, 1334, -1, -1]], [[-1, -1, -1, -1, -1]]]) := by
  decide

example :=
  runNd_refines_tables toyKm (pb := 0) (ib := 0) (sb := 0) (ob := 0) rp ri rs ro rfl rfl rfl rfl rfl rfl rfl rfl
    (by decide) (by decide) (by decide) (by decide) (by decide) spec lay specWF hSc
    (fun i hi => by
      match i, hi with
      | 0, _ => exact hTb 0 (by omega)
      | 1, _ => exact hTb 1 (by omega)
      | 2, _ => exact tables_fit 2 (by decide))
    (by decide) (by decide) toyFits toy_runCells

/-- outside the hypothesis `ownLen_i ≤ maxLen` (the table laid out in FEWER rows than the cell's own length: `size = 2`,
own length 3) both levels fail alike: the list level by its explicit check, the view level because the `ApplyParameters`
view is a Go slice of `size · nSets` elements and `Get1(2)` indexes past it. -/
example : cellParams spec [(0, 1), (1, 2), (3, 2)] paramsL 1 = .error "index-out-of-range" ∧
    decodeNd heap pA 1 (spec.zip [(0, 1), (1, 2), (3, 2)]) [] [] = .error "index-out-of-range" := by decide

end Ex

end OW.Props.C04NdTables
