import OW.Gen.Kernels
import OW.Props.GenTieBase
import OW.Kernels.Coeff
import OW.Kernels.Muskingum
import OW.Kernels.LumpedConstituent
import OW.Kernels.ConstituentDecay
import OW.Kernels.InstreamCoarseSediment
import OW.Kernels.InstreamParticulateNutrient
import OW.Kernels.C16.Conversions
import OW.Kernels.C16.Partitions
import OW.Kernels.C16.LoadGen
import OW.Kernels.C16.BankErosion
import OW.Kernels.C16.UsleFine
import OW.Kernels.C16.SednetGully
import OW.Kernels.Simhyd
import OW.Kernels.Surm
import OW.Kernels.InstreamDissolvedNutrient
import OW.Kernels.InstreamFineSediment
import OW.Kernels.StorageParticulateTrapping
import OW.Kernels.StorageDissolvedDecay
import OW.Kernels.Climate
/-!
# GenTie — the syntactic tie between the hand-written kernel models and the current Go source

`OW/Gen/Kernels.lean` is REGENERATED on every run by `harness/cmd/owtranslate` from the Go source of the time-stepping kernels
(one namespace `OW.Gen.K.<goFunc>` with `guard`, `init`, `step`). Each `gen_eq_<Model>` states that the regenerated definitions ARE
the hand-written model of `OW/Kernels/…`:

* kernels with state: `Gen.step params state inputs = (new state of Hand.step, outputs of Hand.step)` and `Gen.init = the state
  parameters` (ghost outputs of the hand model — `flushed`, `decayed`, `deposited`, `bedExchange` — are not part of the code and are exempt);
* stateless kernels: `Hand.step (inputs at t) = Gen.step params inputs`, and `Hand.run … = if Gen.guard … then zeros else map …` where
  the Go function returns early.

What the pieces stand for (the translator prints no wrapper; each theorem lists the pieces its kernel has): `guard` = the function
returns before the loop and the outputs keep their zero values; otherwise the loop runs `step` from the state `init` over the elements
of the input series, `pre` holding what is computed once before it and `final` what is done to the last state; where `delegates` holds,
`delegateInit / delegateStep / delegateFinal` take the place of `init / step / final`. `guard`, `pre`, `init` take the scalar
parameters in the order of the Go signature (then the first element of a series read before the loop). `step` takes abstract
functions and fuels, the parameters the loop does not assign (same order; one the body never reads stays), the components of `pre`,
the state (the parameters and named results the loop carries, hidden states last) and the current elements of the input series: so
`muskingum.init s prevInflow prevOutflow k x deltaT` but `muskingum.step k x deltaT s prevInflow prevOutflow inflow lateral`.

All statements are over an arbitrary `[Num α]`, under the literal identities listed at the end of this comment; those are what
decides at which of `Float` (where the models are executed) and `ℝ` (where the theorems of OW/Props are proved) a tie can be used.
Two hypotheses are arithmetic laws (`AddZero` in `gen_eq_Storage`, `OfIntNat` in `gen_eq_GR4J`); no other law is used: definitions
are unfolded, both sides brought to the same nesting of `if`s (`GenTieBase.lean`) and compared as expression trees — same operations,
same association, same literals. A source change that alters the
arithmetic of a kernel makes its theorem fail (`vlib/gentie.py` reports a broken proof obligation naming the theorem); renaming locals,
introducing temporaries or reordering independent assignments leaves the generated term definitionally equal.

Forms outside the plain single-loop shape:

* HELPER functions of the source are definitions of the kernel's namespace tagged `@[gen_unfold]`; `tie` unfolds whichever exist
  (`simp only [gen_unfold]`), so extracting or inlining a helper does not invalidate a proof script;
* values computed BEFORE the loop from the parameters alone are `let`s at the top of the regenerated `step`; the theorem instantiates
  the hand model's coefficients with the hand model's own function of the parameters (`Muskingum.coef`,
  `BankErosion.meanAnnualBankErosion`, `Climate.barometricPressure`, …);
* a HIDDEN state (carried between iterations, not returned: `prevVolume` of `instreamDissolvedNutrient`) is an extra component of the
  state; a variable that every iteration assigns before reading it is a local of `step`; a series element read before the loop
  (`reachVolume[0]`) is an extra argument;
* DELEGATION (`if cond { x = Callee(…); return … }` before the loop, or a body that is one call of another kernel function):
  `delegates = cond`, `delegateInit`, `delegateStep`, `delegateFinal` are proved equal to the branch of the hand model; a delegating
  branch may first build a temporary series element-wise (`lateralMass + reachLocalMass` in `gen_eq_InstreamFineSediment_lumped`);
* a helper with a bounded loop and `break` (`calcWetBulb`) is `boundedLoop body 40 carried`, proved equal to the hand model's
  recursion by simulation (`boundedLoop_sim`, `bisect_eq_boundedLoop`);
* a function with an error result that works on whole series (`fn.Piecewise` in `ratingPartition`) is NOT translated: it is an
  argument of `step` (`none` = error, on which the code panics) and the theorem instantiates it with the hand model of that function.

Companion files (same namespace; `GenTieAll` imports all): `GenTieReal` (for six ties of this file whose literal identities hold at `ℝ`, the
`step` / `delegateStep` equation there, without hypotheses), `GenTieWhole` (lag, storageTrapAll, inputNode: translated as a whole, series
as lists), `GenTieStateful` (storageRouting: function literals, panics as `none`, the abstract `fn.FindRoot` instantiated by the hand
model), `GenTieGR4J` (slice buffers, inner loops; list lemmas in `OW/Proofs/GenLoops.lean`), `GenTieDates` (int arithmetic, a table, a loop
that may panic), `GenTieStorage` (tables, function literals, sub-step loops with explicit fuel), `GenTieSacramento`. The vocabulary of
those translations (`sliceGet`, `forRange`, `whileLoop`, …) is `OW/Gen/Prelude.lean`.

Literal identities. Over an abstract `Num α` differently spelled literals are different terms; where a hand model spells a Go constant
differently from the (exactly folded, once rounded) constant of the source, the theorem carries the identity as a hypothesis: `LitZero`
(`0.0` = `Num.zero`), `NatZero` (`0` = `0.0`) in `GenTieBase.lean`, `Lit1000`, `Lit86400` here, `NatTwo` (`2` = `2.0`) in `GenTieStorage.lean`
— two spellings of one number: the first four are proved at `ℝ` in `GenTieReal.lean`, `NatTwo ℝ` (the same cast argument) is not stated
anywhere — and `TwoPi`, `AnnualToDaily` here, `FourNinths` in `GenTieGR4J.lean`, where the hand model writes a constant EXPRESSION of the
source differently (31 digits of 2π; the run-time quotients `1 / 365.25`, `4 / 9`): the same float64 but different reals, so at `ℝ` these
three hypotheses are false and `gen_eq_UsleFine`, `gen_eq_SednetGully`, `gen_eq_GR4J` say something at `Float` only. At `Float` only
`LitZero` is a proof (`rfl`); `litChecks` evaluates the six of this file and of `GenTieBase.lean` when this file is compiled, `FourNinths`
has its `#guard` next to it (tests, not proofs: `Float` literals are opaque to the kernel); `NatTwo` has no such test. The two laws:
`OfIntNat` (`float64(i)` of a non-negative `int`; `GenTieGR4J.lean`, `rfl` at `Float`) and `AddZero` (`x + 0 = x`; `GenTieStorage.lean`,
false at `Float` for `x = -0.0`, so `gen_eq_Storage` says something at `ℝ` only).
-/
namespace OW.Props.GenTie

-- which rewrite rules fire depends on how the source is written at the moment
set_option linter.unusedSimpArgs false
open OW OW.Kernels OW.Gen.K

/-! ### models/rr/coeff.go -/

theorem gen_eq_RunoffCoefficient {α} [Num α] (coeff : α) (rain : List α) :
    Coeff.run coeff rain = rain.map (runoffCoefficient.step coeff) ∧ runoffCoefficient.guard coeff = false :=
  ⟨rfl, rfl⟩

/-! ### models/routing -/

/-- `muskingum`: the loop starts from the state parameters, and one iteration is `Muskingum.step` with the coefficients
`Muskingum.coef k x deltaT` (the code computes them before the loop from the parameters alone: they are `let`s at the top of the
regenerated `step`, wherever the source computes them; the storage state `s` is passed through unchanged) -/
theorem gen_eq_Muskingum {α} [Num α] (k x deltaT s prevInflow prevOutflow inflow lateral : α) :
    muskingum.init s prevInflow prevOutflow k x deltaT = (s, prevInflow, prevOutflow) ∧
    muskingum.guard s prevInflow prevOutflow k x deltaT = false ∧
    muskingum.step k x deltaT s prevInflow prevOutflow inflow lateral =
      (let r := Muskingum.step (Muskingum.coef k x deltaT) (prevInflow, prevOutflow) (inflow, lateral); ((s, r.1.1, r.1.2), r.2)) :=
  ⟨rfl, rfl, rfl⟩

/-- `LumpedConstituentTransport` (series arguments non-nil, as the generated wrapper passes them) = `LumpedConstituent.step`.
The hand model writes the `0.0` of the flush branch as `Num.zero`: hypothesis `LitZero`. -/
theorem gen_eq_LumpedConstituent {α} [Num α] (hz : LitZero α)
    (initialStoredMass x pointInput deltaT storedMass inflowLoad lateralLoad outflow storage : α) :
    LumpedConstituentTransport.init initialStoredMass x pointInput deltaT = initialStoredMass ∧
    LumpedConstituentTransport.guard initialStoredMass x pointInput deltaT = false ∧
    LumpedConstituentTransport.step initialStoredMass x pointInput deltaT storedMass inflowLoad lateralLoad outflow storage =
      (let r := LumpedConstituent.step pointInput deltaT storedMass (inflowLoad, lateralLoad, outflow, storage)
       (r.1, (r.2.outflowLoad, r.2.pointSourceLoad))) := by
  refine ⟨rfl, rfl, ?_⟩
  unfold LitZero at hz
  unfold LumpedConstituentTransport.step LumpedConstituent.step LumpedConstituent.minimumVolume
  tie [hz, apply_ite LumpedConstituent.Out.outflowLoad, apply_ite LumpedConstituent.Out.pointSourceLoad]

/-- the `inflows` series is not read by the code -/
theorem gen_eq_ConstituentDecay {α} [Num α]
    (x halflife deltaT storedMass inflowLoad lateralLoad inflow outflow storage : α) :
    constituentDecay.init storedMass x halflife deltaT = storedMass ∧
    constituentDecay.guard storedMass x halflife deltaT = false ∧
    constituentDecay.step x halflife deltaT storedMass inflowLoad lateralLoad outflow storage =
      (let r := ConstituentDecay.step halflife deltaT storedMass (inflowLoad, lateralLoad, inflow, outflow, storage)
       (r.1, (r.2.decayedLoad, r.2.outflowLoad))) := by
  refine ⟨rfl, rfl, ?_⟩
  unfold constituentDecay.step ConstituentDecay.step ConstituentDecay.decay ConstituentDecay.minimumVolume
  tie [apply_ite ConstituentDecay.Out.decayedLoad, apply_ite ConstituentDecay.Out.outflowLoad]

/-- `instreamCoarseSediment` = `InstreamCoarseSediment.step`. The source writes `totalDailyConstituentMass = 0`, the hand
model `0.0`: hypothesis `NatZero`. -/
theorem gen_eq_InstreamCoarseSediment {α} [Num α] (h0 : NatZero α)
    (deltaT channelStore storedMass upstreamMass lateralMass reachLocalMass : α) :
    instreamCoarseSediment.init channelStore storedMass deltaT = (channelStore, storedMass) ∧
    instreamCoarseSediment.guard channelStore storedMass deltaT = false ∧
    instreamCoarseSediment.step deltaT channelStore storedMass upstreamMass lateralMass reachLocalMass =
      (let r := InstreamCoarseSediment.step deltaT (channelStore, storedMass) (upstreamMass, lateralMass, reachLocalMass)
       (r.1, r.2.loadDownstream)) := by
  refine ⟨rfl, rfl, ?_⟩
  unfold NatZero at h0
  unfold instreamCoarseSediment.step InstreamCoarseSediment.step
  simp only [h0]

theorem gen_eq_InstreamParticulateNutrient {α} [Num α]
    (i0 c0 pnc spf dur instreamStoredMass channelStoredMass : α) (i : InstreamParticulateNutrient.In α) :
    instreamParticulateNutrient.init i0 c0 pnc spf dur = (i0, c0) ∧
    instreamParticulateNutrient.guard i0 c0 pnc spf dur = false ∧
    instreamParticulateNutrient.step i0 c0 pnc spf dur instreamStoredMass channelStoredMass
        i.incomingMassUpstream i.incomingMassLateral i.reachVolume i.outflow i.streamBankErosion i.lateralSediment
        i.floodplainDepositionFraction i.channelDepositionFraction =
      (let r := InstreamParticulateNutrient.step pnc spf dur (instreamStoredMass, channelStoredMass) i
       (r.1, (r.2.loadDeposited, r.2.loadFromStreambank, r.2.loadDownstream, r.2.loadToFloodplain))) := by
  refine ⟨rfl, rfl, ?_⟩
  unfold instreamParticulateNutrient.step InstreamParticulateNutrient.step InstreamParticulateNutrient.forDeposition
    InstreamParticulateNutrient.bedExchange LumpedConstituent.minimumVolume
  tie [apply_ite InstreamParticulateNutrient.Out.loadDeposited,
    apply_ite InstreamParticulateNutrient.Out.loadFromStreambank, apply_ite InstreamParticulateNutrient.Out.loadDownstream,
    apply_ite InstreamParticulateNutrient.Out.loadToFloodplain]

/-! ### models/conversion -/

/-- `applyScaling` is the kernel of both ApplyScalingFactor and DeliveryRatio -/
theorem gen_eq_Scaling {α} [Num α] (scale : α) (input : List α) :
    Scaling.run scale input =
      if applyScaling.guard scale then zeros input.length else input.map (applyScaling.step scale) := rfl

/-- the conversion factor `DepthToRate.conversion` is a `let` of the regenerated `step` -/
theorem gen_eq_DepthToRate {α} [Num α] (deltaT area : α) (inputs : List α) :
    DepthToRate.run deltaT area inputs =
      if depthToRate.guard deltaT area then zeros inputs.length
      else inputs.map (depthToRate.step deltaT area) := rfl

theorem gen_eq_FixedPartition {α} [Num α] (fraction incoming : α) :
    FixedPartition.step fraction incoming = fixedPartition.step fraction incoming ∧ fixedPartition.guard fraction = false :=
  ⟨rfl, rfl⟩

theorem gen_eq_VariablePartition {α} [Num α] (incoming frac : α) :
    VariablePartition.step (incoming, frac) = variablePartition.step incoming frac ∧
    variablePartition.guard (α := α) = false := ⟨rfl, rfl⟩

/-- `ratingPartition`. `fn.Piecewise` is NOT translated: `step` takes it as an argument (`none` = its error result is
non-nil, on which the code panics), here the hand model's `Fn.piecewise` on the two table series; where that function itself
panics (empty table) the loop body is not reached. A `none` of `step` is a panic of the loop body (class "other"). -/
theorem gen_eq_RatingPartition {α} [Num α] (inputAmount proportion : List α) (incoming : α) :
    ratingPartition.guard (α := α) = false ∧
    RatingCurvePartition.step inputAmount proportion incoming =
      (match Fn.piecewise incoming inputAmount proportion with
       | .panic e => .error e
       | _ =>
         match ratingPartition.step (σ := List α)
             (fun x xs ys => match Fn.piecewise x xs ys with | .val v => some v | _ => none)
             incoming inputAmount proportion with
         | none => .error "other"
         | some r => .ok r) := by
  refine ⟨rfl, ?_⟩
  unfold RatingCurvePartition.step ratingPartition.step
  try simp only [gen_unfold]
  try dsimp only
  generalize Fn.piecewise incoming inputAmount proportion = r
  cases r with
  | panic e => rfl
  | err => rfl
  | val frac =>
    dsimp only
    split <;> rfl

/-! ### models/functions -/

theorem gen_eq_Sum {α} [Num α] (a b : α) : Sum.step (a, b) = sum.step a b ∧ sum.guard (α := α) = false := ⟨rfl, rfl⟩

theorem gen_eq_Gate {α} [Num α] (t i : α) : Gate.step (t, i) = gate.step t i ∧ gate.guard (α := α) = false := by
  refine ⟨?_, rfl⟩
  unfold Gate.step gate.step
  tie

theorem gen_eq_ComputeProportion {α} [Num α] (r n d : α) :
    ComputeProportion.step r (n, d) = computeProportion.step r n d ∧ computeProportion.guard r = false := by
  refine ⟨?_, rfl⟩
  unfold ComputeProportion.step computeProportion.step
  tie

theorem gen_eq_PartitionDemand {α} [Num α] (inp dmd : α) :
    PartitionDemand.step (inp, dmd) = partitionDemand.step inp dmd ∧ partitionDemand.guard (α := α) = false := ⟨rfl, rfl⟩

/-! ### models/generation -/

/-- `emcDWC` returns early when both concentrations are 0 -/
theorem gen_eq_EmcDwc {α} [Num α] (emc dwc qf sf : α) (quickflow slowflow : List α) :
    EmcDwc.step emc dwc (qf, sf) = (let r := emcDWC.step emc dwc qf sf; ⟨r.1, r.2.1, r.2.2⟩) ∧
    EmcDwc.run emc dwc quickflow slowflow =
      if emcDWC.guard emc dwc then List.replicate quickflow.length ⟨Num.zero, Num.zero, Num.zero⟩
      else (quickflow.zip slowflow).map (EmcDwc.step emc dwc) := ⟨rfl, rfl⟩

theorem gen_eq_FixedConcentration {α} [Num α] (conc : α) (flow : List α) :
    FixedConcentration.run conc flow =
      if fixedConcentration.guard conc then zeros flow.length else flow.map (fixedConcentration.step conc) := rfl

theorem gen_eq_PassLoadIfFlow {α} [Num α] (scalingFactor f l : α) (flow inputLoad : List α) :
    PassLoadIfFlow.step scalingFactor (f, l) = passLoadIfFlow.step scalingFactor f l ∧
    PassLoadIfFlow.run scalingFactor flow inputLoad =
      if passLoadIfFlow.guard scalingFactor then zeros flow.length
      else (flow.zip inputLoad).map (PassLoadIfFlow.step scalingFactor) := by
  refine ⟨?_, rfl⟩
  unfold PassLoadIfFlow.step passLoadIfFlow.step PassLoadIfFlow.effectivelyZero
  tie

theorem gen_eq_DissolvedNutrients {α} [Num α] (emc dwc qf sf : α) :
    DissolvedNutrients.step emc dwc (qf, sf) = (let r := dissolvedNutrients.step emc dwc qf sf; ⟨r.1, r.2.1, r.2.2⟩) ∧
    dissolvedNutrients.guard emc dwc = false := ⟨rfl, rfl⟩

theorem gen_eq_ParticulateNutrients {α} [Num α] (p : ParticulateNutrients.Params α) (a b c d e : α) :
    ParticulateNutrients.step p (a, b, c, d, e) =
      (let r := particulateNutrients.step p.area p.nutSurfSoilConc p.hillDeliveryRatio p.nutrientEnrichmentRatio
          p.nutSubSoilConc p.nutrientEnrichmentRatioGully p.gullyDeliveryRatio p.nutrientDWC p.doPCreamsEnrichment a b c d e
       ⟨r.1, r.2.1, r.2.2.1, r.2.2.2.1, r.2.2.2.2⟩) := by
  unfold ParticulateNutrients.step particulateNutrients.step
  tie

/-! ### models/rr/simhyd.go, surm.go -/

theorem gen_eq_Simhyd {α} [Num α] (i0 g0 t0 : α) (p : Simhyd.Params α) (st : Simhyd.State α) (rain pet : α) :
    simhyd.init i0 g0 t0 p.baseflowCoefficient p.imperviousThreshold p.infiltrationCoefficient p.infiltrationShape
      p.interflowCoefficient p.perviousFraction p.risc p.rechargeCoefficient p.smsc = (i0, g0, t0) ∧
    simhyd.guard i0 g0 t0 p.baseflowCoefficient p.imperviousThreshold p.infiltrationCoefficient p.infiltrationShape
      p.interflowCoefficient p.perviousFraction p.risc p.rechargeCoefficient p.smsc = false ∧
    simhyd.step i0 g0 t0 p.baseflowCoefficient p.imperviousThreshold p.infiltrationCoefficient p.infiltrationShape
      p.interflowCoefficient p.perviousFraction p.risc p.rechargeCoefficient p.smsc st.sms st.gw st.total rain pet =
      (let r := Simhyd.step p st (rain, pet)
       ((r.1.sms, r.1.gw, r.1.total), (r.2.runoff, r.2.quickflow, r.2.baseflow, r.2.store))) := by
  refine ⟨rfl, rfl, ?_⟩
  unfold simhyd.step Simhyd.step
  tie [Simhyd.soilEtConst]

/-- the two values computed before the loop, `fperv` and `fieldCapacity`, are `let`s of both sides -/
theorem gen_eq_Surm {α} [Num α] (i0 g0 t0 : α) (p : Surm.Params α) (st : Surm.State α) (rain pet : α) :
    surm.init i0 g0 t0 p.bfac p.coeff p.dseep p.fcFrac p.fimp p.rfac p.smax p.sq p.thres = (i0, g0, t0) ∧
    surm.guard i0 g0 t0 p.bfac p.coeff p.dseep p.fcFrac p.fimp p.rfac p.smax p.sq p.thres = false ∧
    surm.step i0 g0 t0 p.bfac p.coeff p.dseep p.fcFrac p.fimp p.rfac p.smax p.sq p.thres st.sms st.gw st.total rain pet =
      (let r := Surm.step p st (rain, pet)
       ((r.1.sms, r.1.gw, r.1.total), (r.2.runoff, r.2.quickflow, r.2.baseflow, r.2.store))) := by
  refine ⟨rfl, rfl, ?_⟩
  unfold surm.step Surm.step
  tie

/-! ### models/storage -/

theorem gen_eq_StorageParticulateTrapping {α} [Num α] (ism : α) (p : StorageParticulateTrapping.Params α)
    (storedMass inflowMass storageInflow storageOutflow storageVolume : α) :
    storageParticulateTrapping.init ism p.deltaT p.reservoirCapacity p.reservoirLength p.subtractor p.multiplier
      p.lengthDischargeFactor p.lengthDischargePower = ism ∧
    storageParticulateTrapping.guard ism p.deltaT p.reservoirCapacity p.reservoirLength p.subtractor p.multiplier
      p.lengthDischargeFactor p.lengthDischargePower = false ∧
    storageParticulateTrapping.step ism p.deltaT p.reservoirCapacity p.reservoirLength p.subtractor p.multiplier
        p.lengthDischargeFactor p.lengthDischargePower storedMass inflowMass storageInflow storageOutflow storageVolume =
      (let r := StorageParticulateTrapping.step p storedMass (inflowMass, storageInflow, storageOutflow, storageVolume)
       (r.1, (r.2.trappedMass, r.2.outflowLoad))) := by
  refine ⟨rfl, rfl, ?_⟩
  unfold storageParticulateTrapping.step StorageParticulateTrapping.step StorageParticulateTrapping.damTrappingPC
  tie

/-- `storageDissolvedDecay`: the branch `doStorageDecay < 0.5` runs `LumpedConstituentTransport` with a nil lateral series,
`x = 0.0`, `pointInput = 0.0` and a nil point-source output (`StorageDissolvedDecay.stepOff`; the hand model of the lumped
step writes the `0.0` of the flush branch as `Num.zero`: hypothesis `LitZero`); otherwise one iteration is `stepOn`. -/
theorem gen_eq_StorageDissolvedDecay {α} [Num α] (hz : LitZero α)
    (ism deltaT doStorageDecay ari bankFullFlow mfrt storedMass inflowMass storageInflow storageOutflow storageVolume : α) :
    storageDissolvedDecay.delegates ism deltaT doStorageDecay ari bankFullFlow mfrt = decide (doStorageDecay < 0.5) ∧
    storageDissolvedDecay.delegateInit ism deltaT doStorageDecay ari bankFullFlow mfrt = ism ∧
    storageDissolvedDecay.delegateFinal ism deltaT doStorageDecay ari bankFullFlow mfrt storedMass = storedMass ∧
    storageDissolvedDecay.delegateStep ism deltaT doStorageDecay ari bankFullFlow mfrt storedMass inflowMass storageOutflow storageVolume =
      (let r := StorageDissolvedDecay.stepOff deltaT storedMass (inflowMass, storageInflow, storageOutflow, storageVolume)
       (r.1, (r.2.decayedMass, r.2.outflowMass))) ∧
    storageDissolvedDecay.init ism deltaT doStorageDecay ari bankFullFlow mfrt = ism ∧
    storageDissolvedDecay.guard ism deltaT doStorageDecay ari bankFullFlow mfrt = false ∧
    storageDissolvedDecay.step ism deltaT doStorageDecay ari bankFullFlow mfrt storedMass inflowMass storageOutflow storageVolume =
      (let r := StorageDissolvedDecay.stepOn deltaT bankFullFlow mfrt storedMass (inflowMass, storageInflow, storageOutflow, storageVolume)
       (r.1, (r.2.decayedMass, r.2.outflowMass))) := by
  refine ⟨rfl, rfl, rfl, ?_, rfl, rfl, ?_⟩
  · unfold LitZero at hz
    unfold storageDissolvedDecay.delegateStep storageDissolvedDecay.delegate.step StorageDissolvedDecay.stepOff LumpedConstituent.step
      LumpedConstituent.minimumVolume
    tie [hz, apply_ite LumpedConstituent.Out.outflowLoad, apply_ite LumpedConstituent.Out.pointSourceLoad]
  · unfold storageDissolvedDecay.step StorageDissolvedDecay.stepOn
    tie

/-! ### models/generation: bank erosion, USLE, gully -/

/-- `bankErosion` = `BankErosion.step` with the mean annual erosion `BankErosion.meanAnnualBankErosion p` (computed before the
loop from the parameters alone by a helper translated from the source: a `let` of the regenerated `step`) -/
theorem gen_eq_BankErosion {α} [Num α] (p : BankErosion.Params α) (outflow totalVolume : α) :
    bankErosion.guard p.riparianVegPercent p.maxRiparianVegEffectiveness p.soilErodibility p.bankErosionCoeff p.linkSlope p.bankFullFlow p.bankMgtFactor p.sedBulkDensity p.bankHeight p.linkLength p.dailyFlowPowerFactor p.longTermAvDailyFlow p.soilPercentFine p.durationInSeconds = false ∧
    bankErosion.step p.riparianVegPercent p.maxRiparianVegEffectiveness p.soilErodibility p.bankErosionCoeff p.linkSlope p.bankFullFlow p.bankMgtFactor p.sedBulkDensity p.bankHeight p.linkLength p.dailyFlowPowerFactor p.longTermAvDailyFlow p.soilPercentFine p.durationInSeconds outflow totalVolume =
      BankErosion.step p (BankErosion.meanAnnualBankErosion p) (outflow, totalVolume) := by
  refine ⟨rfl, ?_⟩
  unfold bankErosion.step BankErosion.step BankErosion.totalKgPerSecond BankErosion.linkDischargeFactor BankErosion.meanAnnualBankErosion
  simp only [gen_unfold, Units.daysPerYear, Units.tonnesToKg, Units.percentToProportion]
  all_goals tie

/-- the constant expression `2 * math.Pi`, folded exactly and rounded once by the Go compiler (the float64
0x401921FB54442D18, printed with the shortest decimal that round-trips), is the `twoPi` of the hand model (the same float64,
written with 31 digits). The two decimals are different reals (they differ by < 5e-16), so this holds at `Float` only
(`#guard` below): at `ℝ` the hypothesis is false and the tie of `usleFine` says nothing. -/
def TwoPi (α : Type) [Num α] : Prop := (6.283185307179586 : α) = UsleFine.twoPi

/-- `usleFine` = `UsleFine.step` (the `useAvModel` branch of the source is dead code: `useAvModel := false`). The hand model
writes the quick-flow load of a day without an event as `0` (the source: `loadQ = 0` in an else-arm, or the initial `0.0` kept):
hypothesis `NatZero`. -/
theorem gen_eq_UsleFine {α} [Num α] (h2pi : TwoPi α) (h0 : NatZero α) (p : UsleFine.Params α) (i : UsleFine.In α) :
    usleFine.guard p.s p.p p.rainThreshold p.alpha p.beta p.eta p.a1 p.a2 p.a3 p.dwc p.avK p.avLS p.avFines p.area p.maxConc p.usleHSDRFine p.usleHSDRCoarse p.timeStepInSeconds = false ∧
    UsleFine.step p i =
      (let r := usleFine.step p.s p.p p.rainThreshold p.alpha p.beta p.eta p.a1 p.a2 p.a3 p.dwc p.avK p.avLS p.avFines p.area p.maxConc p.usleHSDRFine p.usleHSDRCoarse p.timeStepInSeconds i.qf i.sf i.rain i.klsc i.klscFine i.cFactor i.doy
       ⟨r.1, r.2.1, r.2.2.1, r.2.2.2.1, r.2.2.2.2.1, r.2.2.2.2.2.1, r.2.2.2.2.2.2.1, r.2.2.2.2.2.2.2⟩) := by
  refine ⟨rfl, ?_⟩
  unfold TwoPi at h2pi
  unfold NatZero at h0
  unfold usleFine.step UsleFine.step UsleFine.rFactor UsleFine.adjustedRates UsleFine.litresPerDay
  simp only [gen_unfold, OW.Gen.Prelude.ite_prod, ite_self, Units.mgPerLitreToKgPerM3, Units.squareMetresToHectares, Units.tonnesToKg,
    Units.kgToMilligram, Units.cumecsToMegaLitresPerDay, Units.megaLitresToLitres, h2pi, h0,
    Bool.false_eq_true, ↓reduceIte]
  tie_paths

/-- the constant expression `1 / 365.25` of `gullyLoadOrig`, folded by the Go compiler, is the quotient the hand model
computes at run time (equal at `Float`: IEEE division of two exactly representable numbers is the correctly rounded exact
quotient; `#guard` below. Different reals.) -/
def AnnualToDaily (α : Type) [Num α] : Prop := (0.0027378507871321013 : α) = 1 / 365.25

/-- `sednetGullyOrig` (the whole body is `sednetGully(…, gullyLoadOrig)`) = `SednetGully.step gullyLoadOrig` -/
theorem gen_eq_SednetGully {α} [Num α] (hadj : AnnualToDaily α) (p : SednetGully.Params α) (q yr ar al : α) :
    sednetGullyOrig.delegates p.yearDisturbance p.gullyEndYear p.area p.averageGullyActivityFactor p.annualAverageSedimentSupply p.percentFine p.managementPracticeFactor p.longtermRunoffFactor p.dailyRunoffPowerFactor p.sdrFine p.sdrCoarse p.timestepInSeconds = true ∧
    sednetGullyOrig.delegateStep p.yearDisturbance p.gullyEndYear p.area p.averageGullyActivityFactor p.annualAverageSedimentSupply p.percentFine p.managementPracticeFactor p.longtermRunoffFactor p.dailyRunoffPowerFactor p.sdrFine p.sdrCoarse p.timestepInSeconds q yr ar al =
      (let r := SednetGully.step SednetGully.gullyLoadOrig p (q, yr, ar, al)
       (r.fineLoad, r.coarseLoad, r.generatedFine, r.generatedCoarse)) := by
  refine ⟨rfl, ?_⟩
  unfold AnnualToDaily at hadj
  unfold sednetGullyOrig.delegateStep sednetGullyOrig.delegate.step
    SednetGully.step SednetGully.gullyLoadOrig SednetGully.dailyRunoffFactor SednetGully.activityFactor
  tie [Units.tonnesToKg, hadj, apply_ite SednetGully.Out.fineLoad, apply_ite SednetGully.Out.coarseLoad,
    apply_ite SednetGully.Out.generatedFine, apply_ite SednetGully.Out.generatedCoarse]

/-- `sednetGullyDerm` (the whole body is `sednetGully(…, gullyLoadDerm)`) = `SednetGully.step gullyLoadDerm` -/
theorem gen_eq_SednetGullyAlt {α} [Num α] (p : SednetGully.Params α) (q yr ar al : α) :
    sednetGullyDerm.delegates p.yearDisturbance p.gullyEndYear p.area p.averageGullyActivityFactor p.annualAverageSedimentSupply p.percentFine p.managementPracticeFactor p.longtermRunoffFactor p.dailyRunoffPowerFactor p.sdrFine p.sdrCoarse p.timestepInSeconds = true ∧
    sednetGullyDerm.delegateStep p.yearDisturbance p.gullyEndYear p.area p.averageGullyActivityFactor p.annualAverageSedimentSupply p.percentFine p.managementPracticeFactor p.longtermRunoffFactor p.dailyRunoffPowerFactor p.sdrFine p.sdrCoarse p.timestepInSeconds q yr ar al =
      (let r := SednetGully.step SednetGully.gullyLoadDerm p (q, yr, ar, al)
       (r.fineLoad, r.coarseLoad, r.generatedFine, r.generatedCoarse)) := by
  refine ⟨rfl, ?_⟩
  unfold sednetGullyDerm.delegateStep sednetGullyDerm.delegate.step
    SednetGully.step SednetGully.gullyLoadDerm SednetGully.activityFactor
  tie [Units.metresToMillimetres, Units.secondsPerDay, apply_ite SednetGully.Out.fineLoad, apply_ite SednetGully.Out.coarseLoad,
    apply_ite SednetGully.Out.generatedFine, apply_ite SednetGully.Out.generatedCoarse]

/-! ### models/routing: dissolved nutrient, fine sediment -/

/-- `instreamDissolvedNutrient`. Before the loop the code reads `reachVolume[0]` (`v0`: the initial `prevVolume`, a hidden
state of the loop — it is carried between iterations and not returned). The branch `doDecay < 0.5` runs
`LumpedConstituentTransport` (= `LumpedConstituent.step` with the point source per second, hypothesis `LitZero` as for
`gen_eq_LumpedConstituent`); otherwise one iteration is `InstreamDissolvedNutrient.step` with the two values the code computes
before the loop from the parameters alone, `timeStepInDays = 86400 / dur` and `pointSourcePerSecond = psl / 31557600` (the hand
model writes the `0` of the comparisons as `0.0`: hypothesis `NatZero`), the returned `storedMass` passing through unchanged. -/
theorem gen_eq_InstreamDissolvedNutrient {α} [Num α] (hz : LitZero α) (h0 : NatZero α)
    (sm dd psl lh lw ll uv dur v0 s pv up lat vol out : α) :
    instreamDissolvedNutrient.delegates sm dd psl lh lw ll uv dur v0 = decide (dd < 0.5) ∧
    instreamDissolvedNutrient.delegateInit sm dd psl lh lw ll uv dur v0 = sm ∧
    instreamDissolvedNutrient.delegateFinal sm dd psl lh lw ll uv dur v0 s = s ∧
    instreamDissolvedNutrient.delegateStep sm dd psl lh lw ll uv dur v0 s up lat vol out =
      (let r := LumpedConstituent.step (psl / 31557600) dur s (up, lat, out, vol)
       (r.1, (Num.zero, r.2.outflowLoad, r.2.pointSourceLoad))) ∧
    instreamDissolvedNutrient.init sm dd psl lh lw ll uv dur v0 = (sm, v0) ∧
    instreamDissolvedNutrient.guard sm dd psl lh lw ll uv dur v0 = false ∧
    instreamDissolvedNutrient.step dd psl lh lw ll uv dur sm pv up lat vol out =
      (let r := InstreamDissolvedNutrient.step sm (psl / 31557600) lh lw ll uv dur (86400 / dur) pv (up, lat, vol, out)
       ((sm, r.1), (r.2.decayed.getD Num.zero, r.2.downstream, r.2.pointSource.getD Num.zero))) := by
  refine ⟨rfl, rfl, rfl, ?_, rfl, rfl, ?_⟩
  · unfold LitZero at hz
    unfold instreamDissolvedNutrient.delegateStep instreamDissolvedNutrient.delegate.step LumpedConstituent.step
      LumpedConstituent.minimumVolume
    tie [hz, apply_ite LumpedConstituent.Out.outflowLoad, apply_ite LumpedConstituent.Out.pointSourceLoad]
  · unfold NatZero at h0
    unfold instreamDissolvedNutrient.step InstreamDissolvedNutrient.step
    -- the hand model repeats the guard `0 < crossAreaSection_m2` inside `travelTimeInSeconds`
    simp +contextual only [↓reduceIte]
    tie [h0, apply_ite InstreamDissolvedNutrient.Out.decayed, apply_ite InstreamDissolvedNutrient.Out.downstream,
      apply_ite InstreamDissolvedNutrient.Out.pointSource, apply_ite (Option.getD · (Num.zero : α)), Option.getD_none, Option.getD_some]

/-- the constants `units.TONNES_TO_KG = 1e3` and `units.SECONDS_PER_DAY = 24 * 60 * 60` are rendered as the integers they
are; the hand model of the fine-sediment kernel writes them `1000.0` and `86400.0` -/
def Lit1000 (α : Type) [Num α] : Prop := (1000 : α) = 1000.0
def Lit86400 (α : Type) [Num α] : Prop := (86400 : α) = 86400.0

/-- `instreamFineSediment`, main path (`bankFullFlow > 1e-8`): `init` = `initStore`, one iteration = `stepMain` (with the
`maxStorage` the code computes before the loop from the parameters alone; `LitZero`: a value the step does not compute is the
literal `0.0` or the zero value of a variable); the condition of the branch `bankFullFlow <= 1e-8` is `lumped` (its run: `gen_eq_InstreamFineSediment_lumped`). -/
theorem gen_eq_InstreamFineSediment {α} [Num α] (h1 : Lit1000 α) (h2 : Lit86400 α) (hz : LitZero α) (p : InstreamFineSediment.Params α)
    (csf tsm up lat loc vol out : α) :
    instreamFineSediment.delegates csf tsm p.bankFullFlow p.fineSedSettVelocityFlood p.floodPlainArea p.linkWidth p.linkLength p.linkSlope p.bankHeight p.propBankHeightForFineDep p.sedBulkDensity p.manningsN p.fineSedSettVelocity p.fineSedReMobVelocity p.durationInSeconds = InstreamFineSediment.lumped p ∧
    instreamFineSediment.init csf tsm p.bankFullFlow p.fineSedSettVelocityFlood p.floodPlainArea p.linkWidth p.linkLength p.linkSlope p.bankHeight p.propBankHeightForFineDep p.sedBulkDensity p.manningsN p.fineSedSettVelocity p.fineSedReMobVelocity p.durationInSeconds = (InstreamFineSediment.initStore p csf, tsm) ∧
    instreamFineSediment.guard csf tsm p.bankFullFlow p.fineSedSettVelocityFlood p.floodPlainArea p.linkWidth p.linkLength p.linkSlope p.bankHeight p.propBankHeightForFineDep p.sedBulkDensity p.manningsN p.fineSedSettVelocity p.fineSedReMobVelocity p.durationInSeconds = false ∧
    instreamFineSediment.step p.bankFullFlow p.fineSedSettVelocityFlood p.floodPlainArea p.linkWidth p.linkLength p.linkSlope p.bankHeight p.propBankHeightForFineDep p.sedBulkDensity p.manningsN p.fineSedSettVelocity p.fineSedReMobVelocity p.durationInSeconds csf tsm up lat loc vol out =
      (let r := InstreamFineSediment.stepMain p (csf, tsm) (up, lat, loc, vol, out)
       (r.1, (r.2.loadDownstream, r.2.loadToFloodplain, r.2.loadToChannelDeposition, r.2.floodplainDepositionFraction,
              r.2.channelDepositionFraction))) := by
  unfold Lit1000 at h1
  unfold Lit86400 at h2
  unfold LitZero at hz
  refine ⟨rfl, ?_, rfl, ?_⟩
  · unfold instreamFineSediment.init InstreamFineSediment.initStore InstreamFineSediment.maxStorage
    tie [h1]
  · unfold instreamFineSediment.step InstreamFineSediment.stepMain InstreamFineSediment.maxStorage
      InstreamFineSediment.floodPlainDepositionEmperical InstreamFineSediment.inChannelStorage InstreamFineSediment.stc
    tie [h1, h2, ← hz, apply_ite InstreamFineSediment.Out.loadDownstream, apply_ite InstreamFineSediment.Out.loadToFloodplain,
      apply_ite InstreamFineSediment.Out.loadToChannelDeposition, apply_ite InstreamFineSediment.Out.floodplainDepositionFraction,
      apply_ite InstreamFineSediment.Out.channelDepositionFraction]

/-- `instreamFineSediment`, the branch `bankFullFlow <= 1e-8`: it builds the temporary series `lateralAndLocalMass`
(`NewArray1DFloat64`, `CopyFrom(lateralMass)`, `AddToFloat64Array(…, reachLocalMass)`: at every step `lateralMass +
reachLocalMass`) and hands the run to `LumpedConstituentTransport` with `x = 0`, `pointInput = 0.0` and a nil point-source
output: one iteration is `InstreamFineSediment.stepLumped` (the four outputs the branch does not write keep `Num.zero`; the
hand model of the lumped step writes the `0.0` of the flush branch as `Num.zero`: hypothesis `LitZero`). -/
theorem gen_eq_InstreamFineSediment_lumped {α} [Num α] (hz : LitZero α) (p : InstreamFineSediment.Params α)
    (csf tsm s up lat loc vol out : α) :
    instreamFineSediment.delegateInit csf tsm p.bankFullFlow p.fineSedSettVelocityFlood p.floodPlainArea p.linkWidth p.linkLength p.linkSlope p.bankHeight p.propBankHeightForFineDep p.sedBulkDensity p.manningsN p.fineSedSettVelocity p.fineSedReMobVelocity p.durationInSeconds = tsm ∧
    instreamFineSediment.delegateFinal csf tsm p.bankFullFlow p.fineSedSettVelocityFlood p.floodPlainArea p.linkWidth p.linkLength p.linkSlope p.bankHeight p.propBankHeightForFineDep p.sedBulkDensity p.manningsN p.fineSedSettVelocity p.fineSedReMobVelocity p.durationInSeconds s = (csf, s) ∧
    instreamFineSediment.delegateStep csf tsm p.bankFullFlow p.fineSedSettVelocityFlood p.floodPlainArea p.linkWidth p.linkLength p.linkSlope p.bankHeight p.propBankHeightForFineDep p.sedBulkDensity p.manningsN p.fineSedSettVelocity p.fineSedReMobVelocity p.durationInSeconds s up lat loc vol out =
      (let r := InstreamFineSediment.stepLumped p (csf, s) (up, lat, loc, vol, out)
       (r.1.2, (r.2.loadDownstream, r.2.loadToFloodplain, r.2.loadToChannelDeposition, r.2.floodplainDepositionFraction,
         r.2.channelDepositionFraction))) := by
  refine ⟨rfl, rfl, ?_⟩
  unfold LitZero at hz
  unfold instreamFineSediment.delegateStep instreamFineSediment.delegate.step InstreamFineSediment.stepLumped LumpedConstituent.step
    LumpedConstituent.minimumVolume
  tie [hz, apply_ite LumpedConstituent.Out.outflowLoad, apply_ite LumpedConstituent.Out.pointSourceLoad]

/-! ### models/functions/baseflow.go -/

/-- `baseflowFilter`: the loop body is empty — one iteration has no result (`Unit`: no output is written, as in
`BaseflowFilter.run`, which returns zeros); a body that writes something changes the type of `step` -/
theorem gen_eq_BaseflowFilter {α} [Num α] (x : α) :
    baseflowFilter.step x = () ∧ baseflowFilter.guard (α := α) = false := ⟨rfl, rfl⟩

/-! ### models/climate -/

/-- `boundedLoop` (the `for` with a `break`, emitted at the head of the regenerated file) commutes with a projection `π` of the carried
tuple onto the components that decide its course (`hsim`: one pass of `body` is, under `π`, one pass of `g`): variables the source
carries besides them do not matter -/
theorem boundedLoop_sim {σ τ : Type} (body : σ → σ × Bool) (g : τ → τ × Bool) (π : σ → τ)
    (hsim : ∀ c, (π (body c).1, (body c).2) = g (π c)) :
    ∀ (n : Nat) (c : σ) (d : τ), π c = d → π (boundedLoop body n c) = boundedLoop g n d := by
  intro n
  induction n with
  | zero => intro c d h; exact h
  | succ n ih =>
    intro c d h
    subst h
    unfold boundedLoop
    have h1 := hsim c
    have h2 : (g (π c)).2 = (body c).2 := by rw [← h1]
    have h3 : (g (π c)).1 = π (body c).1 := by rw [← h1]
    simp only [h2, h3]
    split
    · rfl
    · exact ih _ _ rfl

/-- one pass of the bisection of `calcWetBulb` on the pair (rtb, dx): the new pair, and whether the loop is left -/
def bisectBody {α} [Num α] (f : α → α) (h : α) (c : α × α) : (α × α) × Bool :=
  let dx := c.2 * 0.5
  let xmid := c.1 + dx
  let fmid := f xmid
  let rtb := if 0 < h - fmid then xmid else c.1
  ((rtb, dx), decide (Num.abs dx < Climate.acc))

theorem bisect_eq_boundedLoop {α} [Num α] (f : α → α) (h : α) :
    ∀ (n : Nat) (rtb dx : α), Climate.bisect f h n rtb dx = (boundedLoop (bisectBody f h) n (rtb, dx)).1 := by
  intro n
  induction n with
  | zero => intros; rfl
  | succ n ih =>
    intro rtb dx
    unfold Climate.bisect boundedLoop bisectBody
    dsimp only
    by_cases hc : Num.abs (dx * 0.5) < (Climate.acc : α)
    · simp only [hc, ↓reduceIte, decide_true]
    · simp only [hc, ↓reduceIte, decide_false, Bool.false_eq_true]
      exact ih _ _

theorem out4_ext {α} [Num α] {a a' b b' c c' t : α} (ha : a = a') (hb : b = b') (hc : c = c') :
    (a, b, c, t - c) = (a', b', c', t - c') := by rw [ha, hb, hc]

/-- `climateVariables`: one iteration is `Climate.sample` (the Goff-Gratch vapour pressure, the dew point, the humidity ratio,
the enthalpy and the 40-step bisection with `break`, however the source distributes them over helper functions: the helpers
are unfolded, the bisection loop — whatever else it carries besides (rtb, dx), in that order, first — is shown to simulate
`Climate.bisect`). The source compares `(hEnthalpy - fmid) > 0.0`, the hand model `0 < h - fmid`: hypothesis `NatZero`. -/
theorem gen_eq_ClimateVariables {α} [Num α] (h0 : NatZero α) (elevation t rh : α) :
    climateVariables.guard elevation = false ∧
    climateVariables.step elevation t rh =
      (let r := Climate.sample (Climate.barometricPressure elevation) t rh; (r.vaporPressure, r.dewPoint, r.wetBulb, r.deltaT)) := by
  unfold NatZero at h0
  refine ⟨rfl, ?_⟩
  unfold climateVariables.step Climate.sample Climate.wetBulb
  simp only [gen_unfold, bisect_eq_boundedLoop]
  refine out4_ext ?_ ?_ ?_
  · unfold Climate.vaporPressure
    tie_paths
  · unfold Climate.dewPoint Climate.vaporPressure
    tie_paths
  · -- the loop carries (rtb, dx) alone (locals declared in the loop: /verif/harmless/h3/C20-2), or, as the source has it, the four
    -- function-level variables it assigns as well
    first
      | refine congrArg Prod.fst (boundedLoop_sim _ _ (fun (c : α × α) => c) ?_ 40 _ _ ?_)
      | refine congrArg Prod.fst (boundedLoop_sim _ _ (fun (c : α × α × _) => (c.1, c.2.1)) ?_ 40 _ _ ?_)
    · intro c
      unfold bisectBody Climate.satEnthalpy Climate.enthalpy Climate.humidityRatioActual Climate.humidityRatio
        Climate.barometricPressure Climate.vaporPressure Climate.acc
      simp only [← h0]
      tie
    · unfold Climate.dewPoint Climate.vaporPressure
      tie_paths

/-- the literal hypotheses of this file and of `GenTieBase.lean` as Boolean tests with Go's `==` -/
def litChecks (α : Type) [Num α] : List Bool :=
  [Num.feq (0.0 : α) Num.zero, Num.feq (0 : α) 0.0, Num.feq (1000 : α) 1000.0, Num.feq (86400 : α) 86400.0,
   Num.feq (6.283185307179586 : α) UsleFine.twoPi, Num.feq (0.0027378507871321013 : α) (1 / 365.25)]

#guard (litChecks Float).all id

end OW.Props.GenTie
