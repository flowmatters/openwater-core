import OW.Sim.CEntry
import OW.Props.C04Init
import OW.Kernels.Muskingum
/-!
C03, clause 3 — the exported C entry point `RunSingleModel` (libopenwater/single.go) on caller buffers gives the same outputs
and final states as the Go-API run, including when the library initialises the states itself (`centry_eq_goapi`).

LIST LEVEL. `OW.Sim.CEntry.cEntry` models the entry point over flat caller buffers; the Go API is `OW.Sim.run` on nested
arrays. BOTH SIDES SHARE THE KERNEL RUN (`Sim.run`) BY CONSTRUCTION — single.go calls the very same `FindDimensions /
ApplyParameters / InitialiseStates / Run` methods the Go API is. What is proved here is the glue of single.go: wrapping a
buffer and reading it back row-major is the identity both ways; `Run` keeps the shape of the states and outputs arrays, so
the in-place result on the caller's buffer IS the row-major image of the Go-API result; the `initStates` path, where `Run`
works on the library's own array and `CopyFrom` stores row `i` at `i·nStates` UNCHECKED (exact when the caller sized the
buffer with the model's state width, surplus columns kept for a narrower width, stores OUTSIDE the buffer for a wider one);
the error classes (unknown model name = nil-func call before any buffer is wrapped; a panic of the run = the same class).

The frame for the parameter and input buffers holds at this level by the way `Sim.run` is written — it has no way to return
them changed; on the view level it is the clause of `C04Nd.runNd_refines` that every storage other than those of states and
outputs is unchanged (Go-backed roots), and the CABI family compares both buffers after every call.
-/
namespace OW.Props.C03Entry
open OW OW.Sim OW.Sim.CEntry OW.Props.C04

section Lists
variable {α : Type}

/-- `d0` rows of `d1` elements each -/
def Reg2 (d0 d1 : Nat) (rows : List (List α)) : Prop := rows.length = d0 ∧ ∀ r ∈ rows, r.length = d1

/-- `d0` blocks of `d1` rows of `d2` elements each -/
def Reg3 (d0 d1 d2 : Nat) (x : List (List (List α))) : Prop := x.length = d0 ∧ ∀ m ∈ x, Reg2 d1 d2 m

/-- **buffer ↔ array** in the entry point's own words: `chunks_flatten_iff` (`OW/Proofs/Wrapper.lean`) read with `Reg2`, `flat2`, `unflat2` -/
theorem reg2_flat2_iff (d0 d1 : Nat) (rows : List (List α)) (buf : List α) :
    Reg2 d0 d1 rows ∧ flat2 rows = buf ↔ buf.length = d0 * d1 ∧ rows = unflat2 d0 d1 buf :=
  chunks_flatten_iff d1 d0 rows buf

theorem flat2_unflat2 (d0 d1 : Nat) (buf : List α) (h : buf.length = d0 * d1) : flat2 (unflat2 d0 d1 buf) = buf :=
  ((reg2_flat2_iff d0 d1 _ buf).mpr ⟨h, rfl⟩).2

theorem unflat2_flat2 (d0 d1 : Nat) (rows : List (List α)) (h : Reg2 d0 d1 rows) : unflat2 d0 d1 (flat2 rows) = rows :=
  ((reg2_flat2_iff d0 d1 rows _).mp ⟨h, rfl⟩).2.symm

theorem unflat2_reg (d0 d1 : Nat) (buf : List α) (h : buf.length = d0 * d1) : Reg2 d0 d1 (unflat2 d0 d1 buf) :=
  ((reg2_flat2_iff d0 d1 _ buf).mpr ⟨h, rfl⟩).1

theorem unflat3_reg (d0 d1 d2 : Nat) (buf : List α) (h : buf.length = d0 * (d1 * d2)) :
    Reg3 d0 d1 d2 (unflat3 d0 d1 d2 buf) := by
  obtain ⟨_, h2⟩ := unflat2_reg d0 (d1 * d2) buf h
  refine ⟨by simp [unflat3, chunks_length], ?_⟩
  intro m hm
  simp only [unflat3, List.mem_map] at hm
  obtain ⟨c, hc, rfl⟩ := hm
  exact unflat2_reg d1 d2 c (h2 c hc)

theorem flat3_unflat3 (d0 d1 d2 : Nat) (buf : List α) (h : buf.length = d0 * (d1 * d2)) :
    flat3 (unflat3 d0 d1 d2 buf) = buf := by
  obtain ⟨_, h2⟩ := unflat2_reg d0 (d1 * d2) buf h
  unfold flat3 unflat3
  rw [List.map_map]
  have : (chunks (d1 * d2) d0 buf).map (List.flatten ∘ chunks d2 d1) = chunks (d1 * d2) d0 buf := by
    conv => rhs; rw [← List.map_id (chunks (d1 * d2) d0 buf)]
    apply List.map_congr_left
    intro c hc
    exact flat2_unflat2 d1 d2 c (h2 c hc)
  rw [this]
  exact flat2_unflat2 d0 (d1 * d2) buf h

theorem unflat3_flat3 (d0 d1 d2 : Nat) (x : List (List (List α))) (h : Reg3 d0 d1 d2 x) :
    unflat3 d0 d1 d2 (flat3 x) = x := by
  obtain ⟨h1, h2⟩ := h
  unfold flat3 unflat3
  have hreg : Reg2 d0 (d1 * d2) (x.map List.flatten) := by
    refine ⟨by simp [h1], ?_⟩
    intro r hr
    simp only [List.mem_map] at hr
    obtain ⟨m, hm, rfl⟩ := hr
    exact ((reg2_flat2_iff d1 d2 m _).mp ⟨h2 m hm, rfl⟩).1
  rw [show chunks (d1 * d2) d0 (x.map List.flatten).flatten = _ from unflat2_flat2 d0 (d1 * d2) _ hreg, List.map_map]
  conv => rhs; rw [← List.map_id x]
  apply List.map_congr_left
  intro m hm
  exact unflat2_flat2 d1 d2 m (h2 m hm)


theorem writeBack_same_length (buf xs : List α) (h : xs.length = buf.length) : writeBack buf xs = xs := by
  simp [writeBack, h]

theorem writeBack_length (buf xs : List α) (h : xs.length ≤ buf.length) : (writeBack buf xs).length = buf.length := by
  simp [writeBack]; omega

/-- an unchecked store never changes the EXTENT of the caller's buffer (what falls outside is not part of it) -/
theorem writeC_length (buf : List α) (pos : Nat) (xs : List α) : (writeC buf pos xs).1.length = buf.length := by
  simp only [writeC, List.length_append, List.length_take, List.length_drop]
  omega

theorem writeC_eq_store {buf : List α} {pos : Nat} {xs : List α} (hf : pos + xs.length ≤ buf.length) :
    writeC buf pos xs = (store buf pos xs, false) := by
  rw [writeC, List.take_of_length_le (l := xs) (by omega), decide_eq_false (Nat.not_lt.mpr hf)]
  rfl

theorem copyBack_length (nS : Nat) : ∀ (rows : List (List α)) (i : Nat) (buf : List α) (f : Bool),
    (copyBack nS i rows buf f).1.length = buf.length
  | [], _, _, _ => rfl
  | r :: rest, i, buf, f => by
    simp only [copyBack]
    rw [copyBack_length nS rest, writeC_length]

theorem copyBack_narrow_aux (nS w : Nat) (hw : w ≤ nS) : ∀ (rows olds : List (List α)) (i : Nat) (pre post : List α) (f : Bool),
    pre.length = i * nS → (∀ r ∈ rows, r.length = w) → olds.length = rows.length → (∀ o ∈ olds, o.length = nS) →
    copyBack nS i rows (pre ++ (olds.flatten ++ post)) f =
      (pre ++ ((List.zipWith (fun r o => r ++ o.drop w) rows olds).flatten ++ post), f)
  | [], [], _, _, _, _, _, _, _, _ => rfl
  | [], _ :: _, _, _, _, _, _, _, ho, _ => nomatch ho
  | _ :: _, [], _, _, _, _, _, _, ho, _ => nomatch ho
  | r :: rest, o :: orest, i, pre, post, f, hp, hr, ho, hol => by
    obtain ⟨hrl, hr'⟩ := List.forall_mem_cons.mp hr
    obtain ⟨hon, hol'⟩ := List.forall_mem_cons.mp hol
    have hle : r.length ≤ (o ++ (orest.flatten ++ post)).length := by
      rw [List.length_append, hon, hrl]; omega
    -- after the store of `r` the prefix `pre ++ (r ++ o.drop w)` ends where row `i + 1` begins
    have hpre : (pre ++ (r ++ o.drop w)).length = (i + 1) * nS := by
      simp only [List.length_append, List.length_drop, hp, hrl, hon, Nat.succ_mul]; omega
    have ih := copyBack_narrow_aux nS w hw rest orest (i + 1) (pre ++ (r ++ o.drop w)) post f hpre hr' (Nat.succ.inj ho) hol'
    simp only [List.append_assoc] at ih
    simp only [copyBack, List.flatten_cons, List.append_assoc, List.zipWith_cons_cons]
    rw [← hp, writeC_eq_store (by rw [List.length_append]; omega), store_append, Bool.or_false, hrl,
      List.drop_append_of_le_length (by omega)]
    simp only [List.append_assoc]
    exact ih

/-- **copy-back into a WIDER buffer** (`w ≤ nStates` columns come back from the library): cell `i`'s row of the buffer
gets the library's row in its first `w` columns and keeps its own columns `w … nStates − 1`; no store falls outside. Elements
of the buffer beyond `n · nStates` (`post`) are not touched. -/
theorem copyBack_narrow (n nS w : Nat) (hw : w ≤ nS) (rows olds : List (List α)) (post : List α) (hr : Reg2 n w rows)
    (ho : Reg2 n nS olds) :
    copyBack nS 0 rows (flat2 olds ++ post) false =
      (flat2 (List.zipWith (fun r o => r ++ o.drop w) rows olds) ++ post, false) := by
  have := copyBack_narrow_aux nS w hw rows olds 0 [] post false (by simp) hr.2 (by rw [ho.1, hr.1]) ho.2
  simpa [flat2] using this

theorem zipWith_append_drop (nS : Nat) : ∀ (rows olds : List (List α)), (∀ o ∈ olds, o.length = nS) →
    olds.length = rows.length → List.zipWith (fun r o => r ++ o.drop nS) rows olds = rows
  | [], [], _, _ => rfl
  | [], _ :: _, _, ho => nomatch ho
  | _ :: _, [], _, ho => nomatch ho
  | r :: rest, o :: orest, hol, ho => by
    obtain ⟨hon, hol'⟩ := List.forall_mem_cons.mp hol
    rw [List.zipWith_cons_cons, zipWith_append_drop nS rest orest hol' (Nat.succ.inj ho),
      List.drop_eq_nil_of_le (Nat.le_of_eq hon), List.append_nil]

/-- **copy-back, buffer sized with the model's state width.** If the library's states are `n` rows of exactly `nStates`
elements and the caller's buffer holds `n · nStates` elements, `CopyFrom` leaves the row-major image of the library's states
in the buffer and no store falls outside it. -/
theorem copyBack_exact (n nS : Nat) (rows : List (List α)) (buf : List α) (hr : Reg2 n nS rows)
    (hb : buf.length = n * nS) : copyBack nS 0 rows buf false = (flat2 rows, false) := by
  have ho := unflat2_reg n nS buf hb
  have := copyBack_narrow n nS nS (Nat.le_refl _) rows (unflat2 n nS buf) [] hr ho
  rwa [flat2_unflat2 n nS buf hb, List.append_nil, List.append_nil,
    zipWith_append_drop nS rows _ ho.2 (ho.1.trans hr.1.symm)] at this

/-- **copy-back into a buffer that is too NARROW** (the library's rows are wider than `nStates`; e.g. a GR4J / Lag model
whose state width depends on its parameters and a caller that guessed it): at least one store falls OUTSIDE the caller's
states buffer. The C back-end does not check (`*[1<<30]C.double`): this is silent corruption of the caller's memory, not a
panic; the sizing of the buffer is the caller's obligation (assumption of `centry_eq_goapi`). -/
theorem copyBack_wide_oob (nS : Nat) : ∀ (rows : List (List α)) (i : Nat) (buf : List α) (f : Bool),
    rows ≠ [] → (∀ r ∈ rows, nS < r.length) → buf.length = (i + rows.length) * nS →
    (copyBack nS i rows buf f).2 = true
  | [], _, _, _, h, _, _ => absurd rfl h
  | [r], i, buf, f, _, hr, hb => by
    have : nS < r.length := hr r (by simp)
    have hlt : buf.length < i * nS + r.length := by
      rw [hb, List.length_singleton, Nat.add_mul, Nat.one_mul]; omega
    simp [copyBack, writeC, hlt]
  | r :: r' :: rest, i, buf, f, _, hr, hb => by
    simp only [copyBack]
    apply copyBack_wide_oob nS (r' :: rest) (i + 1) _ _ (by simp) (fun s hs => hr s (by simp [hs]))
    rw [writeC_length, hb]
    simp only [List.length_cons]
    congr 1; omega

theorem flatten_length_of_shape {a b : List (List α)} (h : a.map List.length = b.map List.length) :
    a.flatten.length = b.flatten.length := by
  rw [List.length_flatten, List.length_flatten, h]

theorem flat3_length_of_shape {x y : List (List (List α))}
    (h : x.map (fun m => m.map List.length) = y.map (fun m => m.map List.length)) :
    (flat3 x).length = (flat3 y).length := by
  have key : ∀ z : List (List (List α)), (flat3 z).length = ((z.map (fun m => m.map List.length)).map List.sum).sum := by
    intro z
    simp [flat3, List.length_flatten, List.map_map, Function.comp_def]
  rw [key, key, h]

/-- an `n × w` array is one whose shape (the row lengths, as `run_shape` speaks of them) is `n` times `w` -/
theorem reg2_iff_shape {d0 d1 : Nat} {rows : List (List α)} :
    Reg2 d0 d1 rows ↔ rows.map List.length = List.replicate d0 d1 := by
  constructor
  · rintro ⟨rfl, h⟩
    exact List.map_eq_replicate_iff.mpr h
  · intro h
    have hl : rows.length = d0 := by simpa using congrArg List.length h
    exact ⟨hl, List.map_eq_replicate_iff.mp (hl ▸ h)⟩

end Lists

section Shape
variable {α : Type} [Num α]

/-- **`Run` keeps the shapes.** A successful run returns a states array with the row lengths of the array it ran on and an
outputs array with the row lengths of the one it was given: every write of the wrapper is an overwrite inside a row. -/
theorem run_shape {km : KModel α} {spec : ParamSpec} {x : RunIn α} {r : RunOut α} (h : run km spec x = .ok r) :
    r.outputs.map (fun m => m.map List.length) = x.outputs.map (fun m => m.map List.length) ∧
    ∀ s, x.states = some s → r.states.map List.length = s.map List.length := by
  obtain ⟨lay, s0, _, hs, hr⟩ := (run_ok_iff km spec x r).mp h
  obtain ⟨h1, h2⟩ := runCells_shape hr
  refine ⟨h2, fun s hx => ?_⟩
  simp only [startStates, hx] at hs
  cases hs
  exact h1

end Shape

section Entry
variable {α : Type} [Num α]

/-- the caller's obligation (the C side cannot check it): every buffer holds exactly the product of its extents -/
structure BufsOK (e : Extents) (b : Bufs α) : Prop where
  inputs : b.inputs.length = e.nInputSets * (e.nInputs * e.nTimesteps)
  params : b.params.length = e.nParameters * e.nParameterSets
  states : ∀ sb, b.states = some sb → sb.length = e.nCells * e.nStates
  outputs : b.outputs.length = e.nOutputCells * (e.nOutputs * e.nOutputTimesteps)

/-- a NULL states pointer is only legitimate when the library initialises the states or the states array is empty -/
def NullOK (e : Extents) (init : Bool) (b : Bufs α) : Prop := init = false → b.states = none → e.nCells * e.nStates = 0

/-- **Unknown model name.** `sim.Catalog[gName]` is the nil func value and calling it is Go's nil-pointer panic — at the top
of the entry point, before any buffer is wrapped: nothing has been written when the process dies. -/
theorem centry_unknown_model (cat : String → Option (KModel α × ParamSpec)) (name : String) (h : cat name = none)
    (e : Extents) (init : Bool) (b : Bufs α) : cEntry cat name e init b = .error "nil" := by
  simp [cEntry, h]

/-- a model that is in the catalogue and a states pointer that may be dereferenced: the entry point is the Go-API run of
the wrapped arrays followed by the stores into the caller's buffers — in place for outputs (and states, unless
`initStates`), the unchecked copy-back for `initStates` with a pointer -/
theorem cEntry_eq {cat : String → Option (KModel α × ParamSpec)} {name : String} {km : KModel α} {spec : ParamSpec}
    (hcat : cat name = some (km, spec)) {e : Extents} {init : Bool} {b : Bufs α} (hnull : NullOK e init b) :
    cEntry cat name e init b = (run km spec (goArgs e init b)).map fun r =>
      { bufs := { inputs := b.inputs, params := b.params, outputs := writeBack b.outputs (flat3 r.outputs),
                  states := if init then b.states.map fun sb => (copyBack e.nStates 0 r.states sb false).1
                            else b.states.map fun sb => writeBack sb (flat2 r.states) },
        oob := init && (b.states.map fun sb => (copyBack e.nStates 0 r.states sb false).2).getD false } := by
  unfold cEntry
  simp only [hcat]
  rw [if_neg fun ⟨h1, h2, h3⟩ => h3 (hnull h1 h2)]
  cases run km spec (goArgs e init b) with
  | error c => rfl
  | ok r => cases init <;> cases b.states <;> rfl

/-- **The entry point, whatever the width of the library's states.** With the buffers sized by their extents: the entry
point panics exactly when the Go-API run of the wrapped arrays panics, with the same class; otherwise the parameter and
input buffers are as before, the outputs buffer is the row-major image of the Go-API outputs, and the states buffer is
the row-major image of the Go-API final states (states given), untouched (`initStates`, NULL pointer), or the result of
the unchecked row-by-row `CopyFrom` of the Go-API final states (`initStates`, pointer given; `copyBack_exact` /
`copyBack_narrow` / `copyBack_wide_oob` say what that is). -/
theorem centry_spec (cat : String → Option (KModel α × ParamSpec)) (name : String) (km : KModel α) (spec : ParamSpec)
    (hcat : cat name = some (km, spec)) (e : Extents) (init : Bool) (b : Bufs α) (hb : BufsOK e b) (hnull : NullOK e init b) :
    cEntry cat name e init b = (run km spec (goArgs e init b)).map fun r =>
      { bufs := { inputs := b.inputs, params := b.params, outputs := flat3 r.outputs,
                  states := if init then b.states.map fun sb => (copyBack e.nStates 0 r.states sb false).1
                            else b.states.map fun _ => flat2 r.states },
        oob := init && (b.states.map fun sb => (copyBack e.nStates 0 r.states sb false).2).getD false } := by
  rw [cEntry_eq hcat hnull]
  cases hr : run km spec (goArgs e init b) with
  | error c => rfl
  | ok r =>
    obtain ⟨ho, hs⟩ := run_shape hr
    have hout : writeBack b.outputs (flat3 r.outputs) = flat3 r.outputs := by
      apply writeBack_same_length
      rw [flat3_length_of_shape ho]
      show (flat3 (unflat3 e.nOutputCells e.nOutputs e.nOutputTimesteps b.outputs)).length = _
      rw [flat3_unflat3 _ _ _ _ hb.outputs]
    simp only [Except.map, hout]
    cases init with
    | true => cases b.states <;> simp
    | false =>
      cases hst : b.states with
      | none => simp
      | some sb =>
        have hsl := hb.states sb hst
        have h2 := hs (unflat2 e.nCells e.nStates sb) (by simp [goArgs, hst])
        have : writeBack sb (flat2 r.states) = flat2 r.states := by
          apply writeBack_same_length
          show r.states.flatten.length = _
          rw [flatten_length_of_shape h2]
          show (flat2 (unflat2 e.nCells e.nStates sb)).length = _
          rw [flat2_unflat2 _ _ _ hsl]
        simp [this]

/-- **centry_eq_goapi (C03 clause 3, list level).** For EVERY catalogue, model name found in it, kernel, parameter layout,
extents, `initStates` flag and caller buffers sized by their extents (a NULL states pointer only with `initStates` or an
empty states array), and — for `initStates` with a states pointer — a states buffer whose row width `nStates` is the
width of the states the library initialises:

`RunSingleModel` panics exactly when the Go-API `Run` on the wrapped arrays panics (same class); otherwise after the call
* the OUTPUTS buffer is the row-major flattening of the outputs array the Go API returns,
* the STATES buffer (when the pointer is not NULL) is the row-major flattening of the final states the Go API returns —
  started from the caller's states, or from `InitialiseStates(nCells)` when `initStates`,
* the PARAMETER and INPUT buffers are what they were, and no store went outside the states buffer.

The kernel run is the same function on both sides by construction (single.go calls the model's own `Run`); the content
of the theorem is the buffer ↔ array correspondence, the shape preservation of `Run`, the `initStates` path with its
copy-back, and the frame. -/
theorem centry_eq_goapi (cat : String → Option (KModel α × ParamSpec)) (name : String) (km : KModel α) (spec : ParamSpec)
    (hcat : cat name = some (km, spec)) (e : Extents) (init : Bool) (b : Bufs α) (hb : BufsOK e b) (hnull : NullOK e init b)
    (hw : init = true → ∀ lay s0, layout spec (goArgs e init b).params = .ok lay →
      initStates km spec lay (goArgs e init b).params e.nCells = .ok s0 → ∀ row ∈ s0, row.length = e.nStates) :
    cEntry cat name e init b = (run km spec (goArgs e init b)).map fun r =>
      { bufs := { inputs := b.inputs, params := b.params, outputs := flat3 r.outputs,
                  states := b.states.map fun _ => flat2 r.states },
        oob := false } := by
  rw [centry_spec cat name km spec hcat e init b hb hnull]
  cases hr : run km spec (goArgs e init b) with
  | error c => rfl
  | ok r =>
    simp only [Except.map]
    cases init with
    | false => simp
    | true =>
      cases hst : b.states with
      | none => simp
      | some sb =>
        obtain ⟨lay, s0, hl, hs, hrc⟩ := (run_ok_iff km spec _ r).mp hr
        have hs' : initStates km spec lay (goArgs e true b).params e.nCells = .ok s0 := hs
        obtain ⟨h1, _⟩ := runCells_shape hrc
        have hreg0 : Reg2 e.nCells e.nStates s0 := ⟨(initStates_reg hs').1, hw rfl lay s0 hl hs'⟩
        have hreg : Reg2 e.nCells e.nStates r.states := reg2_iff_shape.mpr (h1.trans (reg2_iff_shape.mp hreg0))
        have hc := copyBack_exact e.nCells e.nStates r.states sb hreg (hb.states sb hst)
        simp [hc]

/-- `centry_eq_goapi` for a kernel with a fixed number of states (all catalogued models except those whose state width
depends on a parameter): the sizing hypothesis is `nStates` = that number. -/
theorem centry_eq_goapi_fixed_width (cat : String → Option (KModel α × ParamSpec)) (name : String) (km : KModel α)
    (spec : ParamSpec) (hcat : cat name = some (km, spec)) (e : Extents) (init : Bool) (b : Bufs α) (hb : BufsOK e b)
    (hnull : NullOK e init b) (hkm : ∀ p r0, km.init p = .ok r0 → r0.length = e.nStates) :
    cEntry cat name e init b = (run km spec (goArgs e init b)).map fun r =>
      { bufs := { inputs := b.inputs, params := b.params, outputs := flat3 r.outputs,
                  states := b.states.map fun _ => flat2 r.states },
        oob := false } := by
  apply centry_eq_goapi cat name km spec hcat e init b hb hnull
  intro _ lay s0 _ hi row hrow
  obtain ⟨hlen, hr⟩ := initStates_reg hi
  by_cases hn : e.nCells = 0
  · have : s0 = [] := List.eq_nil_of_length_eq_zero (hlen.trans hn)
    simp [this] at hrow
  · obtain ⟨p, r0, hp, hreg⟩ := hr hn
    rw [hreg row hrow]
    exact hkm p r0 hp

/-- **same panic, same class**: a panic of the run (a malformed array, a kernel's own panic, no input block …) is what the
caller of the C entry point gets, whatever the buffers -/
theorem centry_error (cat : String → Option (KModel α × ParamSpec)) (name : String) (km : KModel α) (spec : ParamSpec)
    (hcat : cat name = some (km, spec)) (e : Extents) (init : Bool) (b : Bufs α) (hnull : NullOK e init b) (c : String)
    (hr : run km spec (goArgs e init b) = .error c) : cEntry cat name e init b = .error c := by
  rw [cEntry_eq hcat hnull, hr]
  rfl

theorem centry_ok_iff (cat : String → Option (KModel α × ParamSpec)) (name : String) (km : KModel α) (spec : ParamSpec)
    (hcat : cat name = some (km, spec)) (e : Extents) (init : Bool) (b : Bufs α) (hnull : NullOK e init b) :
    (∃ res, cEntry cat name e init b = .ok res) ↔ ∃ r, run km spec (goArgs e init b) = .ok r := by
  rw [cEntry_eq hcat hnull]
  cases run km spec (goArgs e init b) with
  | error c => exact ⟨fun ⟨_, h⟩ => (nomatch h), fun ⟨_, h⟩ => (nomatch h)⟩
  | ok r => exact ⟨fun _ => ⟨r, rfl⟩, fun _ => ⟨_, rfl⟩⟩

/-- **frame (parameters, inputs), and the buffers keep their extents** — for ANY buffers (no sizing hypothesis): when
the entry point returns, the parameter and input buffers are what they were, a NULL states pointer is still NULL, and the
states buffer of an `initStates` call still has its length (stores that fell outside are flagged, not appended). -/
theorem centry_frame (cat : String → Option (KModel α × ParamSpec)) (name : String) (e : Extents) (init : Bool) (b : Bufs α)
    (res : Result α) (h : cEntry cat name e init b = .ok res) :
    res.bufs.params = b.params ∧ res.bufs.inputs = b.inputs ∧ (b.states = none → res.bufs.states = none) ∧
    (init = true → ∀ sb sb', b.states = some sb → res.bufs.states = some sb' → sb'.length = sb.length) := by
  cases hc : cat name with
  | none =>
    rw [centry_unknown_model cat name hc] at h
    cases h
  | some ks =>
    by_cases hn : init = false ∧ b.states = none ∧ e.nCells * e.nStates ≠ 0
    · unfold cEntry at h
      simp only [hc, if_pos hn] at h
      cases h
    · rw [cEntry_eq (km := ks.1) (spec := ks.2) hc fun h1 h2 => Decidable.byContradiction fun h3 => hn ⟨h1, h2, h3⟩] at h
      cases hr : run ks.1 ks.2 (goArgs e init b) with
      | error c =>
        rw [hr] at h
        cases h
      | ok r =>
        rw [hr] at h
        cases h
        refine ⟨rfl, rfl, fun hnone => ?_, fun hi sb sb' h1 h2 => ?_⟩
        · cases init <;> simp [hnone]
        · subst hi
          rw [h1] at h2
          cases h2
          exact copyBack_length _ _ _ _ _

/-- `initStates` with a NULL states pointer: nothing is copied anywhere (the `states != nil` guard); the outputs are the
Go-API outputs. No hypothesis about `nStates`. -/
theorem centry_init_null (cat : String → Option (KModel α × ParamSpec)) (name : String) (km : KModel α) (spec : ParamSpec)
    (hcat : cat name = some (km, spec)) (e : Extents) (b : Bufs α) (hb : BufsOK e b) (hs : b.states = none) :
    cEntry cat name e true b = (run km spec (goArgs e true b)).map fun r =>
      { bufs := { inputs := b.inputs, params := b.params, outputs := flat3 r.outputs, states := none }, oob := false } := by
  rw [centry_spec cat name km spec hcat e true b hb (fun h => by simp at h)]
  simp [hs]

end Entry

section Example
variable {α : Type} [Num α]
open OW.Kernels

/-- a catalogue holding the registry kernel `Muskingum` with its three scalar parameters (K, X, DeltaT) -/
def catM : String → Option (KModel α × ParamSpec) := fun n =>
  if n = "Muskingum" then some (Muskingum.model, [none, none, none]) else none

/-- 1 input block of 2 inputs × 1 timestep, 3 parameters × 2 sets, 2 cells × 3 states, 2 × 1 × 1 outputs -/
def eM : Extents :=
  { nInputSets := 1, nInputs := 2, nTimesteps := 1, nParameters := 3, nParameterSets := 2, nCells := 2, nStates := 3,
    nOutputCells := 2, nOutputs := 1, nOutputTimesteps := 1 }

/-- the caller's four buffers (row-major); `st` = the states pointer (`none` = NULL) -/
def bM (k0 k1 x0 x1 d0 d1 a l z : α) (st : Option (List α)) : Bufs α :=
  { inputs := [a, l], params := [k0, k1, x0, x1, d0, d1], states := st, outputs := [z, z] }

/-- the outflow of one Muskingum step -/
def outM (k x d a l p q : α) : α :=
  (Muskingum.coef k x d).a1 * (a + l) + (Muskingum.coef k x d).a2 * p + (Muskingum.coef k x d).a3 * q

omit [Num α] in
theorem bM_ok (k0 k1 x0 x1 d0 d1 a l z : α) (sb : List α) (h : sb.length = 6) :
    BufsOK eM (bM k0 k1 x0 x1 d0 d1 a l z (some sb)) :=
  ⟨rfl, rfl, fun s hs => by cases hs; exact h, rfl⟩

theorem catM_Muskingum : (catM (α := α)) "Muskingum" = some (Muskingum.model, [none, none, none]) := rfl

theorem initM_length (p r0 : List α) (h : (Muskingum.model (α := α)).init p = .ok r0) : r0.length = eM.nStates := by
  cases h
  rfl

/-- the Go-API run of the wrapped buffers, states GIVEN: cell 0 uses parameter set 0, cell 1 set 1, both the only block -/
theorem goapi_given (k0 k1 x0 x1 d0 d1 a l z s0 p0 q0 s1 p1 q1 : α) :
    run Muskingum.model [none, none, none] (goArgs eM false (bM k0 k1 x0 x1 d0 d1 a l z (some [s0, p0, q0, s1, p1, q1]))) =
      .ok { outputs := [[[outM k0 x0 d0 a l p0 q0]], [[outM k1 x1 d1 a l p1 q1]]],
            states := [[s0, a + l, outM k0 x0 d0 a l p0 q0], [s1, a + l, outM k1 x1 d1 a l p1 q1]] } := by
  simp [run, goArgs, eM, bM, unflat2, unflat3, chunks, layout, layout.go, runCells, cellStep, cellParams, cellParams.go,
    Muskingum.model, Muskingum.run, Muskingum.step, scan, outM, overwrite, bind, Except.bind, pure, Except.pure]

/-- the same call through the C entry point: the outputs buffer and the states buffer hold the row-major images of exactly those
arrays, parameters and inputs are as before -/
theorem centry_given (k0 k1 x0 x1 d0 d1 a l z s0 p0 q0 s1 p1 q1 : α) :
    cEntry catM "Muskingum" eM false (bM k0 k1 x0 x1 d0 d1 a l z (some [s0, p0, q0, s1, p1, q1])) =
      .ok { bufs := { inputs := [a, l], params := [k0, k1, x0, x1, d0, d1],
                      outputs := [outM k0 x0 d0 a l p0 q0, outM k1 x1 d1 a l p1 q1],
                      states := some [s0, a + l, outM k0 x0 d0 a l p0 q0, s1, a + l, outM k1 x1 d1 a l p1 q1] },
            oob := false } := by
  rw [centry_eq_goapi_fixed_width catM "Muskingum" Muskingum.model [none, none, none] catM_Muskingum eM false _
    (bM_ok _ _ _ _ _ _ _ _ _ _ rfl) (fun _ h => nomatch h) initM_length, goapi_given]
  rfl

/-- the Go-API run when the LIBRARY initialises the states (`states := none`): `InitialiseStates(2)` = two rows of zeros -/
theorem goapi_init (k0 k1 x0 x1 d0 d1 a l z : α) (st : Option (List α)) :
    run Muskingum.model [none, none, none] (goArgs eM true (bM k0 k1 x0 x1 d0 d1 a l z st)) =
      .ok { outputs := [[[outM k0 x0 d0 a l Num.zero Num.zero]], [[outM k1 x1 d1 a l Num.zero Num.zero]]],
            states := [[Num.zero, a + l, outM k0 x0 d0 a l Num.zero Num.zero],
                       [Num.zero, a + l, outM k1 x1 d1 a l Num.zero Num.zero]] } := by
  -- the run on the array `InitialiseStates(2)` builds (`run_nil_states`) is the run on GIVEN states, all zero
  rw [run_nil_states Muskingum.model _ (goArgs eM true (bM k0 k1 x0 x1 d0 d1 a l z st)) rfl [(0, 1), (1, 1), (2, 1)] rfl
    [[Num.zero, Num.zero, Num.zero], [Num.zero, Num.zero, Num.zero]] rfl]
  exact goapi_given k0 k1 x0 x1 d0 d1 a l z Num.zero Num.zero Num.zero Num.zero Num.zero Num.zero

/-- `initStates` with a states buffer full of whatever (`g`): after the call it holds the final states of the run that
started from the library's initial states -/
theorem centry_init (k0 k1 x0 x1 d0 d1 a l z g : α) :
    cEntry catM "Muskingum" eM true (bM k0 k1 x0 x1 d0 d1 a l z (some [g, g, g, g, g, g])) =
      .ok { bufs := { inputs := [a, l], params := [k0, k1, x0, x1, d0, d1],
                      outputs := [outM k0 x0 d0 a l Num.zero Num.zero, outM k1 x1 d1 a l Num.zero Num.zero],
                      states := some [Num.zero, a + l, outM k0 x0 d0 a l Num.zero Num.zero,
                                      Num.zero, a + l, outM k1 x1 d1 a l Num.zero Num.zero] },
            oob := false } := by
  rw [centry_eq_goapi_fixed_width catM "Muskingum" Muskingum.model [none, none, none] catM_Muskingum eM true _
    (bM_ok _ _ _ _ _ _ _ _ _ _ rfl) (fun h => nomatch h) initM_length, goapi_init]
  rfl

/-- `initStates` with the NULL pointer: the outputs are written, nothing else -/
example (k0 k1 x0 x1 d0 d1 a l z : α) :
    cEntry catM "Muskingum" eM true (bM k0 k1 x0 x1 d0 d1 a l z none) =
      .ok { bufs := { inputs := [a, l], params := [k0, k1, x0, x1, d0, d1],
                      outputs := [outM k0 x0 d0 a l Num.zero Num.zero, outM k1 x1 d1 a l Num.zero Num.zero],
                      states := none },
            oob := false } := by
  rw [centry_init_null catM "Muskingum" Muskingum.model [none, none, none] catM_Muskingum eM _
    ⟨rfl, rfl, fun s hs => (by cases hs), rfl⟩ rfl, goapi_init]
  rfl

/-- states NOT initialised by the library and a NULL pointer with a non-empty states array: the nil dereference -/
example (k0 k1 x0 x1 d0 d1 a l z : α) :
    cEntry catM "Muskingum" eM false (bM k0 k1 x0 x1 d0 d1 a l z none) = .error "nil" := by
  simp [cEntry, catM, eM, bM]

/-- a name that is not in the catalogue: Go's nil-func call, whatever the buffers -/
example (b : Bufs α) (init : Bool) : cEntry catM "NoSuchModel" eM init b = .error "nil" :=
  centry_unknown_model catM "NoSuchModel" rfl eM init b

/-- a panic of the run comes out with its class: no input block (`nInputSets = 0`) is the integer divide by zero of
`i % numInputSequences` in both worlds -/
example (k0 k1 x0 x1 d0 d1 z s0 p0 q0 s1 p1 q1 : α) :
    cEntry catM "Muskingum" { eM with nInputSets := 0 } false
      { inputs := [], params := [k0, k1, x0, x1, d0, d1], states := some [s0, p0, q0, s1, p1, q1], outputs := [z, z] } =
      .error "int-div-zero" := by
  apply centry_error catM "Muskingum" Muskingum.model [none, none, none] catM_Muskingum _ false _ (fun _ h => by cases h)
  rfl

/-- the copy-back into a states buffer sized for ONE column when the library's rows have TWO: row 0's second element lands
in row 1's slot (and is overwritten by row 1), row 1's second element falls outside the buffer -/
example (a b c d x y : α) : copyBack 1 0 [[a, b], [c, d]] [x, y] false = ([a, c], true) := rfl

example (a b c d x y : α) : (copyBack 1 0 [[a, b], [c, d]] [x, y] false).2 = true :=
  copyBack_wide_oob 1 _ 0 _ false (by simp) (by simp) rfl

/-- the copy-back into a WIDER buffer keeps the surplus columns -/
example (a b x0 x1 x2 y0 y1 y2 : α) :
    copyBack 3 0 [[a], [b]] [x0, x1, x2, y0, y1, y2] false = ([a, x1, x2, b, y1, y2], false) := by
  have := copyBack_narrow 2 3 1 (by omega) [[a], [b]] [[x0, x1, x2], [y0, y1, y2]] [] ⟨rfl, by simp⟩ ⟨rfl, by simp⟩
  simpa [flat2] using this

example (a b c d e f : α) : unflat2 3 2 [a, b, c, d, e, f] = [[a, b], [c, d], [e, f]] ∧
    unflat3 1 3 2 [a, b, c, d, e, f] = [[[a, b], [c, d], [e, f]]] ∧ flat3 [[[a, b], [c, d], [e, f]]] = [a, b, c, d, e, f] :=
  ⟨rfl, rfl, rfl⟩

end Example

end OW.Props.C03Entry



