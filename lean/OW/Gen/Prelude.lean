import OW.Num
/-!
# Prelude of the regenerated kernel definitions (hand-written, core Lean only)

`harness/cmd/owtranslate` regenerates `OW/Gen/Kernels.lean` from the Go source. The vocabulary it uses for Go slices,
int ranges and sub-step loops is defined here (`boundedLoop`, the `for` with a `break`, is emitted at the head of the regenerated
file itself), with what `sliceSet` and `sliceCopy` do to the length and the normal-form rule `ite_prod` of the tie tactic; what loops
over this vocabulary compute is in `OW/Proofs/GenLoops.lean`.

Conventions (what the generated text means):

* Go `int` ↦ `Int` (Go's int is 64-bit; overflow is OUTSIDE the model). `int(x)` ↦ `Num.toInt x`, `float64(i)` ↦ `Num.ofInt i`,
  integer `/` and `%` ↦ `Int.tdiv`, `Int.tmod` (truncation toward zero).
* Go `[]float64`, and a whole series (`data.ND1Float64`) in whole-function mode ↦ `List α`.
  `xs[i]` ↦ `sliceGet xs i`, `xs[i] = v` ↦ `xs := sliceSet xs i v`, `make([]float64, n)` ↦ `mkSlice n`, `len(xs)` /
  `xs.Len1()` ↦ `sliceLen xs`, `dst.CopyFrom(src)` ↦ `dst := copyFrom dst src`, `copy(dst[a:b], src[c:d])` ↦
  `dst := sliceCopy dst a b src c d`.
  An OUT-OF-RANGE access is a panic in Go; here `sliceGet` returns the default value and `sliceSet` leaves the list
  unchanged (a negative index is treated like index 0 by `Int.toNat`): panics of this kind are NOT part of the tie — the
  hand-written models guard them explicitly and the behavioural correspondence runs check them.
* `for i := a; i < b; i++ { … }` ↦ `forRange a b body carried`: `carried` = the tuple of the outer variables the body
  assigns; the bounds are evaluated once (the translator checks that the body cannot change them). `forRangeO` when the
  body may panic (`none`).
* `for cond { … }` / `for { … break … }` ↦ `whileLoop fuel cond body carried` : `Option` — `none` = a panic in the body OR
  the fuel ran out (Lean needs a termination measure; the fuel is an explicit argument of the generated definitions and
  the tie theorems hold for every fuel).
-/
namespace OW.Gen.Prelude
open OW

variable {α : Type}

/-- `xs[i]` -/
def sliceGet [Inhabited α] (xs : List α) (i : Int) : α := xs.getD i.toNat default
/-- `xs[i] = v` -/
def sliceSet (xs : List α) (i : Int) (v : α) : List α := xs.set i.toNat v
/-- `make([]float64, n)` -/
def mkSlice [Num α] (n : Int) : List α := List.replicate n.toNat Num.zero
/-- `len(xs)`, `xs.Len1()` -/
def sliceLen (xs : List α) : Int := Int.ofNat xs.length
/-- `dst.CopyFrom(src)`: the two arrays have the same shape (the generated wrappers allocate every output with the
length of the inputs); copying between different shapes is outside the model -/
def copyFrom (_dst src : List α) : List α := src
/-- `m.MinInt` (util/m/gen-math.go: `if a > b { return b }; return a`) -/
def minInt (a b : Int) : Int := if a > b then b else a
/-- `m.MaxInt` (util/m/gen-math.go: `if a > b { return a }; return b`) -/
def maxInt (a b : Int) : Int := if a > b then a else b
/-- `T[i]` of a package-level table of int constants; `none` = index out of range (a Go panic) -/
def intTable (t : List Int) (i : Int) : Option Int := if i < 0 then none else t[i.toNat]?

/-- `t.Get(idx)` of a table series at a constant index; `none` = index out of range (a Go panic) -/
def tableGet (t : List α) (i : Int) : Option α := if i < 0 then none else t[i.toNat]?

/-- `n` iterations from index `i` upward -/
def forRangeN {σ : Type} (body : Int → σ → σ) : Nat → Int → σ → σ
  | 0, _, c => c
  | n + 1, i, c => forRangeN body n (i + 1) (body i c)

/-- `for i := lo; i < hi; i++ { c = body i c }` -/
def forRange {σ : Type} (lo hi : Int) (body : Int → σ → σ) (c : σ) : σ := forRangeN body (hi - lo).toNat lo c

/-- `n` iterations from index `i` downward -/
def forDownN {σ : Type} (body : Int → σ → σ) : Nat → Int → σ → σ
  | 0, _, c => c
  | n + 1, i, c => forDownN body n (i - 1) (body i c)

/-- `for i := hi; i > lo; i-- { c = body i c }` -/
def forRangeDown {σ : Type} (hi lo : Int) (body : Int → σ → σ) (c : σ) : σ := forDownN body (hi - lo).toNat hi c

def forRangeNO {σ : Type} (body : Int → σ → Option σ) : Nat → Int → σ → Option σ
  | 0, _, c => some c
  | n + 1, i, c =>
    match body i c with
    | none => none
    | some c' => forRangeNO body n (i + 1) c'

/-- `for i := lo; i < hi; i++ { c = body i c }` where the body may panic (`none`) -/
def forRangeO {σ : Type} (lo hi : Int) (body : Int → σ → Option σ) (c : σ) : Option σ :=
  forRangeNO body (hi - lo).toNat lo c

/-- `for cond(c) { c = body c; if <break> { break } }`: `body` returns the new carried values and whether the loop is left;
`none` = the body panics, or the fuel ran out -/
def whileLoop {σ : Type} (cond : σ → Bool) (body : σ → Option (σ × Bool)) : Nat → σ → Option σ
  | 0, _ => none
  | fuel + 1, c =>
    if cond c then
      match body c with
      | none => none
      | some r => if r.2 then some r.1 else whileLoop cond body fuel r.1
    else some c

theorem sliceSet_length (xs : List α) (i : Int) (v : α) : sliceLen (sliceSet xs i v) = sliceLen xs := by
  simp [sliceLen, sliceSet]

/-- `copy(dst[dlo:dhi], src[slo:shi])`: Go copies `min (dhi - dlo) (shi - slo)` elements, as if through a temporary (the two
slices may overlap, or be the same). Slice bounds beyond the length are a Go panic (beyond the capacity): NOT modelled — the
segment is cut to what the lists hold, and the length of `dst` is kept. -/
def sliceCopy (dst : List α) (dlo dhi : Int) (src : List α) (slo shi : Int) : List α :=
  let seg := (((src.drop slo.toNat).take (shi - slo).toNat).take (dhi - dlo).toNat).take (dst.length - dlo.toNat)
  dst.take dlo.toNat ++ seg ++ dst.drop (dlo.toNat + seg.length)

theorem length_take_append_drop (l seg : List α) (a : Nat) (h : seg.length ≤ l.length - a) :
    (l.take a ++ seg ++ l.drop (a + seg.length)).length = l.length := by
  simp only [List.length_append, List.length_take, List.length_drop]
  omega

theorem sliceCopy_length (dst : List α) (dlo dhi : Int) (src : List α) (slo shi : Int) :
    (sliceCopy dst dlo dhi src slo shi).length = dst.length :=
  length_take_append_drop dst _ _ (List.length_take_le _ _)

/-- The regenerated code merges the branches of an `if` as a tuple (`phiN := if c then (a, b) else (a', b')`), the hand models
have one `if` per variable: a tuple chosen by one `if` is the tuple of its components, each chosen by that `if` (n-ary by nesting). -/
theorem ite_prod {β γ : Type} (c : Prop) [Decidable c] (a a' : β) (b b' : γ) :
    (if c then (a, b) else (a', b')) = (if c then a else a', if c then b else b') := by
  split <;> rfl

end OW.Gen.Prelude
