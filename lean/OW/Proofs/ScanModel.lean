import OW.Proofs.HotStart
import OW.Proofs.ScanM
import OW.Proofs.ExceptList
/-!
Kernel models as a loop over the rows of their input series. After the arity check has decoded the parameter column and the
state row, a model zips its input series to rows (`rows`), runs a loop that may panic (`run`: final loop state and output
series, or the panic class) and writes the loop state back as a state row (`enc`): `KLoop`. Causality, success of truncated runs
and hot-start continuity follow from the laws of the loop (`KLoop.Lawful`: `rows` and `run` of a concatenation, `run_prefix`,
`run_length`) by `LoopShaped.causal`, `LoopShaped.causalStrongFrom`, `RestartableWhen.hotStartWhen`; a model only has to name
its loop. `RestartableWhen` is for a state row that determines the loop state only when a side condition holds at the cut, or
only up to a simulation; `Restartable` is the case without side condition. No Mathlib (core Lean and, through OW.Proofs.Scan,
the list basics of Batteries); any `Num α`.
-/
namespace OW

variable {α : Type}

/-- output series and state row of a result (the branch tags are not part of what a call computes) -/
def KOut.body (o : KOut α) : List (List α) × List α := (o.outputs, o.states)

/-- What a kernel does with the series of one call once parameters and state row are decoded: `rows` zips the input
series to one row per timestep, `run` is the loop (final loop state and one output record per row, or the class of the Go panic),
every output series is a projection of the output records (`outs`), `enc` is the state row that holds a loop state. The loop
need not have a step: `Lag` is one operation on the whole series. (Not `Kernels.Storage.Loop`, the state of that kernel's
sub-step loop.) -/
structure KLoop (α : Type) where
  {σ ι ο : Type}
  rows : List (List α) → List ι
  run : σ → List ι → Except String (σ × List ο)
  outs : List (ο → α)
  enc : σ → List α

def KLoop.series (L : KLoop α) (os : List L.ο) : List (List α) := L.outs.map fun f => os.map f

theorem KLoop.series_append (L : KLoop α) (a b : List L.ο) : L.series (a ++ b) = catSeries (L.series a) (L.series b) := by
  simp only [KLoop.series, List.map_append, catSeries_map]

def KLoop.call (L : KLoop α) (s : L.σ) (ins : List (List α)) : Except String (List (List α) × List α) :=
  (L.run s (L.rows ins)).map fun r => (L.series r.2, L.enc r.1)

/-- `rows` on blocks of `k` equally long series. Not satisfiable for `k = 0` (`AllLen n []` holds for every `n`): a model
without input series is outside this frame; every catalogue model has one (DateGenerator: its tick series). -/
structure RowsLawful (k : Nat) {ι : Type} (rows : List (List α) → List ι) : Prop where
  cat : ∀ a b n, a.length = k → b.length = k → AllLen n a → rows (catSeries a b) = rows a ++ rows b
  length : ∀ a n, a.length = k → AllLen n a → (rows a).length = n

/-- `run_append` also says when the loop over `x ++ y` panics in `y`; `run_prefix`, read backwards: a panic of a truncated run
is a panic of the whole run. -/
structure KLoop.Lawful (L : KLoop α) (k : Nat) : Prop where
  rows : RowsLawful k L.rows
  run_append : ∀ s x y r₁, L.run s x = .ok r₁ → L.run s (x ++ y) = (L.run r₁.1 y).map fun r₂ => (r₂.1, r₁.2 ++ r₂.2)
  run_prefix : ∀ s x y r, L.run s (x ++ y) = .ok r → ∃ r₁, L.run s x = .ok r₁
  run_length : ∀ s x r, L.run s x = .ok r → r.2.length = x.length

/-- the call from the state row `st` is the loop `L` from `s`, except that it panics on a block of fewer than `k₀` steps
(`k₀ = 1`: the kernel reads row 0 before its loop; otherwise `k₀ = 0`) -/
def KModel.RunsFrom (km : KModel α) (p : List α) (k k₀ : Nat) (L : KLoop α) (st : List α) (s : L.σ) : Prop :=
  ∀ ins n, ins.length = k → AllLen n ins →
    (k₀ ≤ n → (km.run p ins st).map KOut.body = L.call s ins) ∧ (n < k₀ → ∀ o, km.run p ins st ≠ .ok o)

theorem KModel.runsFrom_zero {km : KModel α} {p : List α} {k : Nat} {L : KLoop α} {st : List α} {s : L.σ}
    (h : ∀ ins, ins.length = k → (km.run p ins st).map KOut.body = L.call s ins) : km.RunsFrom p k 0 L st s :=
  fun ins n hk _ => ⟨fun _ => h ins hk, fun hn => absurd hn (Nat.not_lt_zero n)⟩

theorem KModel.RunsFrom.ok {km : KModel α} {p : List α} {k k₀ : Nat} {L : KLoop α} {st : List α} {s : L.σ}
    (h : km.RunsFrom p k k₀ L st s) {ins : List (List α)} {n : Nat} (hk : ins.length = k) (hn : AllLen n ins) {o : KOut α}
    (ho : km.run p ins st = .ok o) :
    k₀ ≤ n ∧ ∃ r, L.run s (L.rows ins) = .ok r ∧ o.outputs = L.series r.2 ∧ o.states = L.enc r.1 := by
  obtain ⟨h₁, h₂⟩ := h ins n hk hn
  have hk₀ : k₀ ≤ n := Nat.le_of_not_lt fun hlt => h₂ hlt o ho
  have e : L.call s ins = .ok o.body := by rw [← h₁ hk₀, ho]; rfl
  obtain ⟨r, hr, e⟩ := Except.map_eq_ok.mp e
  exact ⟨hk₀, r, hr, (congrArg Prod.fst e).symm, (congrArg Prod.snd e).symm⟩

theorem KModel.RunsFrom.of_ok {km : KModel α} {p : List α} {k k₀ : Nat} {L : KLoop α} {st : List α} {s : L.σ}
    (h : km.RunsFrom p k k₀ L st s) {ins : List (List α)} {n : Nat} (hk : ins.length = k) (hn : AllLen n ins)
    (hk₀ : k₀ ≤ n) {r : L.σ × List L.ο} (hr : L.run s (L.rows ins) = .ok r) :
    ∃ o, km.run p ins st = .ok o ∧ o.outputs = L.series r.2 ∧ o.states = L.enc r.1 := by
  have e : (km.run p ins st).map KOut.body = .ok (L.series r.2, L.enc r.1) := by
    rw [(h ins n hk hn).1 hk₀, KLoop.call, hr]; rfl
  obtain ⟨o, ho, e⟩ := Except.map_eq_ok.mp e
  exact ⟨o, ho, congrArg Prod.fst e, congrArg Prod.snd e⟩

/-- **loop-shaped model**: every successful call is a lawful loop over the rows of its inputs, started from a loop state decoded
from its state row — and so is the call on any other block of as many (equally long) series. The loop is chosen per call
because it may depend on the parameter column (`Scaling`: zeros when the scale is 0, a `map` otherwise); decoding never looks at
the series, which is why `RunsFrom` can speak of every block. -/
def LoopShaped (k₀ : Nat) (km : KModel α) : Prop :=
  ∀ p ins st o, km.run p ins st = .ok o →
    ∃ (L : KLoop α) (s : L.σ), L.Lawful ins.length ∧ km.RunsFrom p ins.length k₀ L st s

theorem LoopShaped.causal {k₀ : Nat} {km : KModel α} (h : LoopShaped k₀ km) : Causal km := by
  intro p a b st n₁ n₂ o o₁ hl ha hb hr h₁
  obtain ⟨L, s, hL, hrun⟩ := h p a st o₁ h₁
  obtain ⟨-, r, hr', hout, -⟩ := hrun.ok (catSeries_length a b hl) (catSeries_allLen ha hb) hr
  obtain ⟨-, r₁, hr₁, hout₁, -⟩ := hrun.ok rfl ha h₁
  rw [hL.rows.cat a b n₁ rfl hl.symm ha, hL.run_append _ _ _ _ hr₁] at hr'
  obtain ⟨r₂, h₂, rfl⟩ := Except.map_eq_ok.mp hr'
  rw [hout, hout₁, ← hL.rows.length a n₁ rfl ha, ← hL.run_length _ _ _ hr₁]
  simp only [KLoop.series, List.map_map, Function.comp_def, List.map_append, List.length_map, List.take_left']

/-- the whole call is the loop over the rows of `a` and then of `b`; by `run_prefix` the loop over the rows of `a` has come
through, and that loop is the truncated call -/
theorem LoopShaped.causalStrongFrom {k₀ : Nat} {km : KModel α} (h : LoopShaped k₀ km) : Props.C14.CausalStrongFrom k₀ km := by
  intro p a b st n₁ n₂ o hk hl ha hb hr
  obtain ⟨L, s, hL, hrun⟩ := h p _ st o hr
  rw [catSeries_length a b hl] at hL hrun
  obtain ⟨-, r, hr', -, -⟩ := hrun.ok (catSeries_length a b hl) (catSeries_allLen ha hb) hr
  rw [hL.rows.cat a b n₁ rfl hl.symm ha] at hr'
  obtain ⟨r₁, hr₁⟩ := hL.run_prefix _ _ _ _ hr'
  obtain ⟨o₁, ho₁, -⟩ := hrun.of_ok rfl ha hk hr₁
  exact ⟨o₁, ho₁, h.causal p a b st n₁ n₂ o o₁ hl ha hb hr ho₁⟩

/-- `LoopShaped`, and whenever the row written for a state `r.1` reached from `s` satisfies the side condition `C` (of the
parameter column, the first state row and that row), a call from that row is the loop from a state `t'` that `r.1` simulates:
where the loop from `t'` comes through, so does the loop from `r.1`, with the same outputs and the same row written back.
All models but one have `t' = r.1` (`restartableWhen_of_loop`); the simulation is for Sacramento, where `t'` is `r.1` with the
buffer emptied (`restartableWhen_Sacramento`, OW/Proofs/HotStartSacramento.lean). -/
def RestartableWhen (k₀ : Nat) (km : KModel α) (C : List α → List α → List α → Prop) : Prop :=
  ∀ p ins st o, km.run p ins st = .ok o → ∃ (L : KLoop α) (s : L.σ), L.Lawful ins.length ∧
    km.RunsFrom p ins.length k₀ L st s ∧
    ∀ x r, L.run s x = .ok r → C p st (L.enc r.1) → ∃ t', km.RunsFrom p ins.length k₀ L (L.enc r.1) t' ∧
      ∀ y r', L.run t' y = .ok r' → ∃ r'', L.run r.1 y = .ok r'' ∧ r''.2 = r'.2 ∧ L.enc r''.1 = L.enc r'.1

theorem RestartableWhen.loopShaped {k₀ : Nat} {km : KModel α} {C : List α → List α → List α → Prop}
    (h : RestartableWhen k₀ km C) : LoopShaped k₀ km := fun p ins st o hr =>
  let ⟨L, s, hL, hrun, _⟩ := h p ins st o hr
  ⟨L, s, hL, hrun⟩

theorem RestartableWhen.hotStartWhen {k₀ : Nat} {km : KModel α} {C : List α → List α → List α → Prop}
    (h : RestartableWhen k₀ km C) : HotStartWhen km C := by
  intro p a b st n₁ n₂ o₁ o₂ hl ha hb h₁ h₂ hc
  obtain ⟨L, s, hL, hrun, hre⟩ := h p a st o₁ h₁
  obtain ⟨hk₁, r₁, hr₁, hout₁, hst₁⟩ := hrun.ok rfl ha h₁
  rw [hst₁] at h₂ hc
  obtain ⟨t', hrun', hsim⟩ := hre _ _ hr₁ hc
  obtain ⟨-, r₂, hr₂, hout₂, hst₂⟩ := hrun'.ok hl.symm hb h₂
  obtain ⟨r, hr, hro, hre'⟩ := hsim _ _ hr₂
  have hw : L.run s (L.rows (catSeries a b)) = .ok (r.1, r₁.2 ++ r.2) := by
    rw [hL.rows.cat a b n₁ rfl hl.symm ha, hL.run_append _ _ _ _ hr₁, hr]
    rfl
  obtain ⟨o, ho, hout, hst⟩ :=
    hrun.of_ok (catSeries_length a b hl) (catSeries_allLen ha hb) (Nat.le_trans hk₁ (Nat.le_add_right _ _)) hw
  exact ⟨o, ho, by rw [hout, hout₁, hout₂, L.series_append, hro], by rw [hst, hst₂, hre']⟩

theorem restartableWhen_of_loop {k₀ : Nat} {km : KModel α} {C : List α → List α → List α → Prop}
    (h : ∀ p ins st o, km.run p ins st = .ok o → ∃ (L : KLoop α) (s : L.σ), L.Lawful ins.length ∧
      km.RunsFrom p ins.length k₀ L st s ∧
      ∀ x r, L.run s x = .ok r → C p st (L.enc r.1) → km.RunsFrom p ins.length k₀ L (L.enc r.1) r.1) :
    RestartableWhen k₀ km C := fun p ins st o hr =>
  let ⟨L, s, hL, hrun, hre⟩ := h p ins st o hr
  ⟨L, s, hL, hrun, fun x r hx hc => ⟨_, hre x r hx hc, fun _ r' hr' => ⟨r', hr', rfl, rfl⟩⟩⟩

/-- restartable at every cut: `RestartableWhen` without side condition -/
def Restartable (km : KModel α) : Prop := RestartableWhen 0 km fun _ _ _ => True

/-- the usual way to it: the state row holds the WHOLE loop state -/
theorem restartable_of_enc {km : KModel α}
    (h : ∀ p ins st o, km.run p ins st = .ok o →
      ∃ (L : KLoop α) (s : L.σ), L.Lawful ins.length ∧ st = L.enc s ∧ ∀ s', km.RunsFrom p ins.length 0 L (L.enc s') s') :
    Restartable km :=
  restartableWhen_of_loop fun p ins st o hr =>
    let ⟨L, s, hL, hst, hrun⟩ := h p ins st o hr
    ⟨L, s, hL, hst ▸ hrun s, fun _ _ _ _ => hrun _⟩

theorem Restartable.loopShaped {km : KModel α} (h : Restartable km) : LoopShaped 0 km :=
  RestartableWhen.loopShaped h

theorem Restartable.hotStart {km : KModel α} (h : Restartable km) : HotStart km :=
  (hotStart_iff_when km).mpr (RestartableWhen.hotStartWhen h)

abbrev KLoop.total {σ ι ο : Type} (rows : List (List α) → List ι) (run : σ → List ι → σ × List ο) (outs : List (ο → α))
    (enc : σ → List α) : KLoop α where
  rows := rows
  run := fun s xs => .ok (run s xs)
  outs := outs
  enc := enc

theorem KLoop.total_lawful {σ ι ο : Type} {k : Nat} {rows : List (List α) → List ι} (hrows : RowsLawful k rows)
    (run : σ → List ι → σ × List ο) (outs : List (ο → α)) (enc : σ → List α)
    (happ : ∀ s x y, run s (x ++ y) = ((run (run s x).1 y).1, (run s x).2 ++ (run (run s x).1 y).2))
    (hlen : ∀ s x, (run s x).2.length = x.length) : (KLoop.total rows run outs enc).Lawful k where
  rows := hrows
  run_append := fun (s : σ) (x y : List ι) r₁ h₁ => by
    cases h₁
    exact congrArg Except.ok (happ s x y)
  run_prefix := fun _ _ _ _ _ => ⟨_, rfl⟩
  run_length := fun (s : σ) (x : List ι) r hr => by cases hr; exact hlen s x

/-- the blocks are given as `List.ofFn f`: for a literal `k` they reduce to list literals, on which a model's `match` computes -/
theorem KModel.runsFrom_total {km : KModel α} {p : List α} {k : Nat} {σ ι ο : Type} {rows : List (List α) → List ι}
    {run : σ → List ι → σ × List ο} {outs : List (ο → α)} {enc : σ → List α} {st : List α} {s : σ}
    (h : ∀ f : Fin k → List α, ∃ o, km.run p (List.ofFn f) st = .ok o ∧
      o.outputs = outs.map (fun g => (run s (rows (List.ofFn f))).2.map g) ∧ o.states = enc (run s (rows (List.ofFn f))).1) :
    km.RunsFrom p k 0 (KLoop.total rows run outs enc) st s :=
  KModel.runsFrom_zero fun ins hk => by
    subst hk
    rw [← List.ofFn_getElem (xs := ins)]
    obtain ⟨o, ho, hout, hst⟩ := h fun i => ins[i.1]
    rw [ho]
    exact congrArg Except.ok (Prod.ext hout hst)

abbrev KLoop.ofScan {σ ι ο : Type} (rows : List (List α) → List ι) (step : σ → ι → σ × ο) (outs : List (ο → α))
    (enc : σ → List α) : KLoop α :=
  KLoop.total rows (OW.scan step) outs enc

theorem KLoop.ofScan_lawful {σ ι ο : Type} {k : Nat} {rows : List (List α) → List ι} (hrows : RowsLawful k rows)
    (step : σ → ι → σ × ο) (outs : List (ο → α)) (enc : σ → List α) : (KLoop.ofScan rows step outs enc).Lawful k :=
  KLoop.total_lawful hrows _ _ _ (scan_append step) (scan_length step)

/-- the step of a loop whose state is seeded from the first row it meets (`none`: no row yet); InstreamDissolvedNutrientDecay
reads `prevVolume` from row 0 in this way -/
def seededStep {σ ι ο : Type} (seed : ι → σ) (step : σ → ι → σ × ο) (s : Option σ) (i : ι) : Option σ × ο :=
  (some (step (s.getD (seed i)) i).1, (step (s.getD (seed i)) i).2)

theorem scan_seededStep_some {σ ι ο : Type} (seed : ι → σ) (step : σ → ι → σ × ο) : ∀ (xs : List ι) (v : σ),
    scan (seededStep seed step) (some v) xs = (some (scan step v xs).1, (scan step v xs).2)
  | [], _ => rfl
  | x :: xs, v => by simp only [scan, seededStep, Option.getD_some, scan_seededStep_some seed step xs]

theorem scan_seededStep_none {σ ι ο : Type} (seed : ι → σ) (step : σ → ι → σ × ο) (x : ι) (xs : List ι) :
    (scan (seededStep seed step) none (x :: xs)).2 = (scan step (seed x) (x :: xs)).2 := by
  simp only [scan, seededStep, Option.getD_none, scan_seededStep_some]

abbrev KLoop.ofMap {ι ο : Type} (rows : List (List α) → List ι) (g : ι → ο) (outs : List (ο → α)) : KLoop α :=
  KLoop.total (σ := Unit) rows (fun s xs => (s, xs.map g)) outs (fun _ => [])

theorem KLoop.ofMap_lawful {ι ο : Type} {k : Nat} {rows : List (List α) → List ι} (hrows : RowsLawful k rows)
    (g : ι → ο) (outs : List (ο → α)) : (KLoop.ofMap rows g outs).Lawful k :=
  KLoop.total_lawful hrows _ _ _ (fun _ _ _ => by rw [List.map_append]) (fun _ _ => List.length_map _)

theorem map_zero_eq_zeros [Num α] {β : Type} (l : List β) : l.map (fun _ => (Num.zero : α)) = zeros l.length :=
  List.map_const' ..

/-- the early return of a kernel whose scaling parameter is zero: `m` output series of zeros, as long as the first input
series (the arrays are allocated with its length before the kernel is called); `row` is the state row the early return
writes (Storage on an invalid configuration: three zeros) -/
abbrev KLoop.ofZeros [Num α] (m : Nat) (row : List α := []) : KLoop α :=
  KLoop.total (σ := Unit) (fun ins => ins.headD []) (fun s xs => (s, xs)) (List.replicate m fun _ => Num.zero) (fun _ => row)

/-- the first of `k + 1` series as rows: the zero early returns, and StorageTrapAll, which reads only the first of its four -/
theorem rowsHead_lawful (k : Nat) : RowsLawful (α := α) (k + 1) (fun ins => ins.headD []) where
  cat := fun a b n ha hb hn => by
    match a, b, ha, hb with
    | a1 :: _, b1 :: _, _, _ => rfl
  length := fun a n ha hn => by
    match a, ha with
    | a1 :: _, _ => exact hn a1 List.mem_cons_self

theorem KLoop.ofZeros_lawful [Num α] (m k : Nat) (row : List α := []) : (KLoop.ofZeros (α := α) m row).Lawful (k + 1) :=
  KLoop.total_lawful (rowsHead_lawful k) _ _ _ (fun _ _ _ => rfl) (fun _ _ => rfl)

theorem KModel.runsFrom_zeros [Num α] {km : KModel α} {p : List α} {k m : Nat} {row st : List α}
    (h : ∀ f : Fin (k + 1) → List α, ∃ o, km.run p (List.ofFn f) st = .ok o ∧
      o.outputs = List.replicate m (zeros ((List.ofFn f).headD []).length) ∧ o.states = row) :
    km.RunsFrom p (k + 1) 0 (KLoop.ofZeros m row) st () :=
  KModel.runsFrom_total fun f =>
    let ⟨o, ho, hout, hst⟩ := h f
    ⟨o, ho, by rw [hout, List.map_replicate, map_zero_eq_zeros], hst⟩

abbrev KLoop.ofScanM {σ ι ο : Type} (rows : List (List α) → List ι) (step : σ → ι → Except String (σ × ο))
    (outs : List (ο → α)) (enc : σ → List α) : KLoop α where
  rows := rows
  run := scanM step
  outs := outs
  enc := enc

theorem KLoop.ofScanM_lawful {σ ι ο : Type} {k : Nat} {rows : List (List α) → List ι} (hrows : RowsLawful k rows)
    (step : σ → ι → Except String (σ × ο)) (outs : List (ο → α)) (enc : σ → List α) :
    (KLoop.ofScanM rows step outs enc).Lawful k where
  rows := hrows
  run_append := scanM_append step
  run_prefix := scanM_prefix step
  run_length := fun _ _ _ => scanM_length

def rows1 : List (List α) → List α
  | [a] => a
  | _ => []

def rows2 : List (List α) → List (α × α)
  | [a, b] => a.zip b
  | _ => []

def rows3 : List (List α) → List (α × α × α)
  | [a, b, c] => zip3 a b c
  | _ => []

def rows4 : List (List α) → List (α × α × α × α)
  | [a, b, c, d] => zip4 a b c d
  | _ => []

def rows5 : List (List α) → List (α × α × α × α × α)
  | [a, b, c, d, e] => zip5 a b c d e
  | _ => []

theorem rows1_lawful : RowsLawful (α := α) 1 rows1 where
  cat := fun a b n ha hb hn => by
    match a, b, ha, hb with
    | [a1], [b1], _, _ => rfl
  length := fun a n ha hn => by
    match a, ha with
    | [a1], _ => exact hn a1 List.mem_cons_self

def rowsPair {ι κ : Type} (k : Nat) (r₁ : List (List α) → List ι) (r₂ : List (List α) → List κ)
    (ins : List (List α)) : List (ι × κ) :=
  (r₁ (ins.take k)).zip (r₂ (ins.drop k))

theorem RowsLawful.pair {ι κ : Type} {k m : Nat} {r₁ : List (List α) → List ι} {r₂ : List (List α) → List κ}
    (h₁ : RowsLawful k r₁) (h₂ : RowsLawful m r₂) : RowsLawful (k + m) (rowsPair k r₁ r₂) := by
  have split : ∀ (a : List (List α)) (n : Nat), a.length = k + m → AllLen n a →
      ((a.take k).length = k ∧ AllLen n (a.take k)) ∧ (a.drop k).length = m ∧ AllLen n (a.drop k) :=
    fun a n ha hn => ⟨⟨by rw [List.length_take, ha]; omega, fun s hs => hn s (List.mem_of_mem_take hs)⟩,
      by rw [List.length_drop, ha]; omega, fun s hs => hn s (List.mem_of_mem_drop hs)⟩
  refine ⟨fun a b n ha hb hn => ?_, fun a n ha hn => ?_⟩
  · obtain ⟨⟨hat, hnt⟩, had, hnd⟩ := split a n ha hn
    have hbt : (b.take k).length = k := by rw [List.length_take, hb]; omega
    have hbd : (b.drop k).length = m := by rw [List.length_drop, hb]; omega
    simp only [rowsPair, catSeries, List.take_zipWith, List.drop_zipWith]
    rw [← catSeries, ← catSeries, h₁.cat _ _ n hat hbt hnt, h₂.cat _ _ n had hbd hnd]
    exact List.zip_append ((h₁.length _ n hat hnt).trans (h₂.length _ n had hnd).symm)
  · obtain ⟨⟨hat, hnt⟩, had, hnd⟩ := split a n ha hn
    rw [rowsPair, List.length_zip, h₁.length _ n hat hnt, h₂.length _ n had hnd, Nat.min_self]

theorem RowsLawful.map {ι κ : Type} {k : Nat} {r : List (List α) → List ι} (h : RowsLawful k r) (f : ι → κ) :
    RowsLawful k (fun ins => (r ins).map f) where
  cat := fun a b n ha hb hn => by rw [h.cat a b n ha hb hn, List.map_append]
  length := fun a n ha hn => by rw [List.length_map, h.length a n ha hn]

theorem RowsLawful.congr {ι : Type} {k : Nat} {r r' : List (List α) → List ι} (h : RowsLawful k r)
    (e : ∀ a, a.length = k → r' a = r a) : RowsLawful k r' where
  cat := fun a b n ha hb hn => by
    rw [e a ha, e b hb, e _ ((catSeries_length a b (ha.trans hb.symm)).trans ha), h.cat a b n ha hb hn]
  length := fun a n ha hn => by rw [e a ha, h.length a n ha hn]

theorem RowsLawful.init {ι : Type} {k : Nat} {r : List (List α) → List ι} (h : RowsLawful k r) (m : Nat) :
    RowsLawful (k + m) (fun ins => r (ins.take k)) where
  cat := fun a b n ha hb hn => by
    simp only [catSeries, List.take_zipWith]
    exact h.cat _ _ n (by rw [List.length_take, ha]; omega) (by rw [List.length_take, hb]; omega)
      fun s hs => hn s (List.mem_of_mem_take hs)
  length := fun a n ha hn =>
    h.length _ n (by rw [List.length_take, ha]; omega) fun s hs => hn s (List.mem_of_mem_take hs)

theorem rows2_lawful : RowsLawful (α := α) 2 rows2 :=
  (rows1_lawful.pair rows1_lawful).congr fun a ha => by
    match a, ha with
    | [a1, a2], _ => rfl

theorem rows3_lawful : RowsLawful (α := α) 3 rows3 :=
  (rows1_lawful.pair rows2_lawful).congr fun a ha => by
    match a, ha with
    | [a1, a2, a3], _ => exact zip3_eq_zip a1 a2 a3

theorem rows4_lawful : RowsLawful (α := α) 4 rows4 :=
  (rows1_lawful.pair rows3_lawful).congr fun a ha => by
    match a, ha with
    | [a1, a2, a3, a4], _ => exact zip4_eq_zip a1 a2 a3 a4

theorem rows5_lawful : RowsLawful (α := α) 5 rows5 :=
  (rows1_lawful.pair rows4_lawful).congr fun a ha => by
    match a, ha with
    | [a1, a2, a3, a4, a5], _ => exact zip5_eq_zip a1 a2 a3 a4 a5

end OW
