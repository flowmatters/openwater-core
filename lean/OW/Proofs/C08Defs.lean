import OW.Sim.H5
/-!
C08 — the definitions the property statements (`OW/Props/C08*.lean`) use that are named in the namespace of the C08 lemma
files (`OW.Proofs.C08H5`, shared by C08H5, C08Trace, C08Slice): start / step of a `Slice` entry (T2'), and a call, the
path it names, the file after one call and after a list of calls (T7, T9). Definitions only, below all lemma files. The
rest of the statements' vocabulary (`specIdx`, `selIdx`, `SelDimOK`, `CoordIn`, `BlockIn`, `inBlock`) is named in the
model's namespace: last section of `OW/Sim/H5.lean`.
-/
namespace OW.Proofs.C08H5
open OW.Nd OW.Sim.H5

/-- start / step of a `Slice` entry as Go reads them (`nil`: 0 / 1) -/
def selStart : SelDim → Int
  | some (a :: _) => a
  | _ => 0
def selStep : SelDim → Int
  | some [_, _, st] => st
  | _ => 1

/-- the file on disk, if it exists, is well-formed (`WF`: every dataset holds as many elements as its shape says) -/
def DiskWF (d : Disk) : Prop := ∀ t, d = some t → WF t

/-- one call on the file `fn` of an `H5Ref…{Filename: fn, Dataset: path, Slice: sel}`; the source arrays of the
writers live in a heap of their own (`(h, a)`: any array of the n-d model) -/
inductive Op where
  | write (h : Heap Int) (a : Arr) (path : String)
  | writeSlice (h : Heap Int) (a : Arr) (path : String) (loc : Idx)
  | create (path : String) (shape : Idx)
  /-- `Load`, `Shape`, `Exists`, `GetDatasets`, `GetGroups`: read-only (they take the file as an argument and return
  no file) -/
  | load (path : String) (sel : Option Sel)

/-- the dataset path a call names (`H5Ref….Dataset`) -/
def Op.path : Op → String
  | .write _ _ p => p
  | .writeSlice _ _ p _ => p
  | .create p _ => p
  | .load p _ => p

/-- the file after one call, WHATEVER the call's outcome (nil, returned error, panic) -/
def stepOp (narrow : Bool) (d : Disk) : Op → Disk
  | .write h a path => (write narrow h a d path).1
  | .writeSlice h a path loc => (writeSlice narrow h a d path loc).1
  | .create path shape => (create d path shape).1
  | .load _ _ => d

/-- the file after a sequence of calls -/
def applyOps (narrow : Bool) (d : Disk) (ops : List Op) : Disk := ops.foldl (stepOp narrow) d

end OW.Proofs.C08H5
