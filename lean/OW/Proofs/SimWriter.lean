import OW.Sim.Writer
import OW.Proofs.SimUpd
/-!
Helper lemmas for property C07-T2: the inductive invariant of the writer-protocol transition system
(OW/Sim/Writer.lean), for every number of generations `G ≥ 1`. Core Lean only.

The invariant `InvP G s w hd` says that a reachable state is determined by the main pc, the number `w` of written
generations and the holder `hd` of the single token (`some (h, p)`: writer `h` is the one active writer, at pc `p` — it has
received a token, is writing, or is about to send one; `none`: the main goroutine holds a token, or W(0) does not exist
yet, or the last token has been received): writers below the spawn count are `done` below `w` and `waiting` from `w` on,
except the holder; generations `< w` are written exactly once, the others not at all. `Inv` hides the two witnesses.
(`PInv` of `OW/Proofs/SimSchedule.lean` is about schedules of data actions, not about this protocol.)
The file also holds two of the three notions of execution of the protocol that the statements use, `Reachable` (from `init`)
and `Reach` (from a state to a state) — the third, `Run` (with the list of labels), is in `OW/Proofs/SimBridge.lean` — and the
progress measure `rank`, which some enabled transition lowers in every state where the main goroutine has not exited.
-/
namespace OW.Sim.Writer
open OW.Sim

/-- number of writers spawned so far -/
def spawned (G : Nat) : MPc → Nat
  | .run i => i
  | .links i => i + 1
  | _ => G

/-- number of generations whose outgoing links have been applied -/
def applied (G : Nat) : MPc → Nat
  | .run i => i
  | .links i => i
  | _ => G

def mainFree (m : MPc) : Prop := m ≠ .exited ∧ ∀ k, m ≠ .hold k

def mpcOK (G : Nat) : MPc → Prop
  | .run i => i < G
  | .links i => i < G
  | _ => True

/-- what the pc of writer `g` must be -/
def expected (sp w : Nat) (hd : Option (Nat × WPc)) (g : Nat) : WPc :=
  if sp ≤ g then .notSpawned
  else match hd with
    | some (h, p) => if g = h then p else if g < w then .done else .waiting
    | none => if g < w then .done else .waiting

/-- admissible pcs of the token-holding writer `h` when `w` generations are written -/
def pcOK (G w h : Nat) : WPc → Prop
  | .ready => h = w ∧ w < G
  | .writing => h = w ∧ w < G
  | .wrote => h + 1 = w
  | .sending => h + 1 = w
  | .got k => k + 1 = w ∧ w ≤ h
  | .bounce k => k + 1 = w ∧ w < h
  | .resend k => k + 1 = w ∧ w < h
  | _ => False

def holderOK (G : Nat) (m : MPc) (w : Nat) : Option (Nat × WPc) → Prop
  | some (h, p) => h < spawned G m ∧ mainFree m ∧ pcOK G w h p
  | none => (m = .run 0 ∧ w = 0) ∨ (m = .exited ∧ w = G) ∨ (∃ k, m = .hold k ∧ k + 1 = w ∧ w < G)

structure InvP (G : Nat) (s : State) (w : Nat) (hd : Option (Nat × WPc)) : Prop where
  wle : w ≤ G
  mok : mpcOK G s.mpc
  writes : ∀ g, s.writes g = if g < w then 1 else 0
  links : ∀ g, s.links g = decide (g < applied G s.mpc)
  purges : ∀ k, 0 < s.purges k → k < w ∧ k < applied G s.mpc
  wpc : ∀ g, s.wpc g = expected (spawned G s.mpc) w hd g
  hok : holderOK G s.mpc w hd

def Inv (G : Nat) (s : State) : Prop := ∃ w hd, InvP G s w hd

inductive Reachable (G : Nat) : State → Prop where
  | init : Reachable G init
  | step {s s' : State} {l : Label} : Reachable G s → step G s l = some s' → Reachable G s'

inductive Reach (G : Nat) : State → State → Prop where
  | refl (s : State) : Reach G s s
  | step {s s' s'' : State} {l : Label} : step G s l = some s' → Reach G s' s'' → Reach G s s''

theorem inv_init {G : Nat} (hG : 1 ≤ G) : Inv G init := by
  refine ⟨0, none, ⟨Nat.zero_le _, ?_, ?_, ?_, ?_, ?_, ?_⟩⟩
  · show 0 < G; omega
  · intro g; simp [init]
  · intro g; simp [init, applied]
  · intro k h; simp [init] at h
  · intro g; simp [init, expected, spawned]
  · exact Or.inl ⟨rfl, rfl⟩

/-- a pc other than notSpawned / waiting / done occurs only at the token holder -/
def active : WPc → Prop
  | .notSpawned => False
  | .waiting => False
  | .done => False
  | _ => True

theorem expected_none {sp w g : Nat} :
    expected sp w none g = if sp ≤ g then .notSpawned else if g < w then .done else .waiting := rfl

theorem expected_some {sp w h : Nat} (p : WPc) (hs : h < sp) :
    expected sp w (some (h, p)) = upd (expected sp w none) h p := by
  funext g
  unfold expected upd
  by_cases e : g = h
  · subst e; rw [if_neg (by omega), if_pos rfl]; exact if_pos rfl
  · rw [if_neg e]; simp only [if_neg e]

theorem expected_none_done {sp w g : Nat} (hs : g < sp) (hw : g < w) : expected sp w none g = .done := by
  rw [expected_none, if_neg (by omega), if_pos hw]

theorem expected_none_waiting {sp w g : Nat} (hs : g < sp) (hw : w ≤ g) : expected sp w none g = .waiting := by
  rw [expected_none, if_neg (by omega), if_neg (by omega)]

theorem expected_none_succ {sp w g : Nat} (hne : g ≠ w) : expected sp (w + 1) none g = expected sp w none g := by
  have : g < w + 1 ↔ g < w := by omega
  simp only [expected_none, this]

theorem expected_active {sp w : Nat} {hd : Option (Nat × WPc)} {g : Nat} {p : WPc}
    (h : expected sp w hd g = p) (ha : active p) : g < sp ∧ hd = some (g, p) := by
  unfold expected at h
  split at h
  · subst h; exact ha.elim
  · rename_i hsp
    split at h
    · rename_i h0 p0
      split at h
      · rename_i e; subst e; subst h; exact ⟨by omega, rfl⟩
      · split at h <;> (subst h; exact ha.elim)
    · split at h <;> (subst h; exact ha.elim)

theorem mainFree_run (i : Nat) : mainFree (.run i) := ⟨by simp, by simp⟩
theorem mainFree_links (i : Nat) : mainFree (.links i) := ⟨by simp, by simp⟩
theorem mainFree_final : mainFree .final := ⟨by simp, by simp⟩

theorem spawned_le (G : Nat) {m : MPc} (h : mpcOK G m) : spawned G m ≤ G := by
  cases m <;> simp [spawned, mpcOK] at * <;> omega

theorem spawned_le_applied (G : Nat) (m : MPc) : spawned G m ≤ applied G m + 1 := by
  cases m <;> simp [spawned, applied]

theorem pcOK_active {G w h : Nat} {p : WPc} (hp : pcOK G w h p) : active p := by
  cases p <;> first | exact hp.elim | trivial

theorem w_le_spawned {G : Nat} {s : State} {w : Nat} {hd : Option (Nat × WPc)} (I : InvP G s w hd) :
    w ≤ spawned G s.mpc := by
  cases hd with
  | none =>
    -- the holder-free states: before W(0) exists, after the last rendezvous, while the main goroutine holds a token
    rcases I.hok with ⟨h1, h2⟩ | ⟨h1, h2⟩ | ⟨k, h1, _, h3⟩ <;> rw [h1]
    · exact Nat.le_of_eq h2
    · exact Nat.le_of_eq h2
    · exact Nat.le_of_lt h3
  | some hp =>
    obtain ⟨h, p⟩ := hp
    obtain ⟨h1, _, h3⟩ := I.hok
    cases p <;> simp only [pcOK] at h3 <;> omega

theorem InvP.holder {G : Nat} {s : State} {w : Nat} {hd : Option (Nat × WPc)} (I : InvP G s w hd)
    {g : Nat} {p : WPc} (hp : s.wpc g = p) (ha : active p) :
    hd = some (g, p) ∧ g < spawned G s.mpc ∧ mainFree s.mpc ∧ pcOK G w g p := by
  obtain ⟨-, rfl⟩ := expected_active ((I.wpc g).symm.trans hp) ha
  exact ⟨rfl, I.hok⟩

theorem InvP.wpc_holder {G : Nat} {s : State} {w h : Nat} {p : WPc} (I : InvP G s w (some (h, p))) : s.wpc h = p := by
  rw [I.wpc h, expected_some _ I.hok.1, upd_same]

/-- W(g) has received token `k`: generation `k` is the last one written, it is not `g`'s turn before it, and the main loop
has applied the links of generation `k` (it has spawned `g > k`) -/
theorem got_safe {G : Nat} {s : State} {w : Nat} {hd : Option (Nat × WPc)} (I : InvP G s w hd) {g k : Nat}
    (h : s.wpc g = .got k) : k + 1 = w ∧ w ≤ g ∧ k < applied G s.mpc := by
  obtain ⟨-, h1, -, e, hw⟩ := I.holder h trivial
  have := spawned_le_applied G s.mpc
  exact ⟨e, hw, by omega⟩

theorem writing_safe {G : Nat} {s : State} {w : Nat} {hd : Option (Nat × WPc)} (I : InvP G s w hd) {g : Nat}
    (h : s.wpc g = .writing) : g = w ∧ g < spawned G s.mpc := by
  obtain ⟨-, h1, -, e, -⟩ := I.holder h trivial
  exact ⟨e, h1⟩

/-- the main goroutine holds token `k` (final loop, before it sends it back): no writer holds one, generation `k` is the last
one written and not the last one there is -/
theorem hold_safe {G : Nat} {s : State} {w : Nat} {hd : Option (Nat × WPc)} (I : InvP G s w hd) {k : Nat}
    (h : s.mpc = .hold k) : hd = none ∧ k + 1 = w ∧ w < G := by
  have hok := I.hok
  rw [h] at hok
  cases hd with
  | some hp => exact absurd rfl (hok.2.1.2 k)
  | none =>
    rcases hok with ⟨h1, _⟩ | ⟨h1, _⟩ | ⟨k', h1, h2, h3⟩ <;> cases h1
    exact ⟨rfl, h2, h3⟩

theorem waiting_of_expected_none {sp w g : Nat} (h : expected sp w none g = .waiting) : g < sp ∧ w ≤ g := by
  rw [expected_none] at h
  split at h
  · cases h
  · split at h
    · cases h
    · omega

theorem waiting_of_inv {G : Nat} {s : State} {w : Nat} {hd : Option (Nat × WPc)} (I : InvP G s w hd) {r : Nat}
    (hr : s.wpc r = .waiting) : r < spawned G s.mpc ∧ w ≤ r := by
  have h := (I.wpc r).symm.trans hr
  cases hd with
  | none => exact waiting_of_expected_none h
  | some hp =>
    obtain ⟨h1, _, h3⟩ := I.hok
    rw [expected_some _ h1] at h
    unfold upd at h
    split at h
    · rw [h] at h3; exact h3.elim
    · exact waiting_of_expected_none h

theorem waiting_at_w {G : Nat} {s : State} {w : Nat} {hd : Option (Nat × WPc)} (I : InvP G s w hd)
    (hsp : w < spawned G s.mpc) (hne : ∀ h p, hd = some (h, p) → w ≠ h) : s.wpc w = .waiting := by
  rw [I.wpc w]
  cases hd with
  | none => exact expected_none_waiting hsp (Nat.le_refl _)
  | some hp =>
    rw [expected_some _ I.hok.1, upd_other _ _ (hne _ _ rfl)]
    exact expected_none_waiting hsp (Nat.le_refl _)

theorem InvP.wpc_eq {G : Nat} {s : State} {w : Nat} {hd : Option (Nat × WPc)} (I : InvP G s w hd) :
    s.wpc = expected (spawned G s.mpc) w hd := funext I.wpc

theorem holder_of_mainFree {G : Nat} {m : MPc} {w : Nat} {hd : Option (Nat × WPc)} (hok : holderOK G m w hd)
    (hf : mainFree m) (h0 : m ≠ .run 0) : ∃ h p, hd = some (h, p) := by
  cases hd with
  | some hp => exact ⟨_, _, rfl⟩
  | none =>
    rcases hok with ⟨h1, _⟩ | ⟨h1, _⟩ | ⟨k, h1, _⟩
    · exact absurd h1 h0
    · exact absurd h1 hf.1
    · exact absurd h1 (hf.2 k)

theorem expected_sp_succ {sp w g : Nat} {hd : Option (Nat × WPc)} (hne : g ≠ sp) :
    expected (sp + 1) w hd g = expected sp w hd g := by
  have : sp + 1 ≤ g ↔ sp ≤ g := by omega
  simp only [expected, this]

theorem invP_spawn {G : Nat} {s s' : State} {g w : Nat} {hd : Option (Nat × WPc)} (I : InvP G s w hd)
    (h : step G s (.spawn g) = some s') : InvP G s' w (if g = 0 then some (0, .ready) else hd) := by
  simp only [step, Option.ite_none_right_eq_some, Option.some.injEq] at h
  obtain ⟨⟨hm, hg, -⟩, rfl⟩ := h
  have hwle := w_le_spawned I
  obtain ⟨wle, -, writes, hlinks, hpurges, hwpc, hok⟩ := I
  rw [hm] at hwle hwpc hlinks hpurges hok
  by_cases h0 : g = 0
  · -- W(0) starts with the token
    subst h0
    have hw0 : w = 0 := Nat.le_zero.mp hwle
    subst hw0
    have : hd = none := by
      cases hd with
      | none => rfl
      | some hp => exact absurd hok.1 (Nat.not_lt_zero _)
    subst this
    simp only [↓reduceIte]
    refine ⟨wle, hg, writes, hlinks, hpurges, ?_, Nat.zero_lt_one, mainFree_links 0, rfl, hg⟩
    intro g'
    show upd s.wpc 0 .ready g' = expected (0 + 1) 0 (some (0, .ready)) g'
    rw [expected_some _ Nat.zero_lt_one]
    by_cases e : g' = 0
    · rw [e, upd_same, upd_same]
    · rw [upd_other _ _ e, upd_other _ _ e, hwpc g', expected_sp_succ e]; rfl
  · obtain ⟨h, p, rfl⟩ := holder_of_mainFree hok (mainFree_run g) (fun e => h0 (MPc.run.inj e))
    obtain ⟨h1, _, h3⟩ := hok
    have h1 : h < g := h1
    simp only [if_neg h0]
    refine ⟨wle, hg, writes, hlinks, hpurges, ?_, Nat.lt_succ_of_lt h1, mainFree_links g, h3⟩
    intro g'
    show upd s.wpc g .waiting g' = expected (g + 1) w (some (h, p)) g'
    by_cases e : g' = g
    · rw [e, upd_same, expected_some _ (Nat.lt_succ_of_lt h1), upd_other _ _ (by omega),
        expected_none_waiting (Nat.lt_succ_self g) hwle]
    · rw [upd_other _ _ e, hwpc g', expected_sp_succ e]; rfl

/-- the main pc after the links of generation `g` -/
theorem next_main {G g : Nat} (hg : g < G) :
    spawned G (if g + 1 < G then MPc.run (g + 1) else MPc.final) = g + 1 ∧
    applied G (if g + 1 < G then MPc.run (g + 1) else MPc.final) = g + 1 ∧
    mainFree (if g + 1 < G then MPc.run (g + 1) else MPc.final) ∧
    mpcOK G (if g + 1 < G then MPc.run (g + 1) else MPc.final) := by
  split
  · exact ⟨rfl, rfl, mainFree_run _, ‹_›⟩
  · have : G = g + 1 := by omega
    exact ⟨this, this, mainFree_final, trivial⟩

theorem invP_links {G : Nat} {s s' : State} {g w : Nat} {hd : Option (Nat × WPc)} (I : InvP G s w hd)
    (h : step G s (.links g) = some s') : InvP G s' w hd := by
  simp only [step, Option.ite_none_right_eq_some, Option.some.injEq] at h
  obtain ⟨hm, rfl⟩ := h
  obtain ⟨wle, mok, writes, hlinks, hpurges, hwpc, hok⟩ := I
  rw [hm] at mok hwpc hlinks hpurges hok
  obtain ⟨hsp', hap', hmf, hmok⟩ := next_main (show g < G from mok)
  obtain ⟨h, p, rfl⟩ := holder_of_mainFree hok (mainFree_links g) MPc.noConfusion
  refine ⟨wle, hmok, writes, ?_, ?_, ?_, ?_, hmf, hok.2.2⟩
  · intro g'
    show upd s.links g true g' = decide (g' < applied G _)
    rw [hap']
    by_cases e : g' = g
    · rw [e, upd_same]; exact (decide_eq_true (Nat.lt_succ_self g)).symm
    · have : g' < g + 1 ↔ g' < g := by omega
      rw [upd_other _ _ e, hlinks g']; simp only [this]; rfl
  · intro k hk
    have : k < w ∧ k < g := hpurges k hk
    show k < w ∧ k < applied G _
    rw [hap']; omega
  · intro g'
    show s.wpc g' = expected (spawned G _) w _ g'
    rw [hsp']; exact hwpc g'
  · show h < spawned G _
    rw [hsp']; exact hok.1

/-- the invariant sees the main pc only through `spawned`, `applied`, `mpcOK` and `holderOK`: a transition that changes pcs
and keeps the two counts (a writer's own move, a rendezvous) has to re-establish the profile of writer pcs and `holderOK` only -/
theorem InvP.repc {G : Nat} {s : State} {w : Nat} {hd hd' : Option (Nat × WPc)} (I : InvP G s w hd) {m' : MPc}
    {wpc' : Nat → WPc} (hs : spawned G m' = spawned G s.mpc) (ha : applied G m' = applied G s.mpc) (hm : mpcOK G m')
    (hw : ∀ g, wpc' g = expected (spawned G s.mpc) w hd' g) (hok : holderOK G m' w hd') :
    InvP G { s with wpc := wpc', mpc := m' } w hd' :=
  ⟨I.wle, hm, I.writes, fun g => ha ▸ I.links g, fun k hk => ha ▸ I.purges k hk, fun g => hs ▸ hw g, hok⟩

theorem invP_pc {G : Nat} {s : State} {w g : Nat} {hd : Option (Nat × WPc)} {p p' : WPc} (I : InvP G s w hd)
    (hg : s.wpc g = p) (ha : active p) (hp' : pcOK G w g p → pcOK G w g p') :
    InvP G { s with wpc := upd s.wpc g p' } w (some (g, p')) := by
  obtain ⟨rfl, h1, h2, h3⟩ := I.holder hg ha
  exact I.repc rfl rfl I.mok (fun g' => by rw [I.wpc_eq, expected_some _ h1, expected_some _ h1, upd_upd])
    ⟨h1, h2, hp' h3⟩

theorem invP_wdone {G : Nat} {s s' : State} {g w : Nat} {hd : Option (Nat × WPc)} (I : InvP G s w hd)
    (h : step G s (.wdone g) = some s') : InvP G s' (w + 1) (some (g, .wrote)) := by
  simp only [step, Option.ite_none_right_eq_some, Option.some.injEq] at h
  obtain ⟨⟨-, hc⟩, rfl⟩ := h
  obtain ⟨rfl, h1, h2, rfl, hwG⟩ := I.holder hc trivial
  refine ⟨hwG, I.mok, ?_, I.links, ?_, ?_, h1, h2, rfl⟩
  · intro g'
    show upd s.writes g (s.writes g + 1) g' = if g' < g + 1 then 1 else 0
    by_cases e : g' = g
    · rw [e, upd_same, I.writes g, if_neg (Nat.lt_irrefl g), if_pos (Nat.lt_succ_self g)]
    · have : g' < g + 1 ↔ g' < g := by omega
      rw [upd_other _ _ e, I.writes g']; simp only [this]
  · intro k hk
    have := I.purges k hk
    exact ⟨by omega, this.2⟩
  · intro g'
    show upd s.wpc g .wrote g' = _
    rw [I.wpc_eq, expected_some _ h1, expected_some _ h1, upd_upd]
    by_cases e : g' = g
    · rw [e, upd_same, upd_same]
    · rw [upd_other _ _ e, upd_other _ _ e, expected_none_succ e]

theorem invP_purge {G : Nat} {s s' : State} {g k w : Nat} {hd : Option (Nat × WPc)} (I : InvP G s w hd)
    (h : step G s (.purge g k) = some s') :
    InvP G s' w (some (g, if k + 1 = g then WPc.ready else WPc.bounce k)) := by
  simp only [step, Option.ite_none_right_eq_some, Option.some.injEq] at h
  obtain ⟨⟨hg, hc⟩, rfl⟩ := h
  obtain ⟨e, hwg, hka⟩ := got_safe I hc
  have J := invP_pc I hc trivial (p' := if k + 1 = g then WPc.ready else WPc.bounce k) (fun _ => by
    split
    · exact ⟨by omega, by omega⟩
    · exact ⟨e, by omega⟩)
  refine ⟨J.wle, J.mok, J.writes, J.links, ?_, J.wpc, J.hok⟩
  intro k' hk'
  by_cases e' : k' = k
  · subst e'; exact ⟨by omega, hka⟩
  · have hk' : 0 < upd s.purges k (s.purges k + 1) k' := hk'
    rw [upd_other _ _ e'] at hk'
    exact I.purges k' hk'

theorem takeFrom_frame {G : Nat} {s s1 : State} {k : Nat} {c : Sender} (h : takeFrom G s k c = some s1) :
    ∃ wpc' mpc', s1 = { s with wpc := wpc', mpc := mpc' } ∧ spawned G mpc' = spawned G s.mpc ∧
      applied G mpc' = applied G s.mpc ∧ (mpcOK G s.mpc → mpcOK G mpc') := by
  cases c <;> simp only [takeFrom, Option.ite_none_right_eq_some, Option.some.injEq] at h <;> obtain ⟨hc, rfl⟩ := h
  · exact ⟨_, _, rfl, rfl, rfl, id⟩
  · exact ⟨_, _, rfl, rfl, rfl, id⟩
  · exact ⟨_, _, rfl, by rw [hc]; rfl, by rw [hc]; rfl, fun _ => trivial⟩

theorem wpc_release {G : Nat} {s : State} {w b : Nat} {p pb : WPc} (I : InvP G s w (some (b, p)))
    (hpb : expected (spawned G s.mpc) w none b = pb) (g : Nat) :
    upd s.wpc b pb g = expected (spawned G s.mpc) w none g := by
  rw [I.wpc_eq, expected_some _ I.hok.1, upd_upd, ← hpb, upd_eq_self]

/-- under the invariant, whoever is on the sending side (W(k) itself, a bouncing writer, the main goroutine): the token
is `w - 1`, and afterwards no writer holds it -/
theorem invP_take {G : Nat} {s s1 : State} {k w : Nat} {c : Sender} {hd : Option (Nat × WPc)} (I : InvP G s w hd)
    (h : takeFrom G s k c = some s1) :
    k + 1 = w ∧ mainFree s1.mpc ∧ ∀ g, s1.wpc g = expected (spawned G s.mpc) w none g := by
  cases c <;> simp only [takeFrom, Option.ite_none_right_eq_some, Option.some.injEq] at h <;> obtain ⟨hc, rfl⟩ := h
  · obtain ⟨rfl, h1, h2, h3⟩ := I.holder hc.2 trivial
    have h3 : k + 1 = w := h3
    exact ⟨h3, h2, wpc_release I (expected_none_done h1 (by omega))⟩
  · obtain ⟨rfl, h1, h2, h3, h4⟩ := I.holder hc.2 trivial
    exact ⟨h3, h2, wpc_release I (expected_none_waiting h1 (by omega))⟩
  · obtain ⟨rfl, h2, -⟩ := hold_safe I hc
    exact ⟨h2, mainFree_final, I.wpc⟩

theorem step_recv_iff {G : Nat} {s s' : State} {r k : Nat} {c : Sender} :
    step G s (.recv r k c) = some s' ↔
      (r < G ∧ s.wpc r = .waiting) ∧ ∃ s1, takeFrom G s k c = some s1 ∧ { s1 with wpc := upd s1.wpc r (.got k) } = s' := by
  simp only [step, Option.ite_none_right_eq_some]
  cases takeFrom G s k c <;> simp

theorem step_mrecv_iff {G : Nat} {s s' : State} {k : Nat} {c : Sender} :
    step G s (.mrecv k c) = some s' ↔
      s.mpc = .final ∧
        ∃ s1, takeFrom G s k c = some s1 ∧ { s1 with mpc := if k + 1 = G then .exited else .hold k } = s' := by
  simp only [step, Option.ite_none_right_eq_some]
  cases takeFrom G s k c <;> simp

theorem invP_recv {G : Nat} {s s' : State} {r k w : Nat} {c : Sender} {hd : Option (Nat × WPc)} (I : InvP G s w hd)
    (h : step G s (.recv r k c) = some s') : InvP G s' w (some (r, .got k)) := by
  obtain ⟨⟨-, hr⟩, s1, ht, rfl⟩ := step_recv_iff.mp h
  obtain ⟨r1, r2⟩ := waiting_of_inv I hr
  obtain ⟨hk, hmf, hw⟩ := invP_take I ht
  obtain ⟨wpc', mpc', rfl, f4, f5, f6⟩ := takeFrom_frame ht
  exact I.repc f4 f5 (f6 I.mok) (fun g => by rw [expected_some _ r1, show wpc' = _ from funext hw])
    ⟨f4 ▸ r1, hmf, hk, r2⟩

theorem invP_mrecv {G : Nat} {s s' : State} {k w : Nat} {c : Sender} {hd : Option (Nat × WPc)} (I : InvP G s w hd)
    (h : step G s (.mrecv k c) = some s') : InvP G s' w none := by
  obtain ⟨hm, s1, ht, rfl⟩ := step_mrecv_iff.mp h
  obtain ⟨hk, -, hw⟩ := invP_take I ht
  obtain ⟨wpc', mpc', rfl, -, -, -⟩ := takeFrom_frame ht
  -- `exited` and `hold k` both count all `G` writers and links, as `final` does
  have hG : G = spawned G s.mpc ∧ G = applied G s.mpc := by rw [hm]; exact ⟨rfl, rfl⟩
  have hwle := I.wle
  split
  · exact I.repc hG.1 hG.2 trivial hw (Or.inr (Or.inl ⟨rfl, by omega⟩))
  · exact I.repc hG.1 hG.2 trivial hw (Or.inr (Or.inr ⟨k, rfl, hk, by omega⟩))

theorem inv_step {G : Nat} {s s' : State} {l : Label} (hI : Inv G s) (h : step G s l = some s') : Inv G s' := by
  obtain ⟨w, hd, I⟩ := hI
  cases l with
  | spawn g => exact ⟨_, _, invP_spawn I h⟩
  | links g => exact ⟨_, _, invP_links I h⟩
  | recv r k c => exact ⟨_, _, invP_recv I h⟩
  | mrecv k c => exact ⟨_, _, invP_mrecv I h⟩
  | purge g k => exact ⟨_, _, invP_purge I h⟩
  | wdone g => exact ⟨_, _, invP_wdone I h⟩
  | resent g k | wstart g | sent g =>
    -- the holder moves on its own pc and nothing else changes
    simp only [step, Option.ite_none_right_eq_some, Option.some.injEq] at h
    obtain ⟨⟨-, hc⟩, rfl⟩ := h
    exact ⟨_, _, invP_pc I hc trivial id⟩

theorem reachable_inv {G : Nat} (hG : 1 ≤ G) {s : State} (h : Reachable G s) : Inv G s := by
  induction h with
  | init => exact inv_init hG
  | step _ hs ih => exact inv_step ih hs

theorem reach_trans {G : Nat} {a b c : State} (h1 : Reach G a b) (h2 : Reach G b c) : Reach G a c := by
  induction h1 with
  | refl => exact h2
  | step hs _ ih => exact Reach.step hs (ih h2)

theorem reachable_reach {G : Nat} {s s' : State} (hs : Reachable G s) (h : Reach G s s') : Reachable G s' := by
  induction h with
  | refl => exact hs
  | step h1 _ ih => exact ih (Reachable.step hs h1)

theorem terminal_iff {G : Nat} {s : State} :
    terminal G s = true ↔ s.mpc = .exited ∧ ∀ g, g < G → s.wpc g = .done ∧ s.writes g = 1 ∧ s.links g = true := by
  simp only [terminal, Bool.and_eq_true, decide_eq_true_eq, List.all_eq_true, List.mem_range, and_assoc]

/-- once the main goroutine has exited, `w = G` and nobody holds a token -/
theorem exited_all {G : Nat} {s : State} (hI : Inv G s) (hm : s.mpc = .exited) {g : Nat} (hg : g < G) :
    s.wpc g = .done ∧ s.writes g = 1 ∧ s.links g = true := by
  obtain ⟨w, hd, -, -, writes, links, -, wpc, hok⟩ := hI
  rw [hm] at wpc links hok
  cases hd with
  | some hp => exact absurd rfl hok.2.1.1
  | none =>
    rcases hok with ⟨h1, _⟩ | ⟨_, rfl⟩ | ⟨k, h1, _⟩
    · cases h1
    · exact ⟨(wpc g).trans (expected_none_done hg hg), (writes g).trans (if_pos hg), (links g).trans (decide_eq_true hg)⟩
    · cases h1

theorem exited_terminal {G : Nat} {s : State} (hI : Inv G s) (hm : s.mpc = .exited) : terminal G s = true :=
  terminal_iff.mpr ⟨hm, fun _ hg => exited_all hI hm hg⟩

def mainRem (G : Nat) : MPc → Nat
  | .run i => 2 * (G - i)
  | .links i => 2 * (G - i) - 1
  | _ => 0

/-- Position of the token in its cycle, numbered so that the step `progress` chooses goes down. The writer whose turn it is
takes it (`got w` 6) and writes (`ready` 5, `writing` 4); `wdone` moves the turn on to `w + 1`, which takes 10 off `rank` and
pays for the jump to `wrote` 9; then `sending` 8 and the hand-over to the next `got w` 6. A writer whose turn it is not
(`got` 9) sends it back (`bounce` 8, `resend` 7); from there, as from `none` 7 (no writer holds it), W(w) receives it: 6. -/
def stage (w : Nat) : Option (Nat × WPc) → Nat
  | some (_, .ready) => 5
  | some (_, .writing) => 4
  | some (_, .wrote) => 9
  | some (_, .sending) => 8
  | some (h, .got _) => if h = w then 6 else 9
  | some (_, .bounce _) => 8
  | some (_, .resend _) => 7
  | some (_, _) => 0
  | none => 7

/-- progress measure: remaining main-loop steps + 10 per unwritten generation + stage of the token -/
def rank (G : Nat) (m : MPc) (w : Nat) (hd : Option (Nat × WPc)) : Nat := mainRem G m + 10 * (G - w) + stage w hd

theorem rank_lt_of_stage {G : Nat} {m : MPc} {w : Nat} {hd hd' : Option (Nat × WPc)} (h : stage w hd' < stage w hd) :
    rank G m w hd' < rank G m w hd := Nat.add_lt_add_left h _

theorem stage_got (w k : Nat) : stage w (some (w, .got k)) = 6 := if_pos rfl

theorem progress_holder {G : Nat} {s : State} {w h : Nat} {p : WPc} (I : InvP G s w (some (h, p)))
    (hm : s.mpc = .final) :
    ∃ l s' w' hd', step G s l = some s' ∧ InvP G s' w' hd' ∧ rank G s'.mpc w' hd' < rank G s.mpc w (some (h, p)) := by
  have hsp : spawned G s.mpc = G := by rw [hm]; rfl
  obtain ⟨h1, h2, h3⟩ := I.hok
  have hself := I.wpc_holder
  rw [hsp] at h1
  have hwle := I.wle
  cases p with
  | notSpawned | waiting | done => exact h3.elim
  | ready =>
    have hst : step G s (.wstart h) = some _ := if_pos ⟨h1, hself⟩
    exact ⟨_, _, _, _, hst, invP_pc I hself trivial id, rank_lt_of_stage (by decide : 4 < 5)⟩
  | writing =>
    have hst : step G s (.wdone h) = some _ := if_pos ⟨h1, hself⟩
    refine ⟨_, _, _, _, hst, invP_wdone I hst, ?_⟩
    have := h3.2
    simp only [rank, stage]; omega
  | wrote =>
    have hst : step G s (.sent h) = some _ := if_pos ⟨h1, hself⟩
    exact ⟨_, _, _, _, hst, invP_pc I hself trivial id, rank_lt_of_stage (by decide : 8 < 9)⟩
  | bounce k =>
    have hst : step G s (.resent h k) = some _ := if_pos ⟨h1, hself⟩
    exact ⟨_, _, _, _, hst, invP_pc I hself trivial id, rank_lt_of_stage (by decide : 7 < 8)⟩
  | got k =>
    have hst : step G s (.purge h k) = some _ := if_pos ⟨h1, hself⟩
    refine ⟨_, _, _, _, hst, invP_purge I hst, rank_lt_of_stage ?_⟩
    show stage w (some (h, if k + 1 = h then .ready else .bounce k)) < if h = w then 6 else 9
    have := h3.1
    by_cases e : k + 1 = h
    · rw [if_pos e, if_pos (by omega)]; exact (by decide : 5 < 6)
    · rw [if_neg e, if_neg (by omega)]; exact (by decide : 8 < 9)
  | sending =>
    have hk : h + 1 = w := h3
    by_cases hwG : w < G
    · have hr := waiting_at_w I (by rw [hsp]; exact hwG) (fun h' p' e => by cases e; omega)
      have hst : step G s (.recv w h .own) = some _ :=
        step_recv_iff.mpr ⟨⟨hwG, hr⟩, _, if_pos ⟨h1, hself⟩, rfl⟩
      exact ⟨_, _, _, _, hst, invP_recv I hst, rank_lt_of_stage (by rw [stage_got]; exact (by decide : 6 < 8))⟩
    · have hst : step G s (.mrecv h .own) = some _ := step_mrecv_iff.mpr ⟨hm, _, if_pos ⟨h1, hself⟩, rfl⟩
      refine ⟨_, _, _, _, hst, invP_mrecv I hst, ?_⟩
      have : h + 1 = G := by omega
      simp only [rank, stage, mainRem, this, hm, ↓reduceIte]; omega
  | resend k =>
    obtain ⟨hk, hwh⟩ := h3
    have hwG : w < G := by omega
    have hr := waiting_at_w I (by rw [hsp]; exact hwG) (fun h' p' e => by cases e; omega)
    have hst : step G s (.recv w k (.bouncer h)) = some _ :=
      step_recv_iff.mpr ⟨⟨hwG, hr⟩, _, if_pos ⟨h1, hself⟩, rfl⟩
    exact ⟨_, _, _, _, hst, invP_recv I hst, rank_lt_of_stage (by rw [stage_got]; exact (by decide : 6 < 7))⟩

theorem progress {G : Nat} {s : State} {w : Nat} {hd : Option (Nat × WPc)} (I : InvP G s w hd)
    (hne : s.mpc ≠ .exited) :
    ∃ l s' w' hd', step G s l = some s' ∧ InvP G s' w' hd' ∧ rank G s'.mpc w' hd' < rank G s.mpc w hd := by
  have hwle := I.wle
  have hmok := I.mok
  have hok := I.hok
  cases hm : s.mpc with
  | run i =>
    rw [hm] at hmok hok
    have hn : s.wpc i = .notSpawned := by rw [I.wpc i, hm]; exact if_pos (Nat.le_refl i)
    have hst : step G s (.spawn i) = some _ := if_pos ⟨hm, hmok, hn⟩
    refine ⟨_, _, _, _, hst, invP_spawn I hst, ?_⟩
    have hs : stage w (if i = 0 then some (0, .ready) else hd) ≤ stage w hd := by
      split
      · cases hd with
        | none => exact (by decide : 5 ≤ 7)
        | some hp => subst_vars; exact absurd hok.1 (Nat.not_lt_zero _)
      · exact Nat.le_refl _
    have hi : i < G := hmok
    simp only [rank, mainRem]; omega
  | links i =>
    rw [hm] at hmok
    have hi : i < G := hmok
    have hst : step G s (.links i) = some _ := if_pos hm
    refine ⟨_, _, _, _, hst, invP_links I hst, ?_⟩
    show rank G (if i + 1 < G then .run (i + 1) else .final) w hd < _
    split <;> simp only [rank, mainRem] <;> omega
  | exited => exact absurd hm hne
  | final =>
    obtain ⟨h, p, rfl⟩ := holder_of_mainFree hok (by rw [hm]; exact mainFree_final) (by rw [hm]; exact MPc.noConfusion)
    have := progress_holder I hm
    rwa [hm] at this
  | hold k =>
    obtain ⟨rfl, hk, hwG⟩ := hold_safe I hm
    have hr := waiting_at_w I (by rw [hm]; exact hwG) nofun
    have hst : step G s (.recv w k .main) = some _ := step_recv_iff.mpr ⟨⟨hwG, hr⟩, _, if_pos hm, rfl⟩
    exact ⟨_, _, _, _, hst, invP_recv I hst, rank_lt_of_stage (by rw [stage_got]; exact (by decide : 6 < 7))⟩

theorem reach_exit {G : Nat} : ∀ (n : Nat) (s : State) (w : Nat) (hd : Option (Nat × WPc)), InvP G s w hd →
    rank G s.mpc w hd < n → ∃ s', Reach G s s' ∧ s'.mpc = .exited := by
  intro n
  induction n with
  | zero => intro s w hd _ hr; omega
  | succ n ih =>
    intro s w hd I hr
    by_cases hm : s.mpc = .exited
    · exact ⟨s, Reach.refl s, hm⟩
    · obtain ⟨l, s', w', hd', hst, J, hlt⟩ := progress I hm
      obtain ⟨s'', hre, he⟩ := ih s' w' hd' J (by omega)
      exact ⟨s'', Reach.step hst hre, he⟩

end OW.Sim.Writer
