import OW.Sim.Json
import OW.Proofs.ListLemmas
/-!
Helper lemmas for C17: `singleModel.Initialise` in closed form.

* `namedValue`, `effParams`, `paramWarnings` — the parameter column the property prescribes (named value, default
  otherwise) and one log line per missing parameter, in description order; `paramLoop_spec`.
* `effInputs`, `inputWarnings` — the input block (supplied series, zeros otherwise) and one log line per missing input;
  `inputLoop_exact`: the loop ends unallocated when nothing is supplied, with that block when the supplied series have one
  length `T`, and with an error otherwise (`inputLoop_allocated`: the same from the first supplied series on).
* `initialise_known` and its consequences; `initialise_classify`: every way `Initialise` can end.
-/
namespace OW.Sim.Json

section
variable {α : Type} [JNum α]

/-- the value the request names for `name` (first entry with that name) -/
def namedValue : List (ReqValue α) → String → Option α
  | [], _ => none
  | v :: vs, name => if v.name = name then some v.value else namedValue vs name

/-- the parameter column the property prescribes -/
def effParams (req : List (ReqValue α)) (ps : List (ParamDesc α)) : List α :=
  ps.map fun p => (namedValue req p.name).getD p.default

/-- the log line for a defaulted parameter -/
def paramLine (p : ParamDesc α) : String := p.name ++ " not found, using default=" ++ JNum.fmt6 p.default

/-- one line per described parameter the request does not name, in description order -/
def paramWarnings (req : List (ReqValue α)) (ps : List (ParamDesc α)) : List String :=
  (ps.filter fun p => (namedValue req p.name).isNone).map paramLine

theorem findValue_spec (req : List (ReqValue α)) (name : String) (d : α) :
    findValue req name d = match namedValue req name with
      | some x => (x, "")
      | none => (d, name ++ " not found, using default=" ++ JNum.fmt6 d) := by
  induction req with
  | nil => rfl
  | cons v vs ih =>
    simp only [findValue, namedValue]
    split
    · rfl
    · exact ih

theorem paramLoop_spec (req : List (ReqValue α)) (ps : List (ParamDesc α)) :
    paramLoop req ps = (effParams req ps, paramWarnings req ps) := by
  induction ps with
  | nil => rfl
  | cons p ps ih =>
    simp only [paramLoop, ih, findValue_spec, effParams, paramWarnings, List.map_cons, List.filter_cons]
    cases hnv : namedValue req p.name with
    | some x => simp
    | none => simp [String.append_eq_empty_iff, paramLine]

/-- the series the property prescribes for input `n`: the supplied one, zeros otherwise -/
def effInput (req : List (ReqInput α)) (T : Nat) (n : String) : List α :=
  (findInput req n).getD (List.replicate T (JNum.zero : α))

/-- the input block the property prescribes -/
def effInputs (req : List (ReqInput α)) (T : Nat) (names : List String) : List (List α) :=
  names.map (effInput req T)

def inputLine (n : String) : String := "Missing input: " ++ n ++ ", using 0"

/-- one line per described input the request does not supply, in description order -/
def inputWarnings (req : List (ReqInput α)) (names : List String) : List String :=
  (names.filter fun n => (findInput req n).isNone).map inputLine

/-- all supplied series among `names` have `T` values -/
def LengthsAre (req : List (ReqInput α)) (T : Nat) (names : List String) : Prop :=
  ∀ n ∈ names, ∀ vs, findInput req n = some vs → vs.length = T

/-- none of `names` is supplied -/
def NoneSupplied (req : List (ReqInput α)) (names : List String) : Prop :=
  ∀ n ∈ names, findInput req n = none

theorem effInput_length {req : List (ReqInput α)} {T : Nat} {n : String}
    (h : ∀ vs, findInput req n = some vs → vs.length = T) : (effInput req T n).length = T := by
  unfold effInput
  cases hf : findInput req n with
  | none => simp
  | some vs => simpa using h vs hf

theorem effInputs_headD_length {req : List (ReqInput α)} {T : Nat} {names : List String}
    (hlen : LengthsAre req T names) (hsome : ¬ NoneSupplied req names) :
    ((effInputs req T names).headD []).length = T := by
  cases names with
  | nil => exact absurd (fun n hn => nomatch hn) hsome
  | cons n ns => exact effInput_length (hlen n List.mem_cons_self)

omit [JNum α] in
theorem lengthsAre_cons {req : List (ReqInput α)} {T : Nat} {p : String} {ps : List String} :
    LengthsAre req T (p :: ps) ↔ (∀ vs, findInput req p = some vs → vs.length = T) ∧ LengthsAre req T ps :=
  List.forall_mem_cons

omit [JNum α] in
theorem noneSupplied_cons {req : List (ReqInput α)} {p : String} {ps : List String} :
    NoneSupplied req (p :: ps) ↔ findInput req p = none ∧ NoneSupplied req ps :=
  List.forall_mem_cons

/-- the loop once the block is allocated. `A` = the rows passed so far (the first one fixes the common length `T`), the rows
still to come are zero: the loop fails iff a series still to come has another length, and else leaves the prescribed rows -/
theorem inputLoop_allocated (req : List (ReqInput α)) (nIn T : Nat) :
    ∀ (rest : List String) (A : List (List α)) (w : List String), A ≠ [] → (A.headD []).length = T →
      (LengthsAre req T rest →
        inputLoop req nIn rest A.length ⟨some (A ++ List.replicate rest.length (List.replicate T JNum.zero)), w⟩ =
          .ok ⟨some (A ++ effInputs req T rest), w ++ inputWarnings req rest⟩) ∧
      (¬ LengthsAre req T rest → ∃ msg,
        inputLoop req nIn rest A.length ⟨some (A ++ List.replicate rest.length (List.replicate T JNum.zero)), w⟩ =
          .error msg)
  | [], A, w, _, _ => ⟨fun _ => by simp [inputLoop, effInputs, inputWarnings], fun h => absurd (fun _ h => nomatch h) h⟩
  | p :: ps, A, w, hA, hT => by
    obtain ⟨a, A', rfl⟩ := List.exists_cons_of_ne_nil hA
    have hsnoc : (a :: A') ++ List.replicate (ps.length + 1) (List.replicate T JNum.zero) =
        ((a :: A') ++ [List.replicate T JNum.zero]) ++ List.replicate ps.length (List.replicate T JNum.zero) := by
      rw [List.replicate_succ, List.append_assoc]; rfl
    rw [lengthsAre_cons, List.length_cons (a := p)]
    cases hf : findInput req p with
    | none =>
      have ih := inputLoop_allocated req nIn T ps ((a :: A') ++ [List.replicate T JNum.zero]) (w ++ [inputLine p])
        (by simp) hT
      rw [List.length_append, List.length_singleton] at ih
      simp only [inputLoop, hf, hsnoc, reduceCtorEq, false_implies, implies_true, true_and, inputLine] at ih ⊢
      simpa [effInputs, effInput, hf, inputWarnings, inputLine] using ih
    | some vs =>
      have ih := inputLoop_allocated req nIn T ps ((a :: A') ++ [vs]) w (by simp) hT
      rw [List.length_append, List.length_singleton] at ih
      by_cases hv : vs.length = T
      · have hset : setRow ((a :: A') ++ List.replicate (ps.length + 1) (List.replicate T JNum.zero)) (a :: A').length vs =
            ((a :: A') ++ [vs]) ++ List.replicate ps.length (List.replicate T JNum.zero) :=
          set_append_replicate _ _ _ _
        have hT' : a.length = T := hT
        simp only [inputLoop, hf, List.cons_append, List.headD_cons, hT', hv, ne_eq, not_true_eq_false, if_false,
          Option.some.injEq, forall_eq'] at ih ⊢
        rw [← List.cons_append, hset]
        simpa [effInputs, effInput, hf, inputWarnings, hv] using ih
      · have hT' : a.length = T := hT
        refine ⟨fun h => absurd (h.1 vs rfl) hv, fun _ => ?_⟩
        simp only [inputLoop, hf, List.cons_append, List.headD_cons, hT', ne_eq, hv, not_false_eq_true, if_true]
        exact ⟨_, rfl⟩

theorem inputLoop_exact (req : List (ReqInput α)) (nIn : Nat) :
    ∀ (rest : List String) (i : Nat) (w : List String), i + rest.length = nIn →
      (NoneSupplied req rest → inputLoop req nIn rest i ⟨none, w⟩ = .ok ⟨none, w ++ inputWarnings req rest⟩) ∧
      (∀ T, ¬ NoneSupplied req rest → LengthsAre req T rest →
        inputLoop req nIn rest i ⟨none, w⟩ =
          .ok ⟨some (List.replicate i (List.replicate T JNum.zero) ++ effInputs req T rest), w ++ inputWarnings req rest⟩) ∧
      ((¬ ∃ T, LengthsAre req T rest) → ∃ msg, inputLoop req nIn rest i ⟨none, w⟩ = .error msg)
  | [], i, w, _ =>
    ⟨fun _ => by simp [inputLoop, inputWarnings], fun _ h => absurd (fun _ h => nomatch h) h,
      fun h => absurd ⟨0, fun _ h => nomatch h⟩ h⟩
  | p :: ps, i, w, hn => by
    rw [List.length_cons] at hn
    simp only [noneSupplied_cons, lengthsAre_cons]
    cases hf : findInput req p with
    | none =>
      obtain ⟨ha, hb, hc⟩ := inputLoop_exact req nIn ps (i + 1) (w ++ [inputLine p]) (by omega)
      simp only [inputLoop, hf, reduceCtorEq, false_implies, implies_true, true_and, inputLine] at ha hb hc ⊢
      refine ⟨fun h => ?_, fun T h1 h2 => ?_, hc⟩
      · simpa [inputWarnings, hf, inputLine] using ha h
      · simpa [inputWarnings, hf, inputLine, effInputs, effInput, List.replicate_succ'] using hb T h1 h2
    | some vs =>
      -- the allocation: `nIn` zero rows of the length of this series, row `i` written
      have hset : setRow (List.replicate nIn (List.replicate vs.length (JNum.zero : α))) i vs =
          (List.replicate i (List.replicate vs.length JNum.zero) ++ [vs]) ++
            List.replicate ps.length (List.replicate vs.length JNum.zero) := by
        have := set_append_replicate (List.replicate i (List.replicate vs.length (JNum.zero : α))) ps.length
          (List.replicate vs.length JNum.zero) vs
        rw [List.length_replicate, List.replicate_append_replicate] at this
        rw [setRow, ← hn]
        exact this
      obtain ⟨hok, herr⟩ := inputLoop_allocated req nIn vs.length ps
        (List.replicate i (List.replicate vs.length JNum.zero) ++ [vs]) w (by simp)
        (by cases i <;> simp [List.replicate_succ])
      rw [List.length_append, List.length_replicate, List.length_singleton] at hok herr
      simp only [inputLoop, hf, hset, reduceCtorEq, false_and, false_implies, Option.some.injEq, forall_eq',
        true_and]
      refine ⟨fun T _ h => ?_, fun h => herr fun hl => h ⟨_, rfl, hl⟩⟩
      obtain ⟨rfl, hl⟩ := h
      simpa [inputWarnings, hf, effInputs, effInput] using hok hl

/-- a problem report: what the deferred `encodeResults` writes when only a message was logged -/
theorem finish_problem (msg : String) (split : Bool) :
    finish (α := α) [msg] none 0 emptyDesc split .returned =
      { written := [document (some [msg]) .null .null], ending := .returned } := rfl

variable (cat : String → Option (ModelDesc α)) (K : Kernel α) {m : ParsedRequest α} {desc : ModelDesc α}

theorem initialise_noname (hn : m.name = "") : initialise cat K m = .err "No model name provided" := by
  unfold initialise
  simp only [hn, if_true]

theorem initialise_unknown (hn : m.name ≠ "") (hc : cat m.name = none) :
    initialise cat K m = .err ("Unknown model: " ++ m.name) := by
  unfold initialise
  simp only [hn, if_false, hc]

/-- a catalogued model: the parameter loop done, the rest of `Initialise` as it stands -/
theorem initialise_known (hn : m.name ≠ "") (hc : cat m.name = some desc) :
    initialise cat K m =
      match K.init (effParams m.parameters desc.params) with
      | .error cls => .panic cls
      | .ok () =>
        match inputLoop m.inputs desc.inputs.length desc.inputs 0
            { inputs := none, warnings := [""] ++ paramWarnings m.parameters desc.params } with
        | .error msg => .err msg
        | .ok s =>
          match s.inputs with
          | none => .err "No inputs provided"
          | some rows => .ok desc (effParams m.parameters desc.params) rows s.warnings := by
  unfold initialise
  simp only [hn, if_false, hc, paramLoop_spec]
  rfl

theorem initialise_panic (hn : m.name ≠ "") (hc : cat m.name = some desc) {cls : String}
    (hi : K.init (effParams m.parameters desc.params) = .error cls) : initialise cat K m = .panic cls := by
  rw [initialise_known cat K hn hc, hi]

theorem initialise_inputs (hn : m.name ≠ "") (hc : cat m.name = some desc)
    (hi : K.init (effParams m.parameters desc.params) = .ok ()) :
    (NoneSupplied m.inputs desc.inputs → initialise cat K m = .err "No inputs provided") ∧
    (∀ T, ¬ NoneSupplied m.inputs desc.inputs → LengthsAre m.inputs T desc.inputs →
      initialise cat K m = .ok desc (effParams m.parameters desc.params) (effInputs m.inputs T desc.inputs)
        ([""] ++ paramWarnings m.parameters desc.params ++ inputWarnings m.inputs desc.inputs)) ∧
    ((¬ ∃ T, LengthsAre m.inputs T desc.inputs) → ∃ msg, initialise cat K m = .err msg) := by
  obtain ⟨ha, hb, hc'⟩ := inputLoop_exact m.inputs desc.inputs.length desc.inputs 0
    ([""] ++ paramWarnings m.parameters desc.params) (Nat.zero_add _)
  rw [initialise_known cat K hn hc, hi]
  refine ⟨fun h => by rw [ha h], fun T h1 h2 => by rw [hb T h1 h2]; rfl, fun h => ?_⟩
  obtain ⟨msg, e⟩ := hc' h
  exact ⟨msg, by rw [e]⟩

theorem initialise_classify (m : ParsedRequest α) :
    (∃ msg, initialise cat K m = .err msg) ∨
    ∃ desc, m.name ≠ "" ∧ cat m.name = some desc ∧
      ((∃ cls, K.init (effParams m.parameters desc.params) = .error cls ∧ initialise cat K m = .panic cls) ∨
       ∃ T, K.init (effParams m.parameters desc.params) = .ok () ∧ LengthsAre m.inputs T desc.inputs ∧
         ¬ NoneSupplied m.inputs desc.inputs ∧
         initialise cat K m = .ok desc (effParams m.parameters desc.params) (effInputs m.inputs T desc.inputs)
           ([""] ++ paramWarnings m.parameters desc.params ++ inputWarnings m.inputs desc.inputs)) := by
  by_cases hn : m.name = ""
  · exact .inl ⟨_, initialise_noname cat K hn⟩
  cases hc : cat m.name with
  | none => exact .inl ⟨_, initialise_unknown cat K hn hc⟩
  | some desc =>
    cases hi : K.init (effParams m.parameters desc.params) with
    | error cls => exact .inr ⟨desc, hn, rfl, .inl ⟨cls, hi, initialise_panic cat K hn hc hi⟩⟩
    | ok u =>
      obtain ⟨ha, hb, he⟩ := initialise_inputs cat K hn hc hi
      by_cases hnone : NoneSupplied m.inputs desc.inputs
      · exact .inl ⟨_, ha hnone⟩
      by_cases hT : ∃ T, LengthsAre m.inputs T desc.inputs
      · obtain ⟨T, hlen⟩ := hT
        exact .inr ⟨desc, hn, rfl, .inr ⟨T, hi, hlen, hnone, hb T hnone hlen⟩⟩
      · exact .inl (he hT)

/-- `Initialise` with a kernel whose `InitialiseStates` does not panic: an error, or the assembled run (with a
non-empty warning list: its first line is the empty string of `make([]string, 1)`) -/
theorem initialise_cases (cat : String → Option (ModelDesc α)) (K : Kernel α)
    (hK : ∀ name desc, cat name = some desc → ∀ p, K.init p = .ok ()) (m : ParsedRequest α) :
    (∃ msg, initialise cat K m = .err msg) ∨
    (∃ desc params inputs warnings, cat m.name = some desc ∧ warnings ≠ [] ∧
      initialise cat K m = .ok desc params inputs warnings) := by
  rcases initialise_classify cat K m with e | ⟨desc, _, hc, ⟨cls, hi, _⟩ | ⟨T, _, _, _, e⟩⟩
  · exact .inl e
  · rw [hK _ _ hc] at hi
    cases hi
  · exact .inr ⟨desc, _, _, _, hc, List.cons_ne_nil _ _, e⟩

end
end OW.Sim.Json
