import OW.Num
import Mathlib.Analysis.SpecialFunctions.Log.Base
/-!
# Rounded arithmetic over ℝ: a third instance of `Num`

The numeric theorems of this framework are stated at `α := ℝ` (exact arithmetic); Lean's `Float` is opaque. This file closes part
of that gap for INEQUALITY statements: it models floating-point arithmetic as "compute the exact real result, then round it with a
monotone, odd, idempotent function `rnd` that fixes 0", and instantiates the kernels' arithmetic interface `Num` at the type
`RNum R` of numbers representable under the rounding `R`. A kernel written `{α} [Num α]` therefore runs unchanged over `RNum R`
and a theorem proved `∀ R : Rounding` holds for every arithmetic of that shape. The `ℝ` instance (OW/Proofs/RealNum.lean) is not
used here, and no lemma identifies a kernel at `RNum Rounding.exact` with the kernel at `ℝ`: the theorems over `RNum R` and their
parallels at `ℝ` are proved separately.

**Interpretation.** IEEE-754 binary64 with round-to-nearest-even — and equally round-toward-zero — restricted to computations in
which no overflow to ±∞ and no NaN occurs, is one such `Rounding`: `rnd x` = the float nearest to `x` (toward zero: the nearest one of no larger magnitude); it is monotone, odd,
fixes every float (so is idempotent) and fixes 0. (Subnormals and underflow to 0 are included: they are monotone roundings too.
Signed zeros are identified.) Lean's `Float` cannot be unfolded, so that instance is an interpretation, not a Lean term; two
concrete instances are constructed here as non-vacuity witnesses: the identity (`Rounding.exact`) and truncation toward zero to a
grid of multiples of `1/s` (`Rounding.trunc s`; not the identity: `trunc_nontrivial`); rounding away from zero on the same grid
(`Rounding.away s`) serves the counter-examples.

What is modelled per operation (`RNum R` is the subtype of representable reals):
* `a + b`, `a - b`, `a * b`, `a / b` (⊕ ⊖ ⊗ ⊘ in comments) = `rnd` of the exact result (correct rounding, as IEEE-754 requires; Go does not fuse
  `x*y + z` on amd64, and the translator's "no FMA" assumption is the same one);
* `sqrt` = `rnd ∘ Real.sqrt` (IEEE requires correct rounding); `exp pow log log10 tanh cos` = `rnd` of the real function — an
  IDEALISATION (libm is faithful to < 1 ulp but not correctly rounded, nor guaranteed monotone); theorems that go through these say so;
* `-a`, `|a|`, `min`, `max`, comparisons, `==` are exact; `floor`/`ceil` = `rnd ⌊a⌋` (exact for IEEE: the floor of a float is a float);
* `toInt` truncates the exact value toward zero, `ofInt n` = `rnd n`; there is no NaN: `isNaN` is constantly false and `nan` is 0,
  so a kernel branch that returns NaN (`Climate.dewPoint` for `ea ≤ 0`, `StorageRouting.massBalanceFn`) returns 0 here;
* a literal `c` in the kernel source = `rnd c` (Go rounds a constant once); `R.Rep c` (`rnd c = c`) is carried as a hypothesis where a
  theorem needs the literal to be exact (e.g. `1`, `100`, `0.5`; true for binary64).
-/
namespace OW

structure Rounding where
  rnd : ℝ → ℝ
  mono : Monotone rnd
  rnd_zero : rnd 0 = 0
  rnd_neg : ∀ x, rnd (-x) = -rnd x
  idem : ∀ x, rnd (rnd x) = rnd x

namespace Rounding
variable (R : Rounding)

/-- `x` is representable; the field `RNum.rep` is this predicate unfolded (`a.rep : R.Rep a.val`) -/
def Rep (x : ℝ) : Prop := R.rnd x = x

theorem rep_rnd (x : ℝ) : R.Rep (R.rnd x) := R.idem x
theorem rep_zero : R.Rep 0 := R.rnd_zero
theorem rep_neg {x : ℝ} (h : R.Rep x) : R.Rep (-x) := by unfold Rep at *; rw [R.rnd_neg, h]

theorem rnd_nonneg {x : ℝ} (h : 0 ≤ x) : 0 ≤ R.rnd x := R.rnd_zero.symm.trans_le (R.mono h)
theorem rnd_nonpos {x : ℝ} (h : x ≤ 0) : R.rnd x ≤ 0 := (R.mono h).trans_eq R.rnd_zero
theorem le_rnd {c x : ℝ} (hc : R.Rep c) (h : c ≤ x) : c ≤ R.rnd x := by
  have := R.mono h; rwa [hc] at this
theorem rnd_le {c x : ℝ} (hc : R.Rep c) (h : x ≤ c) : R.rnd x ≤ c := by
  have := R.mono h; rwa [hc] at this
theorem rnd_eq_zero_of_eq_zero {x : ℝ} (h : x = 0) : R.rnd x = 0 := by rw [h, R.rnd_zero]

def exact : Rounding where
  rnd := id
  mono := monotone_id
  rnd_zero := rfl
  rnd_neg := fun _ => rfl
  idem := fun _ => rfl

noncomputable def truncFn (s : ℕ) (x : ℝ) : ℝ := if 0 ≤ x then (⌊x * s⌋ : ℝ) / s else (⌈x * s⌉ : ℝ) / s

theorem truncFn_grid (s : ℕ) (hs : 0 < s) (n : ℤ) : truncFn s ((n : ℝ) / s) = (n : ℝ) / s := by
  have hs' : (s : ℝ) ≠ 0 := Nat.cast_ne_zero.mpr (Nat.pos_iff_ne_zero.mp hs)
  unfold truncFn
  rw [div_mul_cancel₀ _ hs', Int.floor_intCast, Int.ceil_intCast]
  split_ifs <;> rfl

theorem truncFn_nonneg (s : ℕ) {x : ℝ} (h : 0 ≤ x) : 0 ≤ truncFn s x := by
  unfold truncFn; rw [if_pos h]
  exact div_nonneg (Int.cast_nonneg (Int.floor_nonneg.mpr (mul_nonneg h (Nat.cast_nonneg s)))) (Nat.cast_nonneg s)

theorem truncFn_nonpos (s : ℕ) {x : ℝ} (h : x < 0) : truncFn s x ≤ 0 := by
  unfold truncFn; rw [if_neg (not_le.mpr h)]
  exact div_nonpos_of_nonpos_of_nonneg
    (Int.cast_nonpos.mpr (Int.ceil_nonpos.mpr (mul_nonpos_of_nonpos_of_nonneg h.le (Nat.cast_nonneg s)))) (Nat.cast_nonneg s)

noncomputable def trunc (s : ℕ) (hs : 0 < s) : Rounding where
  rnd := truncFn s
  mono := by
    have hs0 : (0 : ℝ) ≤ s := Nat.cast_nonneg s
    intro x y hxy
    by_cases hx : 0 ≤ x
    · have hy : 0 ≤ y := hx.trans hxy
      simp only [truncFn, if_pos hx, if_pos hy]
      apply div_le_div_of_nonneg_right _ hs0
      exact_mod_cast Int.floor_le_floor (mul_le_mul_of_nonneg_right hxy hs0)
    · by_cases hy : 0 ≤ y
      · exact (truncFn_nonpos s (not_le.mp hx)).trans (truncFn_nonneg s hy)
      · simp only [truncFn, if_neg hx, if_neg hy]
        apply div_le_div_of_nonneg_right _ hs0
        exact_mod_cast Int.ceil_le_ceil (mul_le_mul_of_nonneg_right hxy hs0)
  rnd_zero := by simp [truncFn]
  rnd_neg := by
    intro x
    have hs' : (0 : ℝ) < s := Nat.cast_pos.mpr hs
    rcases lt_trichotomy x 0 with h | h | h
    · simp only [truncFn, if_pos (neg_nonneg.mpr h.le), if_neg (not_le.mpr h), neg_mul, Int.floor_neg, Int.cast_neg, neg_div]
    · subst h; simp [truncFn]
    · simp only [truncFn, if_neg (not_le.mpr (neg_lt_zero.mpr h)), if_pos h.le, neg_mul, Int.ceil_neg, Int.cast_neg, neg_div]
  idem := by
    intro x
    by_cases hx : 0 ≤ x
    · have h : truncFn s x = (⌊x * s⌋ : ℝ) / s := by simp only [truncFn, if_pos hx]
      rw [h]; exact truncFn_grid s hs _
    · have h : truncFn s x = (⌈x * s⌉ : ℝ) / s := by simp only [truncFn, if_neg hx]
      rw [h]; exact truncFn_grid s hs _

theorem trunc_rnd (s : ℕ) (hs : 0 < s) (x : ℝ) : (trunc s hs).rnd x = truncFn s x := rfl

theorem trunc_rep_grid (s : ℕ) (hs : 0 < s) (n : ℤ) : (trunc s hs).Rep ((n : ℝ) / s) := truncFn_grid s hs n

theorem int_eq_grid (s : ℕ) (hs : 0 < s) (n : ℤ) : (n : ℝ) = ((n * s : ℤ) : ℝ) / s := by
  rw [Int.cast_mul, Int.cast_natCast, mul_div_assoc, div_self (Nat.cast_ne_zero.mpr hs.ne'), mul_one]

theorem trunc_rep_int (s : ℕ) (hs : 0 < s) (n : ℤ) : (trunc s hs).Rep (n : ℝ) := by
  rw [int_eq_grid s hs n]; exact trunc_rep_grid s hs _

theorem trunc_eq (s : ℕ) (hs : 0 < s) {x : ℝ} (z : ℤ) (h0 : 0 ≤ x) (h1 : (z : ℝ) ≤ x * s) (h2 : x * s < z + 1) :
    (trunc s hs).rnd x = (z : ℝ) / s := by
  rw [trunc_rnd]; unfold truncFn
  rw [if_pos h0, Int.floor_eq_iff.mpr ⟨h1, h2⟩]

theorem trunc_nontrivial : (trunc 10 (by norm_num)).rnd (1 / 4) = 1 / 5 := by
  rw [trunc_eq 10 _ 2 (by norm_num) (by norm_num) (by norm_num)]; norm_num

/-- the mirror image of `truncFn`, for the counter-examples in which a rounded-UP quotient or literal is what breaks the claim -/
noncomputable def awayFn (s : ℕ) (x : ℝ) : ℝ := if 0 ≤ x then (⌈x * s⌉ : ℝ) / s else (⌊x * s⌋ : ℝ) / s

theorem awayFn_grid (s : ℕ) (hs : 0 < s) (n : ℤ) : awayFn s ((n : ℝ) / s) = (n : ℝ) / s := by
  have hs' : (s : ℝ) ≠ 0 := Nat.cast_ne_zero.mpr (Nat.pos_iff_ne_zero.mp hs)
  unfold awayFn
  rw [div_mul_cancel₀ _ hs', Int.floor_intCast, Int.ceil_intCast]
  split_ifs <;> rfl

theorem awayFn_nonneg (s : ℕ) {x : ℝ} (h : 0 ≤ x) : 0 ≤ awayFn s x := by
  unfold awayFn; rw [if_pos h]
  exact div_nonneg (Int.cast_nonneg (Int.ceil_nonneg (mul_nonneg h (Nat.cast_nonneg s)))) (Nat.cast_nonneg s)

theorem awayFn_nonpos (s : ℕ) {x : ℝ} (h : x < 0) : awayFn s x ≤ 0 := by
  unfold awayFn; rw [if_neg (not_le.mpr h)]
  exact div_nonpos_of_nonpos_of_nonneg
    (Int.cast_nonpos.mpr (Int.floor_nonpos (mul_nonpos_of_nonpos_of_nonneg h.le (Nat.cast_nonneg s)))) (Nat.cast_nonneg s)

noncomputable def away (s : ℕ) (hs : 0 < s) : Rounding where
  rnd := awayFn s
  mono := by
    have hs0 : (0 : ℝ) ≤ s := Nat.cast_nonneg s
    intro x y hxy
    by_cases hx : 0 ≤ x
    · have hy : 0 ≤ y := hx.trans hxy
      simp only [awayFn, if_pos hx, if_pos hy]
      apply div_le_div_of_nonneg_right _ hs0
      exact_mod_cast Int.ceil_le_ceil (mul_le_mul_of_nonneg_right hxy hs0)
    · by_cases hy : 0 ≤ y
      · exact (awayFn_nonpos s (not_le.mp hx)).trans (awayFn_nonneg s hy)
      · simp only [awayFn, if_neg hx, if_neg hy]
        apply div_le_div_of_nonneg_right _ hs0
        exact_mod_cast Int.floor_le_floor (mul_le_mul_of_nonneg_right hxy hs0)
  rnd_zero := by simp [awayFn]
  rnd_neg := by
    intro x
    rcases lt_trichotomy x 0 with h | h | h
    · simp only [awayFn, if_pos (neg_nonneg.mpr h.le), if_neg (not_le.mpr h), neg_mul, Int.ceil_neg, Int.cast_neg, neg_div]
    · subst h; simp [awayFn]
    · simp only [awayFn, if_neg (not_le.mpr (neg_lt_zero.mpr h)), if_pos h.le, neg_mul, Int.floor_neg, Int.cast_neg, neg_div]
  idem := by
    intro x
    by_cases hx : 0 ≤ x
    · have h : awayFn s x = (⌈x * s⌉ : ℝ) / s := by simp only [awayFn, if_pos hx]
      rw [h]; exact awayFn_grid s hs _
    · have h : awayFn s x = (⌊x * s⌋ : ℝ) / s := by simp only [awayFn, if_neg hx]
      rw [h]; exact awayFn_grid s hs _

theorem away_rnd (s : ℕ) (hs : 0 < s) (x : ℝ) : (away s hs).rnd x = awayFn s x := rfl
theorem away_rep_grid (s : ℕ) (hs : 0 < s) (n : ℤ) : (away s hs).Rep ((n : ℝ) / s) := awayFn_grid s hs n
theorem away_rep_int (s : ℕ) (hs : 0 < s) (n : ℤ) : (away s hs).Rep (n : ℝ) := by
  rw [int_eq_grid s hs n]; exact away_rep_grid s hs _
theorem away_eq (s : ℕ) (hs : 0 < s) {x : ℝ} (z : ℤ) (h0 : 0 ≤ x) (h1 : (z : ℝ) - 1 < x * s) (h2 : x * s ≤ z) :
    (away s hs).rnd x = (z : ℝ) / s := by
  rw [away_rnd]; unfold awayFn
  rw [if_pos h0, Int.ceil_eq_iff.mpr ⟨h1, h2⟩]

theorem trunc_le (s : ℕ) (hs : 0 < s) {y : ℝ} (hy : 0 ≤ y) : (trunc s hs).rnd y ≤ y := by
  have hs' : (0 : ℝ) < s := Nat.cast_pos.mpr hs
  rw [trunc_rnd]; unfold truncFn; rw [if_pos hy, div_le_iff₀ hs']
  exact Int.floor_le _

theorem le_away (s : ℕ) (hs : 0 < s) {y : ℝ} (hy : 0 ≤ y) : y ≤ (away s hs).rnd y := by
  have hs' : (0 : ℝ) < s := Nat.cast_pos.mpr hs
  rw [away_rnd]; unfold awayFn; rw [if_pos hy, le_div_iff₀ hs']
  exact Int.le_ceil _

end Rounding

structure RNum (R : Rounding) where
  val : ℝ
  rep : R.rnd val = val

namespace RNum
variable {R : Rounding}

@[ext] theorem ext {a b : RNum R} (h : a.val = b.val) : a = b := by
  cases a; cases b; simp only at h; subst h; rfl

def round (R : Rounding) (x : ℝ) : RNum R := ⟨R.rnd x, R.idem x⟩
def ofRep (x : ℝ) (h : R.Rep x) : RNum R := ⟨x, h⟩

@[simp] theorem round_val (x : ℝ) : (round R x).val = R.rnd x := rfl
@[simp] theorem ofRep_val (x : ℝ) (h : R.Rep x) : (ofRep x h).val = x := rfl

private theorem rep_min (a b : RNum R) : R.rnd (min a.val b.val) = min a.val b.val := by
  rcases min_choice a.val b.val with h | h <;> rw [h] <;> [exact a.rep; exact b.rep]
private theorem rep_max (a b : RNum R) : R.rnd (max a.val b.val) = max a.val b.val := by
  rcases max_choice a.val b.val with h | h <;> rw [h] <;> [exact a.rep; exact b.rep]
private theorem rep_abs (a : RNum R) : R.rnd |a.val| = |a.val| := by
  rcases abs_choice a.val with h | h <;> rw [h] <;> [exact a.rep; exact R.rep_neg a.rep]

noncomputable instance instNum (R : Rounding) : Num (RNum R) where
  add := fun a b => round R (a.val + b.val)
  sub := fun a b => round R (a.val - b.val)
  mul := fun a b => round R (a.val * b.val)
  div := fun a b => round R (a.val / b.val)
  neg := fun a => ⟨-a.val, R.rep_neg a.rep⟩
  lt := fun a b => a.val < b.val
  le := fun a b => a.val ≤ b.val
  ofScientific := fun m s e => round R (OfScientific.ofScientific m s e : ℝ)
  default := ⟨0, R.rnd_zero⟩
  decLt := fun _ _ => Classical.propDecidable _
  decLe := fun _ _ => Classical.propDecidable _
  feq := fun a b => @decide (a.val = b.val) (Classical.propDecidable _)
  zero := ⟨0, R.rnd_zero⟩
  one := round R 1
  ofNat := fun n => round R (n : ℝ)
  ofInt := fun n => round R (n : ℝ)
  exp := fun a => round R (Real.exp a.val)
  pow := fun a b => round R (a.val ^ b.val)
  log := fun a => round R (Real.log a.val)
  log10 := fun a => round R (Real.logb 10 a.val)
  tanh := fun a => round R (Real.tanh a.val)
  cos := fun a => round R (Real.cos a.val)
  sqrt := fun a => round R (Real.sqrt a.val)
  abs := fun a => ⟨|a.val|, rep_abs a⟩
  floor := fun a => round R (⌊a.val⌋ : ℝ)
  ceil := fun a => round R (⌈a.val⌉ : ℝ)
  toInt := fun a => if 0 ≤ a.val then ⌊a.val⌋ else ⌈a.val⌉
  isNaN := fun _ => false
  nan := ⟨0, R.rnd_zero⟩
  gmin := fun a b => ⟨min a.val b.val, rep_min a b⟩
  gmax := fun a b => ⟨max a.val b.val, rep_max a b⟩

-- An operation whose exact result is representable is exact: `h : R.Rep (a.val + b.val)` is itself a proof of
-- `(a + b).val = a.val + b.val` (unfold `Rep` and `add_val`); likewise for `- * /`.
@[simp] theorem add_val (a b : RNum R) : (a + b).val = R.rnd (a.val + b.val) := rfl
@[simp] theorem sub_val (a b : RNum R) : (a - b).val = R.rnd (a.val - b.val) := rfl
@[simp] theorem mul_val (a b : RNum R) : (a * b).val = R.rnd (a.val * b.val) := rfl
@[simp] theorem div_val (a b : RNum R) : (a / b).val = R.rnd (a.val / b.val) := rfl
@[simp] theorem neg_val (a : RNum R) : (-a).val = -a.val := rfl
@[simp] theorem lt_iff (a b : RNum R) : a < b ↔ a.val < b.val := Iff.rfl
@[simp] theorem le_iff (a b : RNum R) : a ≤ b ↔ a.val ≤ b.val := Iff.rfl
@[simp] theorem gt_iff (a b : RNum R) : a > b ↔ b.val < a.val := Iff.rfl
@[simp] theorem ge_iff (a b : RNum R) : a ≥ b ↔ b.val ≤ a.val := Iff.rfl
@[simp] theorem zero_val : (Num.zero : RNum R).val = 0 := rfl
@[simp] theorem one_val : (Num.one : RNum R).val = R.rnd 1 := rfl
@[simp] theorem nan_val : (Num.nan : RNum R).val = 0 := rfl
@[simp] theorem default_val : (default : RNum R).val = 0 := rfl
@[simp] theorem ofNat_val (n : Nat) : (@OfNat.ofNat (RNum R) n (Num.instOfNat n)).val = R.rnd (n : ℝ) := rfl
@[simp] theorem ofScientific_val (m : Nat) (s : Bool) (e : Nat) :
    (OfScientific.ofScientific m s e : RNum R).val = R.rnd (OfScientific.ofScientific m s e : ℝ) := rfl
@[simp] theorem gmin_val (a b : RNum R) : (Num.gmin a b).val = min a.val b.val := rfl
@[simp] theorem gmax_val (a b : RNum R) : (Num.gmax a b).val = max a.val b.val := rfl
@[simp] theorem abs_val (a : RNum R) : (Num.abs a).val = |a.val| := rfl
@[simp] theorem exp_val (a : RNum R) : (Num.exp a).val = R.rnd (Real.exp a.val) := rfl
@[simp] theorem pow_val (a b : RNum R) : (Num.pow a b).val = R.rnd (a.val ^ b.val) := rfl
@[simp] theorem log_val (a : RNum R) : (Num.log a).val = R.rnd (Real.log a.val) := rfl
@[simp] theorem tanh_val (a : RNum R) : (Num.tanh a).val = R.rnd (Real.tanh a.val) := rfl
@[simp] theorem sqrt_val (a : RNum R) : (Num.sqrt a).val = R.rnd (Real.sqrt a.val) := rfl
@[simp] theorem floor_val (a : RNum R) : (Num.floor a).val = R.rnd (⌊a.val⌋ : ℝ) := rfl
@[simp] theorem ceil_val (a : RNum R) : (Num.ceil a).val = R.rnd (⌈a.val⌉ : ℝ) := rfl
@[simp] theorem isNaN_eq (a : RNum R) : Num.isNaN a = false := rfl
@[simp] theorem feq_iff (a b : RNum R) : (Num.feq a b = true) ↔ a.val = b.val := by simp [Num.feq]
theorem feq_false_iff (a b : RNum R) : (Num.feq a b = false) ↔ a.val ≠ b.val := by
  rw [Ne, ← feq_iff, Bool.not_eq_true]

/-- the literal `0.0` of the kernels -/
@[simp] theorem sci_zero_val : (OfScientific.ofScientific 0 true 1 : RNum R).val = 0 := by
  rw [ofScientific_val]; norm_num [R.rnd_zero]
@[simp] theorem nat_zero_val : (@OfNat.ofNat (RNum R) 0 (Num.instOfNat 0)).val = 0 := by
  rw [ofNat_val, Nat.cast_zero, R.rnd_zero]

theorem pmin_val (a b : RNum R) : (Num.pmin a b).val = min a.val b.val := by
  unfold Num.pmin; split_ifs with h
  · exact (min_eq_right (le_of_lt h)).symm
  · exact (min_eq_left (not_lt.mp h)).symm
theorem pmax_val (a b : RNum R) : (Num.pmax a b).val = max a.val b.val := by
  unfold Num.pmax; split_ifs with h
  · exact (max_eq_left (le_of_lt h)).symm
  · exact (max_eq_right (not_lt.mp h)).symm

theorem add_nonneg {a b : RNum R} (ha : 0 ≤ a.val) (hb : 0 ≤ b.val) : 0 ≤ (a + b).val :=
  R.rnd_nonneg (_root_.add_nonneg ha hb)
theorem mul_nonneg {a b : RNum R} (ha : 0 ≤ a.val) (hb : 0 ≤ b.val) : 0 ≤ (a * b).val :=
  R.rnd_nonneg (_root_.mul_nonneg ha hb)
/-- also for `b = 0`, where ℝ gives 0 and IEEE gives +∞ or NaN (excluded by the interpretation) -/
theorem div_nonneg {a b : RNum R} (ha : 0 ≤ a.val) (hb : 0 ≤ b.val) : 0 ≤ (a / b).val :=
  R.rnd_nonneg (_root_.div_nonneg ha hb)
theorem sub_nonneg {a b : RNum R} (h : b.val ≤ a.val) : 0 ≤ (a - b).val :=
  R.rnd_nonneg (_root_.sub_nonneg.mpr h)
theorem sub_nonpos {a b : RNum R} (h : a.val ≤ b.val) : (a - b).val ≤ 0 :=
  R.rnd_nonpos (_root_.sub_nonpos.mpr h)
theorem sub_le_sub_right {a b : RNum R} (h : a.val ≤ b.val) (c : RNum R) : (a - c).val ≤ (b - c).val :=
  R.mono (_root_.sub_le_sub_right h _)
theorem sub_le_sub_left {b c : RNum R} (h : b.val ≤ c.val) (a : RNum R) : (a - c).val ≤ (a - b).val :=
  R.mono (_root_.sub_le_sub_left h _)
theorem add_le_add {a b c d : RNum R} (h1 : a.val ≤ b.val) (h2 : c.val ≤ d.val) : (a + c).val ≤ (b + d).val :=
  R.mono (_root_.add_le_add h1 h2)
theorem mul_le_mul_right {a b c : RNum R} (hc : 0 ≤ c.val) (h : a.val ≤ b.val) : (a * c).val ≤ (b * c).val :=
  R.mono (mul_le_mul_of_nonneg_right h hc)
theorem mul_le_mul_left {a b c : RNum R} (hc : 0 ≤ c.val) (h : a.val ≤ b.val) : (c * a).val ≤ (c * b).val :=
  R.mono (mul_le_mul_of_nonneg_left h hc)
theorem mul_le_of_le_one {a f : RNum R} (ha : 0 ≤ a.val) (hf : f.val ≤ 1) : (a * f).val ≤ a.val :=
  R.rnd_le a.rep (mul_le_of_le_one_right ha hf)
theorem mul_le_of_le_one_left {a f : RNum R} (ha : 0 ≤ a.val) (hf : f.val ≤ 1) : (f * a).val ≤ a.val :=
  R.rnd_le a.rep (_root_.mul_le_of_le_one_left ha hf)
theorem le_add_right {a b : RNum R} (hb : 0 ≤ b.val) : a.val ≤ (a + b).val :=
  R.le_rnd a.rep (le_add_of_nonneg_right hb)
theorem le_add_left {a b : RNum R} (ha : 0 ≤ a.val) : b.val ≤ (a + b).val :=
  R.le_rnd b.rep (le_add_of_nonneg_left ha)
theorem sub_le_self {a b : RNum R} (hb : 0 ≤ b.val) : (a - b).val ≤ a.val :=
  R.rnd_le a.rep (_root_.sub_le_self _ hb)
theorem mul_le_one {a b : RNum R} (ha : a.val ≤ 1) (hb0 : 0 ≤ b.val) (hb1 : b.val ≤ 1) (h1 : R.Rep 1) : (a * b).val ≤ 1 :=
  R.rnd_le h1 (mul_le_one₀ ha hb0 hb1)
theorem div_le_one {a b : RNum R} (hb : 0 < b.val) (h : a.val ≤ b.val) (h1 : R.Rep 1) : (a / b).val ≤ 1 :=
  R.rnd_le h1 ((_root_.div_le_one hb).mpr h)
/-- without `Rep 1` the quotient is still `≤ rnd 1`, which is what `1 ⊖ a ⊘ b ≥ 0` needs (`one_sub_nonneg_of_le_rnd_one`) -/
theorem div_le_rnd_one {a b : RNum R} (hb : 0 < b.val) (h : a.val ≤ b.val) : (a / b).val ≤ R.rnd 1 :=
  R.mono ((_root_.div_le_one hb).mpr h)

theorem gmin_nonneg {a b : RNum R} (ha : 0 ≤ a.val) (hb : 0 ≤ b.val) : 0 ≤ (Num.gmin a b).val := le_min ha hb
theorem gmin_le_left {a b : RNum R} : (Num.gmin a b).val ≤ a.val := min_le_left _ _
theorem gmin_le_right {a b : RNum R} : (Num.gmin a b).val ≤ b.val := min_le_right _ _
theorem gmax_le {a b c : RNum R} (ha : a.val ≤ c.val) (hb : b.val ≤ c.val) : (Num.gmax a b).val ≤ c.val := max_le ha hb
theorem gmax_nonneg_left {a b : RNum R} (ha : 0 ≤ a.val) : 0 ≤ (Num.gmax a b).val := le_max_of_le_left ha
theorem gmax_nonneg_right {a b : RNum R} (hb : 0 ≤ b.val) : 0 ≤ (Num.gmax a b).val := le_max_of_le_right hb
theorem exp_nonneg {a : RNum R} : 0 ≤ (Num.exp a).val := R.rnd_nonneg (Real.exp_pos _).le
/-- only the sign of the (idealised) power is used -/
theorem pow_nonneg {a b : RNum R} (ha : 0 ≤ a.val) : 0 ≤ (Num.pow a b).val :=
  R.rnd_nonneg (Real.rpow_nonneg ha _)

theorem sub_self_val (a : RNum R) : (a - a).val = 0 := by rw [sub_val, sub_self, R.rnd_zero]
theorem mul_zero_val {a b : RNum R} (hb : b.val = 0) : (a * b).val = 0 := by rw [mul_val, hb, mul_zero, R.rnd_zero]
theorem zero_mul_val {a b : RNum R} (ha : a.val = 0) : (a * b).val = 0 := by rw [mul_val, ha, zero_mul, R.rnd_zero]
theorem add_zero_val {a b : RNum R} (hb : b.val = 0) : (a + b).val = a.val := by rw [add_val, hb, add_zero, a.rep]
theorem zero_add_val {a b : RNum R} (ha : a.val = 0) : (a + b).val = b.val := by rw [add_val, ha, zero_add, b.rep]
theorem add_eq_zero {a b : RNum R} (ha : a.val = 0) (hb : b.val = 0) : (a + b).val = 0 := (add_zero_val hb).trans ha
/-- for `b = 0` by the convention of ℝ, where IEEE gives NaN (excluded by the interpretation); a user whose divisor is a variable
carries `b ≠ 0` -/
theorem zero_div_val {a b : RNum R} (ha : a.val = 0) : (a / b).val = 0 := by rw [div_val, ha, zero_div, R.rnd_zero]

theorem sci_nonneg {m : Nat} {s : Bool} {e : Nat} : 0 ≤ (OfScientific.ofScientific m s e : RNum R).val := by
  rw [ofScientific_val]
  apply R.rnd_nonneg
  show (0:ℝ) ≤ ((OfScientific.ofScientific m s e : ℚ) : ℝ)
  have : (0 : ℚ) ≤ OfScientific.ofScientific m s e := by
    show (0:ℚ) ≤ Rat.ofScientific m s e
    cases s
    · rw [Rat.ofScientific_false_def]; exact Nat.cast_nonneg _
    · rw [Rat.ofScientific_true_def]; exact Rat.mkRat_nonneg (Int.natCast_nonneg m) _
  exact_mod_cast this
theorem ofNat_nonneg {n : Nat} : 0 ≤ (@OfNat.ofNat (RNum R) n (Num.instOfNat n)).val := by
  rw [ofNat_val]; exact R.rnd_nonneg (Nat.cast_nonneg n)
theorem one_lit_val (h1 : R.Rep 1) : (1 : RNum R).val = 1 := by rw [ofNat_val, Nat.cast_one]; exact h1
theorem lit_val {n : ℕ} [n.AtLeastTwo] (h : R.Rep (OfNat.ofNat n)) : (OfNat.ofNat n : RNum R).val = OfNat.ofNat n := by
  rw [ofNat_val]; exact h

/-- the literal `1` is `rnd 1`, so `fraction ≤ rnd 1` is what `1 ⊖ fraction ≥ 0` needs -/
theorem one_sub_nonneg_of_le_rnd_one {f : RNum R} (h : f.val ≤ R.rnd 1) : 0 ≤ ((1 : RNum R) - f).val := by
  rw [sub_val, ofNat_val, Nat.cast_one]; exact R.rnd_nonneg (_root_.sub_nonneg.mpr h)
theorem one_sub_nonneg_of_le_one {f : RNum R} (h : f.val ≤ 1) : 0 ≤ ((1 : RNum R) - f).val :=
  one_sub_nonneg_of_le_rnd_one (R.le_rnd f.rep h)

end RNum

namespace Rounded

/-- the rounding of the non-vacuity examples of `OW/Props/Rounded` -/
noncomputable abbrev T10 : Rounding := Rounding.trunc 10 (by norm_num)
noncomputable def t10 (n : ℤ) : RNum T10 := RNum.ofRep (n : ℝ) (Rounding.trunc_rep_int 10 (by norm_num) n)
theorem t10_val (n : ℤ) : (t10 n).val = n := rfl

end Rounded
end OW
