import OW.Proofs.StorageNoPanic
import OW.Proofs.StorageExample
/-! Concrete runs of the Storage kernel at ℝ for the non-vacuity examples of OW/Props/C13.lean.

`tHS`: a two-knot table (volumes 100 / 200 m³) that the run below reads only through the two capped ends of
`cappedPiecewise` (every volume it evaluates lies below 100 or above 200): levels 0 / 10, areas 50 / 100, minimum release
0 / 4.4 (so the spill capacity is 4.4), maximum release 0 / 10. One timestep of 100 s from 1000 m³ with demand 10, no inflow,
rain or evaporation: the first trial (100 s) is rejected by the release tolerance and HALVED; the accepted 50 s sub-step
releases 10 m³/s (1000 → 500, spill branch taken with zero spill); the second 50 s sub-step is force-accepted at the 60 s floor
with average release 5 (500 → 250) and SPILLS 25 m³ (250 → 225). Reported outflow 7.75 = (10·50 + 0 + 5·50 + 25) / 100. -/
namespace OW.Proofs.StorageExample2
open OW OW.Kernels.Storage OW.Proofs.Storage OW.Proofs.StorageExample

def tHS : Tables ℝ := ⟨[0, 10], [100, 200], [50, 100], [0, 4.4], [0, 10], 100, 200, 4.4⟩

theorem capLo (v : ℝ) (ys : List ℝ) (h : v < 100) : cappedPiecewise tHS v ys = getAt ys 0 :=
  capped_below tHS v ys h

theorem capHi (v : ℝ) (ys : List ℝ) (h : 200 < v) : cappedPiecewise tHS v ys = getAt ys 1 :=
  capped_above tHS v ys (not_lt.mpr (by show (100:ℝ) ≤ v; linarith)) h

theorem relHi (v : ℝ) (h : 200 < v) : releaseRate tHS 10 v = .ok 10 := by
  rw [releaseRate_of_capped (m := 4.4) (M := 10) (capHi v _ h) (capHi v _ h)]
  norm_num

theorem relLo (v : ℝ) (h : v < 100) : releaseRate tHS 10 v = .ok 0 := by
  rw [releaseRate_of_capped (m := 0) (M := 0) (capLo v _ h) (capLo v _ h)]
  norm_num

theorem allowedAbs_eq : (allowedAbs : ℝ) = 1e-4 := rfl
theorem allowedRel_eq : (allowedRel : ℝ) = 1e-5 := rfl

theorem close_10_10 : releaseRatesCloseEnough (10:ℝ) ((10 + 10) / 2) = true := by
  unfold releaseRatesCloseEnough
  simp only [RealNum.abs_eq, allowedAbs_eq, allowedRel_eq]
  norm_num

theorem close_10_5 : releaseRatesCloseEnough (10:ℝ) ((0 + 10) / 2) = false := by
  unfold releaseRatesCloseEnough
  simp only [RealNum.abs_eq, allowedAbs_eq, allowedRel_eq]
  norm_num

def accA : Accepted ℝ := ⟨50, 10, 100, 10, 10, 500, 500, ["accept", "halve"]⟩
def accB : Accepted ℝ := ⟨50, 5, 100, 10, 0, 0, 250, ["floor", "spill", "accept", "halve"]⟩

/-- the second trial of the first sub-step -/
theorem trialA2 : trial tHS 0 10 0 1000 10 100 1 50 ["halve"] = .ok accA := by
  rw [trial_of_nonneg (avgArea := 100) (after := 10) 0 _ (by norm_num) (capHi _ _ (by norm_num)) (relHi _ (by norm_num))
    (by norm_num), if_pos close_10_10]
  simp only [Except.ok.injEq, accA, Accepted.mk.injEq]
  refine ⟨trivial, ?_, trivial, trivial, trivial, ?_, ?_, by decide⟩ <;> norm_num

theorem trialA : trial tHS 0 10 0 1000 10 100 2 100 [] = .ok accA := by
  have hm : max ((100:ℝ) * 0.5) 6 = 50 := by rw [max_eq_left (by norm_num)]; norm_num
  rw [trial_of_nonneg (avgArea := 100) (after := 0) 1 _ (by norm_num) (capHi _ _ (by norm_num)) (relLo _ (by norm_num))
    (by norm_num), if_neg (by rw [close_10_5]; decide), if_neg (by norm_num), hm, show tag [] "halve" = ["halve"] by decide]
  exact trialA2

theorem trialB : trial tHS 0 10 0 500 10 100 2 50 ["spill", "accept", "halve"] = .ok accB := by
  rw [trial_of_nonneg (avgArea := 100) (after := 0) 1 _ (by norm_num) (capHi _ _ (by norm_num)) (relLo _ (by norm_num))
    (by norm_num), if_neg (by rw [close_10_5]; decide), if_pos (by norm_num)]
  simp only [Except.ok.injEq, accB, Accepted.mk.injEq]
  refine ⟨trivial, ?_, trivial, trivial, trivial, ?_, ?_, by decide⟩ <;> norm_num

/-- spill block of the first sub-step: above full supply, but the over-topping rate 2·4.4 is below the release 10: no spill -/
theorem spillA : spill tHS 500 10 50 = (0, 500, true) := by
  simp only [spill, tHS, RealNum.gmax_eq, RealNum.gmin_eq, RealNum.ofNat_lit 2, RealNum.lit0]
  norm_num [min_def, max_def]

/-- spill block of the second sub-step: 250 m³ is above full supply 200, over-topping ratio 1.25, rate 1.25·4.4 − 5 = 0.5,
spilled volume 25 m³ -/
theorem spillB : spill tHS 250 5 50 = (25, 225, true) := by
  simp only [spill, tHS, RealNum.gmax_eq, RealNum.gmin_eq, RealNum.ofNat_lit 2, RealNum.lit0]
  norm_num [min_def, max_def]

def subA : SubStep ℝ := ⟨1000, accA, 500, 0, 500⟩
def subB : SubStep ℝ := ⟨500, accB, 250, 25, 225⟩

def loopA : Loop ℝ := ⟨100, 100, 1000, 0, 0, 0, [], []⟩
def loopB : Loop ℝ := ⟨50, 50, 500, 500, 0, 0, ["spill", "accept", "halve"], [subA]⟩
def loopC : Loop ℝ := ⟨0, 50, 225, 775, 0, 0, ["floor", "spill", "accept", "halve"], [subB, subA]⟩

theorem bodyA : outerBody tHS true 2 0 10 0 0 0 loopA = .ok loopB := by
  rw [outerBody_of (s := loopA) (relHi 1000 (by norm_num)) ((capHi 1000 _ (by norm_num)).trans rfl)
    (min_eq_left (by norm_num [loopA])) trialA (u := 500) (by norm_num [loopA, accA]) (by norm_num) spillA]
  simp only [loopA, loopB, subA, accA, if_true, Except.ok.injEq, Loop.mk.injEq]
  refine ⟨by norm_num, trivial, trivial, by norm_num, by norm_num, by norm_num, by decide, trivial⟩

theorem bodyB : outerBody tHS true 2 0 10 0 0 0 loopB = .ok loopC := by
  rw [outerBody_of (s := loopB) (relHi 500 (by norm_num)) ((capHi 500 _ (by norm_num)).trans rfl)
    (min_eq_left (by norm_num [loopB])) trialB (u := 250) (by norm_num [loopB, accB]) (by norm_num) spillB]
  simp only [loopB, loopC, subA, subB, accA, accB, if_true, Except.ok.injEq, Loop.mk.injEq]
  refine ⟨by norm_num, trivial, trivial, by norm_num, by norm_num, by norm_num, by decide, trivial⟩

def outHS : StepOut ℝ := ⟨225, 7.75, 0, 0, [subA, subB]⟩

theorem stepHS : step tHS true 3 2 100 1000 [] (0, 0, 0, 10) =
    .ok (225, ["floor", "spill", "accept", "halve"], outHS) := by
  rw [step_of (zero_div _) (zero_div _) (by rw [sub_self, zero_mul])
    ((outer_pass (show (0:ℝ) < 100 by norm_num) bodyA).trans
      ((outer_pass (show (0:ℝ) < 50 by norm_num) bodyB).trans (outer_done (show ¬ (0:ℝ) < 0 from lt_irrefl _))))]
  simp only [loopC, outHS, Except.ok.injEq, Prod.mk.injEq, StepOut.mk.injEq, List.reverse_cons,
    List.reverse_nil, List.nil_append, List.cons_append, true_and, and_true]
  refine ⟨by norm_num, by norm_num, by norm_num⟩

theorem runHS : run tHS true 3 2 100 1000 [(0, 0, 0, 10)] =
    .ok ⟨[outHS], 225, 10, 100, ["floor", "spill", "accept", "halve"]⟩ := by
  simp only [run, steps, bind, Except.bind, stepHS, pure, Except.pure]
  rw [capHi 225 _ (by norm_num), capHi 225 _ (by norm_num)]
  rfl

/-! ### every evaluation of `tHS` (for the hypotheses of `OW.Props.C13.reported_outflow_between`) -/

theorem capAll (v : ℝ) : ∃ f : ℝ, 0 ≤ f ∧ f ≤ 1 ∧
    ∀ ys0 ys1 : ℝ, cappedPiecewise tHS v [ys0, ys1] = .ok (ys0 + f * (ys1 - ys0)) :=
  capped_two_knots_all (t := tHS) rfl rfl rfl (by norm_num) v

theorem totalHS : Total tHS :=
  total_of_wellFormed tHS ⟨by decide, rfl, rfl, by decide, by decide, by decide, by decide⟩

theorem minHS (v y : ℝ) (h : cappedPiecewise tHS v tHS.minRelease = .ok y) : 0 ≤ y := by
  obtain ⟨f, f0, f1, hf⟩ := capAll v
  have := hf 0 4.4
  rw [show tHS.minRelease = [0, 4.4] from rfl, this] at h
  cases h
  exact (min_eq_left (by norm_num)).ge.trans (Piecewise.lerp_mem f0 f1).1

theorem maxHS (v y : ℝ) (h : cappedPiecewise tHS v tHS.maxRelease = .ok y) : y ≤ 10 := by
  obtain ⟨f, f0, f1, hf⟩ := capAll v
  have := hf 0 10
  rw [show tHS.maxRelease = [0, 10] from rfl, this] at h
  cases h
  exact (Piecewise.lerp_mem f0 f1).2.trans (max_eq_right (by norm_num)).le

theorem ordHS (v y₁ y₂ : ℝ) (h1 : cappedPiecewise tHS v tHS.minRelease = .ok y₁)
    (h2 : cappedPiecewise tHS v tHS.maxRelease = .ok y₂) : y₁ ≤ y₂ := by
  obtain ⟨f, f0, f1, hf⟩ := capAll v
  have a := hf 0 4.4
  have b := hf 0 10
  rw [show tHS.minRelease = [0, 4.4] from rfl, a] at h1
  rw [show tHS.maxRelease = [0, 10] from rfl, b] at h2
  cases h1; cases h2
  exact add_le_add le_rfl (mul_le_mul_of_nonneg_left (by norm_num) f0)

/-! ### two monotone tables on which drawing down ends in the 6 s-floor panic (hypotheses of `OW.Props.C13.draw_down_panics`) -/

/-- volumes 0 / 1000 m³, areas 0 / 1000 m², minimum release 0 / 0, FLAT maximum release 5 / 5 m³/s: the release rule still
releases the demand when 3 m³ are left -/
def tP : Tables ℝ := ⟨[0, 10], [0, 1000], [0, 1000], [0, 0], [5, 5], 0, 1000, 0⟩

theorem relP : releaseRate tP 1 3 = .ok 1 := by
  rw [releaseRate_of_capped (t := tP) (cap1000 rfl rfl rfl 3 0 0 (by norm_num) (by norm_num))
    (cap1000 rfl rfl rfl 3 5 5 (by norm_num) (by norm_num))]
  norm_num

theorem areaP : cappedPiecewise tP 3 tP.areas = .ok (0 + 3 / 1000 * (1000 - 0)) :=
  cap1000 rfl rfl rfl 3 0 1000 (by norm_num) (by norm_num)

/-- volumes 0 / 1000 m³, areas 100 / 1000 m² (a positive area at the empty storage), releases 0 / 0 and 0 / 2 -/
def tQ : Tables ℝ := ⟨[0, 10], [0, 1000], [100, 1000], [0, 0], [0, 2], 0, 1000, 0⟩

theorem relQ : releaseRate tQ 0 0 = .ok 0 := rel1000 rfl rfl rfl rfl rfl 0 (le_refl _) (by norm_num)

theorem areaQ : cappedPiecewise tQ 0 tQ.areas = .ok (100 + 0 / 1000 * (1000 - 100)) :=
  cap1000 rfl rfl rfl 0 100 1000 (le_refl _) (by norm_num)

theorem mmToM_eq : (mmToM : ℝ) = 1e-3 := rfl

theorem min6 : min (86400:ℝ) 6 = 6 := min_eq_right (by norm_num)

end OW.Proofs.StorageExample2
