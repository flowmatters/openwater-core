import OW.Sim.Wrapper
/-!
What `OW.Sim.layout` and `OW.Sim.cellParams` compute for a spec whose `n` parameters are all scalars: the layout is row `j` for
parameter `j`, and the column of cell `i` is `pick params i j`, `j < n` (`cellParams_scalar_iff`). Core Lean only.
-/
namespace OW.Props.C04
-- `pick` has the namespace of the C04 statements, which are written with it; the lemmas below are in `OW.Sim` like `Proofs/Wrapper.lean`

variable {α : Type} [Num α]

/-- the value a scalar parameter stored in row `j` takes for cell `i`: column `i % nSets` (cyclic reuse of sets) -/
def pick (params : List (List α)) (i j : Nat) : Option α :=
  match params[j]? with
  | some r => if r.length = 0 then none else r[i % r.length]?
  | none => none

end OW.Props.C04

namespace OW.Sim
open OW OW.Props.C04

variable {α : Type} [Num α]

theorem layout_go_scalar (params : List (List α)) :
    ∀ (n idx : Nat) (acc : List (Nat × Nat)) (maxv : List Int), idx + n ≤ params.length →
      layout.go params (List.replicate n none) idx acc maxv =
        .ok (acc.reverse ++ (List.range' idx n).map fun j => (j, 1))
  | 0, _, _, _, _ => by
    simp only [List.replicate_zero, layout.go, List.range'_zero, List.map_nil, List.append_nil]
  | n + 1, idx, acc, maxv, h => by
    have hlen : ((params.drop idx).take 1).length = 1 := by
      simp only [List.length_take, List.length_drop]; omega
    simp only [List.replicate_succ, layout.go]
    rw [if_neg (by omega), layout_go_scalar params n (idx + 1) _ _ (by omega)]
    simp only [List.reverse_cons, List.append_assoc, List.singleton_append, List.range'_succ, List.map_cons]

theorem cellParams_go_scalar_cons (params : List (List α)) (i j : Nat) (rest : List (Option Nat × (Nat × Nat)))
    (acc vals p : List α) :
    cellParams.go params i ((none, (j, 1)) :: rest) acc vals = .ok p ↔
      ∃ v, pick params i j = some v ∧ cellParams.go params i rest (acc ++ [v]) (vals ++ [v]) = .ok p := by
  simp only [cellParams.go, pick]
  cases params[j]? with
  | none => simp
  | some r =>
    by_cases h0 : r.length = 0
    · simp [h0]
    · cases hv : r[i % r.length]? <;> simp [h0, hv]

theorem cellParams_go_scalar_iff (params : List (List α)) (i : Nat) :
    ∀ (js : List Nat) (acc vals p : List α),
      cellParams.go params i (js.map fun j => (none, (j, 1))) acc vals = .ok p ↔
        ∃ vs, vs.map some = js.map (pick params i) ∧ p = acc ++ vs
  | [], acc, vals, p => by
    simp only [List.map_nil, cellParams.go, List.map_eq_nil_iff]
    constructor
    · intro h
      cases h
      exact ⟨[], rfl, (List.append_nil _).symm⟩
    · rintro ⟨vs, rfl, rfl⟩
      rw [List.append_nil]
  | j :: js, acc, vals, p => by
    rw [List.map_cons, cellParams_go_scalar_cons]
    constructor
    · rintro ⟨v, hv, h⟩
      obtain ⟨vs, h1, rfl⟩ := (cellParams_go_scalar_iff params i js _ _ _).mp h
      exact ⟨v :: vs, by rw [List.map_cons, List.map_cons, h1, hv], by rw [List.append_assoc]; rfl⟩
    · rintro ⟨vs, h1, rfl⟩
      cases vs with
      | nil => cases h1
      | cons v vs =>
        injection h1 with hv h1
        exact ⟨v, hv.symm, (cellParams_go_scalar_iff params i js _ _ _).mpr ⟨vs, h1, by rw [List.append_assoc]; rfl⟩⟩

theorem zip_scalar (n : Nat) : (List.replicate n (none : Option Nat)).zip ((List.range n).map fun j => (j, 1)) =
    (List.range n).map fun j => ((none : Option Nat), (j, 1)) := by
  induction n with
  | zero => rfl
  | succ n ih =>
    rw [List.replicate_succ', List.range_succ, List.map_append, List.zip_append (by simp), ih, List.map_append]
    rfl

theorem cellParams_scalar_iff (n : Nat) (params : List (List α)) (i : Nat) (p : List α) :
    cellParams (List.replicate n none) ((List.range n).map fun j => (j, 1)) params i = .ok p ↔
      p.map some = (List.range n).map (pick params i) := by
  unfold cellParams
  rw [zip_scalar, cellParams_go_scalar_iff]
  constructor
  · rintro ⟨vs, h, rfl⟩
    exact h
  · exact fun h => ⟨p, h, rfl⟩

theorem cellParams_scalar_length (n : Nat) (params : List (List α)) (i : Nat) (p : List α)
    (h : cellParams (List.replicate n none) ((List.range n).map fun j => (j, 1)) params i = .ok p) :
    p.length = n ∧ ∀ j, j < n → pick params i j = p[j]? := by
  have hvs := (cellParams_scalar_iff n params i p).mp h
  refine ⟨by simpa only [List.length_map, List.length_range] using congrArg List.length hvs, fun j hj => ?_⟩
  have hj' := congrArg (·[j]?) hvs
  simp only [List.getElem?_map, List.getElem?_range hj, Option.map_some] at hj'
  cases hv : p[j]? with
  | none => rw [hv] at hj'; cases hj'
  | some v => rw [hv] at hj'; exact (Option.some.inj hj').symm

theorem map_some_filterMap {β γ : Type} (f : β → Option γ) :
    ∀ l : List β, (∀ j ∈ l, (f j).isSome) → (l.filterMap f).map some = l.map f
  | [], _ => rfl
  | j :: l, h => by
    obtain ⟨v, hv⟩ := Option.isSome_iff_exists.mp (h j List.mem_cons_self)
    rw [List.filterMap_cons_some hv, List.map_cons, List.map_cons, hv,
      map_some_filterMap f l fun k hk => h k (List.mem_cons_of_mem _ hk)]

end OW.Sim
