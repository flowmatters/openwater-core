import OW.Proofs.RealNum
import OW.Proofs.ScanBudget
import Mathlib.Tactic.Ring
import Mathlib.Tactic.NormNum
/-!
C12 helpers shared by the constituent kernels.

`mix`: the fully mixed store every kernel ends its step with. The mass `m` present is mixed into the working volume `w`
(outflow volume `q * dt` plus the volume `v` that stays); below `MINIMUM_VOLUME = 0.01` the mass is dropped, otherwise the
concentration `m / w` is applied to both parts.

`MassStep`: what the run-level theorems use of one step of a kernel, and `MassStep.run`, which lifts it to `budget_M` and
`nonneg_M`. Four kernels are `MassStep`s as they stand, `instreamParticulateNutrient` is one inside its record `PNStep`;
what is outside it (`FineStep`, `trapping_step`) is said at its definition.

Layout of the step lemmas in the C12 files: `X_step_eq` names the locals of the step
(`∃ d m, d = stage … ∧ m = mix … ∧ step … = the record built from d, m`); a stage lemma (`mix_facts`, `decay_facts`,
`damTrappingPC_bounds`, …) takes such a name with its defining equation, `{r} (h : r = stage …)`, and says what the proofs use
of the stage; `X_step` obtains the names, feeds them to the stage lemmas and assembles.
-/
namespace OW.C12

theorem pos_of_not_lt_min {w : ℝ} (h : ¬ w < 0.01) : 0 < w :=
  lt_of_lt_of_le (by norm_num) (not_lt.mp h)

/-- Every mixing branch of the constituent kernels closes its budget through this identity. -/
theorem mix_split {w q dt v : ℝ} (m : ℝ) (hw : 0 < w) (hwv : w = q * dt + v) :
    m / w * v + m / w * q * dt = m := by
  rw [mul_assoc, ← mul_add, add_comm v, ← hwv, div_mul_cancel₀ _ hw.ne']

/-- Result: (mass that stays, load released per second, mass dropped).
`dry` is the kernel's own test for "no water" (`workingVol < MINIMUM_VOLUME`, `¬ totalVolume > 0`). -/
noncomputable def mix (dry : Prop) [Decidable dry] (m w q v : ℝ) : ℝ × ℝ × ℝ :=
  if dry then (0, 0, m) else (m / w * v, m / w * q, 0)

theorem mix_dry {dry : Prop} [Decidable dry] (m w q v : ℝ) (h : dry) : mix dry m w q v = (0, 0, m) := if_pos h

/-- All that the kernels' step lemmas use of `mix`. `hw`: the concentration divisor is positive where it is used. -/
theorem mix_facts {dry : Prop} [Decidable dry] {m w q dt v : ℝ} {r : ℝ × ℝ × ℝ} (h : r = mix dry m w q v)
    (hw : ¬ dry → 0 < w) (hwv : w = q * dt + v) :
    m = r.1 + (r.2.1 * dt + r.2.2) ∧ (r.2.2 ≠ 0 → dry) ∧
    (0 ≤ m → 0 ≤ q → 0 ≤ v → 0 ≤ r.1 ∧ 0 ≤ r.2.1 ∧ 0 ≤ r.2.2) := by
  subst h
  unfold mix
  split_ifs with h
  · exact ⟨by ring, fun _ => h, fun hm _ _ => ⟨le_rfl, le_rfl, hm⟩⟩
  · refine ⟨?_, fun hf => absurd rfl hf, fun hm hq hv => ?_⟩
    · rw [add_zero, mix_split m (hw h) hwv]
    · have hc := div_nonneg hm (hw h).le
      exact ⟨mul_nonneg hc hv, mul_nonneg hc hq, le_rfl⟩

variable {σ ι ο : Type} (stor : σ → ℝ) (inn : ι → ℝ) (out : ο → ℝ) (R : ι → ο → Prop) (H : Prop) (Inv : σ → Prop)
  (Ok : ι → Prop) (P : ο → Prop)

/-- One step of a constituent kernel, from state `s` on input `x` with result `r`, as the run-level theorems use it.
`budget`: the mass held (`stor`) plus what comes in equals what is held afterwards plus what goes out (`out` counts
the ghost `flushed`). `io` relates input and output of the step (mass is dropped only on a dry step). `nonneg` is the
sign clause, `H` its hypothesis on the parameters.

`budget` has no hypothesis. Where the identity cancels a division by Δt, `Δt ≠ 0` comes from outside the record: as an
argument of the theorem (`decay_step`, whose every clause needs it), or as a guard on the whole record (`PNStep.mass`).
Not instances: `FineStep` (C12Fine.lean) has the three clauses under their own guards (`budget` under `Δt ≠ 0`,
`flushed` for `io`), but two budgets, and a sign clause that relates the output to the state BEFORE the step, which
`P : ο → Prop` cannot say (it is lifted with `scan_rel`); `trapping_step` (C12Trapping.lean), whose budget holds only
under the signs. -/
structure MassStep (s : σ) (x : ι) (r : σ × ο) : Prop where
  budget : stor s + inn x = stor r.1 + out r.2
  io : R x r.2
  nonneg : H → Inv s → Ok x → Inv r.1 ∧ P r.2

variable {stor inn out R H Inv Ok P}

/-- `budget_M` and `nonneg_M` of a kernel whose every step is a `MassStep`. -/
theorem MassStep.run {step : σ → ι → σ × ο} (h : ∀ s x, MassStep stor inn out R H Inv Ok P s x (step s x))
    (xs : List ι) (s : σ) :
    (stor s + (xs.map inn).sum = stor (scan step s xs).1 + ((scan step s xs).2.map out).sum ∧
      List.Forall₂ R xs (scan step s xs).2) ∧
    (H → Inv s → (∀ x ∈ xs, Ok x) → Inv (scan step s xs).1 ∧ ∀ o ∈ (scan step s xs).2, P o) :=
  ⟨⟨scan_mass fun s x => (h s x).budget, scan_io' fun s x => (h s x).io⟩,
   fun hH => scan_inv fun s x => (h s x).nonneg hH⟩

end OW.C12
