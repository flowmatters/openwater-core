import OW.Proofs.Sacramento
import OW.Proofs.ScanShapes
/-!
Hot-start lemmas for Sacramento at ℝ (C06): when the unit hydrograph does not spread the flow over steps (uh2..uh5 = 0)
the outputs do not depend on the delay buffer `qq` (a local of the kernel, re-created at every call: `scan_nospread`), and
the scaled lower-zone contents `alzfsc/alzfpc` carried inside a call are recovered exactly from the state row
(`scan_scaled`, `stateOfRow_noQ`); hence the loop of Sacramento (`Sacramento.loop`, OW/Proofs/ScanShapes.lean) is restartable
under the side condition `Props.C06.SacramentoNoSpread`, up to the buffer: `restartableWhen_Sacramento`. Also `iiBody_idle`, an
evaluation step of the C06 counter-example.
-/
namespace OW.Proofs.SacHot
open OW OW.Kernels.Sacramento OW.RR.Sac

theorem convolve_nospread (q0 d0 : ℝ) (t t' : List ℝ) (ht : t.length = 4) (ht' : t'.length = 4) :
    convolve (q0 :: t) [d0, 0, 0, 0, 0] = convolve (q0 :: t') [d0, 0, 0, 0, 0] := by
  match t, t', ht, ht' with
  | [x1, x2, x3, x4], [y1, y2, y3, y4], _, _ =>
    simp only [convolve, List.zipWith, List.foldl, realnum, mul_zero, add_zero]

/-- the buffer a channel stage leaves (a name that hides `channel`, so that `channel_nospread` can be used as a rewrite rule) -/
noncomputable def bufAfter (p : Params ℝ) (c : Consts ℝ) (q : List ℝ) (e : ℝ) (v : Inner ℝ) : List ℝ := (channel p c q e v).qq

theorem channel_nospread (p : Params ℝ) (c : Consts ℝ) (q q' : List ℝ) (d0 : ℝ)
    (hq : q.length = 5) (hq' : q'.length = 5) (hdro : c.dro = [d0, 0, 0, 0, 0]) (e : ℝ) (v : Inner ℝ) :
    channel p c q e v = { channel p c q' e v with qq := bufAfter p c q e v } := by
  have key : ∀ q0 : ℝ, convolve (q0 :: q.tail) c.dro = convolve (q0 :: q'.tail) c.dro := by
    intro q0; rw [hdro]; exact convolve_nospread q0 d0 _ _ (by simp [hq]) (by simp [hq'])
  simp only [bufAfter, channel, key]

theorem channel_qq_length (p : Params ℝ) (c : Consts ℝ) (q : List ℝ) (e : ℝ) (v : Inner ℝ) (hq : q.length = 5) :
    (channel p c q e v).qq.length = 5 := by
  simp [channel, hq]

/-- a state up to its unit-hydrograph buffer -/
def noQ (s : State ℝ) : State ℝ := { s with qq := [] }

theorem step_nospread (p : Params ℝ) (c : Consts ℝ) (d0 : ℝ) (hdro : c.dro = [d0, 0, 0, 0, 0]) (s s' : State ℝ)
    (i : ℝ × ℝ) (h : noQ s = noQ s') (hq : s.qq.length = 5) (hq' : s'.qq.length = 5) :
    (step p c s i).2 = (step p c s' i).2 ∧ noQ (step p c s i).1 = noQ (step p c s' i).1 := by
  obtain ⟨s1, s2, s3, s4, s5, s6, s7, s8, q⟩ := s
  obtain ⟨t1, t2, t3, t4, t5, t6, t7, t8, q'⟩ := s'
  simp only [noQ, State.mk.injEq, and_true] at h
  obtain ⟨rfl, rfl, rfl, rfl, rfl, rfl, rfl, rfl⟩ := h
  have hc := channel_nospread p c q q' d0 hq hq' hdro
  simp only [step, noQ, hc]
  exact ⟨trivial, trivial⟩

theorem scan_nospread (p : Params ℝ) (c : Consts ℝ) (d0 : ℝ) (hdro : c.dro = [d0, 0, 0, 0, 0]) :
    ∀ (xs : List (ℝ × ℝ)) (s s' : State ℝ), noQ s = noQ s' → s.qq.length = 5 → s'.qq.length = 5 →
      (scan (step p c) s xs).2 = (scan (step p c) s' xs).2 ∧
      noQ (scan (step p c) s xs).1 = noQ (scan (step p c) s' xs).1 := by
  intro xs s s' h hq hq'
  have := scan_bisim (step := step p c) (g := step p c) (ψ := id)
    (S := fun s s' => noQ s = noQ s' ∧ s.qq.length = 5 ∧ s'.qq.length = 5)
    (fun s s' x ⟨h, hq, hq'⟩ =>
      have k := step_nospread p c d0 hdro s s' x h hq hq'
      ⟨⟨k.2, channel_qq_length p c s.qq x.2 _ hq, channel_qq_length p c s'.qq x.2 _ hq'⟩, k.1⟩) xs ⟨h, hq, hq'⟩
  exact ⟨by simpa using this.2, this.1.1⟩

/-- what a run keeps of the state a call starts from (`stateOfRow`): the lower free-water contents stay scaled (the
divisor `1 + side` of the channel stage is not zero) and the buffer keeps its five cells -/
theorem scan_scaled (p : Params ℝ) (c : Consts ℝ) (hside : 1 + p.side ≠ 0) (xs : List (ℝ × ℝ)) (s : State ℝ)
    (h : Scaled p s) (hq : s.qq.length = 5) :
    Scaled p (scan (step p c) s xs).1 ∧ (scan (step p c) s xs).1.qq.length = 5 :=
  (scan_inv (step := step p c) (Inv := fun s => Scaled p s ∧ s.qq.length = 5) (Ok := fun _ => True) (P := fun _ => True)
    (fun s x h _ => ⟨⟨channel_scaled p c s.qq x.2 _ hside, channel_qq_length p c s.qq x.2 _ h.2⟩, trivial⟩) ⟨h, hq⟩
    fun _ _ => trivial).1

/-- the state a call decodes from the row of `s` is `s` up to the buffer -/
theorem stateOfRow_noQ (p : Params ℝ) (s : State ℝ) (h : Scaled p s) :
    noQ (stateOfRow p s.uztwc s.uzfwc s.lztwc s.lzfpc s.lzfsc s.adimc) = noQ s := by
  obtain ⟨s1, s2, s3, s4, s5, s6, s7, s8, q⟩ := s
  simp only [noQ, stateOfRow, RealNum.sci_one, State.mk.injEq, and_true, true_and]
  exact h

/-- the drainage and percolation loop with empty free-water stores and nothing to add does nothing (one increment, every
flow zero), whatever the parameters -/
theorem iiBody_idle (p : Params ℝ) (c : Consts ℝ) (u hpl adj a r : ℝ) :
    ∃ tg, iiBody p c u hpl adj 0 ⟨0, 0, 0, 0, a, 0, 0, 0, r, []⟩ = ⟨0, 0, 0, 0, a, 0, 0, 0, r, tg⟩ := by
  have hfl : Num.toInt (Num.floor (0:ℝ)) = 0 := (RealNum.toInt_floor 0).trans Int.floor_zero
  unfold iiBody
  simp only [zero_mul, add_zero, hfl, Int.toNat_one, incLoop, incBody, RealNum.sci_zero, lt_irrefl, if_false, sub_zero, zero_add, mul_zero]
  exact ⟨_, rfl⟩

end OW.Proofs.SacHot

namespace OW.Props.C06

/-- side condition for Sacramento: the unit hydrograph has only its first ordinate (the flow of a step leaves in that
step), and the divisors `uh1` (sum of the ordinates) and `1 + side` are not zero -/
def SacramentoNoSpread (p _st _s : List ℝ) : Prop :=
  ∃ lzpk lzsk uzk uztwm uzfwm lztwm lzfsm lzfpm pfree rexp zperc side ssout pctim adimp sarva rserv uh1 : ℝ,
    p = [lzpk, lzsk, uzk, uztwm, uzfwm, lztwm, lzfsm, lzfpm, pfree, rexp, zperc, side, ssout, pctim, adimp, sarva, rserv,
      uh1, 0, 0, 0, 0] ∧ uh1 ≠ 0 ∧ (1.0 : ℝ) + side ≠ 0

end OW.Props.C06

namespace OW.Kernels
open OW OW.Props.C06

/-- Sacramento's loop (`Sacramento.loop`) from the state a call decodes from a row — the scaled lower-zone contents
re-derived, the buffer `qq` empty — is simulated by the loop from the state the row was written for: the one use of the
simulation clause of `RestartableWhen`. -/
theorem restartableWhen_Sacramento : RestartableWhen 0 (Sacramento.model (α := ℝ)) SacramentoNoSpread := by
  intro p ins st o h
  unfold Sacramento.model at h
  dsimp only at h
  split at h
  case h_2 => cases h
  case h_1 lzpk lzsk uzk uztwm uzfwm lztwm lzfsm lzfpm pfree rexp zperc side ssout pctim adimp sarva rserv uh1 uh2 uh3 uh4 uh5 rain pet s0 s1 s2 s3 s4 s5 =>
    clear h
    let P : Sacramento.Params ℝ := ⟨lzpk, lzsk, uzk, uztwm, uzfwm, lztwm, lzfsm, lzfpm, pfree, rexp, zperc, side, ssout, pctim,
      adimp, sarva, rserv, uh1, uh2, uh3, uh4, uh5⟩
    refine ⟨Sacramento.loop P, RR.Sac.stateOfRow P s0 s1 s2 s3 s4 s5,
      KLoop.ofScan_lawful rows2_lawful _ _ _, KModel.runsFrom_total fun f => ⟨_, rfl, rfl, rfl⟩, fun x r hx hc => ?_⟩
    cases hx
    dsimp only at hc ⊢
    obtain ⟨_, _, _, _, _, _, _, _, _, _, _, _, _, _, _, _, _, _, hp, huh, hside⟩ := hc
    cases hp
    have hdro : (Sacramento.consts P).dro = [uh1 / (0.0 + uh1 + 0 + 0 + 0 + 0), 0, 0, 0, 0] := by
      simp only [P, Sacramento.consts, Sacramento.makeUnitHydrograph, realnum, zero_div]
    rw [RealNum.sci_one] at hside
    -- the state the first call stops in, and the state a call decodes from its row
    obtain ⟨ht, hq⟩ := OW.Proofs.SacHot.scan_scaled P (Sacramento.consts P) hside x _
      (RR.Sac.stateOfRow_scaled P s0 s1 s2 s3 s4 s5) rfl
    generalize hf : (scan (Sacramento.step P (Sacramento.consts P)) (RR.Sac.stateOfRow P s0 s1 s2 s3 s4 s5) x).1 = t at ht hq
    refine ⟨RR.Sac.stateOfRow P t.uztwc t.uzfwc t.lztwc t.lzfpc t.lzfsc t.adimc,
      KModel.runsFrom_total fun f => ⟨_, rfl, rfl, rfl⟩, fun y r' hy => ?_⟩
    cases hy
    obtain ⟨k1, k2⟩ := OW.Proofs.SacHot.scan_nospread P _ _ hdro y _ t (OW.Proofs.SacHot.stateOfRow_noQ P t ht) rfl hq
    -- the state row does not hold the buffer
    exact ⟨_, rfl, k1.symm,
      (congrArg (fun s : Sacramento.State ℝ => [s.uztwc, s.uzfwc, s.lztwc, s.lzfpc, s.lzfsc, s.adimc]) k2).symm⟩

end OW.Kernels
