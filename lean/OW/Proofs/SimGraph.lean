import OW.Proofs.SimSchedule
/-!
C07, the data side: the invariant from which `owsim_eq_ref_safe_schedule` (OW/Props/C07.lean) reads off that the output file of
every admitted schedule is the reference result. The idea: the implementation-shaped state is a function of the progress `Prog` of the schedule (`OW/Proofs/SimSchedule.lean`) and of the reference result
`D = refDone …`. Invariant `DInv`: a generation that has run holds the rows of `D` (`FinalData`), one that has not holds the
stored inputs plus the links applied so far (`PendingData`), the file holds the rows of the written generations; one
preservation lemma per action, and `sinv_run` for a whole schedule (`SInv` = `PInv` + `DInv` for some split of the link list at
the cursor). Before it, what the invariant needs: row ranges of generations (`inGen`), the node equations of the reference
result (`ref_fixed`), and the cache of generation objects read through `effGen` (the cached object, or what `GetGeneration`
would load). Core Lean only.
-/
-- the lemmas that read `ValidGraph`, `LinkOk` or row ranges of a `Graph α` take `[Num α]` and do not use it
set_option linter.unusedSectionVars false

namespace OW.Sim
variable {α : Type} [Num α]

theorem startOf_succ (b : List Nat) (g : Nat) : startOf b (g + 1) = stopOf b g := by
  simp [startOf, stopOf]

theorem mono_le {b : List Nat} (hm : MonoBatches b) {i j : Nat} (hij : i ≤ j) (hj : j < b.length) :
    b.getD i 0 ≤ b.getD j 0 := by
  induction hij with
  | refl => exact Nat.le_refl _
  | @step n _ ih => exact Nat.le_trans (ih (by omega)) (hm n (by omega))

theorem start_le_stop {b : List Nat} (hm : MonoBatches b) {g : Nat} (hg : g < b.length) :
    startOf b g ≤ stopOf b g := by
  unfold startOf stopOf
  split
  · exact Nat.zero_le _
  · exact mono_le hm (by omega) hg

theorem stop_le_total {b : List Nat} (hm : MonoBatches b) {g : Nat} (hg : g < b.length) :
    stopOf b g ≤ totalOf b := by
  unfold stopOf totalOf
  exact mono_le hm (by omega) (by omega)

/-- a generation beyond the batch list has `stopOf = 0`, hence no row -/
theorem inGen_lt_length {b : List Nat} {g r : Nat} (h : inGen b g r) : g < b.length := by
  apply Classical.byContradiction
  intro hn
  have : stopOf b g = 0 := by
    unfold stopOf
    simp [List.getD, List.getElem?_eq_none (Nat.le_of_not_lt hn)]
  have := h.2
  omega

theorem inGen_lt_total {b : List Nat} (hm : MonoBatches b) {g r : Nat} (h : inGen b g r) : r < totalOf b :=
  Nat.lt_of_lt_of_le h.2 (stop_le_total hm (inGen_lt_length h))

theorem inGen_cover {b : List Nat} {r : Nat} (h : r < totalOf b) : ∃ g, g < b.length ∧ inGen b g r := by
  have aux : ∀ n, r < stopOf b n → ∃ g, inGen b g r := by
    intro n
    induction n with
    | zero => exact fun h => ⟨0, Nat.zero_le _, h⟩
    | succ n ih =>
      exact fun h => (Nat.lt_or_ge r (stopOf b n)).elim ih fun h' => ⟨n + 1, by rw [startOf_succ]; exact h', h⟩
  obtain ⟨g, hin⟩ := aux _ h
  exact ⟨g, inGen_lt_length hin, hin⟩

theorem inGen_le {b : List Nat} (hm : MonoBatches b) {g1 g2 r : Nat} (a : inGen b g1 r) (c : inGen b g2 r) :
    g1 ≤ g2 := by
  apply Classical.byContradiction
  intro hlt
  have h3 : stopOf b g2 ≤ startOf b g1 := by
    unfold startOf
    rw [if_neg (by omega)]
    exact mono_le hm (by omega) (by have := inGen_lt_length a; omega)
  have := a.1; have := c.2
  omega

theorem inGen_inj {b : List Nat} (hm : MonoBatches b) {g1 g2 r : Nat} (a : inGen b g1 r) (c : inGen b g2 r) :
    g1 = g2 := Nat.le_antisymm (inGen_le hm a c) (inGen_le hm c a)

theorem range_foldl_succ {β : Type} (f : β → Nat → β) (a : β) (n : Nat) :
    (List.range (n + 1)).foldl f a = f ((List.range n).foldl f a) n := by
  rw [List.range_succ, List.foldl_append]; rfl

/-- step `n` of a loop over `m = 0, 1, …` that sets entry `m` to `a m` where `P m` holds -/
theorem ite_lt_succ {β : Type} (P : Nat → Prop) [DecidablePred P] (a b : Nat → β) (m n : Nat) :
    (if m = n ∧ P n then a n else if m < n ∧ P m then a m else b m) = if m < n + 1 ∧ P m then a m else b m := by
  by_cases e : m = n
  · subst e
    simp only [true_and, Nat.lt_irrefl, false_and, if_false, Nat.lt_succ_self]
  · have : m < n + 1 ↔ m < n := by omega
    simp only [e, false_and, if_false, this]

/-- one link folded into the input of node (m, r) -/
def stepIn (D : Done α) (m r : Nat) (ins : List (List α)) (l : Link) : List (List α) :=
  if l.destModel = m ∧ l.destNode = r then addAt ins l.destVar (linkSeries D l) else ins

/-- the input of node (m, r) after the links `ls` -/
def partialInput (g : Graph α) (D : Done α) (ls : List Link) (m r : Nat) : List (List α) :=
  ls.foldl (stepIn D m r) (baseInputs g (g.model m) r)

theorem nodeInput_eq_partialInput (g : Graph α) (D : Done α) (m r : Nat) :
    nodeInput g D m r = partialInput g D g.links m r := rfl

theorem foldl_stepIn_skip (D : Done α) (m r : Nat) :
    ∀ (ls : List Link) (init : List (List α)), (∀ l ∈ ls, ¬ (l.destModel = m ∧ l.destNode = r)) →
      ls.foldl (stepIn D m r) init = init
  | [], _, _ => rfl
  | l :: ls, init, h => by
    rw [List.foldl_cons, show stepIn D m r init l = init from if_neg (h l List.mem_cons_self)]
    exact foldl_stepIn_skip D m r ls init fun l' hl' => h l' (List.mem_cons_of_mem _ hl')

theorem runNodeAt_congr (run : RunFn α) (g : Graph α) (D1 D2 : Done α) (m r : Nat)
    (h : ∀ l ∈ g.links, l.destModel = m → l.destNode = r → D1 l.srcModel l.srcNode = D2 l.srcModel l.srcNode) :
    runNodeAt run g D1 m r = runNodeAt run g D2 m r := by
  have : nodeInput g D1 m r = nodeInput g D2 m r := List.foldl_rel rfl fun l hl ins _ e => by
    subst e
    unfold linkSeries
    split
    · rename_i hc; rw [h l hl hc.1 hc.2]
    · rfl
  simp only [runNodeAt, this]

theorem refDone_succ (run : RunFn α) (g : Graph α) (n : Nat) :
    refDone run g (n + 1) = refGen run g (refDone run g n) n := by
  unfold refDone; exact range_foldl_succ _ _ _

theorem refDone_stable (run : RunFn α) (g : Graph α) {m r g' : Nat}
    (hmono : MonoBatches (g.model m).batches) (hin : inGen (g.model m).batches g' r) :
    ∀ n, g' < n → refDone run g n m r = runNodeAt run g (refDone run g g') m r := by
  intro n h
  induction h with
  | refl => rw [refDone_succ]; exact if_pos hin
  | @step n hn ih =>
    rw [refDone_succ]
    exact (if_neg fun c => Nat.ne_of_lt hn (inGen_inj hmono hin c)).trans ih

theorem ValidGraph.genPos {g : Graph α} (hv : ValidGraph g) : 1 ≤ g.genCount := hv.1
theorem ValidGraph.len {g : Graph α} (hv : ValidGraph g) {m : Nat} (hm : m < g.models.length) :
    (g.model m).batches.length = g.genCount := (hv.2.1 m hm).1
theorem ValidGraph.mono {g : Graph α} (hv : ValidGraph g) {m : Nat} (hm : m < g.models.length) :
    MonoBatches (g.model m).batches := (hv.2.1 m hm).2
theorem ValidGraph.sorted {g : Graph α} (hv : ValidGraph g) : SortedLinks g.links := hv.2.2.1
theorem ValidGraph.link {g : Graph α} (hv : ValidGraph g) {l : Link} (hl : l ∈ g.links) : LinkOk g l := hv.2.2.2.1 l hl
theorem ValidGraph.names {g : Graph α} (hv : ValidGraph g) : (g.models.map (·.name)).Nodup := hv.2.2.2.2.1
theorem ValidGraph.srcVar {g : Graph α} (hv : ValidGraph g) {l : Link} (hl : l ∈ g.links) :
    l.srcVar < (g.model l.srcModel).nOutputs := hv.2.2.2.2.2.1 l hl
theorem ValidGraph.shape {g : Graph α} (hv : ValidGraph g) {md : ModelData α} (hm : md ∈ g.models) : ShapeOk g md :=
  hv.2.2.2.2.2.2 md hm

/-- number of nodes of model `m` in generation `gen` -/
def countOf (g : Graph α) (m gen : Nat) : Nat := stopOf (g.model m).batches gen - startOf (g.model m).batches gen

/-- global row of node `k` of generation `gen` of model `m` -/
def rowOf (g : Graph α) (m gen k : Nat) : Nat := startOf (g.model m).batches gen + k

theorem inGen_rowOf {g : Graph α} {m gen k : Nat} (hk : k < countOf g m gen) :
    inGen (g.model m).batches gen (rowOf g m gen k) := by
  unfold countOf at hk; unfold inGen rowOf; omega

theorem exists_rowOf {g : Graph α} {m gen r : Nat} (h : inGen (g.model m).batches gen r) :
    ∃ k, k < countOf g m gen ∧ rowOf g m gen k = r :=
  ⟨r - startOf (g.model m).batches gen, by unfold countOf; have := h.1; have := h.2; omega,
    by unfold rowOf; have := h.1; omega⟩

/-- `WriteData`'s row range `[loc, loc + count)` is the generation's row range -/
theorem inGen_iff_count {g : Graph α} {m gen r : Nat} :
    startOf (g.model m).batches gen ≤ r ∧ r < startOf (g.model m).batches gen + countOf g m gen ↔
      inGen (g.model m).batches gen r := by
  unfold inGen countOf; omega

theorem LinkOk.src_in {g : Graph α} {l : Link} (h : LinkOk g l) :
    l.srcNode = rowOf g l.srcModel l.srcGen l.srcGenNode ∧ l.srcGenNode < countOf g l.srcModel l.srcGen := by
  obtain ⟨_, _, _, _, h5, _, h7, _, _⟩ := h
  exact ⟨h7, h5⟩

theorem LinkOk.dest_in {g : Graph α} {l : Link} (h : LinkOk g l) :
    l.destNode = rowOf g l.destModel l.destGen l.destGenNode ∧ l.destGenNode < countOf g l.destModel l.destGen := by
  obtain ⟨_, _, _, _, _, h6, _, h8, _⟩ := h
  exact ⟨h8, h6⟩

theorem link_dest_gen {g : Graph α} (hv : ValidGraph g) {l : Link} (hl : l ∈ g.links) {m gen k : Nat}
    (hk : k < countOf g m gen) (hdm : l.destModel = m) (hdn : l.destNode = rowOf g m gen k) :
    l.destGen = gen := by
  have ok := hv.link hl
  obtain ⟨e1, e2⟩ := ok.dest_in
  have hml : l.destModel < g.models.length := ok.2.2.2.1
  rw [hdm] at e1 e2 hml
  have i1 := inGen_rowOf e2
  rw [← e1, hdn] at i1
  exact inGen_inj (hv.mono hml) i1 (inGen_rowOf hk)

theorem ref_fixed (run : RunFn α) (g : Graph α) (hv : ValidGraph g) {m gen k : Nat} (hm : m < g.models.length)
    (hk : k < countOf g m gen) :
    refDone run g g.genCount m (rowOf g m gen k) =
      runNodeAt run g (refDone run g g.genCount) m (rowOf g m gen k) := by
  have hgenG : gen < g.genCount := by rw [← hv.len hm]; exact inGen_lt_length (inGen_rowOf hk)
  rw [refDone_stable run g (hv.mono hm) (inGen_rowOf hk) g.genCount hgenG]
  apply runNodeAt_congr
  intro l hl hdm hdn
  have ok := hv.link hl
  have hg := link_dest_gen hv hl hk hdm hdn
  obtain ⟨e1, e2⟩ := ok.src_in
  have hsm : l.srcModel < g.models.length := ok.2.2.1
  have hlt : l.srcGen < gen := by have := ok.1; omega
  rw [e1, refDone_stable run g (hv.mono hsm) (inGen_rowOf e2) gen hlt,
    refDone_stable run g (hv.mono hsm) (inGen_rowOf e2) g.genCount (by omega)]

/-- the generation object the code works on: the cached one, or what `GetGeneration` would load -/
def effGen (g : Graph α) (s : SimState α) (m gen : Nat) : GenData α :=
  match s.gens m gen with
  | some d => d
  | none => loadGeneration g m gen

/-- the state after `GetGeneration(m, gen)`: the object it returns is cached, nothing else changes -/
def ensure (g : Graph α) (s : SimState α) (m gen : Nat) : SimState α :=
  { s with gens := upd2 s.gens m gen (some (effGen g s m gen)) }

theorem effGen_of_some {g : Graph α} {s : SimState α} {m gen : Nat} {d : GenData α} (h : s.gens m gen = some d) :
    effGen g s m gen = d := by unfold effGen; rw [h]

theorem effGen_congr (g : Graph α) {s s' : SimState α} {m gen : Nat} (h : s'.gens m gen = s.gens m gen) :
    effGen g s' m gen = effGen g s m gen := by unfold effGen; rw [h]

theorem ensure_of_some (g : Graph α) {s : SimState α} {m gen : Nat} {d : GenData α} (h : s.gens m gen = some d) :
    ensure g s m gen = s := by unfold ensure; rw [effGen_of_some h, upd2_self h]

theorem getGeneration_eq (g : Graph α) (s : SimState α) (m gen : Nat) :
    getGeneration g s m gen = (ensure g s m gen, effGen g s m gen) := by
  unfold getGeneration ensure effGen
  cases h : s.gens m gen with
  | none => rfl
  | some d => simp only [upd2_self h]

theorem ensure_gens (g : Graph α) (s : SimState α) {m gen m2 g2 : Nat}
    (h : m2 = m ∧ g2 = gen → (s.gens m2 g2).isSome = true) : (ensure g s m gen).gens m2 g2 = s.gens m2 g2 := by
  show upd2 _ _ _ _ m2 g2 = _
  unfold upd2
  split
  · rename_i e
    have hc := h e
    obtain ⟨rfl, rfl⟩ := e
    cases hd : s.gens m2 g2 with
    | none => rw [hd] at hc; cases hc
    | some d => rw [effGen_of_some hd]
  · rfl

theorem effGen_ensure (g : Graph α) (s : SimState α) (m gen m2 g2 : Nat) :
    effGen g (ensure g s m gen) m2 g2 = effGen g s m2 g2 := by
  by_cases e : m2 = m ∧ g2 = gen
  · obtain ⟨rfl, rfl⟩ := e
    exact effGen_of_some (if_pos ⟨rfl, rfl⟩)
  · exact effGen_congr g (if_neg e)

/-- a generation that has run holds the reference results of its nodes -/
structure FinalData (g : Graph α) (D : Done α) (m gen : Nat) (d : GenData α) : Prop where
  count : d.count = countOf g m gen
  ran : 0 < countOf g m gen → d.ran = true
  vals : ∀ k, k < countOf g m gen →
    d.inputs k = (D m (rowOf g m gen k)).inputs ∧ d.outputs k = (D m (rowOf g m gen k)).res.outputs ∧
    d.states k = (D m (rowOf g m gen k)).res.states ∧ d.errs k = (D m (rowOf g m gen k)).res.err

/-- a generation that has not run yet holds the stored inputs plus the links applied so far (`pre`) -/
structure PendingData (g : Graph α) (D : Done α) (pre : List Link) (m gen : Nat) (d : GenData α) : Prop where
  count : d.count = countOf g m gen
  vals : ∀ k, k < countOf g m gen →
    d.inputs k = partialInput g D pre m (rowOf g m gen k) ∧
    d.states k = (g.model m).states.getD (rowOf g m gen k) [] ∧
    d.params k = (g.model m).params.getD (rowOf g m gen k) []

def rowOut (g : Graph α) (D : Done α) (m r : Nat) : Row α := mkRow g (g.model m) (D m r).inputs (D m r).res

structure DInv (g : Graph α) (D : Done α) (p : Prog) (pre : List Link) (s : SimState α) : Prop where
  cursor : s.nextLink = pre.length
  fin : ∀ m gen, m < g.models.length → gen < p.ran → p.purged gen = false →
    ∃ d, s.gens m gen = some d ∧ FinalData g D m gen d
  pend : ∀ m gen, m < g.models.length → p.ran ≤ gen → PendingData g D pre m gen (effGen g s m gen)
  file : ∀ m gen k, m < g.models.length → k < countOf g m gen →
    s.file m (rowOf g m gen k) = if p.written gen = true then some (rowOut g D m (rowOf g m gen k)) else none
  init : ∀ m, m < g.models.length → (s.initialised m = true ↔ ∃ gen, p.written gen = true ∧ 0 < countOf g m gen)

theorem loadGeneration_pending (g : Graph α) (D : Done α) (m gen : Nat) :
    PendingData g D [] m gen (loadGeneration g m gen) := by
  constructor
  · unfold loadGeneration countOf
    simp only []
    split <;> simp_all
  · intro k hk
    have hne : ¬ (stopOf (g.model m).batches gen - startOf (g.model m).batches gen = 0) := by
      unfold countOf at hk; omega
    unfold loadGeneration
    simp only [hne, if_false]
    exact ⟨rfl, rfl, rfl⟩

theorem partialInput_snoc (g : Graph α) (D : Done α) (pre : List Link) (l : Link) (m r : Nat) :
    partialInput g D (pre ++ [l]) m r = stepIn D m r (partialInput g D pre m r) l := by
  unfold partialInput; rw [List.foldl_append]; rfl

/-- the destination generation after one link -/
def withLink (dst : GenData α) (l : Link) (srcData : List α) : GenData α :=
  { dst with inputs := upd dst.inputs l.destGenNode (addAt (dst.inputs l.destGenNode) l.destVar srcData) }

theorem applyLink_eq (g : Graph α) (s : SimState α) (l : Link) :
    applyLink g s l =
      { ensure g (ensure g s l.srcModel l.srcGen) l.destModel l.destGen with
        gens := upd2 (ensure g (ensure g s l.srcModel l.srcGen) l.destModel l.destGen).gens l.destModel l.destGen
          (some (withLink (effGen g s l.destModel l.destGen) l
            (((effGen g s l.srcModel l.srcGen).outputs l.srcGenNode).getD l.srcVar [])))
        nextLink := (ensure g (ensure g s l.srcModel l.srcGen) l.destModel l.destGen).nextLink + 1 } := by
  unfold applyLink withLink
  simp only [getGeneration_eq, effGen_ensure]

theorem applyLink_frame (g : Graph α) (s : SimState α) (l : Link) :
    (applyLink g s l).nextLink = s.nextLink + 1 ∧ (applyLink g s l).file = s.file ∧
      (applyLink g s l).initialised = s.initialised := by
  rw [applyLink_eq]
  exact ⟨rfl, rfl, rfl⟩

/-- one link touches the destination generation object (adds to its inputs) and, when it is not cached, loads the
source generation object; nothing else -/
theorem applyLink_gens (g : Graph α) (s : SimState α) (l : Link) (m k : Nat)
    (hd : ¬ (m = l.destModel ∧ k = l.destGen))
    (hs : m = l.srcModel ∧ k = l.srcGen → (s.gens m k).isSome = true) :
    (applyLink g s l).gens m k = s.gens m k := by
  rw [applyLink_eq]
  show upd2 _ _ _ _ m k = _
  unfold upd2
  rw [if_neg hd, ensure_gens _ _ fun e => absurd e hd, ensure_gens _ _ hs]

/-- loading the source or the destination generation does not change what `effGen` sees -/
theorem effGen_applyLink (g : Graph α) (s : SimState α) (l : Link) (m gen : Nat) :
    effGen g (applyLink g s l) m gen =
      if m = l.destModel ∧ gen = l.destGen then
        withLink (effGen g s m gen) l (((effGen g s l.srcModel l.srcGen).outputs l.srcGenNode).getD l.srcVar [])
      else effGen g s m gen := by
  by_cases e : m = l.destModel ∧ gen = l.destGen
  · rw [if_pos e, applyLink_eq, e.1, e.2]
    exact effGen_of_some (by simp only [upd2, and_self, if_true])
  · rw [if_neg e, applyLink_eq, ← effGen_ensure g s l.srcModel l.srcGen m gen,
      ← effGen_ensure g (ensure g s l.srcModel l.srcGen) l.destModel l.destGen m gen]
    exact effGen_congr g (by simp only [upd2, e, if_false])

/-- the data content of one link: on a generation object that has not run, adding the source series to the destination
node's input is the specification's `stepIn` at every node of the object (the link's destination node lies in exactly
one generation object, `link_dest_gen`) -/
theorem PendingData.after_link {g : Graph α} (hv : ValidGraph g) {D : Done α} {pre : List Link} {l : Link} (hl : l ∈ g.links)
    {m gen : Nat} {d : GenData α} (h : PendingData g D pre m gen d) :
    PendingData g D (pre ++ [l]) m gen
      (if m = l.destModel ∧ gen = l.destGen then withLink d l (linkSeries D l) else d) := by
  obtain ⟨de1, de2⟩ := (hv.link hl).dest_in
  refine ⟨by split <;> exact h.count, fun k hk => ?_⟩
  obtain ⟨o1, o2, o3⟩ := h.vals k hk
  rw [partialInput_snoc]
  unfold stepIn
  by_cases e : m = l.destModel ∧ gen = l.destGen
  · obtain ⟨rfl, rfl⟩ := e
    rw [if_pos ⟨rfl, rfl⟩]
    refine ⟨?_, o2, o3⟩
    show upd d.inputs l.destGenNode (addAt (d.inputs l.destGenNode) l.destVar (linkSeries D l)) k = _
    by_cases ek : k = l.destGenNode
    · subst ek
      simp only [upd, if_true, de1, and_self]
      rw [o1]
    · have hc : ¬ (l.destNode = rowOf g l.destModel l.destGen k) := by
        rw [de1]; unfold rowOf; omega
      simp only [upd, ek, if_false, hc, and_false]
      exact o1
  · have hc : ¬ (l.destModel = m ∧ l.destNode = rowOf g m gen k) := fun hc =>
      e ⟨hc.1.symm, (link_dest_gen hv hl hk hc.1 hc.2).symm⟩
    rw [if_neg e, if_neg hc]
    exact ⟨o1, o2, o3⟩

theorem dinv_applyLink {g : Graph α} (hv : ValidGraph g) {D : Done α} {p : Prog} {pre post : List Link} {l : Link}
    {s : SimState α} (hsplit : g.links = pre ++ l :: post) (hp : PInv g.genCount p) (hI : DInv g D p pre s)
    (hs : l.srcGen + 1 = p.ran) (hlk : p.linked = l.srcGen) :
    DInv g D p (pre ++ [l]) (applyLink g s l) := by
  have hl : l ∈ g.links := by rw [hsplit]; simp
  have ok := hv.link hl
  obtain ⟨se1, se2⟩ := ok.src_in
  have hsm : l.srcModel < g.models.length := ok.2.2.1
  have hlt : l.srcGen < l.destGen := ok.1
  obtain ⟨dsrc, hsrc, fsrc⟩ := hI.fin l.srcModel l.srcGen hsm (by omega) (hp.not_purged (Nat.le_of_eq hlk))
  have hsrcData : ((effGen g s l.srcModel l.srcGen).outputs l.srcGenNode).getD l.srcVar [] = linkSeries D l := by
    rw [effGen_of_some hsrc, (fsrc.vals _ se2).2.1]; unfold linkSeries; rw [se1]
  obtain ⟨a1, a2, a3⟩ := applyLink_frame g s l
  refine ⟨?_, ?_, ?_, ?_, ?_⟩
  · rw [a1, hI.cursor, List.length_append]; rfl
  · intro m gen hm hgen hnpg
    obtain ⟨d, hd, fd⟩ := hI.fin m gen hm hgen hnpg
    exact ⟨d, (applyLink_gens g s l m gen (by omega) fun _ => by rw [hd]; rfl).trans hd, fd⟩
  · intro m gen hm hgen
    rw [effGen_applyLink, hsrcData]
    exact (hI.pend m gen hm hgen).after_link hv hl
  · intro m gen k hm hk
    rw [a2]; exact hI.file m gen k hm hk
  · intro m hm
    rw [a3]; exact hI.init m hm

theorem sorted_tail {l : Link} {rest : List Link} (h : SortedLinks (l :: rest)) : SortedLinks rest := h.2

theorem sorted_append_right : ∀ (pre post : List Link), SortedLinks (pre ++ post) → SortedLinks post
  | [], _, h => h
  | _ :: pre, post, h => sorted_append_right pre post h.2

/-- the PROCESS LINKS loop of generation `i`: consumes exactly the links whose source generation is `i` -/
theorem dinv_processLinksFrom {g : Graph α} (hv : ValidGraph g) {D : Done α} {p : Prog} (hp : PInv g.genCount p)
    {i : Nat} (hi : i + 1 = p.ran) (hlk : p.linked = i) :
    ∀ (post pre : List Link) (s : SimState α), g.links = pre ++ post → DInv g D p pre s →
      (∀ l ∈ pre, l.srcGen < i + 1) → (∀ l ∈ post, i ≤ l.srcGen) →
      ∃ pre' post', g.links = pre' ++ post' ∧ DInv g D p pre' (processLinksFrom g i post s) ∧
        (∀ l ∈ pre', l.srcGen < i + 1) ∧ (∀ l ∈ post', i + 1 ≤ l.srcGen) := by
  intro post
  induction post with
  | nil =>
    intro pre s hsplit hI hpre _
    exact ⟨pre, [], hsplit, hI, hpre, fun l hl => by cases hl⟩
  | cons l rest ih =>
    intro pre s hsplit hI hpre hpost
    unfold processLinksFrom
    split
    · -- `linkGen > i → break`: by sortedness all remaining links are later
      rename_i hgt
      refine ⟨pre, l :: rest, hsplit, hI, hpre, fun l' hl' => ?_⟩
      rcases List.mem_cons.mp hl' with rfl | e
      · exact hgt
      · exact Nat.le_trans hgt ((sorted_append_right pre (l :: rest) (hsplit ▸ hv.sorted)).1 l' e)
    · have hli : l.srcGen = i := by have := hpost l List.mem_cons_self; omega
      refine ih (pre ++ [l]) _ (by rw [hsplit, List.append_assoc]; rfl)
        (dinv_applyLink hv hsplit hp hI (by omega) (by omega)) (fun l' hl' => ?_)
        (fun l' hl' => hpost l' (List.mem_cons_of_mem _ hl'))
      rcases List.mem_append.mp hl' with e | e
      · exact hpre l' e
      · rw [List.mem_singleton.mp e]; omega

/-- generation `i` of model `m` after `runGeneration(i)` (`Run` of an empty generation object is the identity, so the
`Count == 0 → continue` of `runGeneration` needs no case of its own) -/
def ranGen (run : RunFn α) (g : Graph α) (s : SimState α) (m i : Nat) : GenData α :=
  runGenData run (g.model m).name (effGen g s m i)

theorem runModelGen_eq (run : RunFn α) (g : Graph α) (i : Nat) (s : SimState α) (m : Nat) :
    runModelGen run g i s m = { s with gens := upd2 s.gens m i (some (ranGen run g s m i)) } := by
  unfold runModelGen ranGen
  simp only [getGeneration_eq]
  by_cases hc : (effGen g s m i).count = 0
  · rw [if_pos hc, show runGenData run _ (effGen g s m i) = effGen g s m i from if_pos hc]; rfl
  · rw [if_neg hc]; simp only [ensure, upd2_upd2]

/-- the generation objects after the first `n` models of generation `i` have run -/
def ranGens (run : RunFn α) (g : Graph α) (i : Nat) (s0 : SimState α) (n : Nat) : Nat → Nat → Option (GenData α) :=
  fun m2 g2 => if m2 < n ∧ g2 = i then some (ranGen run g s0 m2 i) else s0.gens m2 g2

theorem runGeneration_spec (run : RunFn α) (g : Graph α) (i : Nat) (s0 : SimState α) (n : Nat) :
    (List.range n).foldl (runModelGen run g i) s0 = { s0 with gens := ranGens run g i s0 n } := by
  induction n with
  | zero => rw [show ranGens run g i s0 0 = s0.gens from funext fun _ => funext fun _ => if_neg (by omega)]; rfl
  | succ n ih =>
    rw [range_foldl_succ, runModelGen_eq, ih]
    have hr : ranGen run g { s0 with gens := ranGens run g i s0 n } n i = ranGen run g s0 n i := by
      unfold ranGen; rw [effGen_congr g (if_neg (by omega))]
    rw [hr]
    congr 1
    funext m2 g2
    exact ite_lt_succ (fun _ => g2 = i) (fun m => some (ranGen run g s0 m i)) (s0.gens · g2) m2 n

/-- links that are still to be processed do not reach the generation that runs now -/
theorem partialInput_all {g : Graph α} (hv : ValidGraph g) (D : Done α) {pre post : List Link} {m i k : Nat}
    (hsplit : g.links = pre ++ post) (hpost : ∀ l ∈ post, i ≤ l.srcGen) (hk : k < countOf g m i) :
    nodeInput g D m (rowOf g m i k) = partialInput g D pre m (rowOf g m i k) := by
  rw [nodeInput_eq_partialInput]
  unfold partialInput
  rw [hsplit, List.foldl_append]
  apply foldl_stepIn_skip
  intro l hl hc
  have hlg : l ∈ g.links := by rw [hsplit]; exact List.mem_append_right _ hl
  have := link_dest_gen hv hlg hk hc.1 hc.2
  have := (hv.link hlg).1
  have := hpost l hl
  omega

/-- the data content of `run`: a generation object that has not run and in which no link still to come (`post`) ends
holds, once run, the results `D` — for any `D` that satisfies the node equations at its nodes (`ref_fixed`) -/
theorem PendingData.after_run (run : RunFn α) {g : Graph α} (hv : ValidGraph g) {D : Done α} {pre post : List Link}
    {m gen : Nat} {d : GenData α} (h : PendingData g D pre m gen d) (hsplit : g.links = pre ++ post)
    (hpost : ∀ l ∈ post, gen ≤ l.srcGen)
    (hD : ∀ k, k < countOf g m gen → D m (rowOf g m gen k) = runNodeAt run g D m (rowOf g m gen k)) :
    FinalData g D m gen (runGenData run (g.model m).name d) := by
  unfold runGenData
  split
  · rename_i hc
    have hz : countOf g m gen = 0 := h.count.symm.trans hc
    exact ⟨h.count, fun h => by omega, fun k hk => by omega⟩
  · refine ⟨h.count, fun _ => rfl, fun k hk => ?_⟩
    obtain ⟨o1, o2, o3⟩ := h.vals k hk
    have hin : d.inputs k = nodeInput g D m (rowOf g m gen k) := o1.trans (partialInput_all hv D hsplit hpost hk).symm
    rw [hD k hk]
    simp only [runNodeAt]
    rw [← hin, ← o2, ← o3]
    exact ⟨rfl, rfl, rfl, rfl⟩

theorem dinv_run (run : RunFn α) {g : Graph α} (hv : ValidGraph g) {p : Prog} {pre post : List Link} {s : SimState α}
    {i : Nat} (hsplit : g.links = pre ++ post) (hpost : ∀ l ∈ post, p.linked ≤ l.srcGen)
    (hI : DInv g (refDone run g g.genCount) p pre s) (hr : i = p.ran) (hl : p.linked = i) :
    DInv g (refDone run g g.genCount) { p with ran := i + 1 } pre (runGeneration run g i s) := by
  unfold runGeneration
  rw [runGeneration_spec]
  refine ⟨hI.cursor, ?_, ?_, hI.file, hI.init⟩
  · intro m gen hm hgen hnp
    show ∃ d, ranGens run g i s _ m gen = some d ∧ _
    unfold ranGens
    by_cases e : gen = i
    · subst e
      rw [if_pos ⟨hm, rfl⟩]
      exact ⟨_, rfl, (hI.pend m gen hm (by omega)).after_run run hv hsplit (fun l hl' => by have := hpost l hl'; omega)
        fun k => ref_fixed run g hv hm⟩
    · rw [if_neg fun a => e a.2]
      exact hI.fin m gen hm (by have : gen < i + 1 := hgen; omega) hnp
  · intro m gen hm hgen
    have hgen' : i + 1 ≤ gen := hgen
    rw [effGen_congr g (if_neg (by omega))]
    exact hI.pend m gen hm (by omega)

/-- `WriteData` of a generation that has run writes the reference rows at the generation's location; the nil-`Outputs`
branch is not taken -/
theorem writeData_final {g : Graph α} {D : Done α} {m k : Nat} {s : SimState α} {d : GenData α}
    (h : s.gens m k = some d) (fd : FinalData g D m k d) :
    (writeData g k s m).gens = s.gens ∧ (writeData g k s m).nextLink = s.nextLink ∧
    (∀ m', (writeData g k s m).initialised m' = if m' = m ∧ 0 < countOf g m k then true else s.initialised m') ∧
    (∀ m' r, (writeData g k s m).file m' r =
      if m' = m ∧ inGen (g.model m).batches k r then some (rowOut g D m r) else s.file m' r) := by
  unfold writeData
  simp only [getGeneration_eq, ensure_of_some g h, effGen_of_some h, fd.count, inGen_iff_count]
  by_cases hc : countOf g m k = 0
  · rw [if_pos hc]
    refine ⟨rfl, rfl, fun m' => (if_neg fun a => by omega).symm, fun m' r => (if_neg fun a => ?_).symm⟩
    obtain ⟨j, hj, _⟩ := exists_rowOf a.2
    omega
  · have hr : d.ran = true := fd.ran (by omega)
    simp only [hc, if_false, hr, Bool.not_true, Bool.false_and, Bool.false_eq_true]
    refine ⟨trivial, trivial, fun m' => ?_, fun m' r => ?_⟩
    · show (if m' = m then true else s.initialised m') = _
      simp only [Nat.pos_of_ne_zero hc, and_true]
    · split
      · rename_i hin
        obtain ⟨j, hj, rfl⟩ := exists_rowOf hin.2
        obtain ⟨v1, v2, v3, v4⟩ := fd.vals j hj
        rw [show rowOf g m k j - startOf (g.model m).batches k = j from Nat.add_sub_cancel_left _ _, v1, v2, v3, v4]
        rfl
      · rfl

theorem SimState.ext {s t : SimState α} (h1 : s.gens = t.gens) (h2 : s.nextLink = t.nextLink)
    (h3 : ∀ m, s.initialised m = t.initialised m) (h4 : ∀ m r, s.file m r = t.file m r) : s = t := by
  obtain ⟨_, _, i, f⟩ := s
  obtain ⟨_, _, i', f'⟩ := t
  obtain rfl : i = i' := funext h3
  obtain rfl : f = f' := funext fun m => funext (h4 m)
  cases h1; cases h2; rfl

/-- the output file and the `outputsInitialised` flags after the first `n` models of generation `k` are written -/
def wrote (g : Graph α) (D : Done α) (k : Nat) (s0 : SimState α) (n : Nat) : SimState α :=
  { s0 with
    initialised := fun m => if m < n ∧ 0 < countOf g m k then true else s0.initialised m
    file := fun m r => if m < n ∧ inGen (g.model m).batches k r then some (rowOut g D m r) else s0.file m r }

theorem writeGeneration_spec {g : Graph α} {D : Done α} {k : Nat} (s0 : SimState α) (n : Nat)
    (hall : ∀ m, m < n → ∃ d, s0.gens m k = some d ∧ FinalData g D m k d) :
    (List.range n).foldl (writeData g k) s0 = wrote g D k s0 n := by
  induction n with
  | zero => simp [wrote]
  | succ n ih =>
    obtain ⟨d, hd, fd⟩ := hall n (by omega)
    rw [range_foldl_succ, ih fun m hm => hall m (by omega)]
    obtain ⟨w1, w2, w3, w4⟩ := writeData_final (s := wrote g D k s0 n) hd fd
    exact SimState.ext w1 w2
      (fun m => (w3 m).trans (ite_lt_succ (fun m => 0 < countOf g m k) (fun _ => true) s0.initialised m n))
      fun m r => (w4 m r).trans
        (ite_lt_succ (fun m => inGen (g.model m).batches k r) (fun m => some (rowOut g D m r)) (s0.file · r) m n)

theorem dinv_write {g : Graph α} (hv : ValidGraph g) {D : Done α} {p : Prog} {pre : List Link} {s : SimState α} {k : Nat}
    (hI : DInv g D p pre s) (hk : k < p.ran) (hnp : p.purged k = false) :
    DInv g D { p with written := upd p.written k true } pre (writeGeneration g k s) := by
  unfold writeGeneration
  rw [writeGeneration_spec (D := D) s _ fun m hm => hI.fin m k hm hk hnp]
  refine ⟨hI.cursor, hI.fin, hI.pend, ?_, ?_⟩
  · intro m gen j hm hj
    show (if _ then _ else s.file m _) = if upd p.written k true gen = true then _ else _
    rw [hI.file m gen j hm hj]
    by_cases e : gen = k
    · subst e
      rw [if_pos ⟨hm, inGen_rowOf hj⟩, if_pos (upd_true_iff.mpr (Or.inl rfl))]
    · -- rows of another generation are not in the range written now
      have hw : upd p.written k true gen = p.written gen := if_neg e
      rw [if_neg fun a => e (inGen_inj (hv.mono hm) (inGen_rowOf hj) a.2), hw]
  · intro m hm
    show (if _ then true else s.initialised m) = true ↔ ∃ gen, upd p.written k true gen = true ∧ 0 < countOf g m gen
    split
    · rename_i b
      exact ⟨fun _ => ⟨k, upd_true_iff.mpr (Or.inl rfl), b.2⟩, fun _ => rfl⟩
    · -- an empty generation `k` of this model does not create its datasets
      rename_i b
      rw [hI.init m hm]
      constructor
      · rintro ⟨gen, a, c⟩
        exact ⟨gen, upd_true_iff.mpr (Or.inr a), c⟩
      · rintro ⟨gen, a, c⟩
        rcases upd_true_iff.mp a with rfl | a
        · exact absurd ⟨hm, c⟩ b
        · exact ⟨gen, a, c⟩

theorem dinv_purge {g : Graph α} {D : Done α} {p : Prog} {pre : List Link} {s : SimState α} {k : Nat}
    (hI : DInv g D p pre s) (hk : k < p.ran) :
    DInv g D { p with purged := upd p.purged k true } pre (purgeGeneration g k s) := by
  refine ⟨hI.cursor, ?_, ?_, hI.file, hI.init⟩
  · intro m gen hm hgen hnpg
    have hnpg : upd p.purged k true gen = false := hnpg
    have hnot : ¬ (gen = k ∨ p.purged gen = true) := fun a => by
      rw [upd_true_iff.mpr a] at hnpg; cases hnpg
    obtain ⟨d, hd, fd⟩ := hI.fin m gen hm hgen (Bool.eq_false_iff.mpr fun a => hnot (Or.inr a))
    exact ⟨d, (if_neg fun a => hnot (Or.inl a.1)).trans hd, fd⟩
  · intro m gen hm hgen
    have hgen' : p.ran ≤ gen := hgen
    have : effGen g (purgeGeneration g k s) m gen = effGen g s m gen :=
      effGen_congr g (if_neg (by omega))
    rw [this]
    exact hI.pend m gen hm hgen

/-- everything the implementation-shaped state satisfies after a protocol-respecting prefix of a schedule -/
structure SInv (run : RunFn α) (g : Graph α) (p : Prog) (s : SimState α) : Prop where
  pinv : PInv g.genCount p
  ex : ∃ pre post, g.links = pre ++ post ∧ (∀ l ∈ pre, l.srcGen < p.linked) ∧ (∀ l ∈ post, p.linked ≤ l.srcGen) ∧
    DInv g (refDone run g g.genCount) p pre s

/-- nothing has run, nothing is cached (every generation object is what `GetGeneration` would load), nothing is written -/
theorem sinv_init (run : RunFn α) (g : Graph α) : SInv run g Prog.init initState := by
  refine ⟨⟨Nat.zero_le _, Nat.le_refl _, Nat.zero_le _, nofun, nofun⟩, [], g.links, rfl, nofun, fun l _ => Nat.zero_le _,
    rfl, nofun, fun m gen _ _ => loadGeneration_pending g _ m gen, fun m gen k _ _ => rfl, fun m _ => ?_⟩
  exact ⟨nofun, fun ⟨_, h, _⟩ => nomatch h⟩

theorem sinv_step (run : RunFn α) {g : Graph α} (hv : ValidGraph g) {p p' : Prog} {s : SimState α} {a : Act}
    (h : SInv run g p s) (hs : progStep g.genCount p a = some p') : SInv run g p' (exec run g s a) := by
  have hp' := pinv_step h.pinv hs
  obtain ⟨pre, post, hsplit, hpre, hpost, hI⟩ := h.ex
  cases a <;> simp only [progStep, Option.ite_none_right_eq_some, Option.some.injEq] at hs <;> obtain ⟨hc, rfl⟩ := hs
  case run i => exact ⟨hp', pre, post, hsplit, hpre, hpost, dinv_run run hv hsplit hpost hI hc.1 hc.2.1⟩
  case links i =>
    obtain ⟨h1, h2⟩ := hc
    have hdrop : g.links.drop s.nextLink = post := by rw [hI.cursor, hsplit]; exact List.drop_left' rfl
    obtain ⟨pre', post', hsplit', hI', hpre', hpost'⟩ :=
      dinv_processLinksFrom hv h.pinv h1 h2 post pre s hsplit hI
        (fun l hl => by have := hpre l hl; omega) (fun l hl => by have := hpost l hl; omega)
    refine ⟨hp', pre', post', hsplit', hpre', hpost', ?_⟩
    show DInv g _ { p with linked := i + 1 } pre' (processLinks g i s)
    unfold processLinks
    rw [hdrop]
    exact ⟨hI'.cursor, hI'.fin, hI'.pend, hI'.file, hI'.init⟩
  case write k => exact ⟨hp', pre, post, hsplit, hpre, hpost, dinv_write hv hI hc.1 hc.2.2⟩
  case purge k =>
    have := h.pinv.lr
    exact ⟨hp', pre, post, hsplit, hpre, hpost, dinv_purge hI (by omega)⟩

theorem sinv_run (run : RunFn α) {g : Graph α} (hv : ValidGraph g) :
    ∀ (acts : List Act) (p p' : Prog) (s : SimState α), SInv run g p s → progRun g.genCount p acts = some p' →
      SInv run g p' (acts.foldl (exec run g) s) := by
  intro acts
  induction acts with
  | nil => intro p p' s h hr; simp only [progRun] at hr; cases hr; exact h
  | cons a rest ih =>
    intro p p' s h hr
    simp only [progRun] at hr
    split at hr
    · rename_i p1 hs
      exact ih p1 p' _ (sinv_step run hv h hs) hr
    · cases hr

end OW.Sim
