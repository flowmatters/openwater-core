import OW.Proofs.NdGeo
/-!
Chains of nested slice requests: the vocabulary in which `C01.chain_index` states that the affine index law of one slice
(`Regular.addr_sliceView`) composes along any chain.
-/
namespace OW.Nd

theorem stepOr_length_of_ok {pd loc dims : Idx} {n : Nat} {step : Option Idx}
    (ok : SliceOK pd loc dims (stepOr n step)) : (stepOr n step).length = pd.length := ok.lengths.2.2

/-- one slice request `(loc, dims, step)`; `step = none` is Go's `nil` (all ones) -/
abbrev SliceReq := Idx × Idx × Option Idx

def sliceChain (v : View) : List SliceReq → R View
  | [] => .ok v
  | (loc, dims, step) :: rest => do
    let w ← v.sliceInto loc dims step
    sliceChain w rest

/-- every request of the chain is in bounds for the view it is applied to (`pdims` = extents of the first parent) -/
def ChainOK : Idx → List SliceReq → Prop
  | _, [] => True
  | pdims, (loc, dims, step) :: rest => SliceOK pdims loc dims (stepOr pdims.length step) ∧ ChainOK dims rest

/-- the composed affine index map of a chain: index `i` of the innermost view ↦ index of the outermost parent -/
def chainIndex (n : Nat) : List SliceReq → Idx → Idx
  | [], i => i
  | (loc, _, step) :: rest, i => affine loc (chainIndex n rest i) (stepOr n step)

def chainDims : Idx → List SliceReq → Idx
  | pdims, [] => pdims
  | _, (_, dims, _) :: rest => chainDims dims rest

theorem chainDims_length : ∀ (pdims : Idx) (c : List SliceReq), ChainOK pdims c →
    (chainDims pdims c).length = pdims.length
  | _, [], _ => rfl
  | pdims, (loc, dims, step) :: rest, h => by
    obtain ⟨h1, h2⟩ := h
    simp only [chainDims]
    rw [chainDims_length dims rest h2, h1.lengths.2.1]

theorem chainIndex_length : ∀ (pdims : Idx) (c : List SliceReq) (i : Idx), ChainOK pdims c →
    i.length = pdims.length → (chainIndex pdims.length c i).length = pdims.length
  | _, [], _, _, hi => hi
  | pdims, (loc, dims, step) :: rest, i, h, hi => by
    obtain ⟨h1, h2⟩ := h
    obtain ⟨hl, hd, hs⟩ := h1.lengths
    simp only [chainIndex]
    have ih := chainIndex_length dims rest i h2 (by omega)
    rw [hd] at ih
    rw [affine_length loc _ _ (by omega) (by omega), hl]

theorem chainIndex_inBounds : ∀ (pdims : Idx) (c : List SliceReq) (i : Idx), ChainOK pdims c →
    InBounds i (chainDims pdims c) → InBounds (chainIndex pdims.length c i) pdims
  | _, [], _, _, hi => hi
  | pdims, (loc, dims, step) :: rest, i, h, hi => by
    obtain ⟨h1, h2⟩ := h
    simp only [chainIndex]
    have ih := chainIndex_inBounds dims rest i h2 hi
    rw [h1.lengths.2.1] at ih
    exact h1.inBounds ih

end OW.Nd
