import OW.Proofs.NdApply
import OW.Proofs.NdUnroll
/-!
Offset roots: views whose root is `View.root dims st` with `st ≥ 0` — what `Reshape` of a contiguous C-backed view with
`Start > 0` returns (`cAliasArr`): the same pointer, a root view whose `Start` is the old view's `Start`.
Such views are not `Reach` (`Reach.root` has `Start = 0`), so the C01/C02 theorems do not mention them.
The way back: `unshift st c` (the view shifted back by `st` over the window moved forward by `st`) denotes the same cells
and is `Reach`; `Norm c c'` (`c'` is `c` or its `unshift`) is the NORMAL FORM of `c`, and every operation of the program
fragment on `c` equals the operation on `c'` (`*_norm`; the two-array operations are in `NdOffsetBulk.lean`).
`ReachOff st` is `Reach` with the root at `st` (`reachOff_iff`: `Reach` of the view shifted back). The `*_norm` lemmas do not use
it (they need `Geo` of the normal form only); it states which arrays have a normal form (`Props.C03.OffOK`, `Props/C03Full.lean`).
-/
namespace OW.NdOff
open OW.Nd OW.NdC02

def shiftV (v : View) (d : Int) : View := { v with start := v.start + d }

@[simp] theorem shiftV_orig (v : View) (d : Int) : (shiftV v d).orig = v.orig := rfl
@[simp] theorem shiftV_dims (v : View) (d : Int) : (shiftV v d).dims = v.dims := rfl
@[simp] theorem shiftV_start (v : View) (d : Int) : (shiftV v d).start = v.start + d := rfl
@[simp] theorem shiftV_offset (v : View) (d : Int) : (shiftV v d).offset = v.offset := rfl
@[simp] theorem shiftV_step (v : View) (d : Int) : (shiftV v d).step = v.step := rfl
@[simp] theorem shiftV_offStep (v : View) (d : Int) : (shiftV v d).offStep = v.offStep := rfl
@[simp] theorem shiftV_size (v : View) (d : Int) : (shiftV v d).size = v.size := rfl
@[simp] theorem shiftV_ndims (v : View) (d : Int) : (shiftV v d).ndims = v.ndims := rfl
@[simp] theorem shiftV_newIndex (v : View) (d x : Int) : (shiftV v d).newIndex x = v.newIndex x := rfl

theorem shiftV_zero (v : View) : shiftV v 0 = v := by
  cases v; simp [shiftV]

theorem shiftV_shiftV (v : View) (a b : Int) : shiftV (shiftV v a) b = shiftV v (a + b) := by
  cases v; simp [shiftV, Int.add_assoc]

theorem shiftV_neg_cancel (v : View) (d : Int) : shiftV (shiftV v (-d)) d = v := by
  rw [shiftV_shiftV]; simp [shiftV_zero]

theorem shiftV_index (v : View) (d : Int) (loc : Idx) : (shiftV v d).index loc = (v.index loc).map (· + d) := by
  unfold View.index
  simp only [shiftV_offStep, shiftV_start]
  show _ = (· + d) <$> _
  simp only [map_bind, map_pure, Int.add_right_comm]

theorem shiftV_sliceInto (v : View) (d : Int) (loc dims : Idx) (step : Option Idx) :
    (shiftV v d).sliceInto loc dims step = (v.sliceInto loc dims step).map (shiftV · d) := by
  unfold View.sliceInto
  simp only [shiftV_offStep, shiftV_start, shiftV_step, shiftV_offset, shiftV_orig]
  -- push the shift of the result through the binds: it only meets `Start`
  show _ = (shiftV · d) <$> _
  cases step <;> simp only [map_bind, map_pure, pure_bind, shiftV, Int.add_right_comm]

theorem shiftV_contigLoop (v : View) (d : Int) : ∀ (n : Nat) (co : Int) (must : Bool),
    (shiftV v d).contigLoop n co must = v.contigLoop n co must
  | 0, _, _ => rfl
  | n + 1, co, must => by
    unfold View.contigLoop
    simp only [shiftV_dims, shiftV_step, shiftV_offset, shiftV_orig, shiftV_contigLoop v d n]

theorem shiftV_contiguous (v : View) (d : Int) : (shiftV v d).contiguous = v.contiguous := by
  unfold View.contiguous
  exact shiftV_contigLoop v d _ _ _

theorem shiftV_root (dims : Idx) (st d : Int) : View.root dims (st + d) = (View.root dims st).map (shiftV · d) := by
  unfold View.root
  show _ = (shiftV · d) <$> _
  simp only [map_bind, map_pure, shiftV]

theorem shiftV_rootView (dims : Idx) (st d : Int) : shiftV (rootView dims st) d = rootView dims (st + d) := rfl

/-- `ReachOff st v`: `v` is the metadata of a root of extents ≥ 1 that starts at address `st ≥ 0`, or of an in-bounds
slice of such a view. `ReachOff 0` is `Reach` (`Props.C03.reachOff_translate`). -/
inductive ReachOff : Int → View → Prop
  | root {dims : Idx} {st : Int} {v : View} (hne : dims ≠ []) (hpos : Pos dims) (hst : 0 ≤ st)
      (h : View.root dims st = .ok v) : ReachOff st v
  | slice {st : Int} {v w : View} {loc dims : Idx} {step : Option Idx} (hv : ReachOff st v)
      (ok : SliceOK v.dims loc dims (stepOr v.dims.length step))
      (h : v.sliceInto loc dims step = .ok w) : ReachOff st w

theorem ReachOff.nonneg {st : Int} {v : View} (h : ReachOff st v) : 0 ≤ st := by
  induction h with
  | root _ _ hst _ => exact hst
  | slice _ _ _ ih => exact ih

theorem ReachOff.shift {st : Int} {v : View} (h : ReachOff st v) : Reach (shiftV v (-st)) := by
  induction h with
  | @root dims st v hne hpos hst h =>
    refine Reach.root hne hpos ?_
    have := shiftV_root dims st (-st)
    rw [h] at this
    simpa [Except.map] using this
  | @slice st v w loc dims step _ ok h ih =>
    refine Reach.slice ih ok ?_
    rw [shiftV_sliceInto, h]; rfl

theorem Reach.toOff {v : View} (h : Reach v) {st : Int} (hst : 0 ≤ st) : ReachOff st (shiftV v st) := by
  induction h with
  | @root dims v hne hpos h =>
    refine ReachOff.root hne hpos hst ?_
    have := shiftV_root dims 0 st
    rw [h] at this
    simpa [Except.map] using this
  | @slice v w loc dims step _ ok h ih =>
    refine ReachOff.slice ih ok ?_
    rw [shiftV_sliceInto, h]; rfl

theorem reachOff_iff {st : Int} {v : View} : ReachOff st v ↔ 0 ≤ st ∧ Reach (shiftV v (-st)) := by
  constructor
  · intro h; exact ⟨h.nonneg, h.shift⟩
  · rintro ⟨h0, h⟩
    have := Reach.toOff h h0
    rwa [shiftV_neg_cancel] at this

theorem reachOff_rootView {s : Idx} (hs : s ≠ []) (hp : Pos s) {st : Int} (hst : 0 ≤ st) : ReachOff st (rootView s st) :=
  .root hs hp hst (root_eq s st hs)

section
variable {α : Type}

def unshift (st : Int) (c : Arr) : Arr :=
  { v := shiftV c.v (-st), sid := c.sid, base := c.base + st, len := c.len - st, isC := c.isC }

theorem cells_unshift (h : Heap α) {c : Arr} {st p : Int} (hC : c.isC = true) (hst : 0 ≤ st) (p0 : 0 ≤ p)
    (p1 : p + st < 1073741824) :
    readAt h c (p + st) = readAt h (unshift st c) p ∧ ∀ x, writeAt h c (p + st) x = writeAt h (unshift st c) p x := by
  have e : c.base + st + p = c.base + (p + st) := by omega
  have r : (0 ≤ p + st ∧ p + st < 1073741824) ∧ (0 ≤ p ∧ p < 1073741824) := by omega
  exact ⟨by simp only [readAt, unshift, hC, if_true, e, r, and_self],
    fun x => by simp only [writeAt, unshift, hC, if_true, e, r, and_self]⟩

theorem arrOK_unshift {h : Heap α} {st : Int} {c : Arr} (store : ∃ s, h[c.sid]? = some s ∧ c.base + c.len ≤ s.length)
    (hb : 0 ≤ c.base) (h0 : 0 ≤ st) (fits : st + product c.v.orig ≤ c.len)
    (cfits : st + product c.v.orig ≤ 1073741824) : ArrOK h (unshift st c) := by
  obtain ⟨s, hs, hl⟩ := store
  refine ⟨⟨s, hs, ?_⟩, ?_, ?_, fun _ => ?_⟩
  · show c.base + st + (c.len - st) ≤ _
    omega
  · show 0 ≤ c.base + st
    omega
  · show product c.v.orig ≤ c.len - st
    omega
  · show product c.v.orig ≤ 1073741824
    omega

/-- `c'` is the `unshift` by `st ≥ 0` of the C-backed array `c`, and the addresses `st + [0, Π OriginalDims)` stay below the
`1 << 30` bound of the C array type -/
structure Sh (st : Int) (c c' : Arr) : Prop where
  isC : c.isC = true
  nonneg : 0 ≤ st
  eq : c' = unshift st c
  bound : st + product c.v.orig ≤ 1073741824

def Norm (c c' : Arr) : Prop := c' = c ∨ ∃ st, Sh st c c'

theorem Norm.refl (c : Arr) : Norm c c := Or.inl rfl

theorem Sh.view {st : Int} {c c' : Arr} (s : Sh st c c') : c.v = shiftV c'.v st := by
  rw [s.eq]; simp [unshift, shiftV_neg_cancel]

theorem Sh.start {st : Int} {c c' : Arr} (s : Sh st c c') : c.v.start = c'.v.start + st := by
  rw [s.view]; rfl

theorem Sh.orig {st : Int} {c c' : Arr} (s : Sh st c c') : c.v.orig = c'.v.orig := by
  rw [s.eq]; rfl

theorem Sh.isC' {st : Int} {c c' : Arr} (s : Sh st c c') : c'.isC = true := s.eq ▸ s.isC

theorem Sh.block_bounds {st : Int} {c c' : Arr} (s : Sh st c c') {n : Int} (w0 : 0 ≤ c'.v.start)
    (w1 : c'.v.start + n ≤ product c'.v.orig) :
    0 ≤ c.v.start ∧ c.v.start + n ≤ 1073741824 ∧ c'.v.start + n ≤ 1073741824 := by
  have hb := s.bound
  have := s.start
  have := s.nonneg
  rw [s.orig] at hb
  omega

theorem Norm.congr {β : Type} {c c' : Arr} (n : Norm c c') (f : Arr → β) (hf : ∀ st a, f (unshift st a) = f a) :
    f c = f c' := by
  rcases n with rfl | ⟨st, s⟩
  · rfl
  · rw [s.eq, hf]

theorem Norm.dims {c c' : Arr} (n : Norm c c') : c.v.dims = c'.v.dims := n.congr (·.v.dims) (fun _ _ => rfl)

theorem Norm.orig {c c' : Arr} (n : Norm c c') : c.v.orig = c'.v.orig := n.congr (·.v.orig) (fun _ _ => rfl)

theorem Norm.isC {c c' : Arr} (n : Norm c c') : c.isC = c'.isC := n.congr (·.isC) (fun _ _ => rfl)

theorem Norm.sid {c c' : Arr} (n : Norm c c') : c.sid = c'.sid := n.congr (·.sid) (fun _ _ => rfl)

theorem Norm.size {c c' : Arr} (n : Norm c c') : c.v.size = c'.v.size := by
  unfold View.size; rw [n.dims]

theorem Norm.contiguous {c c' : Arr} (n : Norm c c') : c.v.contiguous = c'.v.contiguous :=
  n.congr (·.v.contiguous) (fun _ _ => shiftV_contiguous _ _)

theorem Norm.newIndex {c c' : Arr} (n : Norm c c') (x : Int) : c.v.newIndex x = c'.v.newIndex x := by
  unfold View.newIndex View.ndims; rw [n.dims]

theorem Norm.eq_of_go {c c' : Arr} (n : Norm c c') (hgo : c.isC = false) : c' = c := by
  rcases n with e | ⟨st, s⟩
  · exact e
  · rw [s.isC] at hgo; cases hgo

theorem Sh.index {st : Int} {c c' : Arr} (s : Sh st c c') (g : Geo c'.v) {i : Idx} (hi : InBounds i c'.v.dims) :
    ∃ p, c'.v.index i = .ok p ∧ c.v.index i = .ok (p + st) ∧ 0 ≤ p ∧ p + st < 1073741824 := by
  obtain ⟨p, hp, p0, p1⟩ := index_inbounds g hi
  have hb := s.bound
  rw [s.orig] at hb
  exact ⟨p, hp, by rw [s.view, shiftV_index, hp]; rfl, p0, by omega⟩

theorem get_norm (h : Heap α) {c c' : Arr} (n : Norm c c') (g : Geo c'.v) {i : Idx} (hi : InBounds i c'.v.dims) :
    Nd.get h c i = Nd.get h c' i := by
  rcases n with rfl | ⟨st, s⟩
  · rfl
  · obtain ⟨p, hp', hp, p0, p1⟩ := s.index g hi
    unfold Nd.get
    rw [hp, hp', s.eq]
    exact (cells_unshift h s.isC s.nonneg p0 p1).1

theorem set_norm (h : Heap α) {c c' : Arr} (n : Norm c c') (g : Geo c'.v) {i : Idx} (hi : InBounds i c'.v.dims) (x : α) :
    Nd.set h c i x = Nd.set h c' i x := by
  rcases n with rfl | ⟨st, s⟩
  · rfl
  · obtain ⟨p, hp', hp, p0, p1⟩ := s.index g hi
    unfold Nd.set
    rw [hp, hp', s.eq]
    exact (cells_unshift h s.isC s.nonneg p0 p1).2 x

theorem Sh.slice {st : Int} {c c' : Arr} (s : Sh st c c') {loc dims : Idx} {step : Option Idx} {w' : Arr}
    (hw : Nd.slice c' loc dims step = .ok w') : ∃ w, Nd.slice c loc dims step = .ok w ∧ Sh st w w' := by
  obtain ⟨v', hv', rfl⟩ := slice_eq hw
  refine ⟨{ c with v := shiftV v' st }, ?_, s.isC, s.nonneg, ?_, ?_⟩
  · unfold Nd.slice
    rw [s.view, shiftV_sliceInto, hv']
    rfl
  · rw [s.eq]
    simp [unshift, shiftV_shiftV, shiftV_zero]
  · show st + product (shiftV v' st).orig ≤ _
    rw [shiftV_orig, sliceInto_orig hv', ← s.orig]
    exact s.bound

theorem slice_norm {c c' : Arr} (n : Norm c c') {loc dims : Idx} {step : Option Idx} {w' : Arr}
    (hw : Nd.slice c' loc dims step = .ok w') : ∃ w, Nd.slice c loc dims step = .ok w ∧ Norm w w' := by
  rcases n with rfl | ⟨st, s⟩
  · exact ⟨w', hw, Norm.refl _⟩
  · obtain ⟨w, h1, s'⟩ := s.slice hw
    exact ⟨w, h1, Or.inr ⟨st, s'⟩⟩

theorem getAll_norm (h : Heap α) {c c' : Arr} (n : Norm c c') (g : Geo c'.v) (l : List Idx)
    (hl : ∀ i ∈ l, InBounds i c'.v.dims) : getAll h c l = getAll h c' l :=
  getAll_congr l fun i hi => get_norm h n g (hl i hi)

theorem setAll_norm {c c' : Arr} (n : Norm c c') (g : Geo c'.v) (l : List Idx) (xs : List α) (h : Heap α)
    (hl : ∀ i ∈ l, InBounds i c'.v.dims) : setAll h c l xs = setAll h c' l xs := by
  have := setAll_map_congr (a := c) (b := c') id id l xs h fun i hi h x => set_norm h n g (hl i hi) x
  rwa [List.map_id] at this

theorem unrollGather_norm (h : Heap α) {c c' : Arr} (n : Norm c c') (g : Geo c'.v) :
    unrollGather h c = unrollGather h c' := by
  have hd := n.dims
  rw [unrollGather_eq h (by rw [hd]; exact g.pos_dims) (by rw [hd]; exact g.dims_ne),
    unrollGather_eq h g.pos_dims g.dims_ne, hd]
  exact getAll_norm h n g _ (rowMajor_inBounds g.pos_dims)

theorem unroll_norm (h : Heap α) {c c' : Arr} (n : Norm c c') (g : Geo c'.v) : Nd.unroll h c = Nd.unroll h c' := by
  rcases n with rfl | ⟨st, s⟩
  · rfl
  · have hC' := s.isC'
    rw [unroll_gather (Or.inl s.isC), unroll_gather (Or.inl hC'), unrollGather_norm h (Or.inr ⟨st, s⟩) g]

theorem extremum_norm (better : α → α → Bool) (h : Heap α) {c c' : Arr} (n : Norm c c') (g : Geo c'.v) :
    extremum better h c = extremum better h c' := by
  have hd := n.dims
  rw [extremum_unfold better h (by rw [hd]; exact g.pos_dims), extremum_unfold better h g.pos_dims, hd,
    get_norm h n g (inBounds_zeros g.pos_dims), getAll_norm h n g _ (rowMajor_inBounds g.pos_dims)]

theorem apply_norm (h : Heap α) {c c' : Arr} (n : Norm c c') (g : Geo c'.v) {loc : Idx} {dim step : Int}
    {vals : List α} (h0 : 0 ≤ dim) (h1 : dim < c'.v.dims.length)
    (hok : SliceOK c'.v.dims loc (applyDims c' dim vals.length) (applySteps c' dim step)) :
    Nd.apply h c loc dim step vals = Nd.apply h c' loc dim step vals := by
  rcases n with rfl | ⟨st, s⟩
  · rfl
  · have n : Norm c c' := Or.inr ⟨st, s⟩
    have hC' := s.isC'
    have hll : loc.length = c'.v.dims.length := hok.lengths.1
    have hl : loc[dim.toNat]? = some loc[dim.toNat] := List.getElem?_eq_getElem (by omega)
    exact (apply_c_spec s.isC h0 (n.dims ▸ h1) hl).trans
      ((setAll_norm n g _ vals h (runIdxs_inBounds (by omega : dim.toNat < c'.v.dims.length) hok hl)).trans
        (apply_c_spec hC' h0 h1 hl).symm)

end
end OW.NdOff
