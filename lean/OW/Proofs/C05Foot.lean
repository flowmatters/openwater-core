import OW.Props.C04NdViews
import OW.Proofs.HeapStep
import OW.Sim.CellTasks
/-!
The footprint of the goroutine of one cell of the view-level wrapper as lists of ADDRESSES `(storage id, position)`: what it
writes (`writesA`: its state row and its output rows), what it only reads (`roA`: the windows of parameters and inputs), that
these lists are the positions of `C04Nd.WriteFoot` / `ReadOnlyFoot`, that different cells' write sets are disjoint
(`writes_avoid`, from `C04Nd.views_disjoint`), and the abstract location of an address (`absLoc`). Nothing here needs the
refinement theorems; the step itself is in `OW/Proofs/C05Addr.lean`.
-/
namespace OW.C05Addr
open OW OW.Nd OW.Sim OW.Sim.WrapperNd OW.WrapperNd OW.Sim.Interleave

/-- the four arrays of one `Run` call, their shapes `parameters [rows, nSets]`, `inputs [nIn, nI, T]`,
`states [N, nS]`, `outputs [M, nO, T']`, the number `nP` of scalar parameters and the `Impl` offsets -/
structure Cfg where
  P : Arr
  I : Arr
  S : Arr
  O : Arr
  rows : Nat
  nSets : Nat
  nIn : Nat
  nI : Nat
  T : Nat
  N : Nat
  nS : Nat
  M : Nat
  nO : Nat
  T' : Nat
  nP : Nat
  pb : Nat
  ib : Nat
  sb : Nat
  ob : Nat

/-- what the preamble of `Run` computes on these arrays (`WrapperNd.runDims_eq`) -/
def Cfg.rd (c : Cfg) : RunDims :=
  { numCells := (c.N : Int), numStates := (c.nS : Int), numInputSequences := (c.nIn : Int), inputLen := (c.T : Int),
    cellInputsShape := [(c.nI : Int), (c.T : Int)], outputStepSlice := [1, 1, 1],
    outputSizeSlice := [1, 1, (c.T : Int)], statesSizeSlice := [1, (c.nS : Int)],
    inputsSizeSlice := [1, (c.nI : Int), (c.T : Int)] }

section
variable {α : Type}

/-- the hypotheses of `C04Nd.wrapperNd_refines` on a reference heap `h0` (only its SHAPE matters): root arrays, states and
outputs in different storages, `N ≤ M`, `T ≤ T'`, and
ROW WIDTH (`fits`): called on arguments of the shape the wrapper passes, the kernel returns at most `nO` series of at most
`T` values and a state vector that FITS THE CELL'S ROW (`r.states.length ≤ nS`). -/
structure Cfg.OK (c : Cfg) (km : KModel α) (h0 : Heap α) : Prop where
  rp : RootOn h0 c.P [(c.rows : Int), (c.nSets : Int)]
  ri : RootOn h0 c.I [(c.nIn : Int), (c.nI : Int), (c.T : Int)]
  rs : RootOn h0 c.S [(c.N : Int), (c.nS : Int)]
  ro : RootOn h0 c.O [(c.M : Int), (c.nO : Int), (c.T' : Int)]
  hpb : c.P.base = (c.pb : Int)
  hib : c.I.base = (c.ib : Int)
  hsb : c.S.base = (c.sb : Int)
  hob : c.O.base = (c.ob : Int)
  hso : c.S.sid ≠ c.O.sid
  hnP : c.nP ≤ c.rows
  hNM : c.N ≤ c.M
  hT : c.T ≤ c.T'
  fits : ∀ p ins st r, ins.length = c.nI → (∀ s ∈ ins, s.length = c.T) → st.length = c.nS → km.run p ins st = .ok r →
    r.outputs.length ≤ c.nO ∧ (∀ ser ∈ r.outputs, ser.length ≤ c.T) ∧ r.states.length ≤ c.nS

/-- STORAGE DISJOINTNESS (with `OK.hso`: the hypotheses of `C04Nd.views_disjoint`): parameters and inputs live in
storages different from those of states and outputs (parameters and inputs may share one) -/
structure Cfg.Sep (c : Cfg) : Prop where
  hps : c.P.sid ≠ c.S.sid
  hpo : c.P.sid ≠ c.O.sid
  his : c.I.sid ≠ c.S.sid
  hio : c.I.sid ≠ c.O.sid

def stRow (c : Cfg) (i : Nat) : List Addr := (List.range c.nS).map fun s => (c.S.sid, c.sb + i * c.nS + s)

/-- whole rows `(i, o, ·)`, `t < T'`, as `C04Nd.WriteFoot`: a superset of the `t < T` actually written -/
def outRows (c : Cfg) (i : Nat) : List Addr :=
  (List.range c.nO).flatMap fun o => (List.range c.T').map fun t => (c.O.sid, c.ob + (i * c.nO + o) * c.T' + t)

def writesA (c : Cfg) (i : Nat) : List Addr := stRow c i ++ outRows c i

/-- the read-only region: the windows of the parameters array and of the inputs array in their storages (all of them:
parameter sets and input blocks are shared between cells) -/
def roA (c : Cfg) : List Addr :=
  ((List.range (c.rows * c.nSets)).map fun k => (c.P.sid, c.pb + k)) ++
  ((List.range (c.nIn * (c.nI * c.T))).map fun k => (c.I.sid, c.ib + k))

/-- what cell `i` may READ besides what it writes: parameters and inputs. Its own state and output rows are not listed:
a `Step` depends on `reads ++ writes` (`Step.loc`), and they are in `writesA`. -/
def readsA (c : Cfg) (_i : Nat) : List Addr := roA c

theorem mem_stRow {c : Cfg} {i : Nat} {a : Addr} :
    a ∈ stRow c i ↔ a.1 = c.S.sid ∧ ∃ s, s < c.nS ∧ a.2 = c.sb + i * c.nS + s := by
  obtain ⟨u, q⟩ := a
  simp only [stRow, List.mem_map, List.mem_range, Prod.mk.injEq]
  constructor
  · rintro ⟨s, hs, rfl, rfl⟩; exact ⟨rfl, s, hs, rfl⟩
  · rintro ⟨rfl, s, hs, rfl⟩; exact ⟨s, hs, rfl, rfl⟩

theorem mem_outRows {c : Cfg} {i : Nat} {a : Addr} :
    a ∈ outRows c i ↔ a.1 = c.O.sid ∧ ∃ o t, o < c.nO ∧ t < c.T' ∧ a.2 = c.ob + (i * c.nO + o) * c.T' + t := by
  obtain ⟨u, q⟩ := a
  simp only [outRows, List.mem_flatMap, List.mem_map, List.mem_range, Prod.mk.injEq]
  constructor
  · rintro ⟨o, ho, t, ht, rfl, rfl⟩; exact ⟨rfl, o, t, ho, ht, rfl⟩
  · rintro ⟨rfl, o, t, ho, ht, rfl⟩; exact ⟨o, ho, t, ht, rfl, rfl⟩

theorem mem_writesA {c : Cfg} {i : Nat} {a : Addr} :
    a ∈ writesA c i ↔ (a.1 = c.S.sid ∧ ∃ s, s < c.nS ∧ a.2 = c.sb + i * c.nS + s) ∨
      (a.1 = c.O.sid ∧ ∃ o t, o < c.nO ∧ t < c.T' ∧ a.2 = c.ob + (i * c.nO + o) * c.T' + t) := by
  simp only [writesA, List.mem_append, mem_stRow, mem_outRows]

theorem mem_window {u b n : Nat} {a : Addr} :
    a ∈ (List.range n).map (fun k => (u, b + k)) ↔ a.1 = u ∧ b ≤ a.2 ∧ a.2 < b + n := by
  obtain ⟨v, q⟩ := a
  simp only [List.mem_map, List.mem_range, Prod.mk.injEq]
  constructor
  · rintro ⟨k, hk, rfl, rfl⟩
    exact ⟨rfl, Nat.le_add_right b k, Nat.add_lt_add_left hk b⟩
  · rintro ⟨rfl, h1, h2⟩
    exact ⟨q - b, by omega, rfl, by omega⟩

theorem mem_roA {c : Cfg} {a : Addr} :
    a ∈ roA c ↔ (a.1 = c.P.sid ∧ c.pb ≤ a.2 ∧ a.2 < c.pb + c.rows * c.nSets) ∨
      (a.1 = c.I.sid ∧ c.ib ≤ a.2 ∧ a.2 < c.ib + c.nIn * (c.nI * c.T)) := by
  simp only [roA, List.mem_append, mem_window]

theorem mem_writesA_of_out_window {c : Cfg} {i q : Nat} (q0 : c.ob + i * (c.nO * c.T') ≤ q)
    (q1 : q < c.ob + i * (c.nO * c.T') + c.nO * c.T') : (c.O.sid, q) ∈ writesA c i := by
  obtain ⟨o, t, ho, ht, e⟩ := block_decomp q0 q1
  refine mem_writesA.mpr (Or.inr ⟨rfl, o, t, ho, ht, ?_⟩)
  show q = c.ob + (i * c.nO + o) * c.T' + t
  rw [e, Nat.add_mul, Nat.mul_assoc, Nat.add_assoc c.ob]

theorem toNat_pos3 (b x y z : Nat) : ((b : Int) + ((x : Int) * (y : Int) + (z : Int))).toNat = b + x * y + z := by
  rw [← Int.natCast_mul, ← Int.natCast_add, ← Int.natCast_add, Int.toNat_natCast, Nat.add_assoc]

theorem toNat_pos4 (b i n o t' t : Nat) :
    ((b : Int) + (((i : Int) * (n : Int) + (o : Int)) * (t' : Int) + (t : Int))).toNat = b + (i * n + o) * t' + t := by
  rw [← Int.natCast_mul, ← Int.natCast_add]
  exact toNat_pos3 b (i * n + o) t' t

theorem mem_writesA_iff_writeFoot {c : Cfg} (hsb : c.S.base = (c.sb : Int)) (hob : c.O.base = (c.ob : Int)) (i : Nat) (a : Addr) :
    a ∈ writesA c i ↔
      Props.C04Nd.WriteFoot c.S c.O (c.nS : Int) (c.nO : Int) (c.T' : Int) (i : Int) a.1 a.2 := by
  rw [mem_writesA]
  unfold Props.C04Nd.WriteFoot
  rw [hsb, hob]
  constructor
  · rintro (⟨hu, s, hs, hq⟩ | ⟨hu, o, t, ho, ht, hq⟩)
    · exact Or.inl ⟨hu, (s : Int), Int.natCast_nonneg s, Int.ofNat_lt.mpr hs, hq.trans (toNat_pos3 ..).symm⟩
    · exact Or.inr ⟨hu, (o : Int), (t : Int), Int.natCast_nonneg o, Int.ofNat_lt.mpr ho, Int.natCast_nonneg t,
        Int.ofNat_lt.mpr ht, hq.trans (toNat_pos4 ..).symm⟩
  · rintro (⟨hu, s, s0, s1, hq⟩ | ⟨hu, o, t, o0, o1, t0, t1, hq⟩)
    · obtain ⟨s, rfl⟩ := Int.eq_ofNat_of_zero_le s0
      exact Or.inl ⟨hu, s, Int.ofNat_lt.mp s1, hq.trans (toNat_pos3 ..)⟩
    · obtain ⟨o, rfl⟩ := Int.eq_ofNat_of_zero_le o0
      obtain ⟨t, rfl⟩ := Int.eq_ofNat_of_zero_le t0
      exact Or.inr ⟨hu, o, t, Int.ofNat_lt.mp o1, Int.ofNat_lt.mp t1, hq.trans (toNat_pos4 ..)⟩

theorem readOnlyFoot_of_mem_roA {c : Cfg} {a : Addr} (ha : a ∈ roA c) : Props.C04Nd.ReadOnlyFoot c.P c.I a.1 := by
  rcases mem_roA.mp ha with ⟨hu, _⟩ | ⟨hu, _⟩
  · exact Or.inl hu
  · exact Or.inr hu

theorem writes_avoid {c : Cfg} {km : KModel α} {h0 : Heap α} (ok : c.OK km h0) (sep : c.Sep) {i j : Nat} (hij : i ≠ j)
    (a : Addr) (ha : a ∈ writesA c i) : a ∉ roA c ++ writesA c j := by
  obtain ⟨_, hnS⟩ := pos2 ok.rs.pos
  obtain ⟨_, hnO, hT'⟩ := pos3 ok.ro.pos
  obtain ⟨h1, h2⟩ := Props.C04Nd.views_disjoint (parameters := c.P) (inputs := c.I) ok.rs.ok.base_nonneg
    ok.ro.ok.base_nonneg hnS hnO hT' ok.hso (Ne.symm sep.hps) (Ne.symm sep.his) (Ne.symm sep.hpo) (Ne.symm sep.hio)
    (i := (i : Int)) (j := (j : Int)) (by omega) (by omega) (by omega) a.1 a.2 ((mem_writesA_iff_writeFoot ok.hsb ok.hob i a).mp ha)
  exact fun hm => (List.mem_append.mp hm).elim (fun hr => h2 (readOnlyFoot_of_mem_roA hr))
    fun hj => h1 ((mem_writesA_iff_writeFoot ok.hsb ok.hob j a).mp hj)

open OW.Sim.CellTasks in
/-- address ↦ abstract location of `OW.Sim.CellTasks`: a position of the states storage belongs to the state row
`(q - sb) / nS`, a position of the outputs storage to the output rows of cell `(q - ob) / (nO·T')`; positions of other
storages (parameters, inputs: "not addresses" in `CellTasks`, nothing writes them) have no abstract location -/
def absLoc (c : Cfg) (a : Addr) : Option CAddr :=
  if a.1 = c.S.sid then some (.st ((a.2 - c.sb) / c.nS))
  else if a.1 = c.O.sid then some (.out ((a.2 - c.ob) / (c.nO * c.T')))
  else none

open OW.Sim.CellTasks in
theorem absLoc_writes {c : Cfg} (hso : c.S.sid ≠ c.O.sid) {i : Nat} {a : Addr} (ha : a ∈ writesA c i) : ∃ l, absLoc c a = some l ∧ l ∈ [CAddr.st i, CAddr.out i] := by
  rcases mem_writesA.mp ha with ⟨hu, s, hs, hq⟩ | ⟨hu, o, t, ho, ht, hq⟩
  · refine ⟨.st i, ?_, List.mem_cons_self⟩
    simp only [absLoc, hu, if_true, hq, row_div hs]
  · refine ⟨.out i, ?_, List.mem_cons_of_mem _ List.mem_cons_self⟩
    -- position `(o, t)` of the `nO × T'` block of cell `i`
    have e : c.ob + (i * c.nO + o) * c.T' + t = c.ob + i * (c.nO * c.T') + (o * c.T' + t) := by
      rw [Nat.add_mul, Nat.mul_assoc, Nat.add_assoc, Nat.add_assoc, Nat.add_assoc]
    simp only [absLoc, hu, if_neg (Ne.symm hso), if_true, hq, e, row_div (nat_row_lt ho ht)]

theorem absLoc_ro {c : Cfg} (sep : c.Sep) {a : Addr} (ha : a ∈ roA c) : absLoc c a = none := by
  rcases mem_roA.mp ha with ⟨hu, _⟩ | ⟨hu, _⟩
  · simp [absLoc, hu, sep.hps, sep.hpo]
  · simp [absLoc, hu, sep.his, sep.hio]

end
end OW.C05Addr
