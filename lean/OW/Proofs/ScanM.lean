import OW.Proofs.Scan
/-!
The forward loop with a step that can fail (a Go panic inside the loop body): `scanM` stops at the first error. Same induction
principle as `scan_run`, for successful runs. The other way to model a panic in a loop, an error state that every later step
keeps (StorageRouting), is the same loop (`scan_eq_scanM_okStep`). No Mathlib.
-/
namespace OW

variable {σ ι ο ε : Type}

def scanM (step : σ → ι → Except ε (σ × ο)) : σ → List ι → Except ε (σ × List ο)
  | s, [] => .ok (s, [])
  | s, x :: xs =>
    match step s x with
    | .error e => .error e
    | .ok r =>
      match scanM step r.1 xs with
      | .error e => .error e
      | .ok rest => .ok (rest.1, r.2 :: rest.2)

theorem scanM_cons_ok {step : σ → ι → Except ε (σ × ο)} {s : σ} {x : ι} {xs : List ι} {r : σ × List ο}
    (h : scanM step s (x :: xs) = .ok r) :
    ∃ s₁ o os, step s x = .ok (s₁, o) ∧ scanM step s₁ xs = .ok (r.1, os) ∧ r.2 = o :: os := by
  unfold scanM at h
  split at h
  · cases h
  · rename_i r₁ h₁
    split at h
    · cases h
    · rename_i rest h₂
      cases h
      exact ⟨r₁.1, r₁.2, rest.2, h₁, h₂, rfl⟩

theorem scanM_run {step : σ → ι → Except ε (σ × ο)} {Inv : σ → Prop} {Ok : ι → Prop}
    {M : σ → List ι → σ → List ο → Prop}
    (inv : ∀ s x s₁ o, Inv s → Ok x → step s x = .ok (s₁, o) → Inv s₁)
    (nil : ∀ s, M s [] s [])
    (cons : ∀ s x s₁ o xs s' os, Inv s → Ok x → step s x = .ok (s₁, o) → M s₁ xs s' os → M s (x :: xs) s' (o :: os)) :
    ∀ (xs : List ι) (s : σ) (r : σ × List ο), Inv s → (∀ x ∈ xs, Ok x) → scanM step s xs = .ok r →
      Inv r.1 ∧ M s xs r.1 r.2
  | [], s, r, hs, _, h => by
    cases h
    exact ⟨hs, nil s⟩
  | x :: xs, s, r, hs, hok, h => by
    obtain ⟨s₁, o, os, h₁, h₂, e⟩ := scanM_cons_ok h
    have hx := hok x List.mem_cons_self
    have ih := scanM_run inv nil cons xs s₁ _ (inv s x s₁ o hs hx h₁) (fun y hy => hok y (List.mem_cons_of_mem _ hy)) h₂
    exact ⟨ih.1, e ▸ cons s x s₁ o xs _ os hs hx h₁ ih.2⟩

theorem scanM_cons_of_ok {step : σ → ι → Except ε (σ × ο)} {s s₁ : σ} {x : ι} {o : ο} (h : step s x = .ok (s₁, o))
    (xs : List ι) : scanM step s (x :: xs) = (scanM step s₁ xs).map fun r => (r.1, o :: r.2) := by
  simp only [scanM, h]
  cases scanM step s₁ xs <;> rfl

theorem scanM_append (step : σ → ι → Except ε (σ × ο)) :
    ∀ (s : σ) (a b : List ι) (r₁ : σ × List ο), scanM step s a = .ok r₁ →
      scanM step s (a ++ b) = (scanM step r₁.1 b).map fun r₂ => (r₂.1, r₁.2 ++ r₂.2)
  | s, [], b, r₁, h => by
    cases h
    rw [List.nil_append]
    cases scanM step s b <;> rfl
  | s, x :: xs, b, r₁, h => by
    obtain ⟨s₁, o, os, h₁, h₂, e⟩ := scanM_cons_ok h
    obtain ⟨t, os'⟩ := r₁
    cases e
    rw [List.cons_append, scanM_cons_of_ok h₁, scanM_append step s₁ xs b _ h₂]
    cases scanM step t b <;> rfl

theorem scanM_prefix (step : σ → ι → Except ε (σ × ο)) :
    ∀ (s : σ) (a b : List ι) (r : σ × List ο), scanM step s (a ++ b) = .ok r → ∃ r₁, scanM step s a = .ok r₁
  | s, [], _, _, _ => ⟨_, rfl⟩
  | s, x :: xs, b, r, h => by
    obtain ⟨s₁, o, os, h₁, h₂, -⟩ := scanM_cons_ok h
    obtain ⟨r₁, hr₁⟩ := scanM_prefix step s₁ xs b _ h₂
    exact ⟨(r₁.1, o :: r₁.2), by rw [scanM_cons_of_ok h₁, hr₁]; rfl⟩

theorem scanM_length {step : σ → ι → Except ε (σ × ο)} {s : σ} {xs : List ι} {r : σ × List ο}
    (h : scanM step s xs = .ok r) : r.2.length = xs.length :=
  (scanM_run (Inv := fun _ => True) (Ok := fun _ => True) (M := fun _ (xs : List ι) _ (os : List ο) => os.length = xs.length)
    (fun _ _ _ _ _ _ _ => trivial) (fun _ => rfl) (fun _ _ _ _ _ _ _ _ _ _ ih => congrArg (· + 1) ih) xs s r trivial
    (fun _ _ => trivial) h).2

def okStep (step : Except ε σ → ι → Except ε σ × ο) (s : σ) (x : ι) : Except ε (σ × ο) :=
  match step (.ok s) x with
  | (.error e, _) => .error e
  | (.ok s', o) => .ok (s', o)

theorem scan_error {step : Except ε σ → ι → Except ε σ × ο} (h : ∀ e x, (step (.error e) x).1 = .error e) (e : ε) :
    ∀ xs : List ι, (scan step (.error e) xs).1 = .error e
  | [] => rfl
  | x :: xs => by
    show (scan step (step (.error e) x).1 xs).1 = _
    rw [h e x]
    exact scan_error h e xs

theorem scan_eq_scanM_okStep {step : Except ε σ → ι → Except ε σ × ο} (h : ∀ e x, (step (.error e) x).1 = .error e) :
    ∀ (s : σ) (xs : List ι),
      (match scan step (.ok s) xs with
        | (.error e, _) => Except.error e
        | (.ok f, outs) => .ok (f, outs)) = scanM (okStep step) s xs
  | s, [] => rfl
  | s, x :: xs => by
    simp only [scan, scanM, okStep]
    cases hq : step (.ok s) x with
    | mk q o =>
      cases q with
      | error e =>
        have := scan_error h e xs
        generalize scan step (.error e) xs = q₂ at this ⊢
        obtain ⟨_, _⟩ := q₂
        cases this
        rfl
      | ok s' =>
        dsimp only
        rw [← scan_eq_scanM_okStep h s' xs]
        generalize scan step (.ok s') xs = q₂
        obtain ⟨_ | f, outs⟩ := q₂ <;> rfl

end OW
