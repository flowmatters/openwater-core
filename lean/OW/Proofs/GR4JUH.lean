import OW.Proofs.RealNum
import OW.Kernels.GR4J
import OW.Spec.GR4J
/-!
GR4J unit hydrographs: the ordinates computed by the Go code are the published S-curve differences
(C15 `sh1_code_eq_spec`, `sh2_code_eq_spec`), the S-curves are monotone, hence the ordinates are non-negative and
sum to one (C10 `uh_nonneg`, `uh_sum_one`), for every x4 > 0.
-/
namespace OW.RR.GR4J
open OW OW.Kernels.GR4J

theorem sh1At_real (x4 : ℝ) (n1 i : ℕ) :
    sh1At x4 n1 i = if i + 1 = n1 then 1 else (((i + 1 : ℕ) : ℝ) / x4) ^ (2.5 : ℝ) := by
  simp only [sh1At, RealNum.pow_eq, RealNum.numOfNat_eq]
  norm_num only

theorem sh2At_real (x4 : ℝ) (n2 i : ℕ) :
    sh2At x4 n2 i = if i + 1 = n2 then 1
      else if ((i + 1 : ℕ) : ℝ) / x4 ≤ 1 then 0.5 * (((i + 1 : ℕ) : ℝ) / x4) ^ (2.5 : ℝ)
      else if ((i + 1 : ℕ) : ℝ) / x4 < 2 then 1 - 0.5 * (2 - ((i + 1 : ℕ) : ℝ) / x4) ^ (2.5 : ℝ)
      else 1 := by
  simp only [sh2At, RealNum.pow_eq, RealNum.numOfNat_eq, RealNum.ofNat_eq]
  norm_num only

theorem SH1_real (x4 t : ℝ) :
    Spec.GR4J.SH1 x4 t = if t ≤ 0 then 0 else if t < x4 then (t / x4) ^ (2.5 : ℝ) else 1 := by
  simp only [Spec.GR4J.SH1, RealNum.pow_eq, RealNum.ofNat_eq]
  norm_num only

theorem SH2_real (x4 t : ℝ) :
    Spec.GR4J.SH2 x4 t = if t ≤ 0 then 0 else if t ≤ x4 then 0.5 * (t / x4) ^ (2.5 : ℝ)
      else if t < 2 * x4 then 1 - 0.5 * (2 - t / x4) ^ (2.5 : ℝ) else 1 := by
  simp only [Spec.GR4J.SH2, RealNum.pow_eq, RealNum.ofNat_eq]
  norm_num only

theorem sh1_code_eq_spec (x4 : ℝ) (_hx : 0 < x4) (i : ℕ) (hi : i < ⌈x4⌉₊) :
    sh1At x4 ⌈x4⌉₊ i = Spec.GR4J.SH1 x4 ((i + 1 : ℕ) : ℝ) := by
  rw [sh1At_real, SH1_real]
  have ht : (0 : ℝ) < ((i + 1 : ℕ) : ℝ) := by positivity
  rw [if_neg (not_le.mpr ht)]
  by_cases h : i + 1 = ⌈x4⌉₊
  · rw [if_pos h, if_neg]
    rw [h]; exact not_lt.mpr (Nat.le_ceil x4)
  · rw [if_neg h, if_pos]
    exact Nat.lt_ceil.mp (lt_of_le_of_ne hi h)

theorem sh2_code_eq_spec (x4 : ℝ) (hx : 0 < x4) (i : ℕ) (hi : i < ⌈2 * x4⌉₊) :
    sh2At x4 ⌈2 * x4⌉₊ i = Spec.GR4J.SH2 x4 ((i + 1 : ℕ) : ℝ) := by
  rw [sh2At_real, SH2_real]
  have ht : (0 : ℝ) < ((i + 1 : ℕ) : ℝ) := by positivity
  rw [if_neg (not_le.mpr ht)]
  by_cases h : i + 1 = ⌈2 * x4⌉₊
  · have h2 : 2 * x4 ≤ ((i + 1 : ℕ) : ℝ) := by rw [h]; exact Nat.le_ceil _
    rw [if_pos h, if_neg (by linarith), if_neg (by linarith)]
  · have h2 : ((i + 1 : ℕ) : ℝ) < 2 * x4 := Nat.lt_ceil.mp (lt_of_le_of_ne hi h)
    rw [if_neg h]
    by_cases h1 : ((i + 1 : ℕ) : ℝ) ≤ x4
    · rw [if_pos ((div_le_one hx).mpr h1), if_pos h1]
    · rw [if_neg (by rwa [div_le_one hx]), if_neg h1, if_pos ((div_lt_iff₀ hx).mpr h2), if_pos h2]

theorem SH1_zero (x4 : ℝ) : Spec.GR4J.SH1 x4 0 = 0 := by rw [SH1_real, if_pos (le_refl _)]
theorem SH2_zero (x4 : ℝ) : Spec.GR4J.SH2 x4 0 = 0 := by rw [SH2_real, if_pos (le_refl _)]

theorem SH1_one_of_le (x4 t : ℝ) (hx : 0 < x4) (h : x4 ≤ t) : Spec.GR4J.SH1 x4 t = 1 := by
  rw [SH1_real, if_neg (by linarith), if_neg (by linarith)]

theorem SH2_one_of_le (x4 t : ℝ) (hx : 0 < x4) (h : 2 * x4 ≤ t) : Spec.GR4J.SH2 x4 t = 1 := by
  rw [SH2_real, if_neg (by linarith), if_neg (by linarith), if_neg (by linarith)]

theorem SH1_clamp (x4 t : ℝ) (hx : 0 < x4) :
    Spec.GR4J.SH1 x4 t = (max 0 (min (t / x4) 1)) ^ (2.5 : ℝ) := by
  rw [SH1_real]
  split_ifs with h0 h1
  · rw [max_eq_left (min_le_of_left_le (div_nonpos_of_nonpos_of_nonneg h0 hx.le)), Real.zero_rpow (by norm_num)]
  · have hu := (div_lt_one hx).2 h1
    rw [min_eq_left hu.le, max_eq_right (div_nonneg (not_le.1 h0).le hx.le)]
  · rw [min_eq_right ((one_le_div hx).2 (not_lt.1 h1)), max_eq_right zero_le_one, Real.one_rpow]

theorem SH1_mono (x4 : ℝ) (hx : 0 < x4) {a b : ℝ} (hab : a ≤ b) : Spec.GR4J.SH1 x4 a ≤ Spec.GR4J.SH1 x4 b := by
  rw [SH1_clamp x4 a hx, SH1_clamp x4 b hx]
  exact Real.rpow_le_rpow (le_max_left _ _)
    (max_le_max le_rfl (min_le_min (div_le_div_of_nonneg_right hab hx.le) le_rfl)) (by norm_num)

/-- SH2 is SH1 made symmetric about `t = x4` -/
theorem SH2_eq_SH1 (x4 t : ℝ) (hx : 0 < x4) :
    Spec.GR4J.SH2 x4 t = 0.5 * Spec.GR4J.SH1 x4 t + 0.5 * (1 - Spec.GR4J.SH1 x4 (2 * x4 - t)) := by
  rw [SH2_real]
  split_ifs with h0 h1 h2
  · rw [SH1_real x4 t, if_pos h0, SH1_one_of_le x4 _ hx (by linarith)]
    norm_num
  · rw [SH1_clamp x4 t hx, min_eq_left ((div_le_one hx).2 h1), max_eq_right (div_nonneg (not_le.1 h0).le hx.le),
      SH1_one_of_le x4 _ hx (by linarith)]
    ring
  · rw [SH1_one_of_le x4 t hx (not_le.1 h1).le, SH1_real x4 (2 * x4 - t), if_neg (by linarith), if_pos (by linarith),
      show (2 * x4 - t) / x4 = 2 - t / x4 by rw [sub_div, mul_div_assoc, div_self hx.ne', mul_one]]
    ring
  · rw [SH1_one_of_le x4 t hx (by linarith), SH1_real x4 (2 * x4 - t), if_pos (by linarith)]
    norm_num

theorem SH2_mono (x4 : ℝ) (hx : 0 < x4) {a b : ℝ} (hab : a ≤ b) : Spec.GR4J.SH2 x4 a ≤ Spec.GR4J.SH2 x4 b := by
  rw [SH2_eq_SH1 x4 a hx, SH2_eq_SH1 x4 b hx]
  linarith [SH1_mono x4 hx hab, SH1_mono x4 hx (sub_le_sub_left hab (2 * x4))]

theorem natSucc_cast_sub (j : ℕ) : ((j + 1 - 1 : ℕ) : ℝ) = (j : ℝ) := by simp

theorem sum_range_diff (f : ℕ → ℝ) (n : ℕ) :
    ((List.range n).map (fun i => f (i + 1) - f i)).sum = f n - f 0 := by
  induction n with
  | zero => simp
  | succ n ih => rw [List.range_succ, List.map_append, List.sum_append, ih]; simp

/-- An S-curve with time base `T`: non-decreasing from `SH 0 = 0` to the value 1 from `T` on. This is all that is used of SH1
(`T = x4`) and SH2 (`T = 2·x4`): the differences of such a curve at 1, 2, …, ⌈T⌉ are non-negative, sum to 1 and vanish beyond
⌈T⌉ (`ord_nonneg`, `sum_ord`, `ord_beyond`; `uh` for the vector the code computes). -/
structure SCurve (SH : ℝ → ℝ) (T : ℝ) : Prop where
  mono : ∀ {a b : ℝ}, a ≤ b → SH a ≤ SH b
  zero : SH 0 = 0
  one : ∀ t, T ≤ t → SH t = 1

namespace SCurve
variable {SH : ℝ → ℝ} {T : ℝ} (c : SCurve SH T)
include c

theorem ord_nonneg (j : ℕ) : 0 ≤ SH j - SH ((j - 1 : ℕ) : ℝ) :=
  sub_nonneg.2 (c.mono (Nat.cast_le.2 (Nat.sub_le j 1)))

theorem ord_beyond (j : ℕ) (hj : ⌈T⌉₊ < j) : SH j - SH ((j - 1 : ℕ) : ℝ) = 0 := by
  have h1 : T ≤ ((j - 1 : ℕ) : ℝ) := (Nat.le_ceil T).trans (Nat.cast_le.2 (Nat.le_sub_one_of_lt hj))
  rw [c.one _ h1, c.one _ (h1.trans (Nat.cast_le.2 (Nat.sub_le j 1))), sub_self]

theorem sum_ord : ((List.range ⌈T⌉₊).map (fun i : ℕ => SH ((i + 1 : ℕ) : ℝ) - SH ((i + 1 - 1 : ℕ) : ℝ))).sum = 1 := by
  have := sum_range_diff (fun i : ℕ => SH i) ⌈T⌉₊
  simp only [Nat.cast_zero, c.zero, sub_zero, c.one _ (Nat.le_ceil T)] at this
  exact this

/-- the code's `UH[0] = SH[0]`, `UH[i] = SH[i] - SH[i-1]` for a vector `sh` that samples the S-curve at 1, 2, … -/
theorem diff_eq {sh : ℕ → ℝ} {n : ℕ} (hsh : ∀ i < n, sh i = SH ((i + 1 : ℕ) : ℝ)) (i : ℕ) (hi : i < n) :
    (if i = 0 then sh 0 else sh i - sh (i - 1)) = SH ((i + 1 : ℕ) : ℝ) - SH ((i + 1 - 1 : ℕ) : ℝ) := by
  rw [Nat.add_sub_cancel]
  rcases i with _ | i
  · rw [if_pos rfl, hsh 0 hi, Nat.cast_zero, c.zero, sub_zero]
  · rw [if_neg (Nat.succ_ne_zero i), hsh _ hi, Nat.add_sub_cancel, hsh i (Nat.lt_of_succ_lt hi)]

/-- about a list `u` given by its equation `hu`, so that the code's vector, long at the call sites, is written once there
(callers pass `_ rfl`); `production_bounds` and `uh_day` have the same form for the same reason -/
theorem uh {sh : ℕ → ℝ} (hsh : ∀ i < ⌈T⌉₊, sh i = SH ((i + 1 : ℕ) : ℝ)) (u : List ℝ)
    (hu : u = (List.range ⌈T⌉₊).map (fun i => if i = 0 then sh 0 else sh i - sh (i - 1))) :
    u = (List.range ⌈T⌉₊).map (fun i : ℕ => SH ((i + 1 : ℕ) : ℝ) - SH ((i + 1 - 1 : ℕ) : ℝ)) ∧ u.sum = 1 ∧
    ∀ x ∈ u, 0 ≤ x := by
  have h := hu.trans (List.map_congr_left fun i hi => c.diff_eq hsh i (List.mem_range.mp hi))
  refine ⟨h, h ▸ c.sum_ord, fun x hx => ?_⟩
  obtain ⟨i, _, rfl⟩ := List.mem_map.mp (h ▸ hx)
  exact c.ord_nonneg _

end SCurve

theorem SH1_curve (x4 : ℝ) (hx : 0 < x4) : SCurve (Spec.GR4J.SH1 x4) x4 :=
  ⟨SH1_mono x4 hx, SH1_zero x4, fun t => SH1_one_of_le x4 t hx⟩

theorem SH2_curve (x4 : ℝ) (hx : 0 < x4) : SCurve (Spec.GR4J.SH2 x4) (2 * x4) :=
  ⟨SH2_mono x4 hx, SH2_zero x4, fun t => SH2_one_of_le x4 t hx⟩

/-- beyond ⌈x4⌉ (resp. ⌈2·x4⌉) the published ordinates vanish: the code's vectors lose nothing -/
theorem UH1_beyond (x4 : ℝ) (hx : 0 < x4) (j : ℕ) (hj : ⌈x4⌉₊ < j) : Spec.GR4J.UH1 x4 j = 0 :=
  (SH1_curve x4 hx).ord_beyond j hj

theorem UH2_beyond (x4 : ℝ) (hx : 0 < x4) (j : ℕ) (hj : ⌈2 * x4⌉₊ < j) : Spec.GR4J.UH2 x4 j = 0 :=
  (SH2_curve x4 hx).ord_beyond j hj

theorem uh1_spec (x4 : ℝ) (hx : 0 < x4) :
    uh1 x4 ⌈x4⌉₊ = (List.range ⌈x4⌉₊).map (fun i => Spec.GR4J.UH1 x4 (i + 1)) ∧ (uh1 x4 ⌈x4⌉₊).sum = 1 ∧
    ∀ u ∈ uh1 x4 ⌈x4⌉₊, 0 ≤ u :=
  (SH1_curve x4 hx).uh (sh1_code_eq_spec x4 hx) _ rfl

theorem uh2_spec (x4 : ℝ) (hx : 0 < x4) :
    uh2 x4 ⌈2 * x4⌉₊ = (List.range ⌈2 * x4⌉₊).map (fun i => Spec.GR4J.UH2 x4 (i + 1)) ∧ (uh2 x4 ⌈2 * x4⌉₊).sum = 1 ∧
    ∀ u ∈ uh2 x4 ⌈2 * x4⌉₊, 0 ≤ u :=
  (SH2_curve x4 hx).uh (sh2_code_eq_spec x4 hx) _ rfl

theorem uh_lengths_pos {x4 : ℝ} (hx4 : 0 < x4) : 0 < ⌈x4⌉₊ ∧ 0 < ⌈2 * x4⌉₊ :=
  ⟨Nat.ceil_pos.mpr hx4, Nat.ceil_pos.mpr (mul_pos two_pos hx4)⟩

theorem init_n1 (x4 : ℝ) : (initState x4).2.1 = ⌈x4⌉₊ := RealNum.toInt_ceil x4

theorem init_n2 (x4 : ℝ) : (initState x4).2.2 = ⌈2 * x4⌉₊ := RealNum.toInt_ceil (2 * x4)

end OW.RR.GR4J
