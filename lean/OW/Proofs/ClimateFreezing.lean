import OW.Proofs.Climate
/-!
Verified numerics for C20 at the freezing point: the limit of the water branch of the Goff-Gratch formula as T → 0⁺
(`expWater (373.16 / 273.16)`, log₁₀ of vp / 101.325) is ABOVE the value of the ice branch at 0 (`expIce 1 = log₁₀ 0.0060273`).

Numerically: expWater(z₀) = −2.2198302576…, expIce(1) = −2.2198771916…, margin 4.69·10⁻⁵.  Every transcendental is enclosed by
a rational through an exact integer-power comparison (`10^p ≤ x^q ⇒ p/q ≤ log₁₀ x`, `le_logb_of_zpow_le` and its three
siblings in `OW.Proofs.Climate`), the rational numbers being convergents of
the continued fractions:
  log₁₀ z₀ ≥ 139/1026 (error 4·10⁻⁷),  log₁₀ 0.0060273 ≤ −2524/1137 (error 3·10⁻⁷),
  10^3.04 ≤ 1100 (true value 1096.4…), 10^(−1.28) ≥ 0.0524 (true value 0.05248…).
-/
namespace OW.Proofs.Climate
open OW OW.Kernels.Climate

set_option exponentiation.threshold 6000 in
theorem logb_z0_lower : (139:ℝ) / 1026 ≤ Real.logb 10 (373.16 / 273.16) :=
  le_logb_of_zpow_le 139 1026 (by norm_num) (by norm_num)
    (by rw [show (373.16:ℝ) / 273.16 = 9329 / 6829 by norm_num, div_pow, le_div_iff₀ (by positivity)]; norm_num)

set_option exponentiation.threshold 6000 in
theorem logb_b4_upper : Real.logb 10 0.0060273 ≤ -((2524:ℝ) / 1137) :=
  logb_le_of_le_zpow (by norm_num) (-2524) 1137 (by norm_num) (by norm_num)
    (by rw [show (0.0060273:ℝ) = 60273 / 10000000 by norm_num, div_pow, div_le_iff₀ (by positivity)]; norm_num)

theorem expIce_one_lt_expWater_z0 : expIce 1 < expWater (373.16 / 273.16) := by
  rw [expIce_one]
  have hP : (10:ℝ) ^ ((1 - 1 / ((373.16:ℝ) / 273.16)) * 11.344) ≤ 1100 :=
    rpow_ten_le_of_zpow_le (by norm_num) 76 25 (by norm_num) (by norm_num) (by norm_num)
  have hQ : (0.0524:ℝ) ≤ (10:ℝ) ^ (-3.49149 * ((373.16:ℝ) / 273.16 - 1)) :=
    le_rpow_ten_of_le_zpow (by norm_num) (-32) 25 (by norm_num) (by norm_num) (by norm_num)
  refine lt_of_le_of_lt logb_b4_upper (lt_of_lt_of_le ?_ (expWater_lower _ _ _ _ logb_z0_lower hP hQ))
  norm_num

end OW.Proofs.Climate
