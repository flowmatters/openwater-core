import OW.Proofs.C08H5
import OW.Proofs.C08Defs
/-!
C08 — sequences of io calls on one file (`Op`, `stepOp`, `applyOps`, `DiskWF`: `OW/Proofs/C08Defs.lean`). What one call
does to the objects of the file, whatever its outcome (nil, returned error, panic), is one relation (`SetAt` after an
append: `stepOp_some`); read off it: a well-formed file stays well-formed (`stepOp_wf`), and an object that exists at a
path other than the one the call names is left exactly as it was (`stepOp_frame`, `applyOps_frame`; `createDs_frame`,
`write_frame`, `create_frame`, `writeSlice_frame` say it of one operation each, the last two with one hypothesis less).
Property theorems: `OW/Props/C08Seq.lean` (sequences), `OW/Props/C08Persist.lean` (what an earlier `Write` stored is what
a later `Load` returns across calls on other paths).
-/
namespace OW.Proofs.C08H5
open OW.Nd OW.Sim.H5

theorem diskWF_none : DiskWF none := fun _ h => by cases h
theorem diskWF_some {t : Tree} : DiskWF (some t) ↔ WF t :=
  ⟨fun h => h t rfl, fun h t' e => by cases e; exact h⟩

/-! What one call does to the objects of a file that exists, EVERY outcome (nil, returned error, panic): `Create` appends
fresh objects (groups, at most one dataset of zeros); `WriteSlice` replaces the elements of the dataset at the path it
names by as many, or does nothing; `Write` does the one, then the other. -/

/-- `t'` is `t`, or `t` with the elements of the dataset at `p` replaced by as many -/
def SetAt (p : Path) (t t' : Tree) : Prop :=
  t' = t ∨ ∃ s v v', find t p = some (.ds s v) ∧ v'.length = v.length ∧ t' = setVals t p v'

theorem SetAt.wf {p : Path} {t t' : Tree} (h : SetAt p t t') (wf : WF t) : WF t' := by
  rcases h with rfl | ⟨s, v, v', hf, hl, rfl⟩
  · exact wf
  · exact wf_setVals wf hf hl

theorem SetAt.find_other {p : Path} {t t' : Tree} (h : SetAt p t t') {r : Path} (hne : r ≠ p) :
    find t' r = find t r := by
  rcases h with rfl | ⟨s, v, v', -, -, rfl⟩
  · rfl
  · exact find_setVals_other t p r v' hne

theorem create_fst (t : Tree) (path : String) (shape : Idx) :
    (create (some t) path shape).1 = some (openOrCreate t path shape).1 := by
  unfold create
  simp only [openW]
  split <;> simp only [*]

theorem write_some (narrow : Bool) (h : Heap Int) (a : Arr) (t : Tree) (path : String) :
    ∃ ext t', WF ext ∧ (write narrow h a (some t) path).1 = some t' ∧ SetAt (splitPath path) (t ++ ext) t' := by
  obtain ⟨ext, he, hwf⟩ := openOrCreate_append t path a.v.dims
  unfold write
  simp only [openW]
  split
  · exact ⟨[], t, wf_nil, rfl, .inl (List.append_nil t).symm⟩
  · split
    · rename_i t1 c e; rw [e] at he; exact ⟨ext, t1, hwf, rfl, .inl he⟩
    · rename_i t1 c e; rw [e] at he; exact ⟨ext, t1, hwf, rfl, .inl he⟩
    · rename_i t1 p e
      obtain ⟨rfl, -⟩ := openOrCreate_ok e
      rw [e] at he
      cases he
      split
      · exact ⟨ext, _, hwf, rfl, .inl rfl⟩
      · split
        · rename_i s v hf
          split
          · rename_i v' hw
            exact ⟨ext, _, hwf, rfl, .inr ⟨s, v, v', hf, h5write_length hw, rfl⟩⟩
          · exact ⟨ext, _, hwf, rfl, .inl rfl⟩
        · exact ⟨ext, _, hwf, rfl, .inl rfl⟩

theorem writeSlice_some (narrow : Bool) (h : Heap Int) (a : Arr) (t : Tree) (path : String) (loc : Idx) :
    ∃ t', (writeSlice narrow h a (some t) path loc).1 = some t' ∧ SetAt (splitPath path) t t' := by
  unfold writeSlice
  simp only [openW]
  split
  · exact ⟨t, rfl, .inl rfl⟩
  · rename_i p s v hod
    obtain ⟨rfl, -, hf⟩ := openDataset_eq.mp hod
    split
    · exact ⟨t, rfl, .inl rfl⟩
    · split
      · exact ⟨t, rfl, .inl rfl⟩
      · split
        · rename_i v' hw
          exact ⟨_, rfl, .inr ⟨s, v, v', hf, h5write_length hw, rfl⟩⟩
        · exact ⟨t, rfl, .inl rfl⟩

theorem stepOp_some (narrow : Bool) (t : Tree) (op : Op) :
    ∃ ext t', WF ext ∧ stepOp narrow (some t) op = some t' ∧ SetAt (splitPath op.path) (t ++ ext) t' := by
  cases op with
  | load _ _ => exact ⟨[], t, wf_nil, rfl, .inl (List.append_nil t).symm⟩
  | write h a path => exact write_some narrow h a t path
  | create path shape =>
    obtain ⟨ext, he, hw⟩ := openOrCreate_append t path shape
    exact ⟨ext, _, hw, create_fst t path shape, .inl he⟩
  | writeSlice h a path loc =>
    obtain ⟨t', h1, h2⟩ := writeSlice_some narrow h a t path loc
    exact ⟨[], t', wf_nil, h1, by rwa [List.append_nil]⟩

theorem stepOp_wf (narrow : Bool) {d : Disk} (op : Op) (wf : DiskWF d) : DiskWF (stepOp narrow d op) := by
  have onFile : ∀ t, WF t → DiskWF (stepOp narrow (some t) op) := fun t wf => by
    obtain ⟨ext, t', he, h1, h2⟩ := stepOp_some narrow t op
    exact h1 ▸ diskWF_some.mpr (h2.wf (wf_append wf he))
  cases d with
  | some t => exact onFile t (wf t rfl)
  | none =>
    cases op with
    | load _ _ | writeSlice _ _ _ _ => exact diskWF_none
    | write _ _ _ | create _ _ => exact onFile [] wf_nil

theorem applyOps_append (narrow : Bool) (d : Disk) (l1 l2 : List Op) :
    applyOps narrow d (l1 ++ l2) = applyOps narrow (applyOps narrow d l1) l2 := by
  simp [applyOps, List.foldl_append]

/-! Frame, for EVERY outcome of a call: an object that exists at a path other than the one the call names is left as it
was (`Create` only appends, `SetAt` touches one path). -/

theorem createDs_frame (dims : List Nat) : ∀ (n : Nat) (comps : List String), comps.length ≤ n →
    ∀ (t : Tree) (cur : Path) (r : Path), find t r ≠ none → find (createDs dims t cur comps).1 r = find t r := by
  intro _ comps _ t cur r hr
  obtain ⟨ext, he, -⟩ := (createDs_spec dims t cur comps).1
  rw [he]
  exact find_append_of_ne_none ext hr

theorem stepOp_frame (narrow : Bool) (t : Tree) (op : Op) {r : Path} (hr : find t r ≠ none)
    (hne : r ≠ splitPath op.path) :
    ∃ t', stepOp narrow (some t) op = some t' ∧ find t' r = find t r := by
  obtain ⟨ext, t', -, h1, h2⟩ := stepOp_some narrow t op
  exact ⟨t', h1, by rw [h2.find_other hne, find_append_of_ne_none ext hr]⟩

theorem write_frame (narrow : Bool) (h : Heap Int) (a : Arr) (t : Tree) (path : String) {r : Path}
    (hr : find t r ≠ none) (hne : r ≠ splitPath path) :
    ∃ t', (write narrow h a (some t) path).1 = some t' ∧ find t' r = find t r :=
  stepOp_frame narrow t (.write h a path) hr hne

theorem create_frame (t : Tree) (path : String) (shape : Idx) {r : Path} (hr : find t r ≠ none) :
    ∃ t', (create (some t) path shape).1 = some t' ∧ find t' r = find t r := by
  obtain ⟨ext, he, -⟩ := openOrCreate_append t path shape
  exact ⟨_, create_fst t path shape, by rw [he, find_append_of_ne_none ext hr]⟩

theorem writeSlice_frame (narrow : Bool) (h : Heap Int) (a : Arr) (t : Tree) (path : String) (loc : Idx) {r : Path}
    (hne : r ≠ splitPath path) :
    ∃ t', (writeSlice narrow h a (some t) path loc).1 = some t' ∧ find t' r = find t r := by
  obtain ⟨t', h1, h2⟩ := writeSlice_some narrow h a t path loc
  exact ⟨t', h1, h2.find_other hne⟩

theorem applyOps_frame (narrow : Bool) : ∀ (ops : List Op) (t : Tree) {r : Path}, find t r ≠ none →
    (∀ op ∈ ops, r ≠ splitPath op.path) →
    ∃ t', applyOps narrow (some t) ops = some t' ∧ find t' r = find t r := by
  intro ops
  induction ops with
  | nil => exact fun t _ _ _ => ⟨t, rfl, rfl⟩
  | cons op ops ih =>
    intro t r hr hall
    obtain ⟨t1, h1, h2⟩ := stepOp_frame narrow t op hr (hall op List.mem_cons_self)
    obtain ⟨t', h3, h4⟩ := ih t1 (h2 ▸ hr) fun o ho => hall o (List.mem_cons_of_mem _ ho)
    exact ⟨t', by rw [← h3, ← h1]; rfl, h4.trans h2⟩

theorem load_congr (narrow : Bool) {t t' : Tree} (path : String) (sel : Option Sel)
    (h : find t' (splitPath path) = find t (splitPath path)) :
    load narrow (some t') path sel = load narrow (some t) path sel := by
  simp only [load, openDataset, h]

end OW.Proofs.C08H5
