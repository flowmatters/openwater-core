import OW.Proofs.SimWriter
import OW.Proofs.SimSchedule
/-!
C07: every run of the writer-protocol transition system (OW/Sim/Writer.lean) projects to a schedule of main-loop and
writer actions that the data-level theorem accepts (`SafeComplete`, OW/Proofs/SimSchedule.lean): `SimRel` relates a protocol
state to the progress of the projected schedule, `sim_step` is one step of the simulation. Core Lean only.

Projection: `spawn g` ↦ `run g` (the main loop spawns W(g) right after `runGeneration(g)`), `links g` ↦ `links g`,
`wdone g` ↦ `write g`, `purge h k` ↦ `purge k`; the channel operations move no data.
-/
namespace OW.Sim.Writer
open OW.Sim

def project : Label → List Act
  | .spawn g => [.run g]
  | .links g => [.links g]
  | .wdone g => [.write g]
  | .purge _ k => [.purge k]
  | _ => []

inductive Run (G : Nat) : State → List Label → State → Prop where
  | nil (s : State) : Run G s [] s
  | cons {s s' s'' : State} {l : Label} {ls : List Label} : step G s l = some s' → Run G s' ls s'' → Run G s (l :: ls) s''

/-- the schedule progress that corresponds to a protocol state -/
structure SimRel (G : Nat) (s : State) (p : Prog) : Prop where
  ran : p.ran = spawned G s.mpc
  linked : p.linked = applied G s.mpc
  written : ∀ k, p.written k = decide (0 < s.writes k)
  purged : ∀ k, p.purged k = decide (0 < s.purges k)

theorem simrel_init (G : Nat) : SimRel G init Prog.init :=
  ⟨rfl, rfl, fun k => by simp [init, Prog.init], fun k => by simp [init, Prog.init]⟩

theorem step_frame {G : Nat} {s s' : State} {l : Label} (h : step G s l = some s') (hp : project l = []) :
    s'.writes = s.writes ∧ s'.purges = s.purges ∧ spawned G s'.mpc = spawned G s.mpc ∧
      applied G s'.mpc = applied G s.mpc := by
  cases l with
  | spawn | links | wdone | purge => cases hp
  | wstart | sent | resent =>
    simp only [step, Option.ite_none_right_eq_some, Option.some.injEq] at h
    obtain ⟨-, rfl⟩ := h
    exact ⟨rfl, rfl, rfl, rfl⟩
  | recv r k c =>
    obtain ⟨-, s1, ht, rfl⟩ := step_recv_iff.mp h
    obtain ⟨_, _, rfl, f4, f5, -⟩ := takeFrom_frame ht
    exact ⟨rfl, rfl, f4, f5⟩
  | mrecv k c =>
    obtain ⟨hm, s1, ht, rfl⟩ := step_mrecv_iff.mp h
    obtain ⟨_, _, rfl, -, -, -⟩ := takeFrom_frame ht
    refine ⟨rfl, rfl, ?_, ?_⟩ <;> (rw [hm]; show _ = G; split <;> rfl)

/-- a Boolean flag that says "the counter is positive" stays so when both are bumped at `g` -/
theorem flag_count_succ {b : Nat → Bool} {f : Nat → Nat} (h : ∀ k, b k = decide (0 < f k)) (g k : Nat) :
    upd b g true k = decide (0 < upd f g (f g + 1) k) := by
  by_cases e : k = g
  · rw [e, upd_same, upd_same]; exact (decide_eq_true (Nat.succ_pos _)).symm
  · rw [upd_other _ _ e, upd_other _ _ e]; exact h k

theorem sim_step {G : Nat} {s s' : State} {w : Nat} {hd : Option (Nat × WPc)} {p : Prog} {l : Label}
    (I : InvP G s w hd) (R : SimRel G s p) (h : step G s l = some s') :
    ∃ p', progRun G p (project l) = some p' ∧ SimRel G s' p' := by
  obtain ⟨hran, hlinked, hwritten, hpurged⟩ := R
  cases l with
  | spawn g =>
    simp only [step, Option.ite_none_right_eq_some, Option.some.injEq] at h
    obtain ⟨⟨hm, hg, -⟩, rfl⟩ := h
    rw [hm] at hran hlinked
    exact ⟨{ p with ran := g + 1 }, progRun_cons (progStep_run ⟨hran.symm, hlinked, hg⟩) rfl, rfl, hlinked, hwritten, hpurged⟩
  | links g =>
    simp only [step, Option.ite_none_right_eq_some, Option.some.injEq] at h
    obtain ⟨hm, rfl⟩ := h
    obtain ⟨hsp, hap, -, -⟩ := next_main (G := G) (g := g) (by have := I.mok; rwa [hm] at this)
    rw [hm] at hran hlinked
    exact ⟨{ p with linked := g + 1 }, progRun_cons (progStep_links ⟨hran.symm, hlinked⟩) rfl, hran.trans hsp.symm, hap.symm,
      hwritten, hpurged⟩
  | wdone g =>
    simp only [step, Option.ite_none_right_eq_some, Option.some.injEq] at h
    obtain ⟨⟨-, hc⟩, rfl⟩ := h
    obtain ⟨rfl, hsp⟩ := writing_safe I hc
    have hw0 : p.written g = false := by rw [hwritten, I.writes g, if_neg (Nat.lt_irrefl g)]; rfl
    have hp0 : p.purged g = false := by
      rw [hpurged]; exact decide_eq_false fun a => Nat.lt_irrefl g (I.purges g a).1
    exact ⟨{ p with written := upd p.written g true },
      progRun_cons (progStep_write ⟨hran ▸ hsp, hw0, hp0⟩) rfl, hran, hlinked, flag_count_succ hwritten g, hpurged⟩
  | purge a k =>
    simp only [step, Option.ite_none_right_eq_some, Option.some.injEq] at h
    obtain ⟨⟨-, hc⟩, rfl⟩ := h
    obtain ⟨e, -, hka⟩ := got_safe I hc
    have hw1 : p.written k = true := by rw [hwritten, I.writes k, if_pos (by omega)]; rfl
    exact ⟨{ p with purged := upd p.purged k true },
      progRun_cons (progStep_purge ⟨hw1, hlinked ▸ hka⟩) rfl, hran, hlinked, hwritten, flag_count_succ hpurged k⟩
  | _ =>
    obtain ⟨a, b, c, d⟩ := step_frame h rfl
    exact ⟨p, rfl, by rw [c]; exact hran, by rw [d]; exact hlinked, by rw [a]; exact hwritten, by rw [b]; exact hpurged⟩

theorem sim_run {G : Nat} {s s'' : State} {ls : List Label} (hr : Run G s ls s'') :
    ∀ (p : Prog), Inv G s → SimRel G s p →
      ∃ p'', progRun G p (ls.flatMap project) = some p'' ∧ SimRel G s'' p'' ∧ Inv G s'' := by
  induction hr with
  | nil s => intro p hI R; exact ⟨p, rfl, R, hI⟩
  | cons hs _ ih =>
    intro p hI R
    obtain ⟨w, hd, I⟩ := hI
    obtain ⟨p1, h1, R1⟩ := sim_step I R hs
    obtain ⟨p2, h2, R2, I2⟩ := ih p1 (inv_step ⟨w, hd, I⟩ hs) R1
    refine ⟨p2, ?_, R2, I2⟩
    rw [List.flatMap_cons, progRun_append, h1]
    exact h2

theorem run_safeComplete {G : Nat} (hG : 1 ≤ G) {s : State} {ls : List Label} (hr : Run G init ls s)
    (he : s.mpc = .exited) : SafeComplete G (ls.flatMap project) := by
  obtain ⟨p, hp, R, hI⟩ := sim_run hr Prog.init (inv_init hG) (simrel_init G)
  refine ⟨p, hp, by rw [R.ran, he]; rfl, by rw [R.linked, he]; rfl, fun k hk => ?_⟩
  rw [R.written, (exited_all hI he hk).2.1]
  rfl

end OW.Sim.Writer
