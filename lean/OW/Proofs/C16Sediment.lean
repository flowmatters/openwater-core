import OW.Proofs.C16Lemmas
import OW.Kernels.C16.BankErosion
import OW.Kernels.C16.SednetGully
import OW.Kernels.C16.UsleFine
/-!
The layer between the sediment-generation kernels of C16 (bank erosion, gully models, USLE) and their properties: literal
values, branch conditions over ℝ, closed forms of intermediate quantities with their signs, and one timestep of the gully
and USLE kernels in closed form (`gully_step_eq`, `usle_step_eq`), from which the property files start.
-/
namespace OW.C16
open OW OW.Kernels

/-- the literals `9.81`, `365.25` of the kernels at ℝ (the common ones are in OW/Proofs/RealNum.lean) -/
theorem lit_981 : (9.81 : ℝ) = 981 / 100 := by norm_num
theorem lit_36525 : (365.25 : ℝ) = 1461 / 4 := by norm_num

theorem bankErosion_ldf (p : BankErosion.Params ℝ) (outflow tv : ℝ) :
    BankErosion.linkDischargeFactor p outflow tv =
      if tv ≤ 0 ∨ outflow ≤ 0 ∨ p.longTermAvDailyFlow ≤ 0 then 0
      else (outflow * p.durationInSeconds) ^ p.dailyFlowPowerFactor / p.longTermAvDailyFlow := by
  simp only [BankErosion.linkDischargeFactor, Bool.or_eq_true, decide_eq_true_eq, or_assoc, realnum]

theorem bankErosion_meanAnnual_nonneg (p : BankErosion.Params ℝ)
    (h1 : p.riparianVegPercent ≤ 100) (h2 : 0 ≤ p.soilErodibility) (h3 : 0 ≤ p.bankErosionCoeff)
    (h4 : 0 ≤ p.linkSlope) (h5 : 0 ≤ p.bankFullFlow) (h6 : 0 ≤ p.bankMgtFactor) (h7 : 0 ≤ p.sedBulkDensity)
    (h8 : 0 ≤ p.bankHeight) (h9 : 0 ≤ p.linkLength) : 0 ≤ BankErosion.meanAnnualBankErosion p := by
  simp only [BankErosion.meanAnnualBankErosion, realnum, RealNum.sci_1000, lit_981]
  have hm : min (p.riparianVegPercent / 100) (p.maxRiparianVegEffectiveness / 100) ≤ 1 :=
    le_trans (min_le_left _ _) (by rw [div_le_one (by norm_num)]; exact h1)
  have e : 0 ≤ 1 - min (p.riparianVegPercent / 100) (p.maxRiparianVegEffectiveness / 100) := by linarith
  positivity

theorem gully_step_active (f : SednetGully.ExportFn ℝ) (p : SednetGully.Params ℝ) (q yr ar al : ℝ)
    (hq : q ≠ 0) (har : ar ≠ 0) (hy : ¬ yr < p.yearDisturbance) :
    SednetGully.step f p (q, yr, ar, al) =
      let loads := f q ar p.area (p.percentFine / 100) (SednetGully.activityFactor p yr) p.managementPracticeFactor
        al p.annualAverageSedimentSupply p.longtermRunoffFactor p.dailyRunoffPowerFactor
      ⟨loads.1 / p.timestepInSeconds * (p.sdrFine * (1 / 100)), loads.2 / p.timestepInSeconds * (p.sdrCoarse * (1 / 100)),
       loads.1 / p.timestepInSeconds, loads.2 / p.timestepInSeconds⟩ := by
  simp only [SednetGully.step, Bool.or_eq_true, realnum, RealNum.feq_eq, RealNum.sci_001]
  rw [if_neg hy, if_neg (by tauto)]

theorem gully_activity (p : SednetGully.Params ℝ) (yr : ℝ) :
    SednetGully.activityFactor p yr = if p.gullyEndYear < yr then p.averageGullyActivityFactor else 1 := by
  simp only [SednetGully.activityFactor, gt_iff_lt, RealNum.sci_one]

theorem gully_activity_nonneg (p : SednetGully.Params ℝ) (h : 0 ≤ p.averageGullyActivityFactor) (yr : ℝ) :
    0 ≤ SednetGully.activityFactor p yr := by
  rw [gully_activity]; split_ifs
  · exact h
  · norm_num

/-- The only division is by the long-term runoff factor, positive on the branch that divides. -/
theorem gully_dailyRunoffFactor_nonneg (q ltrf drpf : ℝ) (hq : 0 ≤ q) : 0 ≤ SednetGully.dailyRunoffFactor q ltrf drpf := by
  simp only [SednetGully.dailyRunoffFactor, realnum, RealNum.sci_one]
  split_ifs with h
  · exact div_nonneg (Real.rpow_nonneg hq _) (le_of_lt h)
  · exact div_nonneg (Real.rpow_nonneg hq _) (le_of_lt h)
  · norm_num

/-- The step off the generating branch (`gully_step_active` is the other one): no quickflow, no annual runoff, or a year
before the disturbance give zero delivered and zero generated loads (the generated loads are the untouched
zero-initialised outputs). No divisor is involved. -/
theorem gully_zero_driver (f : SednetGully.ExportFn ℝ) (p : SednetGully.Params ℝ) (q yr ar al : ℝ)
    (h : q = 0 ∨ ar = 0 ∨ yr < p.yearDisturbance) :
    SednetGully.step f p (q, yr, ar, al) = ⟨0, 0, 0, 0⟩ := by
  simp only [SednetGully.step, Bool.or_eq_true, realnum, RealNum.feq_eq]
  by_cases hy : yr < p.yearDisturbance
  · rw [if_pos hy]
  · rw [if_neg hy, if_pos (by tauto)]

/-- closed form of the two export functions: a common daily load `G` split into `G·propFine·activity` and `G·(1-propFine)`.
`gullyLoadOrig`: `G` is a share of the annual average sediment supply; `gullyLoadDerm`:
`G = dailyRunoffDepth / annualRunoff · managementFactor · annualLoad` with `dailyRunoffDepth = quickflow / area · 1000 · 86400`
(mm per day) -/
theorem gullyLoad_split (alt : Bool) (q ar area pf af mpf al supply ltrf drpf : ℝ) :
    ∃ G, (if alt then SednetGully.gullyLoadDerm else SednetGully.gullyLoadOrig) q ar area pf af mpf al supply ltrf drpf =
        (G * pf * af, G * (1 - pf)) ∧
      G = if alt then (q / area * 1000 * 86400) / ar * (mpf * al)
        else (1 / (1461 / 4)) * SednetGully.dailyRunoffFactor q ltrf drpf * mpf * supply * 1000 := by
  refine ⟨_, ?_, rfl⟩
  cases alt
  · simp only [SednetGully.gullyLoadOrig, tonnesToKg_eq, realnum, lit_36525, Prod.mk.injEq, Bool.false_eq_true, if_false]
    constructor <;> ring
  · simp only [SednetGully.gullyLoadDerm, metresToMillimetres_eq, secondsPerDay_eq, RealNum.ofNat_eq, Nat.cast_one,
      Prod.mk.injEq, if_true]
    constructor <;> ring

/-- every timestep of either model in closed form: a common daily load `G` — zero without quickflow or annual runoff and
before the disturbance, otherwise the export function's —, per second, split by the fine fraction and delivered by the two
ratios -/
theorem gully_step_eq (alt : Bool) (p : SednetGully.Params ℝ) (q yr ar al : ℝ) :
    ∃ G, SednetGully.step (if alt then SednetGully.gullyLoadDerm else SednetGully.gullyLoadOrig) p (q, yr, ar, al) =
        ⟨G * (p.percentFine / 100) * SednetGully.activityFactor p yr / p.timestepInSeconds * (p.sdrFine * (1 / 100)),
         G * (1 - p.percentFine / 100) / p.timestepInSeconds * (p.sdrCoarse * (1 / 100)),
         G * (p.percentFine / 100) * SednetGully.activityFactor p yr / p.timestepInSeconds,
         G * (1 - p.percentFine / 100) / p.timestepInSeconds⟩ ∧
      G = if q = 0 ∨ ar = 0 ∨ yr < p.yearDisturbance then 0
        else if alt then (q / p.area * 1000 * 86400) / ar * (p.managementPracticeFactor * al)
        else (1 / (1461 / 4)) * SednetGully.dailyRunoffFactor q p.longtermRunoffFactor p.dailyRunoffPowerFactor *
          p.managementPracticeFactor * p.annualAverageSedimentSupply * 1000 := by
  by_cases hz : q = 0 ∨ ar = 0 ∨ yr < p.yearDisturbance
  · refine ⟨0, ?_, (if_pos hz).symm⟩
    rw [gully_zero_driver _ p q yr ar al hz]
    simp only [zero_mul, zero_div]
  · obtain ⟨G, hG, hGv⟩ := gullyLoad_split alt q ar p.area (p.percentFine / 100) (SednetGully.activityFactor p yr)
      p.managementPracticeFactor al p.annualAverageSedimentSupply p.longtermRunoffFactor p.dailyRunoffPowerFactor
    refine ⟨G, ?_, by rw [if_neg hz]; exact hGv⟩
    rw [gully_step_active _ p q yr ar al (fun h => hz (Or.inl h)) (fun h => hz (Or.inr (Or.inl h)))
      (fun h => hz (Or.inr (Or.inr h)))]
    simp only [hG]

/-- `qf · CUBIC_METRES_PER_SECOND_TO_MEGA_LITRES_PER_DAY · MEGA_LITRES_TO_LITRES` = litres per day -/
theorem usle_litresPerDay (qf : ℝ) : UsleFine.litresPerDay qf = qf * 86400000 := by
  simp only [UsleFine.litresPerDay, cumecsToMegaLitresPerDay_eq, megaLitresToLitres_eq]; ring

theorem usle_rFactor_no_rain (p : UsleFine.Params ℝ) (rain doy : ℝ) (h : ¬ p.rainThreshold < rain) :
    UsleFine.rFactor p rain doy = 0 := by
  simp only [UsleFine.rFactor, gt_iff_lt, RealNum.sci_zero]
  rw [if_neg h]

/-- the maximum-concentration cap multiplies the fine and the coarse rate by one common factor `adj` (1 when the cap
is not hit) -/
theorem usle_adjustedRates (p : UsleFine.Params ℝ) (qf fine coarse : ℝ) :
    ∃ adj, UsleFine.adjustedRates p qf fine coarse = (fine * adj, coarse * adj) ∧
      (0 ≤ p.maxConc → 0 < qf → 0 ≤ fine → 0 ≤ p.area → 0 ≤ adj) := by
  simp only [UsleFine.adjustedRates, usle_litresPerDay, squareMetresToHectares_eq, tonnesToKg_eq, kgToMilligram_eq,
    gt_iff_lt]
  split_ifs with h
  · exact ⟨_, rfl, fun h1 h2 h3 h4 => by positivity⟩
  · exact ⟨1, by rw [mul_one, mul_one], fun _ _ _ _ => zero_le_one⟩

/-- One timestep of the USLE kernel in closed form: the event test, then the delivered, slow, total and generated loads from
the (possibly capped) rates. The no-event branch is kept as the code writes it: the literal 0 for the fine quick load,
`0 / Δt` for the other three. -/
theorem usle_step_eq (p : UsleFine.Params ℝ) (i : UsleFine.In ℝ) :
    UsleFine.step p i =
      if 0 < i.qf ∧ 0 < UsleFine.rFactor p i.rain i.doy * i.klsc then
        have rates := UsleFine.adjustedRates p i.qf (UsleFine.rFactor p i.rain i.doy * i.klscFine)
          (UsleFine.rFactor p i.rain i.doy * i.klsc - UsleFine.rFactor p i.rain i.doy * i.klscFine)
        ⟨rates.1 * p.area * (1 / 10000) * 1000 * (p.usleHSDRFine * (1 / 100)) / p.timeStepInSeconds,
          p.dwc * i.sf * (1 / 1000),
          rates.2 * p.area * (1 / 10000) * 1000 * (p.usleHSDRCoarse * (1 / 100)) / p.timeStepInSeconds, 0,
          rates.1 * p.area * (1 / 10000) * 1000 * (p.usleHSDRFine * (1 / 100)) / p.timeStepInSeconds +
            p.dwc * i.sf * (1 / 1000),
          rates.2 * p.area * (1 / 10000) * 1000 * (p.usleHSDRCoarse * (1 / 100)) / p.timeStepInSeconds + 0,
          rates.1 * p.area * (1 / 10000) * 1000 / p.timeStepInSeconds,
          rates.2 * p.area * (1 / 10000) * 1000 / p.timeStepInSeconds⟩
      else
        ⟨0, p.dwc * i.sf * (1 / 1000), 0 / p.timeStepInSeconds, 0, 0 + p.dwc * i.sf * (1 / 1000),
          0 / p.timeStepInSeconds + 0, 0 / p.timeStepInSeconds, 0 / p.timeStepInSeconds⟩ := by
  simp only [UsleFine.step, Bool.false_eq_true, if_false, Bool.and_eq_true, decide_eq_true_eq, gt_iff_lt,
    mgPerLitreToKgPerM3_eq, squareMetresToHectares_eq, tonnesToKg_eq, RealNum.sci_001, RealNum.sci_zero, RealNum.lit0]

theorem usle_no_event (p : UsleFine.Params ℝ) (i : UsleFine.In ℝ)
    (h : i.qf ≤ 0 ∨ ¬ p.rainThreshold < i.rain ∨ i.klsc = 0) :
    ¬ (0 < i.qf ∧ 0 < UsleFine.rFactor p i.rain i.doy * i.klsc) := by
  rintro ⟨hq, hr⟩
  rcases h with h | h | h
  · exact absurd hq (not_lt.mpr h)
  · rw [usle_rFactor_no_rain p i.rain i.doy h, zero_mul] at hr
    exact lt_irrefl _ hr
  · rw [h, mul_zero] at hr
    exact lt_irrefl _ hr

theorem usle_load_nonneg {x adj area hsdr ts : ℝ} (hx : 0 ≤ x) (ha : 0 ≤ adj) (har : 0 ≤ area) (hh : 0 ≤ hsdr)
    (hts : 0 < ts) :
    0 ≤ x * adj * area * (1 / 10000) * 1000 * (hsdr * (1 / 100)) / ts ∧
    0 ≤ x * adj * area * (1 / 10000) * 1000 / ts := by
  constructor <;> positivity

end OW.C16
