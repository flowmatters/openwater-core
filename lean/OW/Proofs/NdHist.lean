import OW.Proofs.NdSlice
import OW.Proofs.NdApply
/-!
Histories that interleave `Set | Apply | ApplySlice | CopyFrom` through several views of one or several storages (`WOp`, performed
by the model's own operations; a history of `Set`s only, `WriteOp`, is the special case `WriteOp.toWOp`) against a reference for what
a read through any view returns afterwards (`readBackOps`; "all interleavings of reads and writes": reads do not change the heap, so
an interleaving is a sequence of writes with reads placed after arbitrary prefixes): a cell holds the value written by the LAST request
that addressed it, a copied value being what the source read at that moment (by the same rule). Each request is a write by its
footprint (`Wrote`), which gives one step (`runOp_visible`); the induction over a history needs the reference to depend on the
earlier reader only through valid reads (`readBackOps_congr`).
-/
namespace OW.Nd
open OW.NdC02 (rowMajor)

section
variable {α : Type}

/-- one `Set` request: through array `arr`, at index `loc`, value `val` -/
structure WriteOp (α : Type) where
  arr : Arr
  loc : Idx
  val : α

def setMany (h : Heap α) : List (WriteOp α) → R (Heap α)
  | [] => .ok h
  | op :: rest => do
    let h' ← set h op.arr op.loc op.val
    setMany h' rest

def sameCell (op : WriteOp α) (b : Arr) (j : Idx) : Prop :=
  b.sid = op.arr.sid ∧ b.base + addr b.v j = op.arr.base + addr op.arr.v op.loc

instance (op : WriteOp α) (b : Arr) (j : Idx) : Decidable (sameCell op b j) := by
  unfold sameCell; exact inferInstance

/-- what a read returns after the writes, given what it returned before: the value of the LAST write to the same cell -/
def readBack (ops : List (WriteOp α)) (b : Arr) (j : Idx) (before : R α) : R α :=
  ops.foldl (fun r op => if sameCell op b j then .ok op.val else r) before

theorem readBack_cons (op : WriteOp α) (ops : List (WriteOp α)) (b : Arr) (j : Idx) (before : R α) :
    readBack (op :: ops) b j before = readBack ops b j (if sameCell op b j then .ok op.val else before) := rfl

/-- what a write request puts into a cell: a given value, or element `i` of a source array (as read when the request is
performed) -/
inductive Src (α : Type) where
  | const (x : α) : Src α
  | elem (src : Arr) (i : Idx) : Src α

/-- the value of a `Src` under a reader `rd` (what `Get` returns through each array at each index) -/
def Src.eval (rd : Arr → Idx → R α) : Src α → R α
  | .const x => .ok x
  | .elem s i => rd s i

/-- one write request: `Set(loc, x)`, `Apply(loc, d, step, vals)`, `ApplySlice(loc, step, src)`, `CopyFrom(src)`, each
through its own array `a` -/
inductive WOp (α : Type) where
  | set (a : Arr) (loc : Idx) (x : α) : WOp α
  | apply (a : Arr) (loc : Idx) (d : Nat) (step : Int) (vals : List α) : WOp α
  | applySlice (a : Arr) (loc : Idx) (step : Option Idx) (src : Arr) : WOp α
  | copyFrom (a : Arr) (src : Arr) : WOp α

def runOp (h : Heap α) : WOp α → R (Heap α)
  | .set a loc x => Nd.set h a loc x
  | .apply a loc d step vals => Nd.apply h a loc (d : Int) step vals
  | .applySlice a loc step src => Nd.applySlice h a loc step src
  | .copyFrom a src => Nd.copyFrom h a src

def runOps (h : Heap α) : List (WOp α) → R (Heap α)
  | [] => .ok h
  | op :: rest => do
    let h' ← runOp h op
    runOps h' rest

def WOp.dst : WOp α → Arr
  | .set a _ _ => a
  | .apply a _ _ _ _ => a
  | .applySlice a _ _ _ => a
  | .copyFrom a _ => a

/-- the indices (of the destination array) a request addresses, each with what is written there -/
def WOp.targets : WOp α → List (Idx × Src α)
  | .set _ loc x => [(loc, .const x)]
  | .apply _ loc d step vals => (runPairs loc d (loc[d]?.getD 0) step 0 vals).map (fun w => (w.1, .const w.2))
  | .applySlice a loc step src =>
    (rowMajor src.v.dims).map (fun i => (affine loc i (stepOr a.v.dims.length step), .elem src i))
  | .copyFrom a src => (rowMajor a.v.dims).map (fun i => (i, .elem src i))

/-- the hypotheses of the footprint theorems (`set_footprint`, `apply_footprint` or — no values — `apply_empty`,
`applySlice_footprint`, `copyFrom_footprint`) for one request in heap `h` -/
def WOp.OK (h : Heap α) : WOp α → Prop
  | .set a loc _ => Reach a.v ∧ ArrOK h a ∧ InBounds loc a.v.dims
  | .apply a loc d step vals => Reach a.v ∧ ArrOK h a ∧ InBounds loc a.v.dims ∧
      ((vals = [] ∧ d < a.v.dims.length) ∨
        ∃ D l, a.v.dims[d]? = some D ∧ loc[d]? = some l ∧ vals ≠ [] ∧ 1 ≤ step ∧
          l + ((vals.length : Int) - 1) * step < D)
  | .applySlice a loc step src => Reach a.v ∧ ArrOK h a ∧ Reach src.v ∧ ArrOK h src ∧ src.sid ≠ a.sid ∧
      SliceOK a.v.dims loc src.v.dims (stepOr a.v.dims.length step)
  | .copyFrom a src => Reach a.v ∧ ArrOK h a ∧ Reach src.v ∧ ArrOK h src ∧ src.sid ≠ a.sid ∧ src.v.dims = a.v.dims

theorem WOp.OK.sameShape {h h' : Heap α} (s : SameShape h h') : ∀ {op : WOp α}, op.OK h → op.OK h'
  | .set _ _ _, ⟨r, ok, ib⟩ => ⟨r, ok.sameShape s, ib⟩
  | .apply _ _ _ _ _, ⟨r, ok, ib, rest⟩ => ⟨r, ok.sameShape s, ib, rest⟩
  | .applySlice _ _ _ _, ⟨r, ok, rs, oks, rest⟩ => ⟨r, ok.sameShape s, rs, oks.sameShape s, rest⟩
  | .copyFrom _ _, ⟨r, ok, rs, oks, rest⟩ => ⟨r, ok.sameShape s, rs, oks.sameShape s, rest⟩

/-- does a read through `b` at `j` address the cell of target index `t` of the request? (same storage is tested in `hit`) -/
def WOp.sameAddr (op : WOp α) (b : Arr) (j : Idx) (t : Idx × Src α) : Bool :=
  decide (b.base + addr b.v j = op.dst.base + addr op.dst.v t.1)

/-- what the request wrote into the cell that a read through `b` at `j` addresses, if it addressed that cell -/
def WOp.hit (op : WOp α) (b : Arr) (j : Idx) : Option (Src α) :=
  if b.sid = op.dst.sid then (op.targets.find? (op.sameAddr b j)).map Prod.snd else none

/-- the reader after one request, from the reader before it -/
def stepRead (op : WOp α) (rd : Arr → Idx → R α) (b : Arr) (j : Idx) : R α :=
  match op.hit b j with
  | some s => s.eval rd
  | none => rd b j

/-- the reader after a history: for each cell, the value of the LAST request that addressed it (a copied value being
what the reader of that moment returned for the source element), else the initial reader -/
def readBackOps (ops : List (WOp α)) (rd0 : Arr → Idx → R α) : Arr → Idx → R α :=
  ops.foldl (fun rd op => stepRead op rd) rd0

theorem readBackOps_cons (op : WOp α) (ops : List (WOp α)) (rd0 : Arr → Idx → R α) :
    readBackOps (op :: ops) rd0 = readBackOps ops (stepRead op rd0) := rfl

def RdOK (h : Heap α) (b : Arr) (j : Idx) : Prop := Reach b.v ∧ ArrOK h b ∧ InBounds j b.v.dims

theorem RdOK.sameShape {h h' : Heap α} {b : Arr} {j : Idx} (s : SameShape h h') (r : RdOK h b j) : RdOK h' b j :=
  ⟨r.1, r.2.1.sameShape s, r.2.2⟩

theorem WOp.hit_some {op : WOp α} {b : Arr} {j : Idx} {s : Src α} (hh : op.hit b j = some s) :
    b.sid = op.dst.sid ∧ ∃ t ∈ op.targets, t.2 = s ∧ b.base + addr b.v j = op.dst.base + addr op.dst.v t.1 := by
  unfold WOp.hit at hh
  split at hh
  · obtain ⟨t, hf, rfl⟩ := Option.map_eq_some_iff.mp hh
    have hp : op.sameAddr b j t = true := List.find?_some hf
    exact ⟨‹_›, t, List.mem_of_find?_eq_some hf, rfl, of_decide_eq_true hp⟩
  · cases hh

theorem WOp.hit_none {op : WOp α} {b : Arr} {j : Idx} (hh : op.hit b j = none) :
    b.sid ≠ op.dst.sid ∨ ∀ t ∈ op.targets, b.base + addr b.v j ≠ op.dst.base + addr op.dst.v t.1 := by
  unfold WOp.hit at hh
  split at hh
  · refine .inr fun t ht e => ?_
    have := List.find?_eq_none.mp (Option.map_eq_none_iff.mp hh) t ht
    exact this (decide_eq_true e)
  · exact .inl ‹_›

theorem stepRead_eq {op : WOp α} {b : Arr} {j : Idx} {rd : Arr → Idx → R α} {r : R α}
    (hitC : ∀ t ∈ op.targets, b.sid = op.dst.sid → b.base + addr b.v j = op.dst.base + addr op.dst.v t.1 →
      r = t.2.eval rd)
    (missC : (b.sid ≠ op.dst.sid ∨ ∀ t ∈ op.targets, b.base + addr b.v j ≠ op.dst.base + addr op.dst.v t.1) →
      r = rd b j) : r = stepRead op rd b j := by
  unfold stepRead
  cases hh : op.hit b j with
  | none => exact missC (WOp.hit_none hh)
  | some s =>
    obtain ⟨hsid, t, ht, rfl, e⟩ := WOp.hit_some hh
    exact hitC t ht hsid e

/-- `h1`, `h2`: the footprint `T` is what the request's targets denote under the reader before it -/
theorem Wrote.stepRead {h h' : Heap α} {op : WOp α} {T : Idx → α → Prop} (w : Wrote h h' op.dst T)
    (ga : Geo op.dst.v) (oka : ArrOK h op.dst)
    (h1 : ∀ t ∈ op.targets, ∃ x, t.2.eval (get h) = .ok x ∧ T t.1 x)
    (h2 : ∀ i x, T i x → ∃ t ∈ op.targets, t.1 = i) {b : Arr} {j : Idx} (rd : RdOK h b j) :
    get h' b j = Nd.stepRead op (get h) b j := by
  obtain ⟨rb, okb, hj⟩ := rd
  obtain ⟨hitV, missV⟩ := w.visible ga oka (reach_geo rb) okb hj
  apply stepRead_eq
  · intro t ht hsid e
    obtain ⟨x, hx, tx⟩ := h1 t ht
    rw [hx]
    exact hitV _ x tx hsid e
  · intro hm
    apply missV
    refine hm.imp id fun h3 i x tx => ?_
    obtain ⟨t, ht, rfl⟩ := h2 i x tx
    exact h3 t ht

theorem hit_elem_ok {h : Heap α} {op : WOp α} (ok : op.OK h) {b : Arr} {j : Idx} {s : Arr} {i : Idx}
    (hh : op.hit b j = some (.elem s i)) : RdOK h s i := by
  obtain ⟨_, t, hm, ht, _⟩ := WOp.hit_some hh
  cases op with
  | set a loc x =>
    rw [List.mem_singleton.mp hm] at ht
    cases ht
  | apply a loc d step vals =>
    obtain ⟨w, _, rfl⟩ := List.mem_map.mp hm
    cases ht
  | applySlice a loc step src =>
    obtain ⟨i', hi', rfl⟩ := List.mem_map.mp hm
    cases ht
    obtain ⟨_, _, rs, oks, _, _⟩ := ok
    exact ⟨rs, oks, rowMajor_inBounds (reach_geo rs).pos_dims _ hi'⟩
  | copyFrom a src =>
    obtain ⟨i', hi', rfl⟩ := List.mem_map.mp hm
    cases ht
    obtain ⟨ra, _, rs, oks, _, hshape⟩ := ok
    exact ⟨rs, oks, by rw [hshape]; exact rowMajor_inBounds (reach_geo ra).pos_dims _ hi'⟩

theorem stepRead_congr {h : Heap α} {op : WOp α} (ok : op.OK h) {rd rd' : Arr → Idx → R α}
    (e : ∀ b j, RdOK h b j → rd b j = rd' b j) (b : Arr) (j : Idx) (r : RdOK h b j) :
    stepRead op rd b j = stepRead op rd' b j := by
  unfold stepRead
  cases hh : op.hit b j with
  | none => exact e b j r
  | some s =>
    cases s with
    | const x => rfl
    | elem s i => exact e s i (hit_elem_ok ok hh)

theorem readBackOps_congr {h : Heap α} : ∀ (ops : List (WOp α)), (∀ op ∈ ops, op.OK h) →
    ∀ {rd rd' : Arr → Idx → R α}, (∀ b j, RdOK h b j → rd b j = rd' b j) →
      ∀ b j, RdOK h b j → readBackOps ops rd b j = readBackOps ops rd' b j
  | [], _, _, _, e, b, j, r => e b j r
  | op :: rest, hops, rd, rd', e, b, j, r => by
    rw [readBackOps_cons, readBackOps_cons]
    exact readBackOps_congr rest (fun o ho => hops o (List.mem_cons_of_mem _ ho))
      (fun b j r => stepRead_congr (hops op List.mem_cons_self) e b j r) b j r

theorem runOp_visible {h : Heap α} {op : WOp α} (ok : op.OK h) :
    ∃ h', runOp h op = .ok h' ∧ SameShape h h' ∧
      ∀ (b : Arr) (j : Idx), RdOK h b j → get h' b j = stepRead op (get h) b j := by
  -- each request is a write with a footprint `T` (`Wrote`) that is what its targets denote: `Wrote.stepRead`
  cases op with
  | set a loc x =>
    obtain ⟨ra, oka, hloc⟩ := ok
    have ga := reach_geo ra
    have w := wrote_set ga oka hloc x
    refine ⟨_, set_addr ga oka hloc x, w.shape, fun b j rd => w.stepRead (op := .set a loc x) ga oka ?_ ?_ rd⟩
    · intro t ht
      rw [List.mem_singleton.mp ht]
      exact ⟨x, rfl, rfl, rfl⟩
    · intro i y hm
      exact ⟨(loc, .const x), List.mem_singleton.mpr rfl, hm.1.symm⟩
  | apply a loc d step vals =>
    obtain ⟨ra, oka, hloc, hcase⟩ := ok
    have ga := reach_geo ra
    rcases hcase with ⟨rfl, hd⟩ | ⟨D, l, hD, hl, hne, hstep, hlast⟩
    · refine ⟨h, apply_nil ga oka step hloc hd, SameShape.refl h, fun b j rd =>
        (Wrote.refl h a).stepRead (op := .apply a loc d step []) ga oka ?_ (fun _ _ f => f.elim) rd⟩
      intro t ht
      simp [WOp.targets, runPairs] at ht
    obtain ⟨hd, okS⟩ := run_sliceOK hloc hD hl hne hstep hlast
    obtain ⟨h', he, w⟩ := (bulk_apply ga oka hd okS hl).wrote ga oka
    rw [← runPairs_eq_zip] at w
    refine ⟨h', he, w.shape, fun b j rd => w.stepRead (op := .apply a loc d step vals) ga oka ?_ ?_ rd⟩
    · intro t ht
      simp only [WOp.targets, hl, Option.getD_some, List.mem_map] at ht
      obtain ⟨p, hp, rfl⟩ := ht
      exact ⟨p.2, rfl, hp⟩
    · intro i x hm
      refine ⟨(i, .const x), ?_, rfl⟩
      simp only [WOp.targets, hl, Option.getD_some, List.mem_map]
      exact ⟨(i, x), hm, rfl⟩
  | applySlice a loc step src =>
    obtain ⟨ra, oka, rs, oks, hdisj, okS⟩ := ok
    have ga := reach_geo ra
    have gs := reach_geo rs
    obtain ⟨h', he, w⟩ := applySlice_wrote ga oka gs oks hdisj okS
    refine ⟨h', he, w.shape, fun b j rd => w.stepRead (op := .applySlice a loc step src) ga oka ?_ ?_ rd⟩
    · intro t ht
      obtain ⟨i, hi, rfl⟩ := List.mem_map.mp ht
      have hib := rowMajor_inBounds gs.pos_dims _ hi
      obtain ⟨x, _, gx⟩ := get_addr gs oks hib
      exact ⟨x, gx, i, ⟨hib, gx⟩, rfl⟩
    · rintro _ x ⟨i, ⟨hi, _⟩, rfl⟩
      exact ⟨_, List.mem_map.mpr ⟨i, List.mem_of_getElem? (rowMajor_getElem?_ravel hi), rfl⟩, rfl⟩
  | copyFrom a src =>
    obtain ⟨ra, oka, rs, oks, hdisj, hshape⟩ := ok
    have ga := reach_geo ra
    have gs := reach_geo rs
    obtain ⟨h', he, w⟩ := copyFrom_wrote ga oka gs oks hdisj hshape
    refine ⟨h', he, w.shape, fun b j rd => w.stepRead (op := .copyFrom a src) ga oka ?_ ?_ rd⟩
    · intro t ht
      obtain ⟨i, hi, rfl⟩ := List.mem_map.mp ht
      have hib := rowMajor_inBounds ga.pos_dims _ hi
      obtain ⟨x, _, gx⟩ := get_addr gs oks (hshape ▸ hib)
      exact ⟨x, gx, hib, gx⟩
    · rintro i x ⟨hi, _⟩
      exact ⟨_, List.mem_map.mpr ⟨i, List.mem_of_getElem? (rowMajor_getElem?_ravel hi), rfl⟩, rfl⟩

theorem runOps_visible : ∀ (ops : List (WOp α)) (h : Heap α), (∀ op ∈ ops, op.OK h) →
    ∃ h', runOps h ops = .ok h' ∧ SameShape h h' ∧
      ∀ (b : Arr) (j : Idx), Reach b.v → ArrOK h b → InBounds j b.v.dims →
        get h' b j = readBackOps ops (get h) b j
  | [], h, _ => ⟨h, rfl, SameShape.refl h, fun _ _ _ _ _ => rfl⟩
  | op :: rest, h, hops => by
    obtain ⟨h1, e1, s1, v1⟩ := runOp_visible (hops op List.mem_cons_self)
    have hrest : ∀ o ∈ rest, o.OK h := fun o ho => hops o (List.mem_cons_of_mem _ ho)
    obtain ⟨h', e2, s2, v2⟩ := runOps_visible rest h1 (fun o ho => (hrest o ho).sameShape s1)
    refine ⟨h', ?_, s1.trans s2, fun b j rb okb hj => ?_⟩
    · simp only [runOps, e1, bind, Except.bind]
      exact e2
    · rw [v2 b j rb (okb.sameShape s1) hj, readBackOps_cons]
      exact readBackOps_congr rest hrest v1 b j ⟨rb, okb, hj⟩

def WriteOp.toWOp (w : WriteOp α) : WOp α := .set w.arr w.loc w.val

theorem runOps_sets : ∀ (ws : List (WriteOp α)) (h : Heap α), runOps h (ws.map WriteOp.toWOp) = setMany h ws
  | [], _ => rfl
  | w :: rest, h => by
    simp only [List.map_cons, runOps, setMany, runOp, WriteOp.toWOp]
    exact bind_congr fun h' => runOps_sets rest h'

theorem stepRead_set (w : WriteOp α) (rd : Arr → Idx → R α) (b : Arr) (j : Idx) :
    stepRead w.toWOp rd b j = if sameCell w b j then .ok w.val else rd b j := by
  refine (stepRead_eq (op := w.toWOp) (fun t ht hsid e => ?_) fun hm => ?_).symm
  · rw [List.mem_singleton.mp ht] at e ⊢
    exact if_pos ⟨hsid, e⟩
  · exact if_neg fun c => hm.elim (fun h1 => h1 c.1) fun h2 => h2 _ (List.mem_singleton.mpr rfl) c.2

theorem readBackOps_sets (ws : List (WriteOp α)) (b : Arr) (j : Idx) : ∀ rd : Arr → Idx → R α,
    readBackOps (ws.map WriteOp.toWOp) rd b j = readBack ws b j (rd b j) := by
  induction ws with
  | nil => intro rd; rfl
  | cons w rest ih =>
    intro rd
    rw [List.map_cons, readBackOps_cons, ih, readBack_cons, stepRead_set]

end
end OW.Nd
