import OW.Proofs.NdBulk
/-!
`Unroll`, `Reshape` / `ReshapeFast` / `MustReshape`, `Maximum` / `Minimum` against the row-major reference. The arrays `Reshape`
returns are named (`freshArr`, `aliasArr`, `cAliasArr`; `reshapedArr` on a contiguous view) and read element by element
(`get_fresh`, `get_alias`, `get_cAlias`), and as row-major lists for the C03 layer (`getAll_reshaped`, `getAll_freshCopy`).
-/
namespace OW.NdC02
open OW.Nd

section
variable {α : Type}

/-- the fresh Go-backed array `ArrayFromSlice(vals, shape)` that `Reshape` builds on a copy -/
def freshArr (h : Heap α) (vals : List α) (s : Idx) : Arr :=
  { v := rootView s 0, sid := h.length, base := 0, len := vals.length, isC := false }

/-- the Go-backed array that `Reshape` builds on the aliasing `Unroll()` of a contiguous Go-backed view -/
def aliasArr (a : Arr) (s : Idx) : Arr :=
  { v := rootView s 0, sid := a.sid, base := a.base + a.v.start, len := a.v.size, isC := false }

/-- the C-backed array that `Reshape` builds for a contiguous C-backed view (same pointer, root view from `Start`) -/
def cAliasArr (a : Arr) (s : Idx) : Arr := { a with v := rootView s a.v.start }

/-- the result of `Reshape` on a contiguous view, for either back-end -/
def reshapedArr (a : Arr) (s : Idx) : Arr := if a.isC = true then cAliasArr a s else aliasArr a s

end
end OW.NdC02

namespace OW.Nd
open OW.NdC02

section
variable {α : Type}

theorem gather_eq {h : Heap α} {a : Arr} (hp : Pos a.v.dims) :
    ∀ (n k : Nat), ((k + n : Nat) : Int) ≤ product a.v.dims →
      gather h a (offsetsT a.v.dims) n (k : Int) = getAll h a (rowMajorFrom a.v.dims k n) := by
  intro n
  induction n with
  | zero => intro k _; rfl
  | succ n ih =>
    intro k hk
    rw [rowMajorFrom_succ]
    simp only [gather, getAll]
    rw [idivmod_rowmajor' hp (by omega) (by omega)]
    simp only [bind, Except.bind]
    have : ((k : Int) + 1) = ((k + 1 : Nat) : Int) := by omega
    rw [this, ih (k + 1) (by omega)]

theorem unrollGather_eq (h : Heap α) {a : Arr} (hp : Pos a.v.dims) (hne : a.v.dims ≠ []) :
    unrollGather h a = getAll h a (rowMajor a.v.dims) := by
  have := product_pos hp
  have hsz : ¬ product a.v.dims < 0 := by omega
  have hg := gather_eq (h := h) hp (product a.v.dims).toNat 0 (rowMajor_bound hp)
  unfold unrollGather
  simp only [View.size, if_neg hsz, offsets_ok hne, bind, Except.bind]
  exact hg

/-- stated without `Geo`, so that extents may be 0 (the empty arrays of `Proofs/JsonEncode.lean`; in C01 / C02 every extent is
≥ 1): `e` is the address of the last index, `hwin` says that the cells from `Start` to `e` lie inside the storage -/
theorem unroll_window {h : Heap α} {a : Arr} {s : List α} {e : Int} (hs : h[a.sid]? = some s) (hC : a.isC = false)
    (hc : a.v.contiguous = .ok true) (hidx : a.v.index (decrement a.v.dims) = .ok e)
    (hwin : 0 ≤ a.v.start ∧ a.v.start ≤ e + 1 ∧ e + 1 ≤ (s.length : Int) - a.base) :
    unroll h a = .ok (.alias a.sid (a.base + a.v.start) (e + 1 - a.v.start)) := by
  unfold unroll
  simp only [hC, hc, hidx, subslice_ok hs hwin.1 hwin.2.1 hwin.2.2, bind, Except.bind, pure, Except.pure,
    Bool.false_eq_true, if_false, if_true]

theorem unroll_contig {h : Heap α} {a : Arr} (g : Geo a.v) (ok : ArrOK h a) (hgo : a.isC = false)
    (hc : a.v.contiguous = .ok true) :
    unroll h a = .ok (.alias a.sid (a.base + a.v.start) a.v.size) := by
  obtain ⟨s, hs, w0, w1⟩ := contig_store g ok hc
  have hp := product_pos g.pos_dims
  rw [unroll_window hs hgo hc (contig_index_decrement g hc) ⟨w0, by omega, by omega⟩, View.size]
  congr 2
  omega

theorem unroll_gather {h : Heap α} {a : Arr} (hcase : a.isC = true ∨ a.v.contiguous = .ok false) :
    unroll h a = (unrollGather h a).map Slice.fresh := by
  unfold unroll
  cases hC : a.isC with
  | true => cases unrollGather h a <;> rfl
  | false =>
    rcases hcase with hc | hc
    · rw [hC] at hc; cases hc
    · rw [hc]; cases unrollGather h a <;> rfl

theorem unroll_fresh {h : Heap α} {a : Arr} (g : Geo a.v) (hcase : a.isC = true ∨ a.v.contiguous = .ok false)
    {vals : List α} (hv : getAll h a (rowMajor a.v.dims) = .ok vals) : unroll h a = .ok (.fresh vals) := by
  rw [unroll_gather hcase, unrollGather_eq h g.pos_dims g.dims_ne, hv]
  rfl

theorem elems_ok {h : Heap α} {a : Arr} (g : Geo a.v) (ok : ArrOK h a) :
    ∃ vals, getAll h a (rowMajor a.v.dims) = .ok vals ∧ vals.length = (product a.v.dims).toNat := by
  obtain ⟨vals, hv⟩ := getAll_ok g ok (rowMajor a.v.dims) (rowMajor_inBounds g.pos_dims)
  exact ⟨vals, hv, (getAll_length hv).trans (rowMajor_length _)⟩

theorem elems_getElem {h : Heap α} {a : Arr} {vals : List α} (hv : getAll h a (rowMajor a.v.dims) = .ok vals)
    (k : Nat) (hk : (k : Int) < product a.v.dims) :
    ∃ x, vals[k]? = some x ∧ Nd.get h a (unravel (k : Int) a.v.dims) = .ok x :=
  getAll_getElem hv k _ (rowMajor_getElem? hk)

theorem sliceVals_alias_contig {h : Heap α} {a : Arr} (g : Geo a.v) (ok : ArrOK h a)
    (hc : a.v.contiguous = .ok true) :
    sliceVals h (.alias a.sid (a.base + a.v.start) a.v.size) = getAll h a (rowMajor a.v.dims) := by
  obtain ⟨s, hs, _⟩ := ok.store
  have := getAll_contig g ok hc hs (product a.v.dims).toNat 0 (rowMajor_bound g.pos_dims)
  unfold rowMajor
  rw [this]
  simp [sliceVals, storeOf, hs, bind, Except.bind, pure, Except.pure, View.size]

theorem unroll_ok {h : Heap α} {a : Arr} (g : Geo a.v) (ok : ArrOK h a) {vals : List α}
    (hv : getAll h a (rowMajor a.v.dims) = .ok vals) :
    ∃ sl, unroll h a = .ok sl ∧ sliceVals h sl = .ok vals ∧
      (a.isC = false → a.v.contiguous = .ok true → sl = .alias a.sid (a.base + a.v.start) a.v.size) ∧
      (a.isC = false → a.v.contiguous = .ok false → sl = .fresh vals) ∧
      (a.isC = true → sl = .fresh vals) := by
  obtain ⟨b, hb⟩ := g.contiguous_total
  have hfresh := fun hcase => unroll_fresh g hcase hv
  cases hC : a.isC with
  | true => exact ⟨_, hfresh (.inl hC), rfl, nofun, nofun, fun _ => rfl⟩
  | false =>
    cases b with
    | false => exact ⟨_, hfresh (.inr hb), rfl, (fun _ hc => by rw [hb] at hc; cases hc), fun _ _ => rfl, nofun⟩
    | true =>
      exact ⟨_, unroll_contig g ok hC hb, by rw [sliceVals_alias_contig g ok hb, hv], fun _ _ => rfl,
        (fun _ hc => by rw [hb] at hc; cases hc), nofun⟩

theorem dense_of_le_one : ∀ (ds Ds ss : Idx), (∀ x ∈ ds, x ≤ 1) → Dense ds Ds ss
  | [], _, _, _ => by simp [Dense]
  | _ :: _, [], _, _ => by simp [Dense]
  | _ :: _, _ :: _, [], _ => by simp [Dense]
  | d :: ds, D :: Ds, s :: ss, h => by
    simp only [Dense]
    refine ⟨dense_of_le_one ds Ds ss (fun x hx => h x (List.mem_cons_of_mem _ hx)), fun hgt => ?_⟩
    have := h d List.mem_cons_self
    omega

/-- the "Special case 1D" test of `Reshape` (`Maximum(Dims) == 1`) can only be true for a single-element view,
which is contiguous -/
theorem max_one_contig {v : View} (g : Geo v) (hm : maximum v.dims = .ok 1) :
    v.size = 1 ∧ v.contiguous = .ok true := by
  have hle : ∀ x ∈ v.dims, x ≤ 1 := by
    cases hd : v.dims with
    | nil => intro x hx; simp at hx
    | cons d ds =>
      rw [hd] at hm
      simp only [maximum] at hm
      injection hm with hm
      have := (foldl_max_spec ds d).2
      simp only [hm] at this
      exact this
  exact ⟨product_eq_one g.pos_dims hle, (contiguous_eq g).1 (dense_of_le_one _ _ _ hle)⟩

/-- the flag `reshapeToSeries` of `Reshape` (the expression is the model's, `Nd.reshape`): its computation does not panic, and it is
set only on contiguous views -/
theorem reshapeToSeries_ok {v : View} (g : Geo v) (s : Idx) :
    ∃ r : Bool, ((if s.length = 1 then do
        let m ← maximum v.dims
        pure (decide (m = s.length))
      else pure false : R Bool) = .ok r) ∧ (r = true → v.contiguous = .ok true) := by
  by_cases hs : s.length = 1
  · rw [if_pos hs]
    cases hd : v.dims with
    | nil => exact absurd hd g.dims_ne
    | cons d ds =>
      have hm : maximum (d :: ds) = .ok (ds.foldl (fun r x => if r > x then r else x) d) := rfl
      refine ⟨decide (ds.foldl (fun r x => if r > x then r else x) d = s.length), by rw [hm]; rfl, ?_⟩
      intro hr
      have e := of_decide_eq_true hr
      rw [hs] at e
      rw [e, ← hd] at hm
      exact (max_one_contig g hm).2
  · rw [if_neg hs]
    exact ⟨false, rfl, fun h => by simp at h⟩

theorem reshape_mismatch (h : Heap α) (a : Arr) (s : Idx) (hne : product s ≠ a.v.size) :
    reshape h a s = .ok (h, .inl "size-mismatch") := by
  exact if_pos hne

/-- `Reshape` once the sizes agree: a contiguous C-backed view keeps its pointer; every other case goes through `Unroll()`
(on a non-contiguous C-backed view `Unroll()` is the gathered copy that the code makes explicitly; the "Special case 1D"
branch is never reached, `reshapeToSeries_ok`) -/
theorem reshape_eq {h : Heap α} {a : Arr} (g : Geo a.v) {s : Idx} (hsz : product s = a.v.size) {c : Bool}
    (hc : a.v.contiguous = .ok c) :
    reshape h a s =
      (if a.isC = true ∧ c = true then do
        let v ← View.root s a.v.start
        pure (h, .inr { a with v := v })
      else do
        let u ← unroll h a
        let (h', sid, base, len) := implOf h u
        let v ← View.root s
        pure (h', .inr { v := v, sid := sid, base := base, len := len, isC := false })) := by
  obtain ⟨r, hr, hrc⟩ := reshapeToSeries_ok g s
  unfold reshape
  simp only [bind, Except.bind, pure, Except.pure] at hr ⊢
  rw [if_neg (by simpa using hsz)]
  simp only [hr, hc]
  have hr' : c = false → r = false := by
    rintro rfl; cases r
    · rfl
    · exact absurd (hrc rfl) (by rw [hc]; simp)
  cases hC : a.isC <;> cases c
  · rw [hr' rfl]; rfl
  · cases r <;> rfl
  · rw [hr' rfl, unroll_gather (h := h) (.inl hC)]
    cases unrollGather h a <;> rfl
  · cases r <;> rfl

theorem reshape_copy {h : Heap α} {a : Arr} (g : Geo a.v) {s : Idx} (hs : s ≠ [])
    (hsz : product s = a.v.size) (hc : a.v.contiguous = .ok false) {vals : List α}
    (hv : getAll h a (rowMajor a.v.dims) = .ok vals) :
    reshape h a s = .ok (h ++ [vals], .inr (freshArr h vals s)) := by
  rw [reshape_eq g hsz hc, if_neg (by simp), unroll_fresh g (.inr hc) hv]
  simp only [root_eq s 0 hs, bind, Except.bind]
  rfl

theorem reshape_go_alias {h : Heap α} {a : Arr} (g : Geo a.v) (ok : ArrOK h a) {s : Idx} (hs : s ≠ [])
    (hsz : product s = a.v.size) (hc : a.v.contiguous = .ok true) (hgo : a.isC = false) :
    reshape h a s = .ok (h, .inr (aliasArr a s)) := by
  rw [reshape_eq g hsz hc, if_neg (by simp [hgo]), unroll_contig g ok hgo hc]
  simp only [root_eq s 0 hs, bind, Except.bind]
  rfl

theorem reshape_c_alias {h : Heap α} {a : Arr} (g : Geo a.v) {s : Idx} (hs : s ≠ [])
    (hsz : product s = a.v.size) (hc : a.v.contiguous = .ok true) (hC : a.isC = true) :
    reshape h a s = .ok (h, .inr (cAliasArr a s)) := by
  rw [reshape_eq g hsz hc, if_pos ⟨hC, rfl⟩, root_eq s a.v.start hs]
  rfl

theorem reshape_contig {h : Heap α} {a : Arr} (g : Geo a.v) (ok : ArrOK h a) {s : Idx} (hs : s ≠ [])
    (hsz : product s = a.v.size) (hc : a.v.contiguous = .ok true) :
    reshape h a s = .ok (h, .inr (reshapedArr a s)) := by
  unfold reshapedArr
  cases hC : a.isC with
  | true => exact reshape_c_alias g hs hsz hc hC
  | false => exact reshape_go_alias g ok hs hsz hc hC

theorem arrOK_fresh (h : Heap α) (vals : List α) {s : Idx} (hl : (vals.length : Int) = product s) :
    ArrOK (h ++ [vals]) (freshArr h vals s) := by
  refine ⟨⟨vals, List.getElem?_concat_length .., ?_⟩, Int.le_refl 0, ?_, nofun⟩
  · show (0 : Int) + (vals.length : Int) ≤ vals.length
    omega
  · show product s ≤ (vals.length : Int)
    omega

theorem get_fresh {h : Heap α} {vals : List α} {s : Idx} (hs : s ≠ []) (hp : Pos s)
    (hl : (vals.length : Int) = product s) (k : Nat) (hk : (k : Int) < product s) {x : α} (hx : vals[k]? = some x) :
    Nd.get (h ++ [vals]) (freshArr h vals s) (unravel (k : Int) s) = .ok x := by
  obtain ⟨y, hy, hget⟩ := get_addr (a := freshArr h vals s) (reach_geo (reach_root hs hp)) (arrOK_fresh h vals hl)
    (unravel_inBounds _ s hp (Int.natCast_nonneg k) hk)
  rw [show (freshArr h vals s).v = rootView s 0 from rfl, addr_rootView _ _ _ (unravel_length _ _),
    ravel_unravel_lt (Int.natCast_nonneg k) hk] at hy
  change cell (h ++ [vals]) h.length ((0 : Int) + (0 + (k : Int))).toNat = some y at hy
  rw [Int.zero_add, Int.zero_add, Int.toNat_natCast, cell_append_new] at hy
  rw [hget, ← Option.some.inj (hx.symm.trans hy)]

theorem arrOK_alias {h : Heap α} {a : Arr} (g : Geo a.v) (ok : ArrOK h a) (hc : a.v.contiguous = .ok true)
    {s : Idx} (hsz : product s = a.v.size) : ArrOK h (aliasArr a s) := by
  obtain ⟨st, hst, w0, w1⟩ := contig_store g ok hc
  have hb := ok.base_nonneg
  refine ⟨⟨st, hst, ?_⟩, ?_, ?_, nofun⟩
  · show a.base + a.v.start + a.v.size ≤ _
    simp only [View.size]; omega
  · show 0 ≤ a.base + a.v.start
    omega
  · show product s ≤ a.v.size
    omega

theorem get_alias {h : Heap α} {a : Arr} (g : Geo a.v) (ok : ArrOK h a) (hc : a.v.contiguous = .ok true)
    {s : Idx} (hs : s ≠ []) (hp : Pos s) (hsz : product s = a.v.size) {k : Int} (k0 : 0 ≤ k) (k1 : k < a.v.size) :
    Nd.get h (aliasArr a s) (unravel k s) = Nd.get h a (unravel k a.v.dims) := by
  have hk : k < product s := by omega
  refine get_congr (a := aliasArr a s) (reach_geo (reach_root hs hp)) (arrOK_alias g ok hc hsz) g ok
    (unravel_inBounds _ s hp k0 hk) (unravel_inBounds _ _ g.pos_dims k0 k1) ?_
  rw [contig_addr g hc (unravel_inBounds _ _ g.pos_dims k0 k1), ravel_unravel_lt k0 k1,
    show (aliasArr a s).v = rootView s 0 from rfl, addr_rootView _ _ _ (unravel_length _ _), ravel_unravel_lt k0 hk]
  show cell h a.sid (a.base + a.v.start + (0 + k)).toNat = _
  rw [Int.zero_add, Int.add_assoc]

theorem get_cAlias {h : Heap α} {a : Arr} (g : Geo a.v) (hc : a.v.contiguous = .ok true)
    {s : Idx} (hsz : product s = a.v.size) {k : Int} (k0 : 0 ≤ k) (k1 : k < a.v.size) :
    Nd.get h (cAliasArr a s) (unravel k s) = Nd.get h a (unravel k a.v.dims) := by
  have k1' : k < product a.v.dims := k1
  unfold Nd.get
  rw [contig_index g hc k0 k1']
  show (do let i ← (rootView s a.v.start).index (unravel k s); readAt h (cAliasArr a s) i) = _
  rw [rootView_index s _ _ (unravel_length _ _), ravel_unravel_lt k0 (by omega)]
  rfl

theorem getAll_reshaped {h : Heap α} {a : Arr} (g : Geo a.v) (ok : ArrOK h a) (hc : a.v.contiguous = .ok true) {s : Idx}
    (hs : s ≠ []) (hp : Pos s) (hsz : product s = a.v.size) :
    getAll h (reshapedArr a s) (rowMajor s) = getAll h a (rowMajor a.v.dims) := by
  refine getAll_rowMajor_congr hsz fun k k1 => ?_
  unfold reshapedArr
  split
  · exact get_cAlias g hc hsz (Int.natCast_nonneg k) k1
  · exact get_alias g ok hc hs hp hsz (Int.natCast_nonneg k) k1

theorem getAll_freshCopy {h : Heap α} {a : Arr} {vals : List α}
    (hv : getAll h a (rowMajor a.v.dims) = .ok vals) {s : Idx} (hs : s ≠ []) (hp : Pos s)
    (hsz : product s = a.v.size) (hl : (vals.length : Int) = product s) :
    getAll (h ++ [vals]) (freshArr h vals s) (rowMajor s) = .ok vals := by
  refine (getAll_rowMajor_congr hsz fun k k1 => ?_).trans hv
  obtain ⟨x, hx, hget⟩ := elems_getElem hv k k1
  rw [hget]
  exact get_fresh hs hp hl k (hsz ▸ k1) hx

theorem reshapeFast_noncontig {h : Heap α} {a : Arr} (s : Idx) (hc : a.v.contiguous = .ok false) :
    reshapeFast h a s = .ok (h, .inl "not-contiguous") := by
  unfold reshapeFast
  rw [hc]
  rfl

theorem reshapeFast_contig {h : Heap α} {a : Arr} (s : Idx) (hc : a.v.contiguous = .ok true) :
    reshapeFast h a s = reshape h a s := by
  unfold reshapeFast
  rw [hc]
  rfl

/-- the flat view through which the fast path of `zipWithInto` writes `vals` back: `ReshapeFast([len(vals)])` of a contiguous
array -/
theorem reshapeFast_flat {h : Heap α} {dest : Arr} (gd : Geo dest.v) (okd : ArrOK h dest)
    (hcd : dest.v.contiguous = .ok true) {vals : List α} (hlen : vals.length = (product dest.v.dims).toNat) :
    vals.isEmpty = false ∧ product [(vals.length : Int)] = dest.v.size ∧
      reshapeFast h dest [(vals.length : Int)] = .ok (h, .inr (reshapedArr dest [(vals.length : Int)])) := by
  have hpp := product_pos gd.pos_dims
  have hsz : product [(vals.length : Int)] = dest.v.size := by
    rw [product_cons, product_nil, Int.mul_one, hlen, Int.toNat_of_nonneg (by omega)]
    rfl
  refine ⟨?_, hsz, ?_⟩
  · cases vals with
    | nil => rw [List.length_nil] at hlen; omega
    | cons _ _ => rfl
  · exact (reshapeFast_contig _ hcd).trans (reshape_contig gd okd (List.cons_ne_nil _ _) hsz hcd)

def keepBody {β : Type} (h : Heap α) (a : Arr) (step : β → α → β) : β → Idx → R β :=
  fun res idx => do let v ← Nd.get h a idx; pure (step res v)

theorem foldIdx_keepBody {β : Type} (h : Heap α) (a : Arr) (step : β → α → β) :
    ∀ (l : List Idx) (r : β),
      foldIdx (keepBody h a step) l r = (getAll h a l).map (fun vals => vals.foldl step r)
  | [], r => rfl
  | i :: is, r => by
    rw [foldIdx, getAll, keepBody]
    cases Nd.get h a i with
    | error m => rfl
    | ok x =>
      show foldIdx (keepBody h a step) is (step r x) = _
      rw [foldIdx_keepBody h a step is (step r x)]
      cases getAll h a is <;> rfl

theorem extremum_unfold (better : α → α → Bool) (h : Heap α) {a : Arr} (hp : Pos a.v.dims) :
    extremum better h a = (do
      let res ← Nd.get h a (uniform a.v.dims.length 0)
      (getAll h a (rowMajor a.v.dims)).map (fun vals => vals.foldl (fun res v => if better v res then v else res) res)) := by
  show (do
    let res ← Nd.get h a (uniform a.v.dims.length 0)
    forIdx a.v.dims (keepBody h a (fun res v => if better v res then v else res)) (product a.v.dims).toNat
      (uniform a.v.dims.length 0) res) = _
  exact bind_congr fun res => by rw [forIdx_rowMajor hp, foldIdx_keepBody]

theorem extremum_eq {h : Heap α} {a : Arr} (g : Geo a.v) (better : α → α → Bool) {v0 : α} {rest : List α}
    (hv : getAll h a (rowMajor a.v.dims) = .ok (v0 :: rest)) :
    extremum better h a = .ok ((v0 :: rest).foldl (fun res v => if better v res then v else res) v0) := by
  have hp := g.pos_dims
  obtain ⟨x, hx1, hx2⟩ := elems_getElem hv 0 (by have := product_pos hp; omega)
  cases Option.some.inj hx1
  rw [Nat.cast_zero, unravel_zero hp] at hx2
  rw [extremum_unfold better h hp, hx2, hv]
  rfl

end
end OW.Nd

namespace OW.NdC02
open OW.Nd

section
variable {α : Type}

/-- an empty new shape (element count 1) makes `Reshape` of a single-element view panic in `Offsets` -/
theorem reshape_nil {h : Heap α} {a : Arr} (g : Geo a.v) (ok : ArrOK h a) (hsz : product [] = a.v.size) :
    reshape h a [] = .error "index-out-of-range" := by
  obtain ⟨b, hb⟩ := g.contiguous_total
  obtain ⟨vals, hv, _⟩ := elems_ok g ok
  obtain ⟨u, hu, _⟩ := unroll_ok g ok hv
  rw [reshape_eq g hsz hb]
  split
  · rfl
  · -- `Unroll()` succeeds, then `Offsets([])` panics
    rw [hu]
    cases u <;> rfl

end
end OW.NdC02
