import OW.Proofs.Storage
import OW.Proofs.Piecewise
/-! A concrete successful run of the Storage kernel at ℝ (non-vacuity witness for the theorems of OW/Props/C13.lean):
table with two knots (volumes 0 / 1000 m³, levels 0 / 10 m, areas 0 / 100 m², minimum release 0 / 0, maximum release 0 / 2),
one timestep of 1 s, inflow 1 m³/s, no demand, no rain, no evaporation — from any volume `v ∈ [0, 999)` (`trialExV`, `stepExV`,
`runExV`: one accepted sub-step, the volume becomes `v + 1`), and in particular into the empty storage (`runEx`).
Before it, how a table with two volume knots is read (`capped_two_knots`, `capped_two_knots_all`; used for the tables of
StorageExample2 as well); after it, in `OW.Proofs.StorageExampleHot`, the same run with the fuel of the compiled driver. -/
namespace OW.Proofs.StorageExample
open OW OW.Kernels.Storage OW.Proofs.Storage

/-! ### tables with two volume knots `x0 < x1`: the interpolation written out (an instance of `Piecewise.piecewise_sorted`) -/

theorem piecewise_two_knots {x0 x1 v : ℝ} (hx : x0 < x1) (h0 : x0 ≤ v) (h1 : v ≤ x1) (y0 y1 : ℝ) :
    Fn.piecewise v [x0, x1] [y0, y1] = if v = x1 then .val y1 else .val (y0 + (v - x0) / (x1 - x0) * (y1 - y0)) :=
  Piecewise.piecewise_sorted (xs := [x0, x1]) (ys := [y0, y1]) (List.pairwise_pair.mpr hx) le_rfl (k := 0)
    Nat.one_lt_two h0 (fun h => absurd rfl h) h1

theorem capped_two_knots {t : Tables ℝ} {x0 x1 : ℝ} (hvol : t.volumes = [x0, x1]) (hmin : t.volCurveMin = x0)
    (hmax : t.volCurveMax = x1) (v y0 y1 : ℝ) (h0 : x0 ≤ v) (h1 : v < x1) :
    cappedPiecewise t v [y0, y1] = .ok (y0 + (v - x0) / (x1 - x0) * (y1 - y0)) := by
  unfold cappedPiecewise
  rw [hmin, hmax, hvol, if_neg (not_lt.mpr h0), if_neg (not_lt.mpr h1.le), piecewise_two_knots (h0.trans_lt h1) h0 h1.le,
    if_neg (ne_of_lt h1)]

theorem capped_two_knots_all {t : Tables ℝ} {x0 x1 : ℝ} (hvol : t.volumes = [x0, x1]) (hmin : t.volCurveMin = x0)
    (hmax : t.volCurveMax = x1) (hx : x0 < x1) (v : ℝ) :
    ∃ f : ℝ, 0 ≤ f ∧ f ≤ 1 ∧ ∀ y0 y1 : ℝ, cappedPiecewise t v [y0, y1] = .ok (y0 + f * (y1 - y0)) := by
  have top : ∀ y0 y1 : ℝ, (Except.ok y1 : Except String ℝ) = .ok (y0 + 1 * (y1 - y0)) := fun y0 y1 => by congr 1; ring
  rcases lt_or_ge v x0 with h | h
  · refine ⟨0, le_rfl, zero_le_one, fun y0 y1 => ?_⟩
    rw [capped_below t v _ (hmin ▸ h), zero_mul, add_zero]
    rfl
  · rcases lt_trichotomy v x1 with h2 | rfl | h2
    · exact ⟨(v - x0) / (x1 - x0), div_nonneg (sub_nonneg.mpr h) (sub_pos.mpr hx).le,
        (div_le_one (sub_pos.mpr hx)).mpr (by linarith), fun y0 y1 => capped_two_knots hvol hmin hmax v y0 y1 h h2⟩
    · refine ⟨1, zero_le_one, le_rfl, fun y0 y1 => ?_⟩
      unfold cappedPiecewise
      rw [hmin, hmax, hvol, if_neg (not_lt.mpr hx.le), if_neg (lt_irrefl _), piecewise_two_knots hx hx.le le_rfl, if_pos rfl]
      exact top y0 y1
    · refine ⟨1, zero_le_one, le_rfl, fun y0 y1 => ?_⟩
      rw [capped_above t v _ (hmin ▸ not_lt.mpr h) (hmax ▸ h2), hvol]
      exact top y0 y1

def tEx : Tables ℝ := ⟨[0, 10], [0, 1000], [0, 100], [0, 0], [0, 2], 0, 1000, 0⟩

/-- interpolation in any table with the two volume knots 0 / 1000 m³ (`tEx` and the tables of StorageExample2) -/
theorem cap1000 {t : Tables ℝ} (hvol : t.volumes = [0, 1000]) (hmin : t.volCurveMin = 0) (hmax : t.volCurveMax = 1000)
    (v ys0 ys1 : ℝ) (h0 : 0 ≤ v) (h1 : v < 1000) :
    cappedPiecewise t v [ys0, ys1] = .ok (ys0 + v / 1000 * (ys1 - ys0)) := by
  simpa only [sub_zero] using capped_two_knots hvol hmin hmax v ys0 ys1 h0 h1

theorem capEx (v : ℝ) (ys0 ys1 : ℝ) (h0 : 0 ≤ v) (h1 : v < 1000) :
    cappedPiecewise tEx v [ys0, ys1] = .ok (ys0 + v / 1000 * (ys1 - ys0)) :=
  cap1000 rfl rfl rfl v ys0 ys1 h0 h1

theorem rel1000 {t : Tables ℝ} (hvol : t.volumes = [0, 1000]) (hmin : t.volCurveMin = 0) (hmax : t.volCurveMax = 1000)
    (hm : t.minRelease = [0, 0]) (hM : t.maxRelease = [0, 2]) (v : ℝ) (h0 : 0 ≤ v) (h1 : v < 1000) :
    releaseRate t 0 v = .ok 0 := by
  rw [releaseRate_of_capped (hm ▸ cap1000 hvol hmin hmax v 0 0 h0 h1)
    (hM ▸ cap1000 hvol hmin hmax v 0 2 h0 h1)]
  have : 0 ≤ v / 1000 := by positivity
  rw [if_neg (by norm_num), if_neg (by linarith)]

theorem relEx (v : ℝ) (h0 : 0 ≤ v) (h1 : v < 1000) : releaseRate tEx 0 v = .ok 0 :=
  rel1000 rfl rfl rfl rfl rfl v h0 h1

theorem closeEx : releaseRatesCloseEnough (0:ℝ) ((0 + 0) / 2) = true := by
  unfold releaseRatesCloseEnough
  simp only [RealNum.abs_eq, show (allowedAbs : ℝ) = 1e-4 from rfl]
  norm_num

def accEx : Accepted ℝ := ⟨1, 0, 0.05, 0, 0, 1, 1, ["accept"]⟩

noncomputable def accV (v : ℝ) : Accepted ℝ := ⟨1, 0, (v + 0.5) / 10, 0, 0, v + 1, v + 1, ["accept"]⟩

theorem accV_zero : accV 0 = accEx := by
  simp only [accV, accEx, Accepted.mk.injEq]
  norm_num

/-- the `area` argument only enters multiplied by the zero surface flux -/
theorem trialExV (v area : ℝ) (fi : Nat) (h0 : 0 ≤ v) (h1 : v + 1 < 1000) :
    trial tEx 1 0 0 v 0 area (fi + 1) 1 [] = .ok (accV v) := by
  rw [trial_of_nonneg fi _ (by norm_num; linarith) (capEx _ 0 100 (by linarith) (by linarith))
    (relEx _ (by norm_num; linarith) (by norm_num; linarith)) (by norm_num; linarith), if_pos closeEx]
  simp only [Except.ok.injEq, accV, Accepted.mk.injEq]
  refine ⟨trivial, ?_, ?_, trivial, trivial, ?_, ?_, by decide⟩ <;> ring

theorem stepExV (keep : Bool) (fo fi : Nat) (v : ℝ) (h0 : 0 ≤ v) (h1 : v + 1 < 1000) :
    step tEx keep (fo + 2) (fi + 1) 1 v [] (0, 0, 1, 0) =
      .ok (v + 1, ["accept"], ⟨v + 1, 0, 0, 0, if keep then [⟨v, accV v, v + 1, 0, v + 1⟩] else []⟩) := by
  have sp : spill tEx (v + 1) 0 1 = (0, v + 1, false) := by
    unfold spill
    rw [if_neg (show ¬ tEx.volCurveMax < v + 1 from not_lt.mpr h1.le)]
    rfl
  have hB := outerBody_of (keep := keep) (rps := 0) (pps := 0) (s := ⟨1, 1, v, 0, 0, 0, [], []⟩)
    (relEx v h0 (by linarith)) (capEx v 0 100 h0 (by linarith)) (show min (1:ℝ) (1 * 2) = 1 by norm_num)
    (trialExV v _ fi h0 h1) (u := v + 1) (by simp only [accV]; ring) (by linarith) sp
  rw [step_of (zero_div _) (zero_div _) (by rw [sub_self, zero_mul])
    ((outer_pass one_pos hB).trans (outer_done (by norm_num [accV])))]
  simp only [accV, Bool.false_eq_true, if_false, Except.ok.injEq, Prod.mk.injEq, StepOut.mk.injEq, true_and]
  refine ⟨by norm_num, by norm_num, by norm_num, ?_⟩
  cases keep <;> rfl

theorem runExV (keep : Bool) (fo fi : Nat) (v : ℝ) (h0 : 0 ≤ v) (h1 : v + 1 < 1000) :
    run tEx keep (fo + 2) (fi + 1) 1 v [(0, 0, 1, 0)] =
      .ok ⟨[⟨v + 1, 0, 0, 0, if keep then [⟨v, accV v, v + 1, 0, v + 1⟩] else []⟩], v + 1,
        0 + (v + 1) / 1000 * (10 - 0), 0 + (v + 1) / 1000 * (100 - 0), ["accept"]⟩ := by
  simp only [run, steps, bind, Except.bind, stepExV keep fo fi v h0 h1, pure, Except.pure]
  rw [show tEx.levels = [0, 10] from rfl, show tEx.areas = [0, 100] from rfl,
    capEx (v + 1) 0 10 (by linarith) h1, capEx (v + 1) 0 100 (by linarith) h1]

theorem runEx : run tEx true 2 1 1 0 [(0, 0, 1, 0)] =
    .ok ⟨[⟨1, 0, 0, 0, [⟨0, accEx, 1, 0, 1⟩]⟩], 1, 0 + 1 / 1000 * (10 - 0), 0 + 1 / 1000 * (100 - 0), ["accept"]⟩ := by
  rw [runExV true 0 0 0 le_rfl (by norm_num), accV_zero, zero_add]
  rfl

end OW.Proofs.StorageExample

/-! C06 non-vacuity on the MAIN path of the Storage kernel (ℝ): the table `tEx` above, timesteps of 1 s with inflow
1 m³/s, no demand, rain or evaporation — from ANY volume `v` with `0 ≤ v`, `v + 1 < 1000`, with the driver's `fuelOuter`, `fuelInner`
(`StorageExample.runExV` has any fuel ≥ 2 / ≥ 1 and either value of `keep`): one accepted sub-step, the volume becomes `v + 1`. -/
namespace OW.Proofs.StorageExampleHot
open OW OW.Kernels.Storage OW.Proofs.Storage OW.Proofs.StorageExample

theorem runGen_driver (v : ℝ) (h0 : 0 ≤ v) (h1 : v + 1 < 1000) :
    ∃ r : RunOut ℝ, run tEx false fuelOuter fuelInner 1 v [(0, 0, 1, 0)] = .ok r ∧ r.volume = v + 1 :=
  -- `runExV` is stated for fuels `fo + 2`, `fi + 1`: `fuelOuter = 400000 = 399998 + 2`, `fuelInner = 4000 = 3999 + 1`
  ⟨_, runExV false 399998 3999 v h0 h1, rfl⟩

end OW.Proofs.StorageExampleHot
