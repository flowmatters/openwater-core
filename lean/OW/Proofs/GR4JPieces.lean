import OW.Proofs.GR4JSpec
import Mathlib.Analysis.SpecialFunctions.Trigonometric.DerivHyp
/-!
GR4J, the pieces of one day as real functions. The production store's two fluxes Ps and Es (eqs. 3, 4) are ONE curve,
`t ↦ a·t/(1 + c·t)` of the tanh value `t`, which is non-decreasing and `a`-Lipschitz on `t ≥ 0`: its values between 0, `A·t`
and the value at `t = 1` are the bounds C10 needs, its increments the size of the tanh safeguard (C15 `cap_day_gap`).
Percolation and routing-store outflow (eqs. 6, 20) are ONE curve too, `y·(1 − (1 + u⁴)^(−1/4))`.
The facts are stated for the specification's functions; the kernel's pieces reach them through `production_eq`,
`percolation_eq`, `routing_eq`. Last, what the routing outflow's bound gives for the step under `x3 > 0` alone: the routing
store never goes negative (`step_R_nonneg`, `run_R_nonneg`).
-/
namespace OW.RR.GR4J
open OW OW.Kernels.GR4J

theorem sinh_le_mul_cosh {w : ℝ} (hw : 0 ≤ w) : Real.sinh w ≤ w * Real.cosh w := by
  have hmono : MonotoneOn (fun x : ℝ => x * Real.cosh x - Real.sinh x) (Set.Ici 0) := by
    apply monotoneOn_of_deriv_nonneg (convex_Ici 0)
    · fun_prop
    · fun_prop
    · intro x hx
      rw [interior_Ici, Set.mem_Ioi] at hx
      have h := ((hasDerivAt_id x).mul (Real.hasDerivAt_cosh x)).sub (Real.hasDerivAt_sinh x)
      have hd : deriv (fun x : ℝ => x * Real.cosh x - Real.sinh x) x = x * Real.sinh x := by
        have h' : HasDerivAt (fun x : ℝ => x * Real.cosh x - Real.sinh x)
            (1 * Real.cosh x + id x * Real.sinh x - Real.cosh x) x := h
        rw [h'.deriv]; simp
      rw [hd]
      exact mul_nonneg hx.le (Real.sinh_nonneg_iff.mpr hx.le)
  have := hmono (Set.mem_Ici.mpr le_rfl) (Set.mem_Ici.mpr hw) hw
  simp only [Real.cosh_zero, Real.sinh_zero, mul_one, sub_self] at this
  linarith

theorem tanh_le_self {w : ℝ} (hw : 0 ≤ w) : Real.tanh w ≤ w := by
  rw [Real.tanh_eq_sinh_div_cosh, div_le_iff₀ (Real.cosh_pos w)]
  exact sinh_le_mul_cosh hw

theorem tanh_mono {a b : ℝ} (h : a ≤ b) : Real.tanh a ≤ Real.tanh b := by
  rw [Real.tanh_eq_sinh_div_cosh, Real.tanh_eq_sinh_div_cosh, div_le_div_iff₀ (Real.cosh_pos a) (Real.cosh_pos b)]
  have h1 : Real.sinh (a - b) ≤ 0 := Real.sinh_nonpos_iff.mpr (by linarith)
  rw [Real.sinh_sub] at h1
  linarith

theorem tanh_nonneg {w : ℝ} (hw : 0 ≤ w) : 0 ≤ Real.tanh w := Real.tanh_zero ▸ tanh_mono hw

theorem tanh_cap_bounds {w : ℝ} (hw : 0 ≤ w) :
    0 ≤ Real.tanh (cap w) ∧ Real.tanh (cap w) ≤ 1 ∧ Real.tanh (cap w) ≤ w ∧
    Real.tanh (cap w) ≤ Real.tanh w ∧ Real.tanh w - Real.tanh (cap w) ≤ 1 - Real.tanh 13 := by
  refine ⟨tanh_nonneg (cap_nonneg hw), (Real.tanh_lt_one _).le, (tanh_le_self (cap_nonneg hw)).trans cap_le,
    tanh_mono cap_le, ?_⟩
  unfold cap
  split_ifs with h
  · linarith [Real.tanh_lt_one w]
  · linarith [Real.tanh_lt_one 13]

theorem frac_lipschitz (a A c t0 t1 : ℝ) (ha : 0 ≤ a) (haA : a ≤ A) (hc : 0 ≤ c) (h0 : 0 ≤ t0) (h01 : t0 ≤ t1) :
    0 ≤ a * t1 / (1 + c * t1) - a * t0 / (1 + c * t0) ∧
    a * t1 / (1 + c * t1) - a * t0 / (1 + c * t0) ≤ A * (t1 - t0) := by
  have hD1 : 1 ≤ 1 + c * t1 := le_add_of_nonneg_right (mul_nonneg hc (h0.trans h01))
  have hD0 : 1 ≤ 1 + c * t0 := le_add_of_nonneg_right (mul_nonneg hc h0)
  have key : a * t1 / (1 + c * t1) - a * t0 / (1 + c * t0) = a * (t1 - t0) / ((1 + c * t1) * (1 + c * t0)) := by
    rw [div_sub_div _ _ (zero_lt_one.trans_le hD1).ne' (zero_lt_one.trans_le hD0).ne']
    congr 1
    ring
  have hDD : 1 ≤ (1 + c * t1) * (1 + c * t0) := one_le_mul_of_one_le_of_one_le hD1 hD0
  have hnum : 0 ≤ a * (t1 - t0) := mul_nonneg ha (sub_nonneg.2 h01)
  rw [key]
  refine ⟨div_nonneg hnum (zero_le_one.trans hDD), ?_⟩
  calc a * (t1 - t0) / ((1 + c * t1) * (1 + c * t0)) ≤ a * (t1 - t0) := div_le_self hnum hDD
    _ ≤ A * (t1 - t0) := mul_le_mul_of_nonneg_right haA (sub_nonneg.2 h01)

/-- a flux on the curve, driven by the safeguarded tanh `t` of `w/x1`: its increment from `t = 0` is between 0 and `x1·t ≤ w`,
its increment up to `t = 1`, where the flux is `top`, is ≥ 0 -/
theorem flux_bounds {x1 a c w top v : ℝ} (hx1 : 0 < x1) (hco : 0 ≤ a ∧ a ≤ x1 ∧ 0 ≤ c ∧ a / (1 + c) = top) (hw : 0 ≤ w)
    (hv : v = a * Real.tanh (cap (w / x1)) / (1 + c * Real.tanh (cap (w / x1)))) : 0 ≤ v ∧ v ≤ w ∧ v ≤ top := by
  obtain ⟨ha, haA, hc, rfl⟩ := hco
  obtain ⟨t0, t1, tw, _⟩ := tanh_cap_bounds (div_nonneg hw hx1.le)
  have h := frac_lipschitz a x1 c 0 _ ha haA hc le_rfl t0
  have h' := (frac_lipschitz a x1 c _ 1 ha haA hc t0 t1).1
  simp only [mul_zero, zero_div, sub_zero, mul_one] at h h'
  rw [hv]
  exact ⟨h.1, h.2.trans ((mul_le_mul_of_nonneg_left tw hx1.le).trans_eq (mul_div_cancel₀ w hx1.ne')), sub_nonneg.1 h'⟩

/-- Ps is the curve with `a = x1·(1 − s²)`, `c = s` for the filling `s = S/x1 ∈ [0, 1]`: `0 ≤ a ≤ x1`, and at `t = 1` it is the
free capacity -/
theorem Ps_coeff {x1 S : ℝ} (hx1 : 0 < x1) (hS0 : 0 ≤ S) (hS1 : S ≤ x1) :
    0 ≤ x1 * (1 - (S / x1) ^ 2) ∧ x1 * (1 - (S / x1) ^ 2) ≤ x1 ∧ 0 ≤ S / x1 ∧
    x1 * (1 - (S / x1) ^ 2) / (1 + S / x1) = x1 - S := by
  have hs0 : 0 ≤ S / x1 := div_nonneg hS0 hx1.le
  have hs1 : S / x1 ≤ 1 := (div_le_one hx1).2 hS1
  refine ⟨mul_nonneg hx1.le (sub_nonneg.2 (pow_le_one₀ hs0 hs1)), mul_le_of_le_one_right hx1.le (sub_le_self _ (sq_nonneg _)),
    hs0, ?_⟩
  field_simp
  ring

/-- Es is the curve with `a = S·(2 − s)`, `c = 1 − s`: `0 ≤ a ≤ x1` (`x1 − a = x1·(1 − s)²`), and at `t = 1` it is the store -/
theorem Es_coeff {x1 S : ℝ} (hx1 : 0 < x1) (hS0 : 0 ≤ S) (hS1 : S ≤ x1) :
    0 ≤ S * (2 - S / x1) ∧ S * (2 - S / x1) ≤ x1 ∧ 0 ≤ 1 - S / x1 ∧
    S * (2 - S / x1) / (1 + (1 - S / x1)) = S := by
  have hs1 : S / x1 ≤ 1 := (div_le_one hx1).2 hS1
  have e : x1 - S * (2 - S / x1) = x1 * (1 - S / x1) ^ 2 := by
    field_simp
    ring
  refine ⟨mul_nonneg hS0 (by linarith), sub_nonneg.1 (e ▸ mul_nonneg hx1.le (sq_nonneg _)), sub_nonneg.2 hs1, ?_⟩
  rw [show 1 + (1 - S / x1) = 2 - S / x1 by ring, mul_div_assoc, div_self (by linarith), mul_one]

theorem Ps_bounds {x1 S pn : ℝ} (hx1 : 0 < x1) (hS0 : 0 ≤ S) (hS1 : S ≤ x1) (hpn : 0 ≤ pn) :
    0 ≤ Spec.GR4J.Ps Spec.GR4J.tanhArgSafeguarded x1 S pn ∧ Spec.GR4J.Ps Spec.GR4J.tanhArgSafeguarded x1 S pn ≤ pn ∧
    Spec.GR4J.Ps Spec.GR4J.tanhArgSafeguarded x1 S pn ≤ x1 - S :=
  flux_bounds hx1 (Ps_coeff hx1 hS0 hS1) hpn (by rw [Ps_real, safeguarded_real])

theorem Es_bounds {x1 S en : ℝ} (hx1 : 0 < x1) (hS0 : 0 ≤ S) (hS1 : S ≤ x1) (hen : 0 ≤ en) :
    0 ≤ Spec.GR4J.Es Spec.GR4J.tanhArgSafeguarded x1 S en ∧ Spec.GR4J.Es Spec.GR4J.tanhArgSafeguarded x1 S en ≤ en ∧
    Spec.GR4J.Es Spec.GR4J.tanhArgSafeguarded x1 S en ≤ S :=
  flux_bounds hx1 (Es_coeff hx1 hS0 hS1) hen (by rw [Es_real, safeguarded_real])

theorem cap_day_gap (x1 S pn en : ℝ) (hx1 : 0 < x1) (hS0 : 0 ≤ S) (hS1 : S ≤ x1) (hpn : 0 ≤ pn) (hen : 0 ≤ en) :
    (0 ≤ Spec.GR4J.Ps Spec.GR4J.tanhArgPublished x1 S pn - Spec.GR4J.Ps Spec.GR4J.tanhArgSafeguarded x1 S pn ∧
     Spec.GR4J.Ps Spec.GR4J.tanhArgPublished x1 S pn - Spec.GR4J.Ps Spec.GR4J.tanhArgSafeguarded x1 S pn ≤
       x1 * (1 - Real.tanh 13)) ∧
    (0 ≤ Spec.GR4J.Es Spec.GR4J.tanhArgPublished x1 S en - Spec.GR4J.Es Spec.GR4J.tanhArgSafeguarded x1 S en ∧
     Spec.GR4J.Es Spec.GR4J.tanhArgPublished x1 S en - Spec.GR4J.Es Spec.GR4J.tanhArgSafeguarded x1 S en ≤
       x1 * (1 - Real.tanh 13)) := by
  obtain ⟨pa, paA, pc, _⟩ := Ps_coeff hx1 hS0 hS1
  obtain ⟨ea, eaA, ec, _⟩ := Es_coeff hx1 hS0 hS1
  obtain ⟨p0, _, _, p1, p2⟩ := tanh_cap_bounds (div_nonneg hpn hx1.le)
  obtain ⟨e0, _, _, e1, e2⟩ := tanh_cap_bounds (div_nonneg hen hx1.le)
  obtain ⟨pl, pu⟩ := frac_lipschitz _ x1 _ _ _ pa paA pc p0 p1
  obtain ⟨el, eu⟩ := frac_lipschitz _ x1 _ _ _ ea eaA ec e0 e1
  rw [Ps_real, Ps_real, Es_real, Es_real, safeguarded_real, safeguarded_real]
  exact ⟨⟨pl, pu.trans (mul_le_mul_of_nonneg_left p2 hx1.le)⟩, el, eu.trans (mul_le_mul_of_nonneg_left e2 hx1.le)⟩

theorem Pn_En {P E : ℝ} (hP : 0 ≤ P) (hE : 0 ≤ E) :
    0 ≤ Spec.GR4J.Pn P E ∧ Spec.GR4J.Pn P E ≤ P ∧ 0 ≤ Spec.GR4J.En P E ∧
    (E = 0 → Spec.GR4J.Pn P E = P ∧ Spec.GR4J.En P E = 0) := by
  rw [Pn_real, En_real]
  split_ifs with h
  · exact ⟨sub_nonneg.2 h, sub_le_self _ hE, le_rfl, fun h0 => ⟨by rw [h0, sub_zero], rfl⟩⟩
  · exact ⟨le_rfl, hP, (sub_pos.2 (not_le.1 h)).le, fun h0 => absurd (h0 ▸ hP) h⟩

theorem production_bounds (x1 S P E : ℝ) (hx1 : 0 < x1) (hS0 : 0 ≤ S) (hS1 : S ≤ x1) (hP : 0 ≤ P) (hE : 0 ≤ E)
    (ps es pr : ℝ) (h : production x1 S P E = (ps, es, pr)) :
    0 ≤ pr ∧ 0 ≤ S - es + ps ∧ S - es + ps ≤ x1 ∧ ps + pr - es ≤ P ∧ (E = 0 → ps + pr - es = P) := by
  obtain ⟨n0, n1, e0, hz⟩ := Pn_En hP hE
  obtain ⟨a0, a1, a2⟩ := Ps_bounds hx1 hS0 hS1 n0
  obtain ⟨b0, b1, b2⟩ := Es_bounds hx1 hS0 hS1 e0
  rw [production_eq, Prod.mk.injEq, Prod.mk.injEq] at h
  obtain ⟨rfl, rfl, rfl⟩ := h
  refine ⟨sub_nonneg.2 a1, by linarith, by linarith, by linarith, fun h0 => ?_⟩
  obtain ⟨h1, h2⟩ := hz h0
  linarith

theorem Qr_real (c y : ℝ) : Spec.GR4J.Qr c y = y * (1 - (1 + (y / c) ^ 4) ^ (-((1 : ℝ) / 4))) := by
  simp only [Spec.GR4J.Qr, Spec.GR4J.pow4, Spec.GR4J.sq, RealNum.pow_eq, RealNum.ofNat_eq]
  ring_nf

theorem Perc_eq_Qr (x1 s : ℝ) : Spec.GR4J.Perc x1 s = Spec.GR4J.Qr (9 / 4 * x1) s := by
  simp only [Spec.GR4J.Perc, Spec.GR4J.Qr, RealNum.ofNat_eq]
  ring_nf

/-- the root `(1 + (y/c)⁴)^(1/4)` dominates both 1 and `y/c` -/
theorem Qr_bounds {c y : ℝ} (hc : 0 < c) (hy : 0 ≤ y) :
    0 ≤ Spec.GR4J.Qr c y ∧ Spec.GR4J.Qr c y ≤ y ∧ y - Spec.GR4J.Qr c y ≤ c := by
  rw [Qr_real]
  have hu : 0 ≤ y / c := div_nonneg hy hc.le
  have hu4 : 0 ≤ (y / c) ^ 4 := pow_nonneg hu 4
  have hz : (0 : ℝ) ≤ 1 + (y / c) ^ 4 := by linarith
  have hz1 : 1 ≤ (1 + (y / c) ^ 4) ^ ((1 : ℝ) / 4) := Real.one_le_rpow (le_add_of_nonneg_right hu4) (by norm_num)
  have hroot : ((y / c) ^ 4) ^ ((1 : ℝ) / 4) = y / c := by
    rw [show ((1 : ℝ) / 4) = ((4 : ℕ) : ℝ)⁻¹ by norm_num]
    exact Real.pow_rpow_inv_natCast hu (by norm_num)
  have hzu : y / c ≤ (1 + (y / c) ^ 4) ^ ((1 : ℝ) / 4) :=
    hroot.symm.trans_le (Real.rpow_le_rpow hu4 (le_add_of_nonneg_left zero_le_one) (by norm_num))
  rw [Real.rpow_neg hz]
  generalize (1 + (y / c) ^ 4) ^ ((1 : ℝ) / 4) = z at hz1 hzu ⊢
  have hzpos : 0 < z := zero_lt_one.trans_le hz1
  have hb0 : 0 ≤ z⁻¹ := (inv_pos.2 hzpos).le
  have hb1 : z⁻¹ ≤ 1 := inv_le_one_of_one_le₀ hz1
  refine ⟨mul_nonneg hy (sub_nonneg.2 hb1), mul_le_of_le_one_right hy (sub_le_self _ hb0), ?_⟩
  have : y * z⁻¹ ≤ c := by
    rw [← div_eq_mul_inv, div_le_iff₀ hzpos, mul_comm]
    exact (div_le_iff₀ hc).1 hzu
  linarith

theorem percolation_bounds (x1 s : ℝ) (hx1 : 0 < x1) (hs : 0 ≤ s) : 0 ≤ percolation x1 s ∧ percolation x1 s ≤ s := by
  rw [percolation_eq, Perc_eq_Qr]
  exact ⟨(Qr_bounds (by positivity) hs).1, (Qr_bounds (by positivity) hs).2.1⟩

theorem routing_bounds (x3 r : ℝ) (hx3 : 0 < x3) (hr : 0 ≤ r) :
    0 ≤ routingOutflow x3 r ∧ routingOutflow x3 r ≤ r ∧ r - routingOutflow x3 r ≤ x3 :=
  routing_eq x3 r ▸ Qr_bounds hx3 hr

/-! ### the base of the exchange power `(R/x3)^3.5` is non-negative

`Real.rpow` of a negative base with exponent 3.5 is 0 where Go's `math.Pow` returns NaN. With x3 > 0 the routing
store leaves every day non-negative (`R ← max(0, ·) − Qr` and `Qr ≤ max(0, ·)`), whatever the other parameters and
inputs are, so from a non-negative initial store the power is always taken of a non-negative base. -/

theorem step_R_nonneg (x1 x2 x3 : ℝ) (hx3 : 0 < x3) (u1 u2 : List ℝ) (st : State ℝ) (pe : ℝ × ℝ) :
    0 ≤ (step x1 x2 x3 u1 u2 st pe).1.R := by
  simp only [step]
  generalize st.R + head0 _ + x2 * Num.pow (st.R / x3) 3.5 = r1
  have key : ∀ r2 : ℝ, 0 ≤ r2 → 0 ≤ r2 - routingOutflow x3 r2 :=
    fun r2 h => by linarith [(routing_bounds x3 r2 hx3 h).2.1]
  apply key
  split_ifs with h
  · rw [RealNum.sci_zero]
  · simpa [RealNum.lit0] using h

theorem run_R_nonneg (x1 x2 x3 x4 : ℝ) (hx3 : 0 < x3) (n1 n2 : ℕ) (xs : List (ℝ × ℝ)) :
    ∀ st : State ℝ, 0 ≤ st.R → 0 ≤ (run x1 x2 x3 x4 n1 n2 st xs).1.R := fun _ h =>
  (OW.scan_inv (Inv := fun st : State ℝ => 0 ≤ st.R) (Ok := fun _ => True) (P := fun _ => True)
    (fun st x _ _ => ⟨step_R_nonneg x1 x2 x3 hx3 _ _ st x, trivial⟩) h fun _ _ => trivial).1

end OW.RR.GR4J
