import OW.Sim.Graph
/-!
The pointwise updates `OW.Sim.upd` (one index) and `upd2` (two indices) of `OW/Sim/Graph.lean`: what an updated function
returns, updating twice, updating with the value already there, and `upd … true` on Boolean flags. Core Lean only.
`upd_same` and `upd_other` stand in `OW.Sim.Writer`, the namespace of their users (SimWriter.lean, SimBridge.lean); the rest in `OW.Sim`.
-/
namespace OW.Sim.Writer
open OW.Sim

theorem upd_same {β : Type} (f : Nat → β) (i : Nat) (v : β) : upd f i v i = v := by simp [upd]
theorem upd_other {β : Type} (f : Nat → β) {i j : Nat} (v : β) (h : j ≠ i) : upd f i v j = f j := by simp [upd, h]

end OW.Sim.Writer

namespace OW.Sim

theorem upd_upd {β : Type} (f : Nat → β) (i : Nat) (a b : β) : upd (upd f i a) i b = upd f i b := by
  funext j; unfold upd; split <;> rfl

theorem upd_eq_self {β : Type} (f : Nat → β) (i : Nat) : upd f i (f i) = f := by
  funext j; unfold upd; split
  · rename_i e; rw [e]
  · rfl

theorem upd_true_iff {f : Nat → Bool} {k k' : Nat} : upd f k true k' = true ↔ k' = k ∨ f k' = true := by
  unfold upd
  split <;> simp [*]

theorem upd_decide {P Q : Nat → Prop} [DecidablePred P] [DecidablePred Q] {i : Nat} (h : ∀ k, Q k ↔ k = i ∨ P k) :
    upd (fun k => decide (P k)) i true = fun k => decide (Q k) := by
  funext k
  unfold upd
  by_cases e : k = i
  · rw [if_pos e]; exact (decide_eq_true ((h k).mpr (Or.inl e))).symm
  · rw [if_neg e]; exact decide_eq_decide.mpr ⟨fun a => (h k).mpr (Or.inr a), fun a => ((h k).mp a).resolve_left e⟩

theorem upd2_upd2 {β : Type} (f : Nat → Nat → β) (i j : Nat) (a b : β) : upd2 (upd2 f i j a) i j b = upd2 f i j b := by
  funext x y; unfold upd2; split <;> rfl

theorem upd2_self {β : Type} {f : Nat → Nat → β} {i j : Nat} {v : β} (h : f i j = v) : upd2 f i j v = f := by
  funext x y
  unfold upd2
  split
  · rename_i e; rw [e.1, e.2, h]
  · rfl

end OW.Sim
