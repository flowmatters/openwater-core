import OW.Gen.Prelude
import OW.Kernels.Lag
/-!
# Lists built by index loops

Lemmas about the loops of `OW/Gen/Prelude.lean` (`forRangeN`, `forRange`, `forDownN`, `forRangeDown`: `Int` index) and about
`Lag.forLoop` (`Nat` index), the loop the hand model of `lag` is written with; `forRangeN` is that loop on casts. First the bridge and
what holds for any body; then, stated about `forLoop` on a list split as `pre ++ suf` at the loop index, the list expression computed by
a loop whose body updates one cell (`xs[i] = …` in the Go source): fill, zip, block copy, in-place shift, differences. Read by the closed
forms of `Lag.lagCore` (`OW/Proofs/Lag.lean`) and by the ties of `lag` and of GR4J; the last section spells the list lemmas out for the
loops of `gr4j.go`. Core Lean only; no law of arithmetic on the element type.
-/
namespace OW.Proofs.GenLoops
open OW.Gen.Prelude
open OW.Kernels.Lag (forLoop)
variable {α : Type}

theorem forRangeN_eq_forLoop {σ : Type} (g : Int → σ → σ) (n i : Nat) (c : σ) :
    forRangeN g n (i : Int) c = forLoop (fun j => g (j : Int)) n i c := by
  induction n generalizing i c with
  | zero => rfl
  | succ n ih =>
    rw [forRangeN, forLoop]
    have : ((i : Int) + 1) = ((i + 1 : Nat) : Int) := by omega
    rw [this, ih]

theorem forLoop_eq_forRangeN {σ : Type} (g : Nat → σ → σ) (n i : Nat) (c : σ) :
    forLoop g n i c = forRangeN (fun z => g z.toNat) n (i : Int) c := by
  rw [forRangeN_eq_forLoop]
  rfl

theorem forRange_cast {σ : Type} (body : Int → σ → σ) (lo hi : Nat) (c : σ) :
    forRange (lo : Int) (hi : Int) body c = forLoop (fun j => body (j : Int)) (hi - lo) lo c := by
  unfold forRange
  rw [show ((hi : Int) - lo).toNat = hi - lo by omega, forRangeN_eq_forLoop]

theorem store_congr [Inhabited α] {xs ys : List α} {i j : Int} {n m : Nat} (hi : i.toNat = n) (hj : j.toNat = m) :
    sliceSet xs i (sliceGet ys j) = xs.set n (ys.getD m default) := by
  subst hi hj
  rfl

theorem ite_sliceSet {α} (c : Prop) [Decidable c] (xs : List α) (i : Int) (a b : α) :
    (if c then sliceSet xs i a else sliceSet xs i b) = sliceSet xs i (if c then a else b) := by
  split <;> rfl

theorem sliceGet_zero_headD {α} [Num α] (l : List α) (z : α) (h : 0 < l.length) : sliceGet l 0 = l.headD z := by
  cases l with
  | nil => simp at h
  | cons a l => rfl

theorem forRangeN_succ_right {σ : Type} (body : Int → σ → σ) (n : Nat) (i : Int) (c : σ) :
    forRangeN body (n + 1) i c = body (i + n) (forRangeN body n i c) := by
  induction n generalizing i c with
  | zero => simp [forRangeN]
  | succ n ih =>
    rw [forRangeN, ih]
    have : i + 1 + (n : Int) = i + ((n + 1 : Nat) : Int) := by omega
    rw [this]
    rfl

/-- a loop that carries extra values the body recomputes before reading them: the first component runs on its own -/
theorem forRangeN_fst {σ τ : Type} (body : Int → σ × τ → σ × τ) (n : Nat) (i : Int) (c : σ) (t : τ)
    (h : ∀ i c t', (body i (c, t')).1 = (body i (c, t)).1) :
    (forRangeN body n i (c, t)).1 = forRangeN (fun i c => (body i (c, t)).1) n i c := by
  suffices ∀ t', (forRangeN body n i (c, t')).1 = forRangeN (fun i c => (body i (c, t)).1) n i c from this t
  induction n generalizing i c with
  | zero => intro _; rfl
  | succ n ih =>
    intro t'
    rw [forRangeN, forRangeN, ← h i c t']
    exact ih _ _ _

theorem forRangeN_congr {σ : Type} {f g : Int → σ → σ} {n m : Nat} {i k : Int} {c d : σ} (hn : n = m) (hc : c = d)
    (h : ∀ j : Int, 0 ≤ j → j < n → ∀ c, f (i + j) c = g (k + j) c) : forRangeN f n i c = forRangeN g m k d := by
  subst hn hc
  induction n generalizing i k c with
  | zero => rfl
  | succ n ih =>
    have h0 := h 0 (Int.le_refl 0) (by omega) c
    rw [Int.add_zero, Int.add_zero] at h0
    rw [forRangeN, forRangeN, h0]
    refine ih fun j h1 h2 c => ?_
    have := h (1 + j) (by omega) (by omega) c
    rwa [← Int.add_assoc, ← Int.add_assoc] at this

theorem forRangeN_length (g : Int → List α → List α) (n : Nat) (i : Int) (c : List α)
    (hg : ∀ i c, sliceLen (g i c) = sliceLen c) : sliceLen (forRangeN g n i c) = sliceLen c := by
  induction n generalizing i c with
  | zero => rfl
  | succ n ih => rw [forRangeN, ih, hg]

theorem forLoop_length (body : Nat → List α → List α) (hb : ∀ i q, (body i q).length = q.length) (k lo : Nat) (q : List α) :
    (forLoop body k lo q).length = q.length := by
  induction k generalizing lo q with
  | zero => rfl
  | succ k ih => rw [forLoop, ih, hb]

/-! The loops below run over the cells of a list from position `pre.length` on. The list is split as `pre ++ suf` at the loop index: one
iteration rewrites the head of `suf` and hands it over to `pre`, which is the induction hypothesis at `pre ++ [new head]`. -/

theorem forLoop_fill (f : Nat → α) (k : Nat) (pre suf : List α) (hk : k ≤ suf.length) :
    forLoop (fun i q => q.set i (f i)) k pre.length (pre ++ suf) = pre ++ (List.range' pre.length k).map f ++ suf.drop k := by
  induction k generalizing pre suf with
  | zero => simp [forLoop]
  | succ k ih =>
    match suf, hk with
    | x :: suf, hk =>
    have := ih (pre ++ [f pre.length]) suf (by simpa using hk)
    simp only [List.length_append, List.length_singleton, List.append_assoc, List.singleton_append] at this
    simp [forLoop, this, List.range'_succ]

theorem forLoop_tabulate_replicate (f : Nat → α) (n : Nat) (z : α) :
    forLoop (fun i q => q.set i (f i)) n 0 (List.replicate n z) = (List.range n).map f := by
  have := forLoop_fill f n [] (List.replicate n z) (by simp)
  simpa [List.range_eq_range'] using this

theorem forLoop_zip (f : α → α → α) (d : α) : ∀ (pre upre suf us : List α), upre.length = pre.length → us.length = suf.length →
    forLoop (fun i q => q.set i (f (q.getD i d) ((upre ++ us).getD i d))) suf.length pre.length (pre ++ suf) =
      pre ++ List.zipWith f suf us
  | pre, upre, [], us, _, _ => by simp [forLoop]
  | pre, upre, x :: suf, y :: us, hp, hs => by
    have := forLoop_zip f d (pre ++ [f x y]) (upre ++ [y]) suf us (by simp [hp]) (by simpa using hs)
    simpa [forLoop, ← hp] using this

/-- `for i := i0; i < i0+k; i++ { q[w i] = src[g i] }` where the stores run over the first `k` cells of `suf` in `q = pre ++ suf` and the
loads over the `k` cells of `src` from `s` on: a block copy -/
theorem forLoop_copy (w g : Nat → Nat) (src : List α) (d : α) :
    ∀ (k i0 s : Nat) (pre suf : List α), k ≤ suf.length → s + k ≤ src.length →
      (∀ i, i0 ≤ i → i < i0 + k → w i = pre.length + (i - i0) ∧ g i = s + (i - i0)) →
      forLoop (fun i (q : List α) => q.set (w i) (src.getD (g i) d)) k i0 (pre ++ suf) =
        pre ++ (src.drop s).take k ++ suf.drop k
  | 0, _, _, pre, suf, _, _, _ => by simp [forLoop]
  | k + 1, i0, s, pre, x :: suf, hk, hs, h => by
    have hlt : s < src.length := by omega
    have h0 := h i0 (Nat.le_refl _) (by omega)
    have ih := forLoop_copy w g src d k (i0 + 1) (s + 1) (pre ++ [src[s]]) suf (by simpa using hk) (by omega)
      (fun i h1 h2 => by have := h i (by omega) (by omega); simp only [List.length_append, List.length_singleton]; omega)
    rw [Nat.sub_self, Nat.add_zero, Nat.add_zero] at h0
    rw [forLoop, h0.1, h0.2, List.set_append_right _ _ (Nat.le_refl _), Nat.sub_self, List.set_cons_zero,
      List.getD_eq_getElem?_getD, List.getElem?_eq_getElem hlt, Option.getD_some, List.drop_eq_getElem_cons hlt,
      List.take_succ_cons, List.drop_succ_cons]
    simpa only [List.append_assoc, List.singleton_append, List.cons_append, List.nil_append] using ih

/-- the in-place shift `for i := T + len(pre); …; i++ { q[i-T] = q[i] }` on `q = pre ++ suf`: the loop reads only cells it has
not yet written -/
theorem forLoop_shift_from (T : Nat) (d : α) :
    ∀ (k : Nat) (pre suf : List α), T + k ≤ suf.length →
      forLoop (fun i (q : List α) => q.set (i - T) (q.getD i d)) k (T + pre.length) (pre ++ suf) =
        pre ++ (suf.drop T).take k ++ suf.drop k
  | 0, pre, suf, _ => by simp [forLoop]
  | k + 1, pre, x :: suf, hk => by
    have hlt : T < (x :: suf).length := by omega
    have ih := forLoop_shift_from T d k (pre ++ [(x :: suf)[T]]) suf (by simp only [List.length_cons] at hk; omega)
    rw [forLoop, Nat.add_sub_cancel_left, List.set_append_right _ _ (Nat.le_refl _), Nat.sub_self, List.set_cons_zero,
      List.getD_eq_getElem?_getD, List.getElem?_append_right (Nat.le_add_left _ _), Nat.add_sub_cancel,
      List.getElem?_eq_getElem hlt, Option.getD_some, List.drop_eq_getElem_cons hlt, List.drop_succ_cons,
      List.take_succ_cons, List.drop_succ_cons]
    simpa only [List.length_append, List.length_singleton, ← Nat.add_assoc, List.append_assoc, List.singleton_append,
      List.cons_append, List.nil_append] using ih

theorem forLoop_shift (d : α) (k : Nat) (q : List α) (hk : k + 1 ≤ q.length) :
    forLoop (fun i q => q.set (i - 1) (q.getD i d)) k 1 q = q.tail.take k ++ q.drop k := by
  have := forLoop_shift_from 1 d k [] q (by omega)
  rwa [List.nil_append, List.nil_append, List.drop_one] at this

/-- `copy(q[:n-1], q[1:n])`, the shift of a GR4J unit-hydrograph buffer as /verif/harmless/h3/C15-2 writes it -/
theorem sliceCopy_shift (q : List α) (n : Nat) (hq : q.length = n) :
    sliceCopy q 0 ((n : Int) - 1) q 1 (n : Int) = q.tail ++ q.drop (n - 1) := by
  unfold sliceCopy
  have h1 : ((n : Int) - 1 - 0).toNat = n - 1 := by omega
  have h2 : ((n : Int) - 1).toNat = n - 1 := by omega
  have h3 : (1 : Int).toNat = 1 := rfl
  have h4 : (0 : Int).toNat = 0 := rfl
  simp only [h1, h2, h3, h4, List.take_zero, List.nil_append, Nat.sub_zero, Nat.zero_add, hq, List.drop_one]
  have ht : q.tail.length = n - 1 := by simp [hq]
  have e1 : List.take (n - 1) q.tail = q.tail := List.take_of_length_le (by omega)
  have e2 : List.take n q.tail = q.tail := List.take_of_length_le (by omega)
  rw [e1, e1, e2, ht]

theorem set_last_tail_append_drop (z : α) (q : List α) (n : Nat) (hq : q.length = n) (hn : 0 < n) :
    sliceSet (q.tail ++ q.drop (n - 1)) ((n : Int) - 1) z = q.tail ++ [z] := by
  have ht : q.tail.length = n - 1 := by simp [hq]
  unfold sliceSet
  rw [show ((n : Int) - 1).toNat = n - 1 by omega, List.set_append_right _ _ (by omega), ht, Nat.sub_self]
  obtain ⟨x, hx⟩ : ∃ x, q.drop (n - 1) = [x] := List.length_eq_one_iff.mp (by simp [hq]; omega)
  rw [hx]
  rfl

theorem map_range_set_last (f : Nat → α) (n : Nat) (v : α) :
    ((List.range n).map f).set (n - 1) v = (List.range n).map (fun j => if j + 1 = n then v else f j) := by
  cases n with
  | zero => rfl
  | succ m =>
    have hc : ∀ j ∈ List.range m, (if j + 1 = m + 1 then v else f j) = f j := fun j hj => by
      have := List.mem_range.mp hj
      rw [if_neg (by omega)]
    rw [List.range_succ, List.map_append, List.map_append, List.map_congr_left hc]
    simp

theorem getD_map_range (f : Nat → α) (n j : Nat) (d : α) (hj : j < n) : ((List.range n).map f).getD j d = f j := by
  rw [List.getD_eq_getElem?_getD, List.getElem?_map, List.getElem?_range hj]
  rfl

/-- the unit-hydrograph ordinates from the S-curve `SH = [sh 0, …, sh (n-1)]`:
`UH := make(n); UH[0] = SH[0]; for i := 1; i < n; i++ { UH[i] = sub SH[i] SH[i-1] }` -/
theorem forLoop_differences (sub : α → α → α) (sh : Nat → α) (n : Nat) (hn : 0 < n) (z d : α) :
    forLoop (fun i q => q.set i (sub (((List.range n).map sh).getD i d) (((List.range n).map sh).getD (i - 1) d))) (n - 1) 1
        ((List.replicate n z).set 0 (((List.range n).map sh).getD 0 d)) =
      (List.range n).map (fun j => if j = 0 then sh 0 else sub (sh j) (sh (j - 1))) := by
  obtain ⟨m, rfl⟩ : ∃ m, n = m + 1 := ⟨n - 1, by omega⟩
  -- on the cells `1 … m` the reads `SH[j]`, `SH[j-1]` are in range
  have hc : ∀ j ∈ List.range' 1 m, sub (((List.range (m + 1)).map sh).getD j d) (((List.range (m + 1)).map sh).getD (j - 1) d) =
      if j = 0 then sh 0 else sub (sh j) (sh (j - 1)) := fun j hj => by
    have := List.mem_range'_1.mp hj
    rw [getD_map_range sh _ j d (by omega), getD_map_range sh _ (j - 1) d (by omega), if_neg (by omega)]
  have := forLoop_fill (fun i => sub (((List.range (m + 1)).map sh).getD i d) (((List.range (m + 1)).map sh).getD (i - 1) d)) m
    [sh 0] (List.replicate m z) (by simp)
  rw [List.length_singleton, List.map_congr_left hc] at this
  simpa [getD_map_range sh _ 0 d hn, List.range_eq_range', List.range'_succ, List.replicate_succ] using this

/-! A count-down loop of stores whose values do not depend on the slice is the count-up loop over the same cells. The source has no such
loop; the stored rewrite /verif/harmless/h3/C15-2 builds the unit-hydrograph ordinates that way (`uh_of_sh_down` below). -/

theorem forRangeN_set_comm (f : Int → α) (k : Nat) (lo : Int) (hlo : 0 ≤ lo) (j : Int) (hj : j < lo ∨ lo + k ≤ j) (hj0 : 0 ≤ j)
    (v : α) (c : List α) :
    forRangeN (fun i q => sliceSet q i (f i)) k lo (sliceSet c j v) =
      sliceSet (forRangeN (fun i q => sliceSet q i (f i)) k lo c) j v := by
  induction k generalizing lo c with
  | zero => rfl
  | succ k ih =>
    rw [forRangeN, forRangeN]
    have hne : lo.toNat ≠ j.toNat := by omega
    have hc : sliceSet (sliceSet c j v) lo (f lo) = sliceSet (sliceSet c lo (f lo)) j v := by
      unfold sliceSet
      exact List.set_comm _ _ (fun h => hne h.symm)
    rw [hc]
    exact ih (lo + 1) (by omega) (by omega) _

/-- `for i := hi; i > lo; i-- { q[i] = f i }` stores the same values as `for i := lo+1; i <= hi; i++ { q[i] = f i }` (the
stored value does not depend on the slice and the indices are distinct cells, so the order is immaterial) -/
theorem forDownN_eq_forRangeN (f : Int → α) (k : Nat) (hi : Int) (h : 0 ≤ hi - k + 1) (c : List α) :
    forDownN (fun i q => sliceSet q i (f i)) k hi c = forRangeN (fun i q => sliceSet q i (f i)) k (hi - k + 1) c := by
  induction k generalizing hi c with
  | zero => rfl
  | succ k ih =>
    rw [forDownN, forRangeN_succ_right]
    have e1 : hi - ((k + 1 : Nat) : Int) + 1 = hi - 1 - (k : Int) + 1 := by omega
    have e2 : hi - 1 - (k : Int) + 1 + (k : Int) = hi := by omega
    rw [ih (hi - 1) (by omega), e1, e2]
    exact forRangeN_set_comm f k (hi - 1 - k + 1) (by omega) hi (by omega) (by omega) (f hi) c

theorem forRangeDown_eq_forRange (f : Int → α) (hi lo : Int) (hlo : 0 ≤ lo) (c : List α) :
    forRangeDown hi lo (fun i q => sliceSet q i (f i)) c = forRange (lo + 1) (hi + 1) (fun i q => sliceSet q i (f i)) c := by
  unfold forRangeDown forRange
  have e : (hi + 1 - (lo + 1)).toNat = (hi - lo).toNat := by omega
  rw [e]
  by_cases hk : lo ≤ hi
  · have h1 : hi - ((hi - lo).toNat : Int) + 1 = lo + 1 := by omega
    rw [forDownN_eq_forRangeN f _ hi (by omega), h1]
  · have h0 : (hi - lo).toNat = 0 := by omega
    rw [h0]; rfl

/-! ### The loop forms of models/rr/gr4j.go

The `forRange` / `sliceSet` spelling (`forRange_cast`, `store_congr`) of the list lemmas above, for the loops of `gr4j.go` as the
translator renders them; used by `OW/Props/GenTieGR4J.lean`. -/

/-- `q[i] = q[i] + c*u[i]` for `0 ≤ i < n` (both buffers of length `n`) is `zipWith` -/
theorem forRange_addUH {α} [Num α] (q u : List α) (n : Nat) (hq : q.length = n) (hu : u.length = n) (c : α) :
    forRange 0 (n : Int) (fun i q => sliceSet q i (sliceGet q i + c * sliceGet u i)) q =
      List.zipWith (fun qi ui => qi + c * ui) q u := by
  subst hq
  exact (forRange_cast _ 0 _ q).trans (forLoop_zip (fun qi ui => qi + c * ui) default [] [] q u rfl hu)

/-- `for i := 1; i < n; i++ { q[i-1] = q[i] }; q[n-1] = z` is `q.tail ++ [z]` (n = len(q) ≥ 1) -/
theorem forRange_shift {α} [Num α] (q : List α) (n : Nat) (hq : q.length = n) (hn : 0 < n) (z : α) :
    sliceSet (forRange 1 (n : Int) (fun i q => sliceSet q (i - 1) (sliceGet q i)) q) ((n : Int) - 1) z = q.tail ++ [z] := by
  have hb : (fun (j : Nat) (q : List α) => sliceSet q ((j : Int) - 1) (sliceGet q (j : Int))) =
      (fun (j : Nat) (q : List α) => q.set (j - 1) (q.getD j default)) :=
    funext fun j => funext fun q => store_congr (by omega) rfl
  rw [show forRange 1 (n : Int) _ q = _ from forRange_cast _ 1 n q, hb,
    forLoop_shift default (n - 1) q (by omega), List.take_of_length_le (by simp [hq])]
  exact set_last_tail_append_drop z q n hq hn

/-- an S-curve of `n` ordinates: `SH := make(n); for i := 0; i < n; i++ { SH[i] = g i }; SH[n-1] = 1.0` -/
theorem sh_build {α} [Num α] (g : Int → α) (n : Nat) :
    sliceSet (forRange 0 (n : Int) (fun i sh => sliceSet sh i (g i)) (mkSlice (n : Int))) ((n : Int) - 1) 1.0 =
      (List.range n).map (fun j => if j + 1 = n then (1.0 : α) else g (j : Int)) := by
  have h2 : ((n : Int) - 1).toNat = n - 1 := by omega
  rw [show forRange 0 (n : Int) _ (mkSlice (n : Int)) = _ from forRange_cast _ 0 n _]
  show (forLoop (fun (j : Nat) (sh : List α) => sh.set j (g (j : Int))) n 0 (List.replicate n Num.zero)).set ((n : Int) - 1).toNat 1.0 = _
  rw [h2, forLoop_tabulate_replicate, map_range_set_last]

/-- the unit-hydrograph ordinates of an S-curve `SH = [f 0, …, f (n-1)]`, `n ≥ 1`:
`UH := make(n); UH[0] = SH[0]; for i := 1; i < n; i++ { UH[i] = SH[i] - SH[i-1] }` -/
theorem uh_of_sh {α} [Num α] (f : Nat → α) (n : Nat) (hn : 0 < n) :
    forRange 1 (n : Int)
        (fun i uh => sliceSet uh i (sliceGet ((List.range n).map f) i - sliceGet ((List.range n).map f) (i - 1)))
        (sliceSet (mkSlice (n : Int)) 0 (sliceGet ((List.range n).map f) 0)) =
      (List.range n).map (fun j => if j = 0 then f 0 else f j - f (j - 1)) := by
  have hb : (fun (j : Nat) (uh : List α) => sliceSet uh (j : Int)
        (sliceGet ((List.range n).map f) (j : Int) - sliceGet ((List.range n).map f) ((j : Int) - 1))) =
      (fun (j : Nat) (uh : List α) => uh.set j
        (((List.range n).map f).getD j default - ((List.range n).map f).getD (j - 1) default)) := by
    funext j uh
    unfold sliceSet sliceGet
    rw [show ((j : Int) - 1).toNat = j - 1 by omega]
    rfl
  refine (forRange_cast _ 1 n _).trans ?_
  rw [hb]
  exact forLoop_differences (fun a b => a - b) f n hn Num.zero default

end OW.Proofs.GenLoops

/-! The eight below carry names of the ties' namespace (`OW.Props.GenTie.copy_shift`, …), so they are declared into it: three more facts
about `forLoop` against `forRangeN` / `sliceLen`, the two loop forms of the stored rewrite /verif/harmless/h3/C15-2 and three `sliceLen`
computations of the GR4J tie's simp set. -/
namespace OW.Props.GenTie
open OW OW.Kernels OW.Gen.Prelude OW.Proofs.GenLoops

theorem forRangeN_eq_forLoop0 {σ : Type} (g : Int → σ → σ) (n : Nat) (c : σ) :
    forRangeN g n 0 c = Lag.forLoop (fun j => g (j : Int)) n 0 c := forRangeN_eq_forLoop g n 0 c

theorem sliceLen_forLoop {α : Type} (g : Nat → List α → List α) (n i : Nat) (c : List α)
    (hg : ∀ i c, (g i c).length = c.length) : sliceLen (Lag.forLoop g n i c) = sliceLen c := by
  unfold sliceLen; rw [forLoop_length g hg]

theorem forLoop_congr {σ : Type} (f g : Nat → σ → σ) (h : ∀ i c, f i c = g i c) (n i : Nat) (c : σ) :
    Lag.forLoop f n i c = Lag.forLoop g n i c := by
  have : f = g := funext fun i => funext fun c => h i c
  rw [this]

/-- `copy(q[:n-1], q[1:n]); q[n-1] = z` is the shift of `forRange_shift` (n = len(q) ≥ 1): the form of the stored rewrite /verif/harmless/h3/C15-2 -/
theorem copy_shift {α} [Num α] (q : List α) (n : Nat) (hq : q.length = n) (hn : 0 < n) (z : α) :
    sliceSet (sliceCopy q 0 ((n : Int) - 1) q 1 (n : Int)) ((n : Int) - 1) z = q.tail ++ [z] := by
  rw [sliceCopy_shift q n hq]
  exact set_last_tail_append_drop z q n hq hn

/-- the same ordinates written from the last one down: `for i := n-1; i > 0; i-- { UH[i] = SH[i] - SH[i-1] }` (/verif/harmless/h3/C15-2) -/
theorem uh_of_sh_down {α} [Num α] (f : Nat → α) (n : Nat) (hn : 0 < n) :
    forRangeDown ((n : Int) - 1) 0
        (fun i uh => sliceSet uh i (sliceGet ((List.range n).map f) i - sliceGet ((List.range n).map f) (i - 1)))
        (sliceSet (mkSlice (n : Int)) 0 (sliceGet ((List.range n).map f) 0)) =
      (List.range n).map (fun j => if j = 0 then f 0 else f j - f (j - 1)) := by
  rw [forRangeDown_eq_forRange (fun i => sliceGet ((List.range n).map f) i - sliceGet ((List.range n).map f) (i - 1)) _ 0
    (Int.le_refl 0)]
  have e1 : ((n : Int) - 1 + 1) = n := by omega
  have e2 : ((0 : Int) + 1) = 1 := rfl
  rw [e1, e2]
  exact uh_of_sh f n hn

theorem sliceLen_eq_cast {β} (xs : List β) : sliceLen xs = (xs.length : Int) := rfl

theorem sliceLen_map_range {β} (f : Nat → β) (n : Nat) : sliceLen ((List.range n).map f) = (n : Int) := by
  simp [sliceLen]

theorem sliceLen_mkSlice {α} [Num α] (n : Nat) : sliceLen (mkSlice (n : Int) : List α) = (n : Int) := by
  simp [sliceLen, mkSlice]

end OW.Props.GenTie
