import OW.Sim.WrapperNdTables
import OW.Proofs.WrapperNd
import OW.Proofs.Wrapper
/-!
Helper lemmas for `wrapperNd_refines` / `wrapperNd_refines_tables` (`OW/Props/C04Nd.lean`, `OW/Props/C04NdTables.lean`). Everything
is said about the STORAGES as lists and their row-major denotations `rowAt` / `mat` / `cube` (`OW/Proofs/WrapperNd.lean`): reading a
flat view gives a row, writing a list through a flat view stores it in the storage (`getElem?_writeRun`), writing the series
through the output views is the list-level `writeRows` on the cell's block (`writeOutputs_mat`), and one cell step through the
views, with any parameter decoder that agrees with `cellParams`, is `cellStep` on the denotations and rewrites only the cell's two
windows (`cellStepNdG_refines`, `Rewrote`). What the storage cells hold afterwards is read off at the end (`Rewrote.cells`).
-/
namespace OW.WrapperNd
open OW OW.Nd OW.Sim OW.Sim.WrapperNd

section
variable {α : Type}

theorem readLoop_flat {h : Heap α} {sid : Nat} {b n : Int} {st : List α} (rv : RootOn h (flat sid b n) [n])
    (hs : h[sid]? = some st) :
    ∀ (m : Nat) (t : Int), 0 ≤ t → t + m ≤ n → readLoop h (flat sid b n) m t = .ok (rowAt st (b + t).toNat m)
  | 0, _, _, _ => by simp [readLoop, rowAt]
  | m + 1, t, t0, t1 => by
    have hb : 0 ≤ b := rv.ok.base_nonneg
    obtain ⟨x, hx, _, hg⟩ := rv.flat_get t0 (by omega : t < n)
    rw [cell, hs, Option.bind_some] at hx
    have ih := readLoop_flat rv hs m (t + 1) (by omega) (by omega)
    obtain ⟨hlt, hxe⟩ := List.getElem?_eq_some_iff.mp hx
    simp only [readLoop, hg, ih, bind, Except.bind, pure, Except.pure]
    unfold rowAt
    rw [Nd.take_drop_succ st _ m hlt, hxe]
    congr 4
    omega

/-- position and length are naturals, as the refinement has them -/
theorem readView_flat {h : Heap α} {sid pos n : Nat} {st : List α} (rv : RootOn h (flat sid (pos : Int) (n : Int)) [(n : Int)])
    (hs : h[sid]? = some st) : readView h (flat sid pos n) = .ok (rowAt st pos n) := by
  unfold readView
  simp only [len_rootView rv.view (k := 0) (d := (n : Int)) rfl, bind, Except.bind]
  rw [Int.toNat_natCast, readLoop_flat rv hs n 0 (Int.le_refl 0) (by omega)]
  simp

theorem unrollVals_flat {h : Heap α} {sid : Nat} {b n : Int} (rv : RootOn h (flat sid b n) [n]) {st : List α}
    (hs : h[sid]? = some st) : unroll h (flat sid b n) = .ok (.alias sid b n) ∧
      unrollVals h (flat sid b n) = .ok (rowAt st b.toNat n.toNat) := by
  have hc : (flat sid b n).v.contiguous = .ok true :=
    (Nd.contiguous_eq (reach_geo rv.reach)).1 (by simp [flat, rootView, uniform, Nd.Dense])
  obtain ⟨vals, hv, _⟩ := Nd.elems_ok (reach_geo rv.reach) rv.ok
  obtain ⟨sl, h1, h2, h6, _, _⟩ := Nd.unroll_ok (reach_geo rv.reach) rv.ok hv
  have e := h6 rfl hc
  have e' : sl = .alias sid b n := by
    rw [e]; simp [flat, rootView, View.size, product]
  subst e'
  refine ⟨h1, ?_⟩
  unfold unrollVals
  simp only [h1, bind, Except.bind]
  simp [sliceVals, storeOf, hs, rowAt, bind, Except.bind, pure, Except.pure]

theorem mapR_eq_mapM {β γ : Type} (f : β → R γ) : ∀ l : List β, mapR f l = l.mapM f
  | [] => rfl
  | x :: xs => by rw [mapR, mapR_eq_mapM f xs, List.mapM_cons]

theorem rowAt_store {st : List α} {pos len : Nat} {xs : List α} (hx : xs.length ≤ len) (hf : pos + len ≤ st.length) :
    rowAt (store st pos xs) pos len = overwrite (rowAt st pos len) xs := by
  have hl : (st.take pos).length = pos := by rw [List.length_take]; omega
  unfold rowAt store overwrite
  rw [List.append_assoc, List.drop_left' hl, List.take_append, List.take_of_length_le hx, List.length_take, List.length_drop,
    List.take_of_length_le (l := xs) (by omega), List.drop_take, List.drop_drop]

theorem getElem?_writeRun (sid : Nat) : ∀ (xs : List α) (h : Heap α) (lo : Nat) (st : List α), h[sid]? = some st →
    lo + xs.length ≤ st.length → ∀ u, (writeRun h sid lo xs)[u]? = if sid = u then some (store st lo xs) else h[u]?
  | [], h, lo, st, hs, _, u => by
    have : store st lo [] = st := by simp [store]
    rw [this]
    split
    · next e => rw [← e]; exact hs
    · rfl
  | x :: xs, h, lo, st, hs, hf, u => by
    rw [List.length_cons] at hf
    have hs' : (setStore h sid lo x)[sid]? = some (st.set lo x) := by rw [getElem?_setStore, if_pos rfl, hs]; rfl
    rw [writeRun, getElem?_writeRun sid xs _ (lo + 1) _ hs' (by rw [List.length_set]; omega) u, store_cons (by omega),
      getElem?_setStore]
    by_cases e : sid = u
    · rw [if_pos e, if_pos e]
    · rw [if_neg e, if_neg e, if_neg e]

theorem apply1_go_flat {sid : Nat} {b n : Int} (hb : 0 ≤ b) :
    ∀ (vals : List α) (h : Heap α) (k : Int) (st : List α), h[sid]? = some st → 0 ≤ k → k + vals.length ≤ n →
      apply1.go (flat sid b n) 0 1 h k vals = .ok (writeRun h sid (b + k).toNat vals)
  | [], _, _, _, _, _, _ => by simp [apply1.go, writeRun]
  | x :: xs, h, k, st, hs, k0, k1 => by
    have hlen : ((x :: xs).length : Int) = xs.length + 1 := by simp
    have hset := flat_set1 (n := n) (base := b) hs k0 (by omega : k < n) x
    have hs' : (setStore h sid (b + k).toNat x)[sid]? = some (st.set (b + k).toNat x) := by
      rw [getElem?_setStore]; simp [hs]
    have ih := apply1_go_flat (n := n) hb xs (setStore h sid (b + k).toNat x) (k + 1) _ hs' (by omega) (by omega)
    simp only [apply1.go, Int.zero_add, Int.mul_one, hset, bind, Except.bind, writeRun]
    rw [ih]
    congr 2
    omega

/-- the state write-back / a kernel's element-by-element `Set1`s of a series are one block write at the view's window -/
theorem writeView_flat {h : Heap α} {sid pos n : Nat} (rv : RootOn h (flat sid (pos : Int) (n : Int)) [(n : Int)]) (vals : List α)
    (hl : vals.length ≤ n) :
    writeView h (flat sid pos n) vals = .ok (writeRun h sid pos vals) ∧ SameShape h (writeRun h sid pos vals) := by
  obtain ⟨st, hs, hb⟩ := rv.flat_store
  refine ⟨?_, sameShape_writeRun _ _ _ _⟩
  unfold writeView apply1
  rw [apply1_go_flat hb vals h 0 st hs (by omega) (by omega)]
  simp

/-- The series `sers` go to outputs `o0, o0+1, …`; `pos` is the storage position of `(i, o0, 0)`, so series `k` lands at
`pos + k·T'` and the induction moves `o0`, `pos` and `R` together. `R ≥ sers.length` rows of the image are described (the caller
takes the cell's whole block, `o0 = 0`, `R = nO`); the surplus rows are unchanged. -/
theorem writeOutputs_mat {outputs : Arr} {M nO T' T ob i : Nat} (hob : outputs.base = (ob : Int)) (hiM : i < M)
    (hT0 : 1 ≤ T) (hT : T ≤ T') :
    ∀ (sers : List (List α)) (R o0 pos : Nat) (h : Heap α) (ost : List α),
      RootOn h outputs [(M : Int), (nO : Int), (T' : Int)] → h[outputs.sid]? = some ost →
      pos = ob + (i * nO + o0) * T' → sers.length ≤ R → o0 + R ≤ nO → (∀ ser ∈ sers, ser.length ≤ T) →
      ∃ h' ost', writeOutputs h outputs (i : Int) (T : Int) (o0 : Int) sers = .ok h' ∧ SameShape h h' ∧
        h'[outputs.sid]? = some ost' ∧ (∀ u, u ≠ outputs.sid → h'[u]? = h[u]?) ∧
        mat ost' pos R T' = writeRows (mat ost pos R T') sers ∧
        (∀ q, q < pos ∨ pos + sers.length * T' ≤ q → ost'[q]? = ost[q]?)
  | [], R, o0, pos, h, ost, _, ho, _, _, _, _ =>
    ⟨h, ost, rfl, SameShape.refl h, ho, fun _ _ => rfl, (writeRows_nil _).symm, fun _ _ => rfl⟩
  | ser :: rest, 0, _, _, _, _, _, _, _, hR, _, _ => nomatch hR
  | ser :: rest, R + 1, o0, pos, h, ost, r, ho, hpos, hR, hoR, hl => by
    have hser : ser.length ≤ T' := Nat.le_trans (hl ser List.mem_cons_self) hT
    have ho0 : o0 < nO := Nat.lt_of_lt_of_le (Nat.lt_add_of_pos_right (Nat.succ_pos R)) hoR
    obtain ⟨e, _, rv⟩ := outputView_eq (T := (T : Int)) (i := (i : Int)) (o := (o0 : Int)) r (by omega) (by omega)
      (by omega) (by omega) (by omega) (by omega)
    have hlo : outputs.base + ((i : Int) * nO + o0) * T' = (pos : Int) := by
      rw [hob, hpos]; push_cast; rfl
    rw [hlo] at e rv
    obtain ⟨hw, hss⟩ := writeView_flat rv ser (hl ser List.mem_cons_self)
    have hfit : pos + T' ≤ ost.length := by rw [hpos]; exact r.window_fits hob ho (n := M * nO) (by push_cast [product]; ring) (nat_row_lt hiM ho0)
    have hfs : pos + ser.length ≤ ost.length := Nat.le_trans (Nat.add_le_add_left hser pos) hfit
    have hst := getElem?_writeRun outputs.sid ser h pos ost ho hfs
    obtain ⟨h', ost', e', hss', ho', hoth', hmat', hfr'⟩ := writeOutputs_mat hob hiM hT0 hT rest R (o0 + 1) (pos + T') _
      (store ost pos ser) (r.sameShape hss) (by rw [hst, if_pos rfl])
      (by rw [hpos, ← Nat.add_assoc, Nat.succ_mul, Nat.add_assoc]) (Nat.le_of_succ_le_succ hR)
      (by rw [Nat.add_right_comm]; exact hoR) (fun s hs => hl s (List.mem_cons_of_mem _ hs))
    refine ⟨h', ost', ?_, hss.trans hss', ho', fun u hu => by rw [hoth' u hu, hst, if_neg (Ne.symm hu)], ?_, fun q hq => ?_⟩
    · simp only [writeOutputs, e, hw, bind, Except.bind]
      exact e'
    · rw [mat_succ, mat_succ, writeRows_cons, hmat',
        rowAt_congr ost' _ pos T' fun k hk => hfr' _ (Or.inl (Nat.add_lt_add_left hk pos)),
        rowAt_store hser hfit,
        mat_congr (store ost pos ser) ost (pos + T') R T' fun q q0 _ =>
          store_frame hfs (Or.inr (Nat.le_trans (Nat.add_le_add_left hser pos) q0))]
    · rw [List.length_cons, Nat.succ_mul, Nat.add_comm _ T', ← Nat.add_assoc] at hq
      rw [hfr' q (hq.imp_left fun c => Nat.lt_add_right T' c),
        store_frame hfs (hq.imp_right fun c => Nat.le_trans (Nat.le_trans (Nat.add_le_add_left hser pos) (Nat.le_add_right _ _)) c)]

theorem state_read_refine {h : Heap α} {states : Arr} {N nS sb i : Nat} {sst : List α}
    (rs : RootOn h states [(N : Int), (nS : Int)]) (hsb : states.base = (sb : Int))
    (hs : h[states.sid]? = some sst) (hiN : i < N) :
    stateView h states (i : Int) (nS : Int) = .ok (h, flat states.sid (sb + i * nS : Nat) nS) ∧
      RootOn h (flat states.sid ((sb + i * nS : Nat) : Int) (nS : Int)) [(nS : Int)] ∧
      readView h (flat states.sid ((sb + i * nS : Nat) : Int) (nS : Int)) = .ok (rowAt sst (sb + i * nS) nS) ∧
      sb + i * nS + nS ≤ sst.length := by
  obtain ⟨e, _, rv⟩ := stateView_eq rs (i := (i : Int)) (by omega) (by omega)
  have eb : states.base + (i : Int) * nS = ((sb + i * nS : Nat) : Int) := by rw [hsb]; push_cast; ring
  rw [eb] at e rv
  refine ⟨e, rv, ?_, rs.row_fits hsb hs hiN⟩
  exact readView_flat rv hs

theorem inputs_refine {h : Heap α} {inputs : Arr} {nIn nI T ib i : Nat} {ist : List α}
    (ri : RootOn h inputs [(nIn : Int), (nI : Int), (T : Int)]) (hib : inputs.base = (ib : Int))
    (hi : h[inputs.sid]? = some ist) :
    mapR (fun (k : Nat) => do
        let (h2, v) ← inputView h inputs (i : Int) (k : Int) (nIn : Int) (nI : Int) (T : Int)
        readView h2 v) (List.range nI) = .ok (mat ist (ib + (i % nIn) * (nI * T)) nI T) ∧
      (cube ist ib nIn nI T)[i % (cube ist ib nIn nI T).length]?.getD [] = mat ist (ib + (i % nIn) * (nI * T)) nI T := by
  obtain ⟨hnIn, _, _⟩ := pos3 ri.pos
  have hmod : i % nIn < nIn := Nat.mod_lt _ (by omega)
  constructor
  · unfold mat
    rw [mapR_eq_mapM]
    apply mapM_eq_ok_map
    intro k hk
    have hk' := List.mem_range.mp hk
    obtain ⟨e, rv⟩ := inputView_eq ri (i := (i : Int)) (k := (k : Int)) (by omega) (by omega) (by omega)
    have eb : inputs.base + (((i : Int) % nIn) * nI + k) * T = ((ib + (i % nIn) * (nI * T) + k * T : Nat) : Int) := by
      rw [hib]; push_cast; ring
    rw [eb] at e rv
    simp only [e, bind, Except.bind]
    exact readView_flat rv hi
  · rw [cube_length, cube_getElem? _ _ _ _ _ _ hmod]
    rfl

/-- `h'` is `h` with the storages of `states` and `outputs` replaced by `sst'` and `ost'`, which differ from `sst` and `ost` only
inside the windows `[pS, pS + wS)` and `[pO, pO + wO)` -/
structure Rewrote (h h' : Heap α) (states outputs : Arr) (sst ost sst' ost' : List α) (pS wS pO wO : Nat) : Prop where
  shape : SameShape h h'
  st : h'[states.sid]? = some sst'
  out : h'[outputs.sid]? = some ost'
  other : ∀ u, u ≠ states.sid → u ≠ outputs.sid → h'[u]? = h[u]?
  frameS : ∀ q, q < pS ∨ pS + wS ≤ q → sst'[q]? = sst[q]?
  frameO : ∀ q, q < pO ∨ pO + wO ≤ q → ost'[q]? = ost[q]?

theorem Rewrote.append {h h1 h2 : Heap α} {states outputs : Arr} {sst ost sst1 ost1 sst2 ost2 : List α}
    {pS wS wS' pO wO wO' : Nat} (a : Rewrote h h1 states outputs sst ost sst1 ost1 pS wS pO wO)
    (b : Rewrote h1 h2 states outputs sst1 ost1 sst2 ost2 (pS + wS) wS' (pO + wO) wO') :
    Rewrote h h2 states outputs sst ost sst2 ost2 pS (wS + wS') pO (wO + wO') :=
  ⟨a.shape.trans b.shape, b.st, b.out, fun u u1 u2 => by rw [b.other u u1 u2, a.other u u1 u2],
    fun q hq => by rw [b.frameS q (by omega), a.frameS q (by omega)],
    fun q hq => by rw [b.frameO q (by omega), a.frameO q (by omega)]⟩

theorem Rewrote.cells {h h' : Heap α} {states outputs : Arr} {sst ost sst' ost' s' : List α} {o' : List (List α)}
    {nS nO T' i sb ob : Nat}
    (w : Rewrote h h' states outputs sst ost sst' ost' (sb + i * nS) nS (ob + i * (nO * T')) (nO * T'))
    (hs : h[states.sid]? = some sst) (ho : h[outputs.sid]? = some ost)
    (hrS : rowAt sst' (sb + i * nS) nS = s') (hrO : mat ost' (ob + i * (nO * T')) nO T' = o') :
    (∀ s, s < nS → cell h' states.sid (sb + i * nS + s) = s'[s]?) ∧
    (∀ o t, o < nO → t < T' → cell h' outputs.sid (ob + (i * nO + o) * T' + t) = (o'[o]?).bind (·[t]?)) ∧
    (∀ u q, ¬ (u = states.sid ∧ ∃ s, s < nS ∧ q = sb + i * nS + s) →
            ¬ (u = outputs.sid ∧ ∃ o t, o < nO ∧ t < T' ∧ q = ob + (i * nO + o) * T' + t) →
            cell h' u q = cell h u q) := by
  have hpos : ∀ o t, ob + (i * nO + o) * T' + t = ob + i * (nO * T') + o * T' + t := fun o t => by
    rw [Nat.add_mul, Nat.mul_assoc]; omega
  refine ⟨fun s s1 => ?_, fun o t o1 t1 => ?_, fun u q hns hno => ?_⟩
  · rw [← hrS, rowAt_getElem? _ _ _ _ s1, cell, w.st, Option.bind_some]
  · rw [← hrO, mat_getElem? _ _ _ _ _ o1, Option.bind_some, rowAt_getElem? _ _ _ _ t1, hpos, cell, w.out, Option.bind_some]
  · by_cases hu : u = states.sid
    · rw [hu, cell, cell, w.st, hs, Option.bind_some, Option.bind_some]
      refine w.frameS q (Decidable.byContradiction fun c => hns ⟨hu, q - (sb + i * nS), by omega, by omega⟩)
    · by_cases hu2 : u = outputs.sid
      · rw [hu2, cell, cell, w.out, ho, Option.bind_some, Option.bind_some]
        refine w.frameO q (Decidable.byContradiction fun c => ?_)
        obtain ⟨o, t, o1, t1, e⟩ := block_decomp (b := ob + i * (nO * T')) (n := nO) (w := T') (q := q) (by omega) (by omega)
        exact hno ⟨hu2, o, t, o1, t1, by rw [hpos]; exact e⟩
      · rw [cell, cell, w.other u hu hu2]

/-- one cell step through the template's views, with ANY parameter decoder `dec` that returns the column `p` the
list-level `cellParams` returns, is `cellStep`; the hypotheses are those of
`OW.Props.C04NdTables.wrapperNd_refines_tables`, explained there -/
theorem cellStepNdG_refines [Num α] (km : KModel α) {h : Heap α} {inputs states outputs : Arr}
    {nIn nI T N nS M nO T' i ib sb ob : Nat} {ist sst ost : List α}
    (ri : RootOn h inputs [(nIn : Int), (nI : Int), (T : Int)])
    (rs : RootOn h states [(N : Int), (nS : Int)])
    (ro : RootOn h outputs [(M : Int), (nO : Int), (T' : Int)])
    (hib : inputs.base = (ib : Int)) (hsb : states.base = (sb : Int)) (hob : outputs.base = (ob : Int))
    (hi : h[inputs.sid]? = some ist) (hs : h[states.sid]? = some sst) (ho : h[outputs.sid]? = some ost)
    (hso : states.sid ≠ outputs.sid) (hiN : i < N) (hiM : i < M) (hT : T ≤ T')
    {rd : RunDims} (hrd : runDims inputs states outputs = .ok rd)
    (hK : ∀ p ins st r, ins.length = nI → (∀ s ∈ ins, s.length = T) → st.length = nS → km.run p ins st = .ok r →
      r.outputs.length ≤ nO ∧ (∀ ser ∈ r.outputs, ser.length ≤ T) ∧ r.states.length ≤ nS)
    (spec : ParamSpec) (lay : List (Nat × Nat)) (paramsL : List (List α)) (dec : R (List α)) (p : List α)
    (hdec : dec = .ok p) (hcp : cellParams spec lay paramsL i = .ok p) :
    (∀ e, cellStep km spec lay paramsL (cube ist ib nIn nI T) i (rowAt sst (sb + i * nS) nS)
          (mat ost (ob + i * (nO * T')) nO T') = .error e →
        cellStepNdG km.run dec nI h inputs states outputs rd (i : Int) = .error e) ∧
    (∀ s' o', cellStep km spec lay paramsL (cube ist ib nIn nI T) i (rowAt sst (sb + i * nS) nS)
          (mat ost (ob + i * (nO * T')) nO T') = .ok (s', o') →
      ∃ h' sst' ost', cellStepNdG km.run dec nI h inputs states outputs rd (i : Int) = .ok h' ∧
        Rewrote h h' states outputs sst ost sst' ost' (sb + i * nS) nS (ob + i * (nO * T')) (nO * T') ∧
        rowAt sst' (sb + i * nS) nS = s' ∧ mat ost' (ob + i * (nO * T')) nO T' = o') := by
  obtain rfl := Except.ok.inj ((runDims_eq ri.view rs.view ro.view).symm.trans hrd)
  obtain ⟨hnIn, _, hT0⟩ := pos3 ri.pos
  obtain ⟨hsv, rsv, hread, hsfit⟩ := state_read_refine rs hsb hs hiN
  obtain ⟨hins, hblock⟩ := inputs_refine (i := i) ri hib hi
  -- both sides up to the kernel call
  have hR : cellStepNdG km.run dec nI h inputs states outputs
      { numCells := N, numStates := nS, numInputSequences := nIn, inputLen := T, cellInputsShape := [(nI : Int), (T : Int)],
        outputStepSlice := [1, 1, 1], outputSizeSlice := [1, 1, (T : Int)], statesSizeSlice := [1, (nS : Int)],
        inputsSizeSlice := [1, (nI : Int), (T : Int)] } (i : Int) =
      (do let r ← km.run p (mat ist (ib + (i % nIn) * (nI * T)) nI T) (rowAt sst (sb + i * nS) nS)
          let h3 ← writeOutputs h outputs (i : Int) (T : Int) 0 r.outputs
          writeView h3 (flat states.sid ((sb + i * nS : Nat) : Int) (nS : Int)) r.states) := by
    simp only [bind, Except.bind] at hins
    unfold cellStepNdG
    simp only [hdec, hsv, hread, hins, bind, Except.bind]
  rw [cellStep_of_column (by rw [cube_length]; omega) hcp, hblock, hR]
  cases hk : km.run p (mat ist (ib + (i % nIn) * (nI * T)) nI T) (rowAt sst (sb + i * nS) nS) with
  | error e0 =>
    refine ⟨fun e he => ?_, fun s' o' he => ?_⟩
    · cases he; rfl
    · cases he
  | ok r =>
    -- what the wrapper passes to the kernel has the shapes `hK` speaks of
    obtain ⟨hko, hkl, hks⟩ := hK _ _ _ _ (mat_length _ _ _ _)
      (mat_mem_length (ri.window_fits hib hi (by push_cast [product]; ring) (Nat.mod_lt i (by omega)))) (rowAt_length hsfit) hk
    refine ⟨fun e he => (by cases he), fun s' o' he => ?_⟩
    obtain ⟨rfl, rfl⟩ := Prod.mk.inj (Except.ok.inj he)
    -- the series through the output views, then the states through the state view
    obtain ⟨h3, ost', hw3, hss3, ho3, hoth3, hmat3, hfr3⟩ := writeOutputs_mat hob hiM (Int.ofNat_le.mp hT0) hT r.outputs nO 0
      (ob + i * (nO * T')) h ost ro ho (by rw [Nat.add_zero, Nat.mul_assoc]) hko (Nat.le_of_eq (Nat.zero_add nO)) hkl
    obtain ⟨hw4, hss4⟩ := writeView_flat (rsv.sameShape hss3) r.states hks
    have hfs : sb + i * nS + r.states.length ≤ sst.length := Nat.le_trans (Nat.add_le_add_left hks _) hsfit
    have hst4 := getElem?_writeRun states.sid r.states h3 (sb + i * nS) sst (by rw [hoth3 _ hso, hs]) hfs
    refine ⟨_, store sst (sb + i * nS) r.states, ost', ?_, ⟨hss3.trans hss4, by rw [hst4, if_pos rfl],
      by rw [hst4, if_neg hso, ho3], fun u u1 u2 => by rw [hst4, if_neg (Ne.symm u1), hoth3 u u2],
      fun q hq => store_frame hfs (hq.imp_right (Nat.le_trans (Nat.add_le_add_left hks _))),
      fun q hq => hfr3 q (hq.imp_right (Nat.le_trans (Nat.add_le_add_left (Nat.mul_le_mul_right T' hko) _)))⟩,
      rowAt_store hks hsfit, hmat3⟩
    simp only [bind, Except.bind]
    rw [show (0 : Int) = ((0 : Nat) : Int) from rfl, hw3]
    exact hw4

end
end OW.WrapperNd
