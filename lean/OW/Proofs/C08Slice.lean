import OW.Proofs.C08H5
import OW.Proofs.C08Defs
import OW.Proofs.NdUnroll
/-!
Helper lemmas for `OW/Props/C08Slice.lean`: `Load` with a selection = `Slice` (OW/Nd) of the loaded full array.
Bridges between the ℕ-world of the file model (`cartesian`, `ravelN`, `CoordIn`) and the ℤ-world of the n-d array
model (`rowMajor`, `ravel`, `unravel`, `InBounds`, `affine`, `SliceOK`); the two meet in `grid_castL`.
-/
namespace OW.Proofs.C08H5
open OW.Nd OW.Sim.H5

theorem ravel_castL (c s : List Nat) : ravel (castL c) (castL s) = (ravelN c s : Int) := by
  induction c generalizing s with
  | nil => cases s <;> rfl
  | cons x xs ih =>
    cases s with
    | nil => rfl
    | cons e es =>
      have := ih es
      simp only [castL, List.map_cons, ravel, ravelN] at this ⊢
      rw [this, product_cast]
      push_cast
      rfl

theorem inBounds_castL : ∀ (c s : List Nat), InBounds (castL c) (castL s) ↔ CoordIn c s := by
  intro c
  induction c with
  | nil => intro s; cases s <;> simp [InBounds, CoordIn, castL]
  | cons x xs ih =>
    intro s
    cases s with
    | nil => simp [InBounds, CoordIn, castL]
    | cons e es =>
      have := ih es
      simp only [castL, List.map_cons, InBounds, CoordIn] at this ⊢
      rw [this]
      constructor
      · rintro ⟨_, h2, h3⟩; exact ⟨by exact_mod_cast h2, h3⟩
      · rintro ⟨h2, h3⟩; exact ⟨by omega, by exact_mod_cast h2, h3⟩

theorem triple_start_step {x : SelDim} (e : Nat) (hx : SelDimOK x) :
    selStart x = ((triple e x).1 : Int) ∧ selStep x = ((triple e x).2.1 : Int) := by
  match x, hx with
  | none, _ => exact ⟨rfl, rfl⟩
  | some [a, b, st], ⟨ha, hs⟩ =>
    simp only [selStart, selStep, triple, Int.toNat_of_nonneg ha, Int.toNat_of_nonneg (by omega : 0 ≤ st), and_self]

theorem affine_sel {sel : Sel} {s : List Nat} (h : SelOK sel s) (i : List Nat) :
    affine (sel.map selStart) (castL i) (sel.map selStep) = castL (tripPt (trip sel s) i) := by
  induction h generalizing i with
  | nil => cases i <;> rfl
  | @cons x e xs es hx _ ih =>
    cases i with
    | nil => rfl
    | cons k ks =>
      have := ih ks
      simp only [castL, tripPt, trip, List.map_cons, List.zipWith_cons_cons, affine, (triple_start_step e hx).1,
        (triple_start_step e hx).2] at this ⊢
      rw [this]
      push_cast
      rfl

theorem sliceOK_sel {sel : Sel} {s : List Nat} (h : SelOK sel s) (hne : ∀ l ∈ selIdx sel s, l ≠ []) :
    SliceOK (castL s) (sel.map selStart) (castL ((trip sel s).map (·.2.2))) (sel.map selStep) := by
  induction h with
  | nil => simp [trip, castL]
  | @cons x e xs es hx _ ih =>
    obtain ⟨h1, -, h3, h4, -, -⟩ := triple_spec e x hx
    simp only [selIdx, List.zipWith_cons_cons, List.mem_cons, forall_eq_or_imp] at hne
    have hc : (triple e x).2.2 ≠ 0 := h3 ▸ fun h0 => hne.1 (List.length_eq_zero_iff.mp h0)
    have hw := h4.resolve_left hc
    simp only [trip, castL, List.zipWith_cons_cons, List.map_cons, SliceOK_cons, (triple_start_step e hx).1,
      (triple_start_step e hx).2]
    generalize triple e x = t at h1 hc hw
    refine ⟨by omega, by omega, by omega, ?_, ih hne.2⟩
    rw [show ((t.2.2 : Nat) : Int) - 1 = ((t.2.2 - 1 : Nat) : Int) by omega]
    exact_mod_cast (by omega : t.1 + (t.2.2 - 1) * t.2.1 < e)

theorem castL_eq_unravel {c s : List Nat} (h : CoordIn c s) :
    castL c = unravel ((ravelN c s : Nat) : Int) (castL s) := by
  have hb := (inBounds_castL c s).mpr h
  rw [← ravel_castL c s, unravel_ravel hb]

theorem grid_castL (ns : List Nat) : (grid ns).map castL = NdC02.rowMajor (castL ns) := by
  rw [List.map_congr_left fun i hi => castL_eq_unravel (mem_grid.mp hi),
    show (fun i => unravel ((ravelN i ns : Nat) : Int) (castL ns)) = (fun (k : Nat) => unravel (k : Int) (castL ns)) ∘ (ravelN · ns) from rfl,
    ← List.map_map, grid_ravel, NdC02.rowMajor, NdC02.rowMajorFrom, product_cast, Int.toNat_natCast, List.range_eq_range']

/-- `freshArr h v (castL s)` is the array `Load()` returns for a dataset `(s, v)`: a fresh root of shape `s` on the new
storage `v`. -/
theorem fresh_dataset {s : List Nat} {v : List Int} (hne : s ≠ []) (hs1 : ∀ e ∈ s, 1 ≤ e) (hv : v.length = prodN s)
    (h : Heap Int) :
    Reach (NdC02.freshArr h v (castL s)).v ∧ ArrOK (h ++ [v]) (NdC02.freshArr h v (castL s)) ∧
      ∀ c, CoordIn c s → Nd.get (h ++ [v]) (NdC02.freshArr h v (castL s)) (castL c) = .ok (v.getD (ravelN c s) 0) := by
  have hdne : castL s ≠ [] := by simpa [castL] using hne
  have hdpos : Pos (castL s) := fun x hx => by
    obtain ⟨e, he, rfl⟩ := List.mem_map.mp hx
    exact_mod_cast hs1 e he
  have hvl : (v.length : Int) = product (castL s) := by rw [product_cast, hv]
  refine ⟨reach_root hdne hdpos, Nd.arrOK_fresh h v hvl, fun c hc => ?_⟩
  have hlt : ravelN c s < v.length := hv ▸ ravelN_lt hc
  rw [castL_eq_unravel hc]
  exact Nd.get_fresh hdne hdpos hvl _ (by rw [product_cast, ← hv]; exact_mod_cast hlt)
    (by rw [List.getD_eq_getElem?_getD, List.getElem?_eq_getElem hlt]; rfl)

end OW.Proofs.C08H5
