import OW.Kernels.Climate
import OW.Proofs.RealNum
import Mathlib.Topology.Order.IntermediateValue
/-!
The wet-bulb bisection (`bisect`, the loop of `calcWetBulb`) as a bracketing algorithm, at `α := ℝ`, for any searched function.

State of the loop: `(rtb, dx)`; the bracket is the unordered interval `[[rtb, rtb + dx]]` (`dx` may be negative: the dew point
may exceed the dry bulb). One iteration halves `dx` and moves `rtb` to the midpoint iff `f mid < h`. Hence, whatever the sign of
`dx`, the bracket is nested, after `k` executed iterations its signed width is `dx₀ / 2^k`, and `f rtb < h ≤ f (rtb + dx)` is
preserved (`bisect_bracket`); the loop stops after `k = n` iterations or as soon as `|dx| < acc`. With continuity the final
bracket holds a crossing (`crossing_in_bracket`).
-/
namespace OW.Proofs.Climate
open OW OW.Kernels.Climate Set

theorem acc_eq : (acc : ℝ) = 0.0001 := rfl

theorem bisect_zero (f : ℝ → ℝ) (h rtb dx : ℝ) : bisect f h 0 rtb dx = rtb := rfl

theorem bisect_succ (f : ℝ → ℝ) (h : ℝ) (n : Nat) (rtb dx : ℝ) :
    bisect f h (n + 1) rtb dx =
      if |dx * 0.5| < 0.0001 then (if f (rtb + dx * 0.5) < h then rtb + dx * 0.5 else rtb)
      else bisect f h n (if f (rtb + dx * 0.5) < h then rtb + dx * 0.5 else rtb) (dx * 0.5) := by
  simp only [bisect, RealNum.lit0, sub_pos, RealNum.abs_eq, acc_eq]

theorem mid_mem_uIcc (rtb dx : ℝ) : rtb + dx * 0.5 ∈ uIcc rtb (rtb + dx) := by
  rw [mem_uIcc]
  rcases le_total 0 dx with h | h
  · left; constructor <;> linarith
  · right; constructor <;> linarith

theorem half_add_half (rtb dx : ℝ) : rtb + dx * 0.5 + dx * 0.5 = rtb + dx := by ring

theorem upper_half_subset (rtb dx : ℝ) :
    uIcc (rtb + dx * 0.5) (rtb + dx * 0.5 + dx * 0.5) ⊆ uIcc rtb (rtb + dx) := by
  rw [half_add_half]
  exact uIcc_subset_uIcc (mid_mem_uIcc rtb dx) right_mem_uIcc

theorem lower_half_subset (rtb dx : ℝ) : uIcc rtb (rtb + dx * 0.5) ⊆ uIcc rtb (rtb + dx) :=
  uIcc_subset_uIcc left_mem_uIcc (mid_mem_uIcc rtb dx)

/-- The loop executes some `k ≤ n` iterations and ends by the accuracy test or after all `n`; the final bracket `[[r, r + dx / 2^k]]`
(`r` the returned point) lies inside the initial one; and a level bracketed on entry is bracketed at the end. Only the last clause
looks at `f`. -/
theorem bisect_bracket (f : ℝ → ℝ) (h : ℝ) (n : Nat) (rtb dx : ℝ) :
    ∃ k : Nat, k ≤ n ∧ (|dx / 2 ^ k| < 0.0001 ∨ k = n) ∧
      uIcc (bisect f h n rtb dx) (bisect f h n rtb dx + dx / 2 ^ k) ⊆ uIcc rtb (rtb + dx) ∧
      (f rtb < h → h ≤ f (rtb + dx) → f (bisect f h n rtb dx) < h ∧ h ≤ f (bisect f h n rtb dx + dx / 2 ^ k)) := by
  induction n generalizing rtb dx with
  | zero =>
    refine ⟨0, le_refl _, ?_⟩
    rw [bisect_zero, pow_zero, div_one]
    exact ⟨Or.inr rfl, subset_rfl, fun hlo hhi => ⟨hlo, hhi⟩⟩
  | succ n ih =>
    have hhalf : dx / 2 ^ 1 = dx * 0.5 := by ring
    have hw : ∀ k : Nat, dx / 2 ^ (k + 1) = dx * 0.5 / 2 ^ k := fun k => by rw [pow_succ]; ring
    have hup : h ≤ f (rtb + dx) → h ≤ f (rtb + dx * 0.5 + dx * 0.5) := fun hhi => by rwa [half_add_half]
    rw [bisect_succ]
    -- four cases: loop ends / goes on, `rtb` moves to the midpoint / stays
    split_ifs with ha hm hm
    · exact ⟨1, Nat.succ_le_succ (Nat.zero_le _), by
        rw [hhalf]; exact ⟨Or.inl ha, upper_half_subset rtb dx, fun _ hhi => ⟨hm, hup hhi⟩⟩⟩
    · exact ⟨1, Nat.succ_le_succ (Nat.zero_le _), by
        rw [hhalf]; exact ⟨Or.inl ha, lower_half_subset rtb dx, fun hlo _ => ⟨hlo, not_lt.mp hm⟩⟩⟩
    · obtain ⟨k, hk, h1, h2, h3⟩ := ih (rtb + dx * 0.5) (dx * 0.5)
      exact ⟨k + 1, Nat.succ_le_succ hk, by
        rw [hw k]; exact ⟨h1.imp_right (congrArg _), h2.trans (upper_half_subset rtb dx), fun _ hhi => h3 hm (hup hhi)⟩⟩
    · obtain ⟨k, hk, h1, h2, h3⟩ := ih rtb (dx * 0.5)
      exact ⟨k + 1, Nat.succ_le_succ hk, by
        rw [hw k]; exact ⟨h1.imp_right (congrArg _), h2.trans (lower_half_subset rtb dx), fun hlo _ => h3 hlo (not_lt.mp hm)⟩⟩

theorem bisect_mem_uIcc (f : ℝ → ℝ) (h : ℝ) (n : Nat) (rtb dx : ℝ) :
    bisect f h n rtb dx ∈ uIcc rtb (rtb + dx) :=
  have ⟨_, _, _, hs, _⟩ := bisect_bracket f h n rtb dx
  hs left_mem_uIcc

theorem crossing_in_bracket (f : ℝ → ℝ) (h r w : ℝ) (hc : ContinuousOn f (uIcc r (r + w)))
    (hlo : f r < h) (hhi : h ≤ f (r + w)) : ∃ c ∈ uIcc r (r + w), f c = h ∧ |r - c| ≤ |w| := by
  have hmem : h ∈ uIcc (f r) (f (r + w)) := mem_uIcc.mpr (Or.inl ⟨hlo.le, hhi⟩)
  obtain ⟨c, hcm, hfc⟩ := intermediate_value_uIcc hc hmem
  refine ⟨c, hcm, hfc, ?_⟩
  have := abs_sub_left_of_mem_uIcc hcm
  rw [abs_sub_comm]
  simpa using this

end OW.Proofs.Climate
