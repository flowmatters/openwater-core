import OW.Proofs.GR4JSpec
/-!
C15, adapter level: `OW.Kernels.GR4J.model` (the `KModel` the K correspondence executes against the Go wrapper:
`extractGR4JStates` → `gr4j` → `packGR4JStates` on a flat state row `[S, R, n1, n2, q1…, q9…]`) run on a packed
state IS the packed result of `run` on that state. This brings the row layout (offsets of q1 / q9), the
`int(n1f)` / `float64(n1)` round-trip of the two lengths and the panics of the adapter inside the theorems:
the equalities of `GR4JSpec.lean` are about `run`, this file ties `model.run` / `model.init` to `run`.
The same is done for the specification's adapter `Spec.GR4J.mkModel`, so that the two `KModel`s can be compared
as the K / KSPEC families run them.
-/
namespace OW.RR.GR4J
open OW OW.Kernels.GR4J

theorem pack_cons (st : State ℝ) (n1 n2 : ℕ) :
    pack st n1 n2 = st.S :: st.R :: (Num.ofNat n1 : ℝ) :: (Num.ofNat n2 : ℝ) :: (st.q1 ++ st.q9) := rfl

/-- what `model.run` returns on success, written with `run` and `pack` -/
noncomputable def packedResult (x1 x2 x3 x4 : ℝ) (n1 n2 : ℕ) (st : State ℝ) (rain pet : List ℝ) : KOut ℝ :=
  { outputs := [(run x1 x2 x3 x4 n1 n2 st (rain.zip pet)).2.map (·.runoff)],
    states := pack (run x1 x2 x3 x4 n1 n2 st (rain.zip pet)).1 n1 n2,
    tags := dedup ((run x1 x2 x3 x4 n1 n2 st (rain.zip pet)).2.flatMap (·.tags)) ++
      ["n1=" ++ toString n1, "n2=" ++ toString n2] }

/-- `extract ∘ pack = id`, then the kernel, then `pack`; with both lengths ≥ 1 the adapter does not panic -/
theorem model_run_pack (x1 x2 x3 x4 : ℝ) (n1 n2 : ℕ) (h1 : 0 < n1) (h2 : 0 < n2) (st : State ℝ)
    (hq1 : st.q1.length = n2) (hq9 : st.q9.length = n1) (rain pet : List ℝ) :
    (model (α := ℝ)).run [x1, x2, x3, x4] [rain, pet] (pack st n1 n2) =
      .ok (packedResult x1 x2 x3 x4 n1 n2 st rain pet) := by
  obtain ⟨n1f, n2f, rest, hpk, rfl, rfl, hrl, hback⟩ := OW.Proofs.GR4JHot.roundtrip_GR4J st n1 n2 hq1 hq9
  rw [hpk, OW.Proofs.GR4JHot.model_run_row x1 x2 x3 x4 st.S st.R _ _ rest rain pet n1 n2 (RealNum.toInt_ofNat n1) (RealNum.toInt_ofNat n2)
    h1 h2 hrl.ge, hback]
  rfl

/-- `InitialiseStates` of one cell writes the packed `initGR4J` state -/
theorem model_init (x1 x2 x3 x4 : ℝ) :
    (model (α := ℝ)).init [x1, x2, x3, x4] =
      .ok (pack (initState x4).1 (initState x4).2.1 (initState x4).2.2) := rfl

theorem initState_q9 (x4 : ℝ) : (initState x4).1.q9 = zeros (initState x4).2.1 := rfl
theorem initState_q1 (x4 : ℝ) : (initState x4).1.q1 = zeros (initState x4).2.2 := rfl

theorem model_run_init (x1 x2 x3 x4 : ℝ) (hx4 : 0 < x4) (rain pet : List ℝ) :
    ((model (α := ℝ)).init [x1, x2, x3, x4] >>= fun row => (model (α := ℝ)).run [x1, x2, x3, x4] [rain, pet] row) =
      .ok (packedResult x1 x2 x3 x4 ⌈x4⌉₊ ⌈2 * x4⌉₊ (initState x4).1 rain pet) := by
  rw [model_init]
  rw [init_n1, init_n2]
  exact model_run_pack x1 x2 x3 x4 _ _ (uh_lengths_pos hx4).1 (uh_lengths_pos hx4).2 _ (init_shaped x4).2
    (init_shaped x4).1 rain pet

theorem model_run_chain (x1 x2 x3 x4 : ℝ) (n1 n2 : ℕ) (h1 : 0 < n1) (h2 : 0 < n2) (st : State ℝ)
    (hq1 : st.q1.length = n2) (hq9 : st.q9.length = n1) (rain pet rain' pet' : List ℝ) :
    (model (α := ℝ)).run [x1, x2, x3, x4] [rain', pet'] (packedResult x1 x2 x3 x4 n1 n2 st rain pet).states =
      .ok (packedResult x1 x2 x3 x4 n1 n2 (run x1 x2 x3 x4 n1 n2 st (rain.zip pet)).1 rain' pet') := by
  obtain ⟨a, b⟩ := OW.Proofs.GR4JHot.run_len x1 x2 x3 x4 n1 n2 h1 h2 (rain.zip pet) st hq1 hq9
  exact model_run_pack x1 x2 x3 x4 n1 n2 h1 h2 _ a b rain' pet'

theorem row_toSpec (st : State ℝ) : Spec.GR4J.row (toSpec st) = pack st st.q9.length st.q1.length := rfl

theorem spec_model_run_row (name : String) (tanhArg : ℝ → ℝ) (x1 x2 x3 x4 : ℝ) (st : Spec.GR4J.State ℝ)
    (h9 : 0 < st.pend9.length) (h1 : 0 < st.pend1.length) (rain pet : List ℝ) :
    (Spec.GR4J.mkModel name tanhArg).run [x1, x2, x3, x4] [rain, pet] (Spec.GR4J.row st) =
      .ok { outputs := [(Spec.GR4J.run tanhArg x1 x2 x3 x4 st (rain.zip pet)).2.map (·.Q)],
            states := Spec.GR4J.row (Spec.GR4J.run tanhArg x1 x2 x3 x4 st (rain.zip pet)).1 } := by
  obtain ⟨S, R, p1, p9⟩ := st
  simp only at h9 h1
  have hrow : Spec.GR4J.row (⟨S, R, p1, p9⟩ : Spec.GR4J.State ℝ) =
      S :: R :: (Num.ofNat p9.length : ℝ) :: (Num.ofNat p1.length : ℝ) :: (p1 ++ p9) := rfl
  rw [hrow]
  have hnot : ¬ (p9.length = 0 ∨ p1.length = 0 ∨ (p1 ++ p9).length < p9.length + p1.length) := by
    rw [List.length_append]; omega
  simp only [Spec.GR4J.mkModel, RealNum.toInt_ofNat, Int.toNat_natCast, if_neg hnot, List.take_left', List.drop_left',
    List.take_length]

/-- the specification's `InitialiseStates` row is the code's (x4 > 0 not needed: both use the same ⌈·⌉ cells) -/
theorem spec_model_init (name : String) (tanhArg : ℝ → ℝ) (x1 x2 x3 x4 : ℝ) :
    (Spec.GR4J.mkModel name tanhArg).init [x1, x2, x3, x4] = (model (α := ℝ)).init [x1, x2, x3, x4] := by
  show Except.ok (Spec.GR4J.row (Spec.GR4J.initState x4)) = Except.ok (pack (initState x4).1 (initState x4).2.1 (initState x4).2.2)
  congr 1
  simp only [Spec.GR4J.row, Spec.GR4J.initState, pack, initState, zeros_length, Spec.GR4J.nUH1, Spec.GR4J.nUH2,
    RealNum.lit0, RealNum.sci_zero]

/-- only the branch tags differ (the specification has none): hence outputs and states are compared, not the two `KOut`s -/
theorem model_eq_spec_model (x1 x2 x3 x4 : ℝ) (hx4 : 0 < x4) (st : State ℝ) (hst : Shaped x4 st) (rain pet : List ℝ) :
    ∃ o o' : KOut ℝ,
      (model (α := ℝ)).run [x1, x2, x3, x4] [rain, pet] (pack st ⌈x4⌉₊ ⌈2 * x4⌉₊) = .ok o ∧
      (Spec.GR4J.model (α := ℝ)).run [x1, x2, x3, x4] [rain, pet] (pack st ⌈x4⌉₊ ⌈2 * x4⌉₊) = .ok o' ∧
      o = packedResult x1 x2 x3 x4 ⌈x4⌉₊ ⌈2 * x4⌉₊ st rain pet ∧
      o.outputs = o'.outputs ∧ o.states = o'.states := by
  obtain ⟨hn1, hn2⟩ := uh_lengths_pos hx4
  obtain ⟨e, hs⟩ := run_eq_spec x1 x2 x3 x4 hx4 (rain.zip pet) st hst
  have hrow : pack st ⌈x4⌉₊ ⌈2 * x4⌉₊ = Spec.GR4J.row (toSpec st) := by rw [row_toSpec, hst.1, hst.2]
  have hspec := spec_model_run_row "GR4J#spec" Spec.GR4J.tanhArgSafeguarded x1 x2 x3 x4 (toSpec st)
    (hst.1.symm ▸ hn1 : 0 < st.q9.length) (hst.2.symm ▸ hn2 : 0 < st.q1.length) rain pet
  rw [← hrow] at hspec
  refine ⟨_, _, model_run_pack x1 x2 x3 x4 _ _ hn1 hn2 st hst.2 hst.1 rain pet, hspec, rfl, ?_, ?_⟩
  · show [_] = [_]
    rw [e]
    simp only [List.map_map]
    rfl
  · show pack _ _ _ = Spec.GR4J.row _
    rw [e, row_toSpec, hs.1, hs.2]

end OW.RR.GR4J
