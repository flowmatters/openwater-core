import OW.Proofs.Rounded
import OW.Kernels.ConstituentDecay
import OW.Kernels.StorageParticulateTrapping
/-!
Helper lemmas for OW/Props/Rounded/C12.lean: the half-life block of ConstituentDecay and the clipped trapping efficiency, over rounded
arithmetic (`RNum R`).
-/
namespace OW.Rounded.Constituent
open OW OW.Kernels

variable {R : Rounding}

/-- `Num.pow 2.0 ·` is idealised as a correctly rounded function. The decay fraction `2^(−Δt/halflife)` is `≤ rnd 1` after rounding
because it is `≤ 1` before, which is what `1 ⊖ fraction ≥ 0` needs. -/
theorem decay_nonneg (hl dt sm : RNum R) (h2 : R.Rep 2) (hdt : 0 ≤ dt.val) (hs : 0 ≤ sm.val) :
    0 ≤ (ConstituentDecay.decay hl dt sm).2.1.val ∧ 0 ≤ (ConstituentDecay.decay hl dt sm).2.2.val := by
  unfold ConstituentDecay.decay
  split_ifs with h
  · rw [RNum.gt_iff, RNum.nat_zero_val] at h
    have he : (-dt / hl).val ≤ 0 := R.rnd_nonpos (div_nonpos_of_nonpos_of_nonneg (neg_nonpos.mpr hdt) h.le)
    have hb : (2.0 : RNum R).val = 2 := by
      rw [RNum.ofScientific_val]; norm_num; exact h2
    have hf1 : (Num.pow (2.0 : RNum R) (-dt / hl)).val ≤ R.rnd 1 := by
      rw [RNum.pow_val, hb]
      exact R.mono (Real.rpow_le_one_of_one_le_of_nonpos one_le_two he)
    have h1f := RNum.mul_nonneg (RNum.one_sub_nonneg_of_le_rnd_one hf1) hs
    exact ⟨RNum.div_nonneg h1f hdt, RNum.mul_nonneg hs (RNum.pow_nonneg RNum.sci_nonneg)⟩
  · exact ⟨le_refl _, hs⟩

open StorageParticulateTrapping (Params) in
/-- the trapping efficiency is clipped at `0` from below whatever the (idealised, rounded) powers return -/
theorem damTrappingPC_nonneg (p : Params (RNum R)) (q : RNum R) :
    0 ≤ (StorageParticulateTrapping.damTrappingPC p q).val := by
  unfold StorageParticulateTrapping.damTrappingPC
  split_ifs
  · simp only [RNum.pmin_val, RNum.pmax_val]
    exact le_min RNum.sci_nonneg (le_max_of_le_left RNum.sci_nonneg)
  · exact RNum.sci_nonneg

end OW.Rounded.Constituent
