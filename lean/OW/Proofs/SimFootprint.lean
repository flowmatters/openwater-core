import OW.Proofs.SimGraph
/-!
C07 — what the main loop's actions change in the generation objects (`SimState.gens`): `run i` only generation `i`
(`run_footprint`); `links i` only destination generations of the links it applies, all `> i`, and, by LOADING it, a source
generation that is not cached — so nothing `≤ i` where generation `i` is cached and the links still to be applied have source
generation `≥ i` (`links_footprint`; `OW.Props.C07.links_footprint` gets the two hypotheses from `SInv`).

What these are for: `OW/Sim/Graph.lean` treats `write g` (a writer goroutine's `WriteData` of generation `g`) as ONE atomic
action although the real goroutine runs concurrently with the main loop. While a writer is at work the main loop is at
`run i` with `i > g` or at `links i` with `i ≥ g` (`writer_no_conflict`), so by the two theorems it does not write the
generation object the writer reads. That `write g` therefore commutes with these actions is an argument in prose: no theorem
here or in `OW/Props/C07.lean` states what `write g` or `purge k` read and change, and `exec` actions are not `Step`s of
`OW.Sim.Interleave`.
-/
namespace OW.Sim
variable {α : Type} [Num α]

theorem run_footprint (run : RunFn α) (g : Graph α) (i : Nat) (s : SimState α) (m k : Nat) (hk : k ≠ i) :
    (exec run g s (.run i)).gens m k = s.gens m k :=
  (congrArg (·.gens m k) (runGeneration_spec run g i s g.models.length)).trans (if_neg fun a => hk a.2)

theorem processLinksFrom_gens (g : Graph α) (i m k : Nat) :
    ∀ (ls : List Link) (s : SimState α),
      (∀ l ∈ ls, ¬ (m = l.destModel ∧ k = l.destGen)) →
      (∀ l ∈ ls, m = l.srcModel ∧ k = l.srcGen → (s.gens m k).isSome = true) →
      (processLinksFrom g i ls s).gens m k = s.gens m k := by
  intro ls
  induction ls with
  | nil => intro s _ _; rfl
  | cons l rest ih =>
    intro s hd hs
    simp only [processLinksFrom]
    split
    · rfl
    · have h1 := applyLink_gens g s l m k (hd l (List.mem_cons_self ..)) (hs l (List.mem_cons_self ..))
      rw [ih (applyLink g s l) (fun l' hl' => hd l' (List.mem_cons_of_mem _ hl'))
        (fun l' hl' hsrc => by rw [h1]; exact hs l' (List.mem_cons_of_mem _ hl') hsrc), h1]

theorem links_footprint (run : RunFn α) {g : Graph α} (hv : ValidGraph g) (i : Nat) (s : SimState α)
    (hcur : ∀ l ∈ g.links.drop s.nextLink, i ≤ l.srcGen)
    (hloaded : ∀ m, m < g.models.length → (s.gens m i).isSome = true) (m k : Nat) (hk : k ≤ i) :
    (exec run g s (.links i)).gens m k = s.gens m k := by
  show (processLinksFrom g i (g.links.drop s.nextLink) s).gens m k = s.gens m k
  apply processLinksFrom_gens
  · intro l hl hdst
    have hlg : l ∈ g.links := List.mem_of_mem_drop hl
    have h1 := (hv.link hlg).1
    have h2 := hcur l hl
    omega
  · intro l hl hsrc
    have hlg : l ∈ g.links := List.mem_of_mem_drop hl
    have h2 := hcur l hl
    have hki : k = i := by omega
    have hm : m < g.models.length := by rw [hsrc.1]; exact (hv.link hlg).2.2.1
    rw [hki]
    exact hloaded m hm

/-- `run_footprint` for the generations `writer_no_conflict` speaks of: while `g` is being written the main loop is at
`run i` with `i > g` -/
theorem run_footprint_lt (run : RunFn α) (g : Graph α) (i : Nat) (s : SimState α) (m k : Nat) (hk : k < i) :
    (exec run g s (.run i)).gens m k = s.gens m k :=
  run_footprint run g i s m k (by omega)

end OW.Sim
