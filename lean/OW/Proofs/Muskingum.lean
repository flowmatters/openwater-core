import OW.Kernels.Muskingum
import OW.Proofs.RealNum
/-!
Muskingum routing over ℝ. `step_budget` is the storage equation of one step, `S₁ − S₀ = Δt·((I₀+I₁)/2 − (O₀+O₁)/2)` with
`S = K·(X·I + (1−X)·O)`, with the half-step terms moved into the stored quantity `stor`, so that a step reads
`stor + Δt·I₁ = stor' + Δt·O₁`; the three weights of `coef` are what solving it for `O₁` gives.
-/
namespace OW.Proofs.Muskingum
open OW OW.Kernels.Muskingum

attribute [-simp] OW.RealNum.ofNat_eq  -- as a simp lemma it loops with `Nat.cast_ofNat` on numerals ≥ 2 (see OW/Proofs/RealNum.lean, "literals")

theorem coef_eq (k x dt : ℝ) :
    coef k x dt = ⟨(dt - 2 * k * x) / (2 * k * (1 - x) + dt), (dt + 2 * k * x) / (2 * k * (1 - x) + dt),
      (2 * k * (1 - x) - dt) / (2 * k * (1 - x) + dt)⟩ := by
  unfold coef
  rw [RealNum.ofNat_lit 2, RealNum.lit1]

/-- the water held by the reach in state `(I, O)`, in the units of `Δt·flow`: the Muskingum storage `K[X·I + (1−X)·O]` plus the
half-step term that turns the trapezoid sums of the textbook balance into the rectangle sums of a run -/
noncomputable def stor (k x dt : ℝ) (s : ℝ × ℝ) : ℝ := k * (x * s.1 + (1 - x) * s.2) + dt / 2 * (s.1 - s.2)

theorem step_budget (k x dt : ℝ) (hden : 2 * k * (1 - x) + dt ≠ 0) (s i : ℝ × ℝ) :
    stor k x dt s + dt * (i.1 + i.2) = stor k x dt (step (coef k x dt) s i).1 + dt * (step (coef k x dt) s i).2 := by
  obtain ⟨pi, po⟩ := s
  obtain ⟨inflow, lateral⟩ := i
  have hmul : (step (coef k x dt) (pi, po) (inflow, lateral)).2 * (2 * k * (1 - x) + dt) =
      (dt - 2 * k * x) * (inflow + lateral) + (dt + 2 * k * x) * pi + (2 * k * (1 - x) - dt) * po := by
    rw [coef_eq]
    simp only [step, add_mul, mul_right_comm _ _ (2 * k * (1 - x) + dt), div_mul_cancel₀ _ hden]
  have e : (step (coef k x dt) (pi, po) (inflow, lateral)).1 = (inflow + lateral, (step (coef k x dt) (pi, po) (inflow, lateral)).2) := rfl
  rw [e]
  unfold stor
  linear_combination (-1 / 2 : ℝ) * hmul

/-- the hypotheses hold in the whole stable region `2KX ≤ Δt ≤ 2K(1−X)`, `Δt > 0`; the divisor `2K(1−X)+Δt` is positive under them -/
theorem a3_abs_lt_one (k x dt : ℝ) (hk : 0 < k * (1 - x)) (hdt : 0 < dt) : |(coef k x dt).a3| < 1 := by
  rw [coef_eq]
  simp only
  have h2 : 2 * k * (1 - x) = 2 * (k * (1 - x)) := by ring
  have hden : 0 < 2 * k * (1 - x) + dt := by rw [h2]; linarith
  rw [abs_div, abs_of_pos hden, div_lt_one hden, abs_lt]
  constructor <;> rw [h2] <;> linarith

theorem geometric_small {a C ε : ℝ} (ha : |a| < 1) (hC : 0 ≤ C) (hε : 0 < ε) : ∃ N, ∀ n, N ≤ n → C * |a| ^ n < ε := by
  have hC1 : 0 < C + 1 := by linarith
  obtain ⟨N, hN⟩ := exists_pow_lt_of_lt_one (div_pos hε hC1) ha
  refine ⟨N, fun n hn => ?_⟩
  have h1 : (C + 1) * |a| ^ n < ε :=
    (lt_div_iff₀' hC1).mp (lt_of_le_of_lt (pow_le_pow_of_le_one (abs_nonneg _) ha.le hn) hN)
  have h2 : 0 ≤ |a| ^ n := pow_nonneg (abs_nonneg _) _
  rw [add_mul, one_mul] at h1
  linarith

theorem run_zero_tail (k x dt : ℝ) (n : ℕ) (o : ℝ) :
    (run k x dt (0, o) (List.replicate n (0, 0))).1 = (0, (coef k x dt).a3 ^ n * o) := by
  unfold run
  induction n generalizing o with
  | zero => simp [scan]
  | succ n ih =>
    have hs : (step (coef k x dt) (0, o) (0, 0)).1 = (0, (coef k x dt).a3 * o) := by
      unfold step; simp
    simp only [List.replicate_succ, scan]
    rw [hs, ih, pow_succ, mul_assoc]

theorem run_event_tail_state (k x dt : ℝ) (st : ℝ × ℝ) (xs : List (ℝ × ℝ)) (n : ℕ) :
    (run k x dt st (xs ++ List.replicate (n + 1) (0, 0))).1 =
      (0, (coef k x dt).a3 ^ n * ((coef k x dt).a2 * (run k x dt st xs).1.1 + (coef k x dt).a3 * (run k x dt st xs).1.2)) := by
  have h := run_zero_tail k x dt n ((coef k x dt).a2 * (run k x dt st xs).1.1 + (coef k x dt).a3 * (run k x dt st xs).1.2)
  unfold run at h ⊢
  rw [scan_append]
  simp only [List.replicate_succ, scan]
  have hs : (step (coef k x dt) (scan (step (coef k x dt)) st xs).1 (0, 0)).1 =
      (0, (coef k x dt).a2 * (scan (step (coef k x dt)) st xs).1.1 + (coef k x dt).a3 * (scan (step (coef k x dt)) st xs).1.2) := by
    unfold step; simp
  rw [hs, h]

end OW.Proofs.Muskingum
