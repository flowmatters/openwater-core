/-!
Lists cut into rows of one width, and the arithmetic of row-major positions `a * n + s` (row `a`, column `s < n`), over `Nat`
and over `Int`; at the end three facts about `List` alone that several regions share (`map_range_window`, `set_append_replicate`,
`lt_length_of_getElem?`). Nothing here mentions the model. Core Lean only.
-/
namespace OW

/-! ### row-major positions

The one non-linear step is `a < b → (a + 1) * n ≤ b * n`; everything else about `a * n + s` is linear in the atoms `a * n`,
`b * n` and is left to `omega` at the call site. -/

theorem nat_row_le {a b : Nat} (hab : a < b) (n : Nat) : a * n + n ≤ b * n :=
  Nat.succ_mul a n ▸ Nat.mul_le_mul_right n hab

theorem nat_row_lt {n a b s : Nat} (hab : a < b) (hs : s < n) : a * n + s < b * n :=
  Nat.lt_of_lt_of_le (Nat.add_lt_add_left hs _) (nat_row_le hab n)

theorem block_decomp {b n w q : Nat} (q0 : b ≤ q) (q1 : q < b + n * w) : ∃ o t, o < n ∧ t < w ∧ q = b + o * w + t := by
  have hk : q - b < n * w := by omega
  have hw : 0 < w := Nat.pos_of_ne_zero fun e => by rw [e, Nat.mul_zero] at hk; exact Nat.not_lt_zero _ hk
  refine ⟨(q - b) / w, (q - b) % w, Nat.div_lt_of_lt_mul (Nat.mul_comm n w ▸ hk), Nat.mod_lt _ hw, ?_⟩
  rw [Nat.add_assoc, Nat.mul_comm, Nat.div_add_mod]
  omega

theorem row_div {b i n s : Nat} (hs : s < n) : (b + i * n + s - b) / n = i := by
  rw [Nat.add_assoc, Nat.add_sub_cancel_left, Nat.add_comm, Nat.add_mul_div_right _ _ (Nat.zero_lt_of_lt hs),
    Nat.div_eq_of_lt hs, Nat.zero_add]

theorem row_lt {n a b s : Int} (hab : a < b) (hs0 : 0 ≤ s) (hs : s < n) : a * n + s < b * n := by
  have h1 : (a + 1) * n ≤ b * n := Int.mul_le_mul_of_nonneg_right (by omega) (by omega)
  rw [Int.add_mul, Int.one_mul] at h1
  omega

theorem row_ediv {n a s : Int} (hs0 : 0 ≤ s) (hs : s < n) : (a * n + s) / n = a := by
  rw [Int.add_comm, Int.add_mul_ediv_right _ _ (by omega), Int.ediv_eq_zero_of_lt hs0 hs, Int.zero_add]

theorem row_emod {n a s : Int} (hs0 : 0 ≤ s) (hs : s < n) : (a * n + s) % n = s := by
  rw [Int.add_comm, Int.add_mul_emod_self_right, Int.emod_eq_of_lt hs0 hs]

theorem row_ne {n a b s s' : Int} (hab : a ≠ b) (hs0 : 0 ≤ s) (hs : s < n) (hs0' : 0 ≤ s') (hs' : s' < n) :
    a * n + s ≠ b * n + s' :=
  fun e => hab (by rw [← row_ediv (a := a) hs0 hs, e, row_ediv hs0' hs'])

theorem row_nonneg {n a s : Int} (ha : 0 ≤ a) (hs0 : 0 ≤ s) (hs : s < n) : 0 ≤ a * n + s :=
  Int.add_nonneg (Int.mul_nonneg ha (by omega)) hs0

section
variable {α β γ : Type}

/-! ### rows of one width in a flat list -/

theorem length_flatten_rect {w : Nat} {rows : List (List α)} (h : ∀ r ∈ rows, r.length = w) :
    rows.flatten.length = rows.length * w := by
  rw [List.length_flatten, List.map_eq_replicate_iff.mpr h, List.sum_replicate_nat]

theorem take_drop_flatten {w : Nat} : ∀ {rows : List (List α)}, (∀ r ∈ rows, r.length = w) →
    ∀ (i : Nat) (hi : i < rows.length), (rows.flatten.drop (i * w)).take w = rows[i]
  | [], _, _, hi => nomatch hi
  | r :: _, h, 0, _ => by
    rw [List.flatten_cons, Nat.zero_mul, List.drop_zero, List.getElem_cons_zero]
    exact List.take_left' (h r List.mem_cons_self)
  | r :: rs, h, i + 1, hi => by
    have e : (i + 1) * w = r.length + i * w := by rw [Nat.succ_mul, h r List.mem_cons_self, Nat.add_comm]
    rw [List.flatten_cons, e, List.drop_length_add_append, List.getElem_cons_succ,
      take_drop_flatten (fun x hx => h x (List.mem_cons_of_mem _ hx)) i (Nat.lt_of_succ_lt_succ hi)]

theorem rows_of_flatten {γ : Type} (T : Nat) (outs : List (List α)) (hrect : ∀ o ∈ outs, o.length = T)
    (f : List α → γ) :
    (List.range outs.length).map (fun i => f ((outs.flatten.drop (i * T)).take T)) = outs.map f := by
  apply List.ext_getElem (by rw [List.length_map, List.length_map, List.length_range])
  intro i _ hi
  rw [List.length_map] at hi
  rw [List.getElem_map, List.getElem_map, List.getElem_range, take_drop_flatten hrect i hi]

/-! ### lists alone -/

theorem map_range_window (s : List β) (d : β) (f : β → γ) (base n : Nat) (hfit : base + n ≤ s.length) :
    (List.range n).map (fun i => f (s.getD (base + i) d)) = ((s.drop base).take n).map f := by
  apply List.ext_getElem?
  intro i
  by_cases hi : i < n
  · have : base + i < s.length := by omega
    simp [hi, List.getElem?_drop, this]
  · simp [hi, List.getElem?_take]

theorem set_append_replicate (pre : List β) (k : Nat) (z x : β) :
    (pre ++ List.replicate (k + 1) z).set pre.length x = (pre ++ [x]) ++ List.replicate k z := by
  rw [List.set_append_right _ _ (Nat.le_refl _), Nat.sub_self, List.replicate_succ, List.set_cons_zero,
    List.append_assoc]
  rfl

theorem lt_length_of_getElem? {β : Type} {l : List β} {i : Nat} {x : β} (h : l[i]? = some x) : i < l.length :=
  match List.getElem?_eq_some_iff.mp h with
  | ⟨hlt, _⟩ => hlt

end
end OW
