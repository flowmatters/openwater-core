import OW.Util.Dates
/-! Integer facts under the calendar model `OW/Util/Dates.lean`, read by its property theorems (`OW/Props/C19.lean`) and by the two ties of
dates.go (`OW/Props/GenTieDates.lean`, `OW/Props/GenTieIndex.lean`). Core Lean only. -/
namespace OW.Dates

/-- Go's `%` (`Int.tmod`) and `%` of Lean agree on "divisible": the leap-year tests become facts `omega` can combine -/
theorem tmod_zero_iff (y k : Int) : y.tmod k = 0 ↔ y % k = 0 := by
  rw [← Int.dvd_iff_tmod_eq_zero, Int.dvd_iff_emod_eq_zero]

end OW.Dates
