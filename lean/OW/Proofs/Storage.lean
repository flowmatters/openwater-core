import OW.Proofs.StorageScanM
import OW.Proofs.RealNum
/-!
Helper lemmas for C13 (reservoir storage) over OW/Kernels/Storage.lean at `α := ℝ`, level by level of the program: the table reads and
the release rule, the trial loop, the spill block, the body and the loop `for timeRemaining > 0`, the timestep. Each level is used
through what one iteration or one call does — an equation or a case list (`trial_succ_cases`, `outerBody_ok`, `outer_succ`,
`step_eq`), beside it the forward form in which a concrete run is evaluated — never by unfolding a loop; a `do` block is taken apart
with `Except.bind_eq_ok` / `bind_eq_error`. What an accepted trial and a pass of the loop satisfy is `TrialSpec` / `BodySpec`, with
`outer_inv` the invariant principle over passes. The last part is termination: nothing ends in `.error "fuel"`, given enough fuel.
The whole-run readings and the no-panic half are in StorageScanM.lean and StorageNoPanic.lean.
-/
namespace OW.Proofs.Storage
open OW OW.Kernels.Storage

theorem minStepNeg_eq : (minStepNeg : ℝ) = 6 := RealNum.ofNat_lit 6

theorem minStepPos_eq : (minStepPos : ℝ) = 60 := RealNum.ofNat_lit 60

theorem releaseRate_of_capped {t : Tables ℝ} {d v m M : ℝ}
    (hm : cappedPiecewise t v t.minRelease = .ok m) (hM : cappedPiecewise t v t.maxRelease = .ok M) :
    releaseRate t d v = .ok (if d < m then m else if M < d then M else d) := by
  unfold releaseRate
  simp only [hm, hM, bind, Except.bind, pure, Except.pure]
  split_ifs <;> rfl

theorem releaseRate_between (t : Tables ℝ) (d v q m M : ℝ)
    (hm : cappedPiecewise t v t.minRelease = .ok m) (hM : cappedPiecewise t v t.maxRelease = .ok M)
    (hmM : m ≤ M) (hq : releaseRate t d v = .ok q) :
    m ≤ q ∧ q ≤ M ∧ (m ≤ d → d ≤ M → q = d) := by
  rw [releaseRate_of_capped hm hM] at hq
  split_ifs at hq with h1 h2
  · cases hq; exact ⟨le_refl _, hmM, fun h _ => absurd h1 (not_lt.mpr h)⟩
  · cases hq; exact ⟨hmM, le_refl _, fun _ h => absurd h2 (not_lt.mpr h)⟩
  · cases hq; exact ⟨not_lt.mp h1, not_lt.mp h2, fun _ _ => rfl⟩

theorem capped_below (t : Tables ℝ) (v : ℝ) (ys : List ℝ) (h : v < t.volCurveMin) :
    cappedPiecewise t v ys = getAt ys 0 := by
  unfold cappedPiecewise
  rw [if_pos h]

theorem capped_above (t : Tables ℝ) (v : ℝ) (ys : List ℝ) (h0 : ¬ v < t.volCurveMin) (h : t.volCurveMax < v) :
    cappedPiecewise t v ys = getAt ys (t.volumes.length - 1) := by
  unfold cappedPiecewise
  rw [if_neg h0, if_pos h]

/-- What an accepted trial of the sub-step search satisfies, whichever exit accepted it. `sub0` is the length the search starts
from; every halving stops at the 6 s floor, so the accepted length is at least `min sub0 6` (`sub_ge`): each sub-step uses up
6 s of the timestep or all that is left, which is what bounds the number of sub-steps and of halvings. -/
structure TrialSpec (t : Tables ℝ) (inflow demand netFlux volume est sub0 : ℝ) (a : Accepted ℝ) : Prop where
  sub_le : a.sub ≤ sub0
  sub_ge : min sub0 6 ≤ a.sub
  est_eq : a.estOutflow = est
  after : releaseRate t demand a.trialVol = .ok a.estOutflowAfter
  avg : a.avgOutflow = (a.estOutflowAfter + a.estOutflow) / 2
  /-- the volume at which the second release evaluation is made: the start volume advanced with the release `est` of the
  START volume (not with the accepted average release): a trial volume, not one the reservoir holds -/
  trialVol_eq : a.trialVol = volume + ((inflow - est) + netFlux * a.avgArea) * a.sub
  testVol_eq : a.testVol = volume + ((inflow - a.avgOutflow) + netFlux * a.avgArea) * a.sub
  testVol_nonneg : 0 ≤ a.testVol

theorem halve_le {sub : ℝ} (h : 6 ≤ sub) : max (sub * 0.5) 6 ≤ sub :=
  max_le (by linarith) h

theorem halve_le_pow {sub sub' : ℝ} {n : Nat} (h6 : 6 < sub) (hs : sub ≤ 6 * 2 ^ n) (h : sub' ≤ max (sub * 0.5) 6) :
    ∃ m, n = m + 1 ∧ sub' ≤ 6 * 2 ^ m := by
  cases n with
  | zero => rw [pow_zero, mul_one] at hs; linarith
  | succ m =>
    refine ⟨m, rfl, h.trans (max_le ?_ ?_)⟩
    · rw [pow_succ] at hs; linarith
    · linarith [one_le_pow₀ (M₀ := ℝ) (n := m) one_le_two]

/-- the form in which concrete runs are evaluated -/
theorem trial_of_nonneg {t : Tables ℝ} {inflow demand netFlux volume est area sub avgArea after : ℝ} (fuel : Nat)
    (tags : List String) (h1 : ¬ volume + (inflow - est + netFlux * area) * sub < 0)
    (hA : cappedPiecewise t ((volume + (inflow - est + netFlux * area) * sub + volume) / 2) t.areas = .ok avgArea)
    (hR : releaseRate t demand (volume + (inflow - est + netFlux * avgArea) * sub) = .ok after)
    (h3 : 0 ≤ volume + (inflow - (after + est) / 2 + netFlux * avgArea) * sub) :
    trial t inflow demand netFlux volume est area (fuel + 1) sub tags =
      if releaseRatesCloseEnough est ((after + est) / 2) = true then
        .ok ⟨sub, (after + est) / 2, avgArea, est, after, volume + (inflow - est + netFlux * avgArea) * sub,
          volume + (inflow - (after + est) / 2 + netFlux * avgArea) * sub, tag tags "accept"⟩
      else if sub ≤ 60 then
        .ok ⟨sub, (after + est) / 2, avgArea, est, after, volume + (inflow - est + netFlux * avgArea) * sub,
          volume + (inflow - (after + est) / 2 + netFlux * avgArea) * sub, tag tags "floor"⟩
      else trial t inflow demand netFlux volume est area fuel (max (sub * 0.5) 6) (tag tags "halve") := by
  simp only [trial, minStepNeg_eq, minStepPos_eq, RealNum.gmax_eq, RealNum.lit0, RealNum.ofNat_lit 2]
  rw [if_neg h1, hA]
  simp only [bind, Except.bind]
  rw [hR]
  simp only [if_pos h3, pure, Except.pure]

theorem trial_succ_cases (t : Tables ℝ) (inflow demand netFlux volume est area : ℝ) (fuel : Nat) (sub : ℝ)
    (tags : List String) :
    (sub ≤ 6 ∧ trial t inflow demand netFlux volume est area (fuel + 1) sub tags = .error "other" ∧
      (volume + (inflow - est + netFlux * area) * sub < 0 ∨ ∃ avgArea after,
        cappedPiecewise t ((volume + (inflow - est + netFlux * area) * sub + volume) / 2) t.areas = .ok avgArea ∧
        releaseRate t demand (volume + (inflow - est + netFlux * avgArea) * sub) = .ok after ∧
        ¬ 0 ≤ volume + (inflow - (after + est) / 2 + netFlux * avgArea) * sub)) ∨
    (¬ volume + (inflow - est + netFlux * area) * sub < 0 ∧
      ∃ e, trial t inflow demand netFlux volume est area (fuel + 1) sub tags = .error e ∧
        (cappedPiecewise t ((volume + (inflow - est + netFlux * area) * sub + volume) / 2) t.areas = .error e ∨
          ∃ avgArea, releaseRate t demand (volume + (inflow - est + netFlux * avgArea) * sub) = .error e)) ∨
    (¬ volume + (inflow - est + netFlux * area) * sub < 0 ∧
      ∃ a, trial t inflow demand netFlux volume est area (fuel + 1) sub tags = .ok a ∧
        TrialSpec t inflow demand netFlux volume est sub a) ∨
    (6 < sub ∧ ∃ sub' tags', trial t inflow demand netFlux volume est area (fuel + 1) sub tags =
        trial t inflow demand netFlux volume est area fuel sub' tags' ∧ 6 ≤ sub' ∧ sub' ≤ max (sub * 0.5) 6) := by
  generalize hr : trial t inflow demand netFlux volume est area (fuel + 1) sub tags = r
  simp only [trial, minStepNeg_eq, minStepPos_eq, RealNum.gmax_eq, RealNum.lit0, RealNum.ofNat_lit 2] at hr
  by_cases h1 : volume + (inflow - est + netFlux * area) * sub < 0
  · rw [if_pos h1] at hr
    by_cases h2 : sub ≤ 6
    · rw [if_pos h2] at hr
      exact Or.inl ⟨h2, hr.symm, Or.inl h1⟩
    · rw [if_neg h2] at hr
      exact Or.inr (Or.inr (Or.inr ⟨not_le.mp h2, _, _, hr.symm, le_max_right _ _, halve_le (le_max_right _ _)⟩))
  · rw [if_neg h1] at hr
    cases hA : cappedPiecewise t ((volume + (inflow - est + netFlux * area) * sub + volume) / 2) t.areas with
    | error e => rw [hA] at hr; exact Or.inr (Or.inl ⟨h1, e, hr.symm, Or.inl rfl⟩)
    | ok avgArea =>
      rw [hA] at hr
      simp only [bind, Except.bind] at hr
      cases hR : releaseRate t demand (volume + (inflow - est + netFlux * avgArea) * sub) with
      | error e => rw [hR] at hr; exact Or.inr (Or.inl ⟨h1, e, hr.symm, Or.inr ⟨avgArea, hR⟩⟩)
      | ok after =>
        rw [hR] at hr
        simp only at hr
        by_cases h3 : 0 ≤ volume + (inflow - (after + est) / 2 + netFlux * avgArea) * sub
        · rw [if_pos h3] at hr
          by_cases h4 : releaseRatesCloseEnough est ((after + est) / 2) = true
          · rw [if_pos h4] at hr; exact Or.inr (Or.inr (Or.inl ⟨h1, _, hr.symm, le_refl _, min_le_left _ _, rfl, hR, rfl, rfl, rfl, h3⟩))
          · rw [if_neg h4] at hr
            by_cases h5 : sub ≤ 60
            · rw [if_pos h5] at hr; exact Or.inr (Or.inr (Or.inl ⟨h1, _, hr.symm, le_refl _, min_le_left _ _, rfl, hR, rfl, rfl, rfl, h3⟩))
            · rw [if_neg h5] at hr; exact Or.inr (Or.inr (Or.inr ⟨by linarith, _, _, hr.symm, le_max_right _ _, le_refl _⟩))
        · rw [if_neg h3] at hr
          by_cases h6 : sub ≤ 6
          · rw [if_pos h6] at hr
            exact Or.inl ⟨h6, hr.symm, Or.inr ⟨avgArea, after, rfl, hR, h3⟩⟩
          · rw [if_neg h6] at hr; exact Or.inr (Or.inr (Or.inr ⟨not_le.mp h6, _, _, hr.symm, le_max_right _ _, le_refl _⟩))

theorem trial_spec (t : Tables ℝ) (inflow demand netFlux volume est area : ℝ) :
    ∀ (fuel : Nat) (sub : ℝ) (tags : List String) (a : Accepted ℝ),
      trial t inflow demand netFlux volume est area fuel sub tags = .ok a →
      TrialSpec t inflow demand netFlux volume est sub a := by
  intro fuel
  induction fuel with
  | zero => intro sub tags a h; cases h
  | succ n ih =>
    intro sub tags a h
    rcases trial_succ_cases t inflow demand netFlux volume est area n sub tags with
      ⟨-, h', -⟩ | ⟨-, e, h', -⟩ | ⟨-, a', h', s⟩ | ⟨h6, sub', tags', h', h1, h2⟩
    · rw [h'] at h; cases h
    · rw [h'] at h; cases h
    · rw [h'] at h; cases h; exact s
    · rw [h'] at h
      have s := ih _ _ _ h
      have hle : sub' ≤ sub := h2.trans (halve_le h6.le)
      refine ⟨s.sub_le.trans hle, ?_, s.est_eq, s.after, s.avg, s.trialVol_eq, s.testVol_eq, s.testVol_nonneg⟩
      rw [min_eq_right h6.le]
      exact (le_min h1 le_rfl).trans s.sub_ge

theorem spill_spec (t : Tables ℝ) (v q sub : ℝ) :
    0 ≤ (spill t v q sub).1 ∧ (spill t v q sub).2.1 = v - (spill t v q sub).1 ∧
    ((spill t v q sub).1 ≠ 0 → t.volCurveMax < v) ∧
    (t.volCurveMax < v → (spill t v q sub).1 ≤ v - t.volCurveMax) := by
  unfold spill
  simp only [RealNum.gmax_eq, RealNum.gmin_eq, RealNum.zero_eq, RealNum.lit0, RealNum.ofNat_lit 2]
  split_ifs with h
  · refine ⟨le_max_right _ _, rfl, fun _ => h, fun _ => ?_⟩
    apply max_le
    · exact min_le_right _ _
    · linarith
  · exact ⟨le_refl _, by simp, fun h0 => absurd rfl h0, fun h' => absurd h' h⟩

theorem spill_volume_nonneg (t : Tables ℝ) (v q sub : ℝ) (hfull : 0 ≤ t.volCurveMax) (hv : 0 ≤ v) :
    0 ≤ (spill t v q sub).2.1 := by
  obtain ⟨-, p2, p3, p4⟩ := spill_spec t v q sub
  rw [p2]
  by_cases hc : t.volCurveMax < v
  · linarith [p4 hc]
  · rw [not_not.mp (mt p3 hc)]; linarith

theorem spill_le_rate (t : Tables ℝ) (v q sub : ℝ) (hsub : 0 ≤ sub) (hS : 0 ≤ t.maxSpill) :
    (spill t v q sub).1 ≤ max (2 * t.maxSpill - q) 0 * sub := by
  unfold spill
  simp only [RealNum.gmax_eq, RealNum.gmin_eq, RealNum.zero_eq, RealNum.lit0, RealNum.ofNat_lit 2]
  split_ifs with h
  · apply max_le
    · refine le_trans (min_le_left _ _) ?_
      apply mul_le_mul_of_nonneg_right _ hsub
      apply max_le_max _ (le_refl 0)
      have : min (v / t.volCurveMax) 2 * t.maxSpill ≤ 2 * t.maxSpill :=
        mul_le_mul_of_nonneg_right (min_le_right _ _) hS
      linarith
    · exact mul_nonneg (le_max_right _ _) hsub
  · exact mul_nonneg (le_max_right _ _) hsub

/-- the volume after the update of an accepted sub-step, before spilling -/
def updated (inflow netFlux : ℝ) (s : Loop ℝ) (a : Accepted ℝ) : ℝ :=
  s.volume + (inflow + netFlux * a.avgArea - a.avgOutflow) * a.sub

/-- one pass of the outer loop from `s` to `s'` with accepted trial `a` -/
structure BodySpec (t : Tables ℝ) (keep : Bool) (inflow demand rps pps netFlux : ℝ) (s s' : Loop ℝ)
    (a : Accepted ℝ) : Prop where
  est : releaseRate t demand s.volume = .ok a.estOutflow
  trial : TrialSpec t inflow demand netFlux s.volume a.estOutflow (min s.timeRemaining (s.subtimestep * 2)) a
  upd_nonneg : 0 ≤ updated inflow netFlux s a
  time : s'.timeRemaining = s.timeRemaining - a.sub
  sub : s'.subtimestep = a.sub
  vol : s'.volume = (spill t (updated inflow netFlux s a) a.avgOutflow a.sub).2.1
  out : s'.outflowVolume = s.outflowVolume + a.avgOutflow * a.sub + (spill t (updated inflow netFlux s a) a.avgOutflow a.sub).1
  rain : s'.rainfallVol = s.rainfallVol + rps * mmToM * a.avgArea * a.sub
  evap : s'.evaporationVol = s.evaporationVol + pps * mmToM * a.avgArea * a.sub
  trace : s'.trace = if keep then
      ⟨s.volume, a, updated inflow netFlux s a, (spill t (updated inflow netFlux s a) a.avgOutflow a.sub).1,
        (spill t (updated inflow netFlux s a) a.avgOutflow a.sub).2.1⟩ :: s.trace else s.trace

theorem outerBody_ok {t : Tables ℝ} {keep : Bool} {fi : Nat} {inflow demand rps pps netFlux : ℝ} {s s' : Loop ℝ}
    (h : outerBody t keep fi inflow demand rps pps netFlux s = .ok s') :
    ∃ a, BodySpec t keep inflow demand rps pps netFlux s s' a := by
  simp only [outerBody, RealNum.gmin_eq, RealNum.lit0, RealNum.ofNat_lit 2, Except.bind_eq_ok] at h
  obtain ⟨est, hE, area, hA, a, hT, h⟩ := h
  have ts := trial_spec _ _ _ _ _ _ _ _ _ _ _ hT
  obtain ⟨hv, h⟩ := Except.ite_error_eq_ok.mp h
  cases h
  have e : a.estOutflow = est := ts.est_eq
  exact ⟨a, by rw [e]; exact hE, by rw [e]; exact ts, not_lt.mp hv, rfl, rfl, rfl, rfl, rfl, rfl, rfl⟩

/-- the form in which concrete runs are evaluated -/
theorem outerBody_of {t : Tables ℝ} {keep : Bool} {fi : Nat} {inflow demand rps pps netFlux : ℝ} {s : Loop ℝ}
    {est area sub0 u ex v' : ℝ} {sp : Bool} {a : Accepted ℝ}
    (hE : releaseRate t demand s.volume = .ok est) (hA : cappedPiecewise t s.volume t.areas = .ok area)
    (h0 : min s.timeRemaining (s.subtimestep * 2) = sub0)
    (hT : trial t inflow demand netFlux s.volume est area fi sub0 s.tags = .ok a)
    (hu : s.volume + (inflow + netFlux * a.avgArea - a.avgOutflow) * a.sub = u) (hU : ¬ u < 0)
    (hS : spill t u a.avgOutflow a.sub = (ex, v', sp)) :
    outerBody t keep fi inflow demand rps pps netFlux s = .ok
      { timeRemaining := s.timeRemaining - a.sub, subtimestep := a.sub, volume := v',
        outflowVolume := s.outflowVolume + a.avgOutflow * a.sub + ex,
        rainfallVol := s.rainfallVol + rps * mmToM * a.avgArea * a.sub,
        evaporationVol := s.evaporationVol + pps * mmToM * a.avgArea * a.sub,
        tags := if sp then tag a.tags "spill" else a.tags,
        trace := if keep then ⟨s.volume, a, u, ex, v'⟩ :: s.trace else s.trace } := by
  simp only [outerBody, RealNum.gmin_eq, RealNum.ofNat_lit 2, RealNum.lit0, bind, Except.bind, hE, hA, h0, hT, hu, if_neg hU, hS]
  rfl

theorem outer_pass {t : Tables ℝ} {keep : Bool} {fi fo : Nat} {inflow demand rps pps netFlux : ℝ} {s s' : Loop ℝ}
    (hpos : 0 < s.timeRemaining) (hB : outerBody t keep fi inflow demand rps pps netFlux s = .ok s') :
    outer t keep fi inflow demand rps pps netFlux (fo + 1) s = outer t keep fi inflow demand rps pps netFlux fo s' := by
  rw [outer_succ, RealNum.lit0, if_pos hpos, hB]
  rfl

theorem outer_done {t : Tables ℝ} {keep : Bool} {fi fo : Nat} {inflow demand rps pps netFlux : ℝ} {s : Loop ℝ}
    (h : ¬ 0 < s.timeRemaining) : outer t keep fi inflow demand rps pps netFlux (fo + 1) s = .ok s := by
  rw [outer_succ, RealNum.lit0, if_neg h]

theorem outer_inv (t : Tables ℝ) (keep : Bool) (fi : Nat) (inflow demand rps pps netFlux : ℝ) (P : Loop ℝ → Prop)
    (hP : ∀ s s' a, 0 < s.timeRemaining → P s → BodySpec t keep inflow demand rps pps netFlux s s' a → P s') :
    ∀ (fo : Nat) (s r : Loop ℝ), outer t keep fi inflow demand rps pps netFlux fo s = .ok r → P s →
      P r ∧ ¬ (0 < r.timeRemaining) := by
  simpa only [RealNum.lit0] using outer_keeps (t := t) (keep := keep) (fi := fi) (inflow := inflow) (demand := demand)
    (rps := rps) (pps := pps) (netFlux := netFlux) (P := P) fun s s' ht hs hB =>
      (outerBody_ok hB).elim fun a spec => hP s s' a (RealNum.lit0 ▸ ht) hs spec

/-- initial locals of the sub-step loop -/
def loop0 (deltaT volume : ℝ) (tags : List String) : Loop ℝ :=
  { timeRemaining := deltaT, subtimestep := deltaT, volume := volume, outflowVolume := 0,
    rainfallVol := 0, evaporationVol := 0, tags := tags, trace := [] }

/-- A timestep is its sub-step loop run from `loop0` at the per-second rates, and a report of the state the loop ends in.
`step_ok`, `step_error` and `step_of` read this equation for a timestep that returned, one that failed, and a loop that returned. -/
theorem step_eq (t : Tables ℝ) (keep : Bool) (fo fi : Nat) (deltaT volume : ℝ) (tags : List String)
    (rainfall pet inflow demand : ℝ) :
    step t keep fo fi deltaT volume tags (rainfall, pet, inflow, demand) =
      outer t keep fi inflow demand (rainfall / deltaT) (pet / deltaT) ((rainfall / deltaT - pet / deltaT) * mmToM) fo
        (loop0 deltaT volume tags) >>= fun r => pure (r.volume, r.tags,
          ⟨r.volume, r.outflowVolume / deltaT, r.rainfallVol / deltaT, r.evaporationVol / deltaT, r.trace.reverse⟩) := by
  simp only [step, loop0, RealNum.lit0]

theorem step_ok {t : Tables ℝ} {keep : Bool} {fo fi : Nat} {deltaT volume : ℝ} {tags : List String}
    {rainfall pet inflow demand : ℝ} {v' : ℝ} {tags' : List String} {o : StepOut ℝ}
    (h : step t keep fo fi deltaT volume tags (rainfall, pet, inflow, demand) = .ok (v', tags', o)) :
    ∃ r, outer t keep fi inflow demand (rainfall / deltaT) (pet / deltaT)
          ((rainfall / deltaT - pet / deltaT) * mmToM) fo (loop0 deltaT volume tags) = .ok r ∧
      v' = r.volume ∧ tags' = r.tags ∧
      o = ⟨r.volume, r.outflowVolume / deltaT, r.rainfallVol / deltaT, r.evaporationVol / deltaT, r.trace.reverse⟩ := by
  obtain ⟨r, hO, h⟩ := Except.bind_eq_ok.mp (step_eq .. ▸ h)
  cases h
  exact ⟨r, hO, rfl, rfl, rfl⟩

theorem step_volume_eq {t : Tables ℝ} {keep : Bool} {fo fi : Nat} {deltaT v : ℝ} {tags : List String} {i : StepIn ℝ}
    {v' : ℝ} {tags' : List String} {o : StepOut ℝ} (h : step t keep fo fi deltaT v tags i = .ok (v', tags', o)) :
    v' = o.volume := by
  obtain ⟨rainfall, pet, inflow, demand⟩ := i
  obtain ⟨r, -, rfl, -, rfl⟩ := step_ok h
  rfl

theorem step_error {t : Tables ℝ} {keep : Bool} {fo fi : Nat} {deltaT v : ℝ} {tags : List String}
    {rainfall pet inflow demand : ℝ} {e : String}
    (h : step t keep fo fi deltaT v tags (rainfall, pet, inflow, demand) = .error e) :
    outer t keep fi inflow demand (rainfall / deltaT) (pet / deltaT) ((rainfall / deltaT - pet / deltaT) * mmToM) fo
      (loop0 deltaT v tags) = .error e := by
  obtain h | ⟨r, -, h⟩ := Except.bind_eq_error.mp (step_eq .. ▸ h)
  · exact h
  · cases h

/-- the three rates are variables so that a concrete run states its loop at their values -/
theorem step_of {t : Tables ℝ} {keep : Bool} {fo fi : Nat} {deltaT volume rainfall pet inflow demand rps pps netFlux : ℝ}
    {tags : List String} {r : Loop ℝ} (hr : rainfall / deltaT = rps) (hp : pet / deltaT = pps)
    (hn : (rps - pps) * mmToM = netFlux)
    (hO : outer t keep fi inflow demand rps pps netFlux fo (loop0 deltaT volume tags) = .ok r) :
    step t keep fo fi deltaT volume tags (rainfall, pet, inflow, demand) = .ok (r.volume, r.tags,
      ⟨r.volume, r.outflowVolume / deltaT, r.rainfallVol / deltaT, r.evaporationVol / deltaT, r.trace.reverse⟩) := by
  subst hr hp hn
  rw [step_eq, hO]
  rfl

theorem piecewise_panic (x : ℝ) (xs ys : List ℝ) (e : String) (h : Fn.piecewise x xs ys = .panic e) :
    e = "index-out-of-range" := by
  unfold Fn.piecewise at h
  cases xs with
  | nil => simp [Fn.brackets] at h; exact h.symm
  | cons x0 rest =>
    simp only [Fn.brackets] at h
    split at h
    next e' heq => split_ifs at heq
    next heq => cases h
    next i j heq =>
      split at h
      next => split_ifs at h
      next => simp only [Fn.PwRes.panic.injEq] at h; exact h.symm

theorem getAt_ne_fuel (ys : List ℝ) (i : Nat) : getAt ys i ≠ .error "fuel" := by
  unfold getAt
  split
  · intro h; cases h
  · intro h; simp only [Except.error.injEq] at h; exact absurd h (by decide)

theorem capped_ne_fuel (t : Tables ℝ) (v : ℝ) (ys : List ℝ) : cappedPiecewise t v ys ≠ .error "fuel" := by
  unfold cappedPiecewise
  split_ifs
  · exact getAt_ne_fuel _ _
  · exact getAt_ne_fuel _ _
  · cases hp : Fn.piecewise v t.volumes ys with
    | val y => intro h; cases h
    | err => intro h; simp only [Except.error.injEq] at h; exact absurd h (by decide)
    | panic e =>
      have := piecewise_panic _ _ _ _ hp
      subst this
      intro h; simp only [Except.error.injEq] at h; exact absurd h (by decide)

theorem releaseRate_ne_fuel (t : Tables ℝ) (d v : ℝ) : releaseRate t d v ≠ .error "fuel" := by
  unfold releaseRate
  simp only [bind, Except.bind, pure, Except.pure]
  cases h1 : cappedPiecewise t v t.minRelease with
  | error e => simp only; intro h; cases h; exact capped_ne_fuel t v t.minRelease h1
  | ok m =>
    simp only
    split_ifs
    · intro h; cases h
    · cases h2 : cappedPiecewise t v t.maxRelease with
      | error e => simp only; intro h; cases h; exact capped_ne_fuel t v t.maxRelease h2
      | ok M => simp only; split_ifs <;> (intro h; cases h)

/-- every retry at least halves the sub-step down to the 6 s floor, and at the floor the loop either accepts or panics -/
theorem trial_ne_fuel (t : Tables ℝ) (inflow demand netFlux volume est area : ℝ) :
    ∀ (n fuel : Nat) (sub : ℝ) (tags : List String), sub ≤ 6 * 2 ^ n → n + 1 ≤ fuel →
      trial t inflow demand netFlux volume est area fuel sub tags ≠ .error "fuel" := by
  intro n fuel
  induction fuel generalizing n with
  | zero => intro sub tags _ hf; omega
  | succ f ih =>
    intro sub tags hs hf
    rcases trial_succ_cases t inflow demand netFlux volume est area f sub tags with
      ⟨-, h', -⟩ | ⟨-, e, h', he⟩ | ⟨-, a, h', -⟩ | ⟨h6, sub', tags', h', -, h2⟩
    · rw [h']; exact fun h => absurd (Except.error.inj h) (by decide)
    · rw [h']
      intro h
      cases h
      rcases he with hA | ⟨avgArea, hR⟩
      · exact capped_ne_fuel _ _ _ hA
      · exact releaseRate_ne_fuel _ _ _ hR
    · rw [h']; intro h; cases h
    · obtain ⟨m, rfl, hm⟩ := halve_le_pow h6 hs h2
      rw [h']
      exact ih m _ _ hm (by omega)

theorem outerBody_ne_fuel (t : Tables ℝ) (keep : Bool) (fi : Nat) (inflow demand rps pps netFlux : ℝ) (s : Loop ℝ)
    (hT : ∀ est area, trial t inflow demand netFlux s.volume est area fi (min s.timeRemaining (s.subtimestep * 2)) s.tags
      ≠ .error "fuel") :
    outerBody t keep fi inflow demand rps pps netFlux s ≠ .error "fuel" := by
  intro h
  simp only [outerBody, RealNum.gmin_eq, RealNum.lit0, RealNum.ofNat_lit 2, Except.bind_eq_error] at h
  rcases h with h | ⟨est, -, h | ⟨area, -, h | ⟨a, -, h⟩⟩⟩
  · exact releaseRate_ne_fuel _ _ _ h
  · exact capped_ne_fuel _ _ _ h
  · exact hT est area h
  · by_cases hv : s.volume + (inflow + netFlux * a.avgArea - a.avgOutflow) * a.sub < 0
    · rw [if_pos hv] at h; simp only [Except.error.injEq] at h; exact absurd h (by decide)
    · rw [if_neg hv] at h; cases h

/-- `T` remaining time, `S` carried sub-step, `u` accepted sub-step: `u` is at least `min T 6`, hence the three facts -/
theorem carry_step {T S u : ℝ} (ht : 0 < T) (hC : T ≤ S * 2 ∨ 3 ≤ S) (hlo : min (min T (S * 2)) 6 ≤ u) :
    0 < u ∧ (T - u ≤ u * 2 ∨ 3 ≤ u) ∧ ∀ k : ℝ, 0 ≤ k → T ≤ 6 * (k + 1) → T - u ≤ 6 * k := by
  have hlow : min T 6 ≤ u := by
    refine le_trans (le_min ?_ (min_le_right _ _)) hlo
    rcases hC with c | c
    · rw [min_eq_left c]; exact min_le_left _ _
    · exact le_min (min_le_left _ _) ((min_le_right _ _).trans (by linarith))
  rcases le_total T 6 with c | c
  · rw [min_eq_left c] at hlow
    exact ⟨ht.trans_le hlow, Or.inl (by linarith), fun k hk _ => by linarith⟩
  · rw [min_eq_right c] at hlow
    exact ⟨by linarith, Or.inr (by linarith), fun k _ hT => by linarith⟩

/-- Every accepted sub-step is at least `min timeRemaining 6` long, so each pass pays for one unit of the fuel (`timeRemaining ≤ 6·f`).
The invariant: the sub-step carried into the next iteration already covers the remaining time, or is at least 3 s (so that doubling it
reaches the 6 s floor). -/
theorem outer_ne_fuel (t : Tables ℝ) (keep : Bool) (fi n : Nat) (inflow demand rps pps netFlux : ℝ) (hfi : n + 1 ≤ fi) :
    ∀ (f : Nat) (s : Loop ℝ), (0 < s.timeRemaining → s.timeRemaining ≤ s.subtimestep * 2 ∨ 3 ≤ s.subtimestep) →
      s.timeRemaining ≤ 6 * f → s.timeRemaining ≤ 6 * 2 ^ n →
      outer t keep fi inflow demand rps pps netFlux (f + 1) s ≠ .error "fuel" := by
  intro f
  induction f with
  | zero =>
    intro s _ hk _
    rw [outer_succ, RealNum.lit0, if_neg (by rw [Nat.cast_zero] at hk; linarith)]
    intro h; cases h
  | succ f ih =>
    intro s hC hk hn
    rw [outer_succ, RealNum.lit0]
    by_cases ht : 0 < s.timeRemaining
    · rw [if_pos ht]
      intro h
      rcases Except.bind_eq_error.mp h with hB | ⟨s', hB, h⟩
      · exact outerBody_ne_fuel t keep fi inflow demand rps pps netFlux s (fun est area =>
          trial_ne_fuel _ _ _ _ _ _ _ n fi _ _ (le_trans (min_le_left _ _) hn) hfi) hB
      · obtain ⟨a, b⟩ := outerBody_ok hB
        obtain ⟨hpos, hcarry, hdrop⟩ := carry_step ht (hC ht) b.trial.sub_ge
        refine ih s' (fun _ => ?_) ?_ ?_ h
        · rw [b.time, b.sub]
          exact hcarry
        · rw [b.time]
          exact hdrop f (Nat.cast_nonneg f) (by push_cast at hk; exact hk)
        · rw [b.time]
          linarith
    · rw [if_neg ht]; intro h; cases h

end OW.Proofs.Storage
