import OW.Proofs.NdContig
import OW.Proofs.NdCells
/-!
The vocabulary of the bulk operations.

Reference ("element by element, row-major") semantics: `rowMajor dims` — the multi-indices `unravel 0 dims, unravel 1 dims, …`;
`getAll h a idxs` — sequential `Get`; `foldIdx body idxs s` — sequential loop; `setAll h a idxs xs` — sequential `Set`. On a
contiguous array the element of row-major rank `k` is the cell `(base + start) + k`.

A write: the sequential `Set` through one array is a list of cell updates of one storage (`writeList` of `seqWrites`, `setAll_eq`).
`Wrote h h' a T` says what a write does in terms of cells — which hold what afterwards, all others unchanged — and `Wrote.visible`
turns that into what a `Get` through ANY view returns afterwards. `BulkWrite` is the form in which each bulk operation is shown to
be such a write; `BulkWrite.spec` is its element-wise meaning, the form C02 consumes. Addresses are the total function `addr`
(= `Index` on a `Geo` view). The congruence lemmas of the reference (`foldIdx_congr`, `getAll_rowMajor_congr`) serve the C03 layer.
-/
namespace OW.NdC02
open OW.Nd

section
variable {α : Type}

def rowMajorFrom (dims : Idx) (k n : Nat) : List Idx := (List.range' k n).map (fun (j : Nat) => unravel (j : Int) dims)

def rowMajor (dims : Idx) : List Idx := rowMajorFrom dims 0 (product dims).toNat

def getAll (h : Heap α) (a : Arr) : List Idx → R (List α)
  | [] => .ok []
  | i :: is => do let x ← Nd.get h a i; let r ← getAll h a is; pure (x :: r)

def setAll (h : Heap α) (a : Arr) : List Idx → List α → R (Heap α)
  | i :: is, x :: xs => do let h' ← set h a i x; setAll h' a is xs
  | _, _ => .ok h

theorem rowMajorFrom_zero (dims : Idx) (k : Nat) : rowMajorFrom dims k 0 = [] := rfl

end
end OW.NdC02

namespace OW.Nd
open OW.NdC02

section
variable {α : Type}

def foldIdx {σ : Type} (body : σ → Idx → R σ) : List Idx → σ → R σ
  | [], s => .ok s
  | i :: is, s => do let s' ← body s i; foldIdx body is s'

theorem foldIdx_congr {σ : Type} {body body' : σ → Idx → R σ} {P : Idx → Prop}
    (hb : ∀ s i, P i → body s i = body' s i) :
    ∀ (l : List Idx) (s : σ), (∀ i ∈ l, P i) → foldIdx body l s = foldIdx body' l s
  | [], _, _ => rfl
  | i :: is, s, hl => by
    simp only [foldIdx]
    rw [hb s i (hl i List.mem_cons_self)]
    exact bind_congr (fun s' => foldIdx_congr hb is s' (fun j hj => hl j (List.mem_cons_of_mem _ hj)))

theorem rowMajorFrom_succ (dims : Idx) (k n : Nat) :
    rowMajorFrom dims k (n + 1) = unravel (k : Int) dims :: rowMajorFrom dims (k + 1) n := by
  simp [rowMajorFrom, List.range'_succ]

theorem rowMajor_length (dims : Idx) : (rowMajor dims).length = (product dims).toNat := by
  simp [rowMajor, rowMajorFrom]

/-- the bound under which the lemmas about `rowMajorFrom dims k n` are stated, at `k = 0`, `n = Π dims` -/
theorem rowMajor_bound {dims : Idx} (hp : Pos dims) : ((0 + (product dims).toNat : Nat) : Int) ≤ product dims := by
  rw [Nat.zero_add, Int.toNat_of_nonneg (Int.le_trans (by decide) (product_pos hp))]

theorem rowMajor_getElem? {dims : Idx} {k : Nat} (hk : (k : Int) < product dims) :
    (rowMajor dims)[k]? = some (unravel (k : Int) dims) := by
  simp [rowMajor, rowMajorFrom, show k < (product dims).toNat by omega]

theorem rowMajor_inBounds {dims : Idx} (hp : Pos dims) : ∀ i ∈ rowMajor dims, InBounds i dims := by
  intro i hi
  simp only [rowMajor, rowMajorFrom, List.mem_map, List.mem_range'_1] at hi
  obtain ⟨j, ⟨_, h2⟩, rfl⟩ := hi
  exact unravel_inBounds _ _ hp (Int.natCast_nonneg j) (by omega)

theorem rowMajor_nodup {dims : Idx} (hne : dims ≠ []) : (rowMajor dims).Nodup := by
  refine List.Pairwise.map _ (fun x y hxy e => ?_) List.nodup_range'
  have := congrArg (fun i => ravel i dims) e
  simp only [Nd.ravel_unravel _ _ fun e => absurd e hne] at this
  omega

theorem forIdx_eq {σ : Type} {shape : Idx} (body : σ → Idx → R σ) :
    ∀ (n k : Nat) (idx : Idx) (s : σ), InBounds idx shape → ravel idx shape = (k : Int) →
      ((k + n : Nat) : Int) ≤ product shape →
      forIdx shape body n idx s = foldIdx body (rowMajorFrom shape k n) s := by
  intro n
  induction n with
  | zero => intro k idx s _ _ _; rfl
  | succ n ih =>
    intro k idx s hib hr hk
    rw [rowMajorFrom_succ]
    have e : unravel (k : Int) shape = idx := by rw [← hr]; exact unravel_ravel hib
    simp only [forIdx, foldIdx, e]
    refine bind_congr fun s' => ?_
    obtain ⟨idx', hinc, hib', hr'⟩ := increment_spec hib
    rw [hinc]
    cases n with
    | zero => rfl
    | succ n =>
      apply ih (k + 1) idx' s' hib'
      · rw [hr', hr, Int.emod_eq_of_lt (by omega) (by omega)]; omega
      · omega

theorem forIdx_rowMajor {σ : Type} {shape : Idx} (hp : Pos shape) (body : σ → Idx → R σ) (s : σ) :
    forIdx shape body (product shape).toNat (uniform shape.length 0) s = foldIdx body (rowMajor shape) s := by
  exact forIdx_eq body _ 0 _ s (inBounds_zeros hp) (by rw [ravel_zeros]; rfl) (rowMajor_bound hp)

theorem getAll_ok {h : Heap α} {a : Arr} (g : Geo a.v) (ok : ArrOK h a) :
    ∀ (l : List Idx), (∀ i ∈ l, InBounds i a.v.dims) → ∃ vals, getAll h a l = .ok vals
  | [], _ => ⟨[], rfl⟩
  | i :: is, hl => by
    obtain ⟨x, _, hx⟩ := get_addr g ok (hl i List.mem_cons_self)
    obtain ⟨vs, hv⟩ := getAll_ok g ok is (fun j hj => hl j (List.mem_cons_of_mem _ hj))
    exact ⟨x :: vs, by rw [getAll, hx, hv]; rfl⟩

theorem getAll_cons_ok {h : Heap α} {a : Arr} {i : Idx} {is : List Idx} {vals : List α}
    (e : getAll h a (i :: is) = .ok vals) :
    ∃ x r, vals = x :: r ∧ Nd.get h a i = .ok x ∧ getAll h a is = .ok r := by
  obtain ⟨x, hx, e⟩ := Except.bind_eq_ok.mp e
  obtain ⟨r, hr, e⟩ := Except.bind_eq_ok.mp e
  cases e
  exact ⟨x, r, rfl, hx, hr⟩

theorem getAll_eq_mapM (h : Heap α) (a : Arr) : ∀ l : List Idx, getAll h a l = l.mapM (Nd.get h a)
  | [] => rfl
  | i :: is => by rw [getAll, getAll_eq_mapM h a is, List.mapM_cons]

theorem getAll_length {h : Heap α} {a : Arr} {l : List Idx} {vals : List α} (e : getAll h a l = .ok vals) :
    vals.length = l.length :=
  (mapM_ok _ l vals (getAll_eq_mapM h a l ▸ e)).1

theorem getAll_getElem {h : Heap α} {a : Arr} {l : List Idx} {vals : List α} (e : getAll h a l = .ok vals)
    (j : Nat) (i : Idx) (hj : l[j]? = some i) : ∃ x, vals[j]? = some x ∧ get h a i = .ok x :=
  let ⟨x, h1, h2⟩ := (mapM_ok _ l vals (getAll_eq_mapM h a l ▸ e)).2 j i hj
  ⟨x, h2, h1⟩

theorem getAll_map {β : Type} {h : Heap α} {a : Arr} (f : β → Idx) (g : β → α) (l : List β)
    (hl : ∀ i ∈ l, get h a (f i) = .ok (g i)) : getAll h a (l.map f) = .ok (l.map g) := by
  rw [getAll_eq_mapM, List.mapM_map]
  exact mapM_eq_ok_map _ g l hl

theorem getAll_map_congr {β : Type} {h h' : Heap α} {a b : Arr} (f g : β → Idx) : ∀ l : List β,
    (∀ m ∈ l, get h' b (f m) = get h a (g m)) → getAll h' b (l.map f) = getAll h a (l.map g)
  | [], _ => rfl
  | m :: ms, hl => by
    rw [List.map_cons, List.map_cons, getAll, getAll, hl m List.mem_cons_self,
      getAll_map_congr f g ms fun m' hm' => hl m' (List.mem_cons_of_mem _ hm')]

theorem getAll_rowMajor_congr {h h' : Heap α} {a b : Arr} {d d' : Idx} (hsz : product d' = product d)
    (hk : ∀ k : Nat, (k : Int) < product d → Nd.get h' b (unravel k d') = Nd.get h a (unravel k d)) :
    getAll h' b (rowMajor d') = getAll h a (rowMajor d) := by
  rw [rowMajor, rowMajor, hsz]
  exact getAll_map_congr _ _ _ fun k hk' => hk k (by have := (List.mem_range'_1.mp hk').2; omega)

theorem getAll_congr {h h' : Heap α} {a b : Arr} (l : List Idx) (hl : ∀ j ∈ l, get h' b j = get h a j) :
    getAll h' b l = getAll h a l := by
  have := getAll_map_congr (h := h) (h' := h') (a := a) (b := b) id id l hl
  rwa [List.map_id] at this

theorem setAll_map_congr {β : Type} {a b : Arr} (f g : β → Idx) : ∀ (l : List β) (xs : List α) (h : Heap α),
    (∀ m ∈ l, ∀ (h : Heap α) (x : α), Nd.set h a (f m) x = Nd.set h b (g m) x) →
      setAll h a (l.map f) xs = setAll h b (l.map g) xs
  | [], _, _, _ => rfl
  | _ :: _, [], _, _ => rfl
  | m :: ms, x :: xs, h, hs => by
    rw [List.map_cons, List.map_cons, setAll, setAll, hs m List.mem_cons_self h x]
    exact bind_congr fun h' => setAll_map_congr f g ms xs h' fun m' hm' => hs m' (List.mem_cons_of_mem _ hm')

/-- the cells of a contiguous array — `Π dims` of them from `base + start` — lie inside its storage: what every fast path
(`Unroll`, `Reshape`, `Apply`) asks of `Impl[lo:hi]` -/
theorem contig_store {h : Heap α} {a : Arr} (g : Geo a.v) (ok : ArrOK h a) (hc : a.v.contiguous = .ok true) :
    ∃ s, h[a.sid]? = some s ∧ 0 ≤ a.v.start ∧ a.v.start + product a.v.dims ≤ (s.length : Int) - a.base := by
  obtain ⟨s, hs, hl⟩ := ok.store
  obtain ⟨w0, w1⟩ := contig_window g hc
  have hf := ok.fits
  exact ⟨s, hs, w0, by omega⟩

theorem contig_pos {a : Arr} (g : Geo a.v) (hb : 0 ≤ a.base) (hc : a.v.contiguous = .ok true) {k : Nat}
    (hk : (k : Int) < product a.v.dims) :
    InBounds (unravel (k : Int) a.v.dims) a.v.dims ∧
      (a.base + addr a.v (unravel (k : Int) a.v.dims)).toNat = (a.base + a.v.start).toNat + k := by
  have hi := unravel_inBounds _ _ g.pos_dims (Int.natCast_nonneg k) hk
  refine ⟨hi, ?_⟩
  rw [contig_addr g hc hi, ravel_unravel_lt (Int.natCast_nonneg k) hk]
  have w0 := (contig_window g hc).1
  omega

theorem contig_get {h : Heap α} {a : Arr} (g : Geo a.v) (ok : ArrOK h a) (hc : a.v.contiguous = .ok true)
    {k : Nat} (hk : (k : Int) < product a.v.dims) :
    ∃ x, cell h a.sid ((a.base + a.v.start).toNat + k) = some x ∧
      Nd.get h a (unravel (k : Int) a.v.dims) = .ok x := by
  obtain ⟨hi, hpos⟩ := contig_pos g ok.base_nonneg hc hk
  obtain ⟨x, hx, hget⟩ := get_addr g ok hi
  exact ⟨x, hpos ▸ hx, hget⟩

theorem contig_set {h : Heap α} {a : Arr} (g : Geo a.v) (ok : ArrOK h a) (hc : a.v.contiguous = .ok true)
    {k : Nat} (hk : (k : Int) < product a.v.dims) (x : α) :
    Nd.set h a (unravel (k : Int) a.v.dims) x = .ok (setStore h a.sid ((a.base + a.v.start).toNat + k) x) := by
  obtain ⟨hi, hpos⟩ := contig_pos g ok.base_nonneg hc hk
  rw [set_addr g ok hi, hpos]

theorem take_drop_succ (s : List α) (m n : Nat) (hm : m < s.length) :
    (s.drop m).take (n + 1) = s[m] :: (s.drop (m + 1)).take n := by
  rw [List.drop_eq_getElem_cons hm, List.take_succ_cons]

theorem getAll_contig {h : Heap α} {a : Arr} (g : Geo a.v) (ok : ArrOK h a) (hc : a.v.contiguous = .ok true)
    {s : List α} (hs : h[a.sid]? = some s) :
    ∀ (n k : Nat), ((k + n : Nat) : Int) ≤ product a.v.dims →
      getAll h a (rowMajorFrom a.v.dims k n) = .ok ((s.drop ((a.base + a.v.start).toNat + k)).take n) := by
  intro n
  induction n with
  | zero => intro k _; simp [rowMajorFrom_zero, getAll]
  | succ n ih =>
    intro k hk
    obtain ⟨x, hx, hget⟩ := contig_get g ok hc (k := k) (by omega)
    simp only [cell, hs, Option.bind_some] at hx
    obtain ⟨hlt, hxe⟩ := List.getElem?_eq_some_iff.mp hx
    rw [rowMajorFrom_succ, getAll, hget, ih (k + 1) (by omega), take_drop_succ s _ n hlt, hxe]
    rfl

theorem subslice_ok {h : Heap α} {a : Arr} {s : List α} (hs : h[a.sid]? = some s) {lo hi : Int}
    (h0 : 0 ≤ lo) (h1 : lo ≤ hi) (h2 : hi ≤ (s.length : Int) - a.base) :
    subslice h a lo hi = .ok (a.sid, a.base + lo, hi - lo) := by
  unfold subslice capOf storeOf
  simp only [hs, bind, Except.bind, pure, Except.pure]
  rw [if_pos ⟨h0, h1, h2⟩]

def writeList (h : Heap α) (sid : Nat) : List (Nat × α) → Heap α
  | [] => h
  | (pos, x) :: rest => writeList (setStore h sid pos x) sid rest

theorem sameShape_writeList (sid : Nat) : ∀ (ws : List (Nat × α)) (h : Heap α), SameShape h (writeList h sid ws)
  | [], h => SameShape.refl h
  | (pos, x) :: rest, h =>
    (sameShape_setStore h sid pos x).trans (sameShape_writeList sid rest (setStore h sid pos x))

theorem cell_writeList_other (sid : Nat) (t q : Nat) : ∀ (ws : List (Nat × α)) (h : Heap α),
    (t ≠ sid ∨ ∀ w ∈ ws, q ≠ w.1) → cell (writeList h sid ws) t q = cell h t q
  | [], _, _ => rfl
  | (pos, x) :: rest, h, hne => by
    rw [writeList, cell_writeList_other sid t q rest _ (hne.imp id fun h2 w hw => h2 w (List.mem_cons_of_mem _ hw)),
      cell_setStore, if_neg fun ⟨e1, e2⟩ => hne.elim (fun h1 => h1 e1) fun h2 => h2 (pos, x) List.mem_cons_self e2]

theorem cell_isSome_writeList (sid : Nat) (t q : Nat) : ∀ (ws : List (Nat × α)) (h : Heap α),
    (cell h t q).isSome → (cell (writeList h sid ws) t q).isSome
  | [], _, hs => hs
  | (pos, x) :: rest, h, hs => by
    simp only [writeList]
    apply cell_isSome_writeList sid t q rest
    rw [cell_setStore]
    split
    · cases hc : cell h t q with
      | none => rw [hc] at hs; cases hs
      | some y => rfl
    · exact hs

theorem cell_writeList_mem (sid : Nat) : ∀ (ws : List (Nat × α)) (h : Heap α),
    (ws.map Prod.fst).Nodup → ∀ pos x, (pos, x) ∈ ws → (cell h sid pos).isSome →
      cell (writeList h sid ws) sid pos = some x
  | [], _, _, _, _, hm, _ => by cases hm
  | (p0, x0) :: rest, h, hnd, pos, x, hm, hs => by
    simp only [List.map_cons, List.nodup_cons] at hnd
    simp only [writeList]
    rcases List.mem_cons.mp hm with e | hm'
    · injection e with e1 e2
      subst e1 e2
      rw [cell_writeList_other sid sid pos rest _ (Or.inr (fun w hw e => hnd.1 (by
        rw [e]; exact List.mem_map_of_mem hw)))]
      rw [cell_setStore, if_pos ⟨rfl, rfl⟩]
      cases hc : cell h sid pos with
      | none => rw [hc] at hs; cases hs
      | some y => rfl
    · exact cell_writeList_mem sid rest _ hnd.2 pos x hm' (cell_isSome_writeList sid sid pos [(p0, x0)] h hs)

theorem sameShape_writeRun (sid : Nat) : ∀ (xs : List α) (h : Heap α) (lo : Nat), SameShape h (writeRun h sid lo xs)
  | [], h, _ => SameShape.refl h
  | x :: xs, h, lo => (sameShape_setStore h sid lo x).trans (sameShape_writeRun sid xs _ (lo + 1))

theorem writeRun_self {sid : Nat} : ∀ (xs : List α) (lo : Nat) (h : Heap α),
    (∀ j, j < xs.length → cell h sid (lo + j) = xs[j]?) → writeRun h sid lo xs = h
  | [], _, _, _ => rfl
  | x :: xs, lo, h, hc => by
    have h0 : cell h sid lo = some x := hc 0 (Nat.zero_lt_succ _)
    rw [writeRun, setStore_self h0]
    refine writeRun_self xs (lo + 1) h fun j hj => ?_
    rw [Nat.add_assoc, Nat.add_comm 1 j]
    exact hc (j + 1) (Nat.succ_lt_succ hj)

def setSeq (h : Heap α) (a : Arr) : List (Idx × α) → R (Heap α)
  | [] => .ok h
  | (i, x) :: rest => do
    let h' ← set h a i x
    setSeq h' a rest

/-- the storage writes performed by `setSeq` -/
def seqWrites (a : Arr) (ws : List (Idx × α)) : List (Nat × α) :=
  ws.map (fun w => ((a.base + addr a.v w.1).toNat, w.2))

/-- the fast paths write a window (`writeRun`), the loops write index by index (`seqWrites`): the same writes when the cell of
index `f m` is position `p0 + m` -/
theorem writeRun_eq_seqWrites (a : Arr) (f : Nat → Idx) (p0 : Nat) : ∀ (xs : List α) (k : Nat) (h : Heap α),
    (∀ m, k ≤ m → m < k + xs.length → (a.base + addr a.v (f m)).toNat = p0 + m) →
      writeRun h a.sid (p0 + k) xs = writeList h a.sid (seqWrites a (((List.range' k xs.length).map f).zip xs))
  | [], _, _, _ => rfl
  | x :: xs, k, h, hk => by
    have ih := writeRun_eq_seqWrites a f p0 xs (k + 1) (setStore h a.sid (p0 + k) x) fun m h1 h2 =>
      hk m (by omega) (by rw [List.length_cons]; omega)
    rw [List.length_cons, List.range'_succ]
    simp only [seqWrites, List.map_cons, List.zip_cons_cons, writeList, writeRun] at ih ⊢
    rw [hk k (Nat.le_refl k) (by simp), ← ih, Nat.add_assoc]

theorem setSeq_zip (a : Arr) : ∀ (l : List Idx) (xs : List α) (h : Heap α), setSeq h a (l.zip xs) = setAll h a l xs
  | [], _, _ => by simp [setSeq, setAll]
  | _ :: _, [], _ => by simp [setSeq, setAll]
  | i :: is, x :: xs, h => by
    simp only [List.zip_cons_cons, setSeq, setAll]
    exact bind_congr fun h' => setSeq_zip a is xs h'

theorem setAll_eq {a : Arr} (g : Geo a.v) : ∀ (l : List Idx) (xs : List α) (h : Heap α), ArrOK h a →
    (∀ w ∈ l.zip xs, InBounds w.1 a.v.dims) → setAll h a l xs = .ok (writeList h a.sid (seqWrites a (l.zip xs)))
  | [], _, _, _, _ => by simp [setAll, seqWrites, writeList]
  | _ :: _, [], _, _, _ => by simp [setAll, seqWrites, writeList]
  | i :: is, x :: xs, h, ok, hib => by
    simp only [setAll, List.zip_cons_cons, seqWrites, List.map_cons, writeList]
    rw [set_addr g ok (hib (i, x) List.mem_cons_self) x]
    exact setAll_eq g is xs _ (ok.sameShape (sameShape_setStore _ _ _ _))
      (fun w hw => hib w (List.mem_cons_of_mem _ hw))

theorem seqWrites_nodup {h : Heap α} {a : Arr} (g : Geo a.v) (ok : ArrOK h a) (ws : List (Idx × α))
    (hib : ∀ w ∈ ws, InBounds w.1 a.v.dims) (hnd : (ws.map Prod.fst).Nodup) : ((seqWrites a ws).map Prod.fst).Nodup := by
  rw [seqWrites, List.map_map]
  rw [List.Nodup, List.pairwise_map] at hnd ⊢
  refine hnd.imp_of_mem fun {w w'} hw hw' hne e => hne (addr_inj g (hib w hw) (hib w' hw') ?_)
  have b1 := addr_bounds g (hib w hw)
  have b2 := addr_bounds g (hib w' hw')
  have hb := ok.base_nonneg
  simp only [Function.comp] at e
  omega

/-- `h'` is `h` after a write through `a` with footprint `T` (`T i x`: index `i` of `a` received `x`): the heap keeps
its shape, the written indices are in bounds and their cells hold the values, every cell that is not the address of a
written index is unchanged. Each of `Set`, `Apply`, `ApplySlice`, `CopyFrom` is such a write. -/
structure Wrote (h h' : Heap α) (a : Arr) (T : Idx → α → Prop) : Prop where
  shape : SameShape h h'
  inb : ∀ i x, T i x → InBounds i a.v.dims
  hit : ∀ i x, T i x → cell h' a.sid (a.base + addr a.v i).toNat = some x
  miss : ∀ t q : Nat, (t ≠ a.sid ∨ ∀ i x, T i x → q ≠ (a.base + addr a.v i).toNat) → cell h' t q = cell h t q

theorem wrote_seqWrites {h : Heap α} {a : Arr} (g : Geo a.v) (ok : ArrOK h a) (ws : List (Idx × α))
    (hib : ∀ w ∈ ws, InBounds w.1 a.v.dims) (hnd : (ws.map Prod.fst).Nodup) :
    Wrote h (writeList h a.sid (seqWrites a ws)) a (fun i x => (i, x) ∈ ws) := by
  refine ⟨sameShape_writeList _ _ _, fun i x hw => hib _ hw, fun i x hw => ?_, fun t q hne => ?_⟩
  · apply cell_writeList_mem a.sid _ h (seqWrites_nodup g ok ws hib hnd)
    · exact List.mem_map_of_mem (f := fun w : Idx × α => ((a.base + addr a.v w.1).toNat, w.2)) hw
    · obtain ⟨y, hc, _⟩ := get_addr g ok (hib _ hw)
      rw [hc]; rfl
  · apply cell_writeList_other
    refine hne.imp id (fun h2 w hw => ?_)
    obtain ⟨w', hw', rfl⟩ := List.mem_map.mp hw
    exact h2 w'.1 w'.2 hw'

namespace Wrote
variable {h h' : Heap α} {a b : Arr} {T T' : Idx → α → Prop}

theorem congr (w : Wrote h h' a T) (e : ∀ i x, T i x ↔ T' i x) : Wrote h h' a T' :=
  ⟨w.shape, fun i x t => w.inb i x ((e i x).mpr t), fun i x t => w.hit i x ((e i x).mpr t),
    fun t q hne => w.miss t q (hne.imp id fun h2 i x t => h2 i x ((e i x).mp t))⟩

theorem refl (h : Heap α) (a : Arr) : Wrote h h a (fun _ _ => False) :=
  ⟨SameShape.refl h, fun _ _ => False.elim, fun _ _ => False.elim, fun _ _ _ => rfl⟩

theorem index_ok (w : Wrote h h' a T) (g : Geo a.v) {i : Idx} {x : α} (t : T i x) :
    a.v.index i = .ok (addr a.v i) :=
  index_addr g i (Nat.le_of_eq (w.inb i x t).length)

/-- the footprint with the addresses as `Index` returns them -/
theorem footprint (w : Wrote h h' a T) (g : Geo a.v) :
    (∀ i x, T i x → InBounds i a.v.dims ∧
      ∃ p, a.v.index i = .ok p ∧ cell h' a.sid (a.base + p).toNat = some x) ∧
    (∀ t q : Nat, (t ≠ a.sid ∨ ∀ i x, T i x → ∀ p, a.v.index i = .ok p → q ≠ (a.base + p).toNat) →
      cell h' t q = cell h t q) :=
  ⟨fun i x t => ⟨w.inb i x t, _, w.index_ok g t, w.hit i x t⟩,
    fun t q hne => w.miss t q (hne.imp id fun h2 i x t => h2 i x t _ (w.index_ok g t))⟩

theorem visible (w : Wrote h h' a T) (ga : Geo a.v) (oka : ArrOK h a) (gb : Geo b.v) (okb : ArrOK h b) {j : Idx}
    (hj : InBounds j b.v.dims) :
    (∀ i x, T i x → b.sid = a.sid → b.base + addr b.v j = a.base + addr a.v i → get h' b j = .ok x) ∧
    ((b.sid ≠ a.sid ∨ ∀ i x, T i x → b.base + addr b.v j ≠ a.base + addr a.v i) → get h' b j = get h b j) := by
  have okb' := okb.sameShape w.shape
  refine ⟨fun i x t hsid e => ?_,
    fun hm => get_congr gb okb' gb okb hj hj (w.miss _ _ (hm.imp id fun h2 i x t => ?_))⟩
  · obtain ⟨z, cz, gz⟩ := get_addr gb okb' hj
    rw [hsid, e, w.hit i x t] at cz
    rw [gz, Option.some.inj cz]
  · -- both addresses are non-negative, so distinct integers are distinct positions
    have h3 := h2 i x t
    have h4 := (addr_bounds ga (w.inb i x t)).1
    have h5 := (addr_bounds gb hj).1
    have nb := okb.base_nonneg
    have na := oka.base_nonneg
    omega

/-- `visible` with the addresses as `Index` returns them -/
theorem visible_index (w : Wrote h h' a T) (ga : Geo a.v) (oka : ArrOK h a) (gb : Geo b.v) (okb : ArrOK h b)
    {j : Idx} (hj : InBounds j b.v.dims) :
    ∃ pb, b.v.index j = .ok pb ∧
      (∀ i x, T i x → ∀ pa : Int, a.v.index i = .ok pa → b.sid = a.sid → b.base + pb = a.base + pa →
        get h' b j = .ok x) ∧
      ((b.sid ≠ a.sid ∨ ∀ i x, T i x → ∀ pa : Int, a.v.index i = .ok pa → b.base + pb ≠ a.base + pa) →
        get h' b j = get h b j) := by
  obtain ⟨hitV, missV⟩ := w.visible ga oka gb okb hj
  refine ⟨_, index_addr gb j (Nat.le_of_eq hj.length), fun i x t pa hpa => ?_, fun hm => ?_⟩
  · rw [w.index_ok ga t] at hpa
    rw [← Except.ok.inj hpa]
    exact hitV i x t
  · exact missV (hm.imp id fun h2 i x t => h2 i x t _ (w.index_ok ga t))

end Wrote

theorem wrote_set {h : Heap α} {a : Arr} (g : Geo a.v) (ok : ArrOK h a) {loc : Idx} (hloc : InBounds loc a.v.dims)
    (x : α) : Wrote h (setStore h a.sid (a.base + addr a.v loc).toNat x) a (fun i y => i = loc ∧ y = x) :=
  (wrote_seqWrites g ok [(loc, x)] (by simpa using hloc) (by simp)).congr (by simp)

/-- The result `r` of an operation in heap `h` is the sequential `Set` of `vals` at the pairwise distinct in-bounds indices
`idxs` of `a`. Each bulk write (`Apply`, `ApplySlice`, `CopyFrom`, `zipWithInto`) is shown to be one once, on every path and
both back-ends; C01 reads its cells off it (`wrote`), C02 its element-wise meaning (`spec`), C03 pairs the two back-ends
through `eq`. -/
structure BulkWrite (h : Heap α) (r : R (Heap α)) (a : Arr) (idxs : List Idx) (vals : List α) : Prop where
  eq : r = setAll h a idxs vals
  inb : ∀ i ∈ idxs, InBounds i a.v.dims
  nodup : idxs.Nodup
  len : vals.length = idxs.length

namespace BulkWrite
variable {h : Heap α} {r : R (Heap α)} {a : Arr} {idxs : List Idx} {vals : List α}

theorem wrote (b : BulkWrite h r a idxs vals) (g : Geo a.v) (ok : ArrOK h a) :
    ∃ h', r = .ok h' ∧ Wrote h h' a (fun i x => (i, x) ∈ idxs.zip vals) :=
  have hib : ∀ w ∈ idxs.zip vals, InBounds w.1 a.v.dims := fun _ hw => b.inb _ (List.of_mem_zip hw).1
  ⟨_, b.eq.trans (setAll_eq g idxs vals h ok hib),
    wrote_seqWrites g ok _ hib (by rw [List.map_fst_zip (Nat.le_of_eq b.len.symm)]; exact b.nodup)⟩

/-- the element-wise meaning of a bulk write: it succeeds and is the sequential `Set`, the heap keeps its shape, every written
index reads its value afterwards, and arrays on other storages read as before -/
theorem spec (b : BulkWrite h r a idxs vals) (g : Geo a.v) (ok : ArrOK h a) :
    ∃ h', r = .ok h' ∧ setAll h a idxs vals = .ok h' ∧ SameShape h h' ∧
      (∀ ⦃k : Nat⦄ ⦃i x⦄, idxs[k]? = some i → vals[k]? = some x → get h' a i = .ok x) ∧
      (∀ ⦃c : Arr⦄, Geo c.v → ArrOK h c → c.sid ≠ a.sid → ∀ ⦃j⦄, InBounds j c.v.dims → get h' c j = get h c j) := by
  obtain ⟨h', e, w⟩ := b.wrote g ok
  refine ⟨h', e, b.eq ▸ e, w.shape, fun k i x hi hx => ?_, fun c gc okc hne j hj => (w.visible g ok gc okc hj).2 (.inl hne)⟩
  exact (w.visible g ok g ok (b.inb i (List.mem_of_getElem? hi))).1 i x
    (List.mem_iff_getElem?.mpr ⟨k, List.getElem?_zip_eq_some.mpr ⟨hi, hx⟩⟩) rfl rfl

end BulkWrite

theorem writeRun_contig {h : Heap α} {s : Arr} (g : Geo s.v) (ok : ArrOK h s) (hc : s.v.contiguous = .ok true)
    {vals : List α} (hlen : vals.length = (product s.v.dims).toNat) :
    writeRun h s.sid (s.base + s.v.start).toNat vals =
      writeList h s.sid (seqWrites s ((OW.NdC02.rowMajor s.v.dims).zip vals)) := by
  have := writeRun_eq_seqWrites s (fun m : Nat => unravel (m : Int) s.v.dims) (s.base + s.v.start).toNat vals 0 h
    fun m _ hm => (contig_pos g ok.base_nonneg hc (by omega)).2
  rwa [hlen] at this

/-- the array value `Slice(loc, shape, step)` returns: the same storage window, the view of `sliceView` -/
def dstSlice (a : Arr) (loc shape : Idx) (step : Option Idx) : Arr := { a with v := sliceView a.v loc shape step }

theorem slice_eq_dstSlice {a : Arr} (g : Geo a.v) (loc dims : Idx) (step : Option Idx)
    (hloc : loc.length = a.v.dims.length) (hstep : (stepOr a.v.dims.length step).length = a.v.dims.length) :
    slice a loc dims step = .ok (dstSlice a loc dims step) := by
  simp only [slice, g.regular.sliceInto_eq loc dims step hloc hstep, bind, Except.bind, pure, Except.pure, dstSlice]

theorem arrOK_dstSlice {h : Heap α} {a : Arr} (ok : ArrOK h a) (loc dims : Idx) (step : Option Idx) :
    ArrOK h (dstSlice a loc dims step) :=
  ⟨ok.store, ok.base_nonneg, ok.fits, ok.cfits⟩

theorem sliceOK_dstSlice {a : Arr} (g : Geo a.v) {loc dims : Idx} {step : Option Idx}
    (okS : SliceOK a.v.dims loc dims (stepOr a.v.dims.length step)) :
    slice a loc dims step = .ok (dstSlice a loc dims step) ∧ Geo (dstSlice a loc dims step).v ∧
      ∀ i : Idx, i.length = dims.length →
        addr (dstSlice a loc dims step).v i = addr a.v (affine loc i (stepOr a.v.dims.length step)) := by
  obtain ⟨hl, hd, hs⟩ := okS.lengths
  have hsl := g.regular.sliceInto_eq loc dims step hl hs
  have gS : Geo (dstSlice a loc dims step).v := geo_slice g okS hsl
  exact ⟨slice_eq_dstSlice g loc dims step hl hs, gS, fun i hi => g.regular.addr_sliceView dims hl hs (hi.trans hd)⟩

theorem Wrote.of_dstSlice {h h' : Heap α} {a : Arr} (g : Geo a.v) {loc dims : Idx} {step : Option Idx}
    (okS : SliceOK a.v.dims loc dims (stepOr a.v.dims.length step)) {T : Idx → α → Prop}
    (w : Wrote h h' (dstSlice a loc dims step) T) :
    Wrote h h' a (fun i' x => ∃ i, T i x ∧ i' = affine loc i (stepOr a.v.dims.length step)) := by
  obtain ⟨_, _, haddr⟩ := sliceOK_dstSlice g okS
  refine ⟨w.shape, ?_, ?_, fun t q hne => w.miss t q (hne.imp id fun h2 i x t => ?_)⟩
  · rintro _ x ⟨i, t, rfl⟩
    exact okS.inBounds (w.inb i x t)
  · rintro _ x ⟨i, t, rfl⟩
    rw [← haddr i (w.inb i x t).length]
    exact w.hit i x t
  · rw [haddr i (w.inb i x t).length]
    exact h2 _ x ⟨i, t, rfl⟩

end
end OW.Nd
