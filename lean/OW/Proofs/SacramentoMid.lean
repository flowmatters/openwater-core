import OW.Kernels.Sacramento
import OW.Gen.Prelude
/-!
# SacramentoMid — the loops of the regenerated Sacramento kernel in the hand-written vocabulary

`harness/cmd/owtranslate` renders `models/rr/sacramento.go` with merge tuples (`phiN`) and lifted loop bodies. `loopBody1…4` below
are a COPY of the lifted bodies (from `OW/Gen/Kernels.lean`, namespace `sacramento`; `OW/Props/GenTieSacramento.lean` has the
copy equal to the original by `rfl`). This file proves, independently of the generated file, what the loops over them compute in
terms of the hand-written model `OW/Kernels/Sacramento.lean`: the drainage loops carry the fields of `Sacramento.Inner` as a tuple
(`sacCarried`, `sacCarried2`; the slots of the scratch variables `pav`, `adj`, `duz` are existentially quantified), the two
loops of the channel stage are `convolve` and a shift of the buffer. The two sides differ in that a merge tuple chosen by one
`if` stands for one `if` per component (`ite_prod`), and that the model reads some merged variables inside the branch that
assigned them (`ite_sub_ite` and its siblings). The straight-line part of the step needs no copy: `gen_eq_Sacramento` normalises
both sides with the same lemmas. Core Lean only.
-/
set_option linter.unusedVariables false
namespace OW.Kernels.SacramentoMid
open OW OW.Gen.Prelude

/-- models/rr/sacramento.go:291  the body of the loop over `inc`: index, carried values ↦ new carried values -/
def loopBody1 {α : Type} [Num α] (uprTensionWater uzfwm lztwm pfree rexp zperc adimp alzfsm alzfpm pbase duz hpl dinc pinc dlzp dlzs : α) (inc : Int) (carried : α × α × α × α × α × α × α × α × α × α) : α × α × α × α × α × α × α × α × α × α :=
  let uprFreeWater : α := carried.1
  let lwrTensionWater : α := carried.2.1
  let additionalImperviousStore : α := carried.2.2.1
  let alzfsc : α := carried.2.2.2.1
  let alzfpc : α := carried.2.2.2.2.1
  let roimp : α := carried.2.2.2.2.2.1
  let pav : α := carried.2.2.2.2.2.2.1
  let flobf : α := carried.2.2.2.2.2.2.2.1
  let flosf : α := carried.2.2.2.2.2.2.2.2.1
  let floin : α := carried.2.2.2.2.2.2.2.2.2
  let ratio : α := (additionalImperviousStore - uprTensionWater) / lztwm
  let phi18 : α := if ratio < 0 then
      let ratio : α := 0
      (ratio)
    else
      (ratio)
  let ratio : α := phi18
  let addro : α := pinc * ratio * ratio
  let bf : α := 0.0
  let phi19 : α × α := if alzfpc > 0.0 then
      let bf : α := alzfpc * dlzp
      (bf, alzfpc)
    else
      let alzfpc : α := 0.0
      let bf : α := 0.0
      (bf, alzfpc)
  let bf : α := phi19.1
  let alzfpc : α := phi19.2
  let flobf : α := flobf + bf
  let alzfpc : α := alzfpc - bf
  let phi20 : α × α := if alzfsc > 0.0 then
      let bf : α := alzfsc * dlzs
      (bf, alzfsc)
    else
      let alzfsc : α := 0.0
      let bf : α := 0.0
      (bf, alzfsc)
  let bf : α := phi20.1
  let alzfsc : α := phi20.2
  let alzfsc : α := alzfsc - bf
  let flobf : α := flobf + bf
  let phi26 : α × α × α × α × α := if uprFreeWater > 0.0 then
      let lzair : α := lztwm - lwrTensionWater + alzfsm - alzfsc + alzfpm - alzfpc
      let perc : α := 0.0
      let phi21 : α × α := if lzair > 0.0 then
          let perc : α := pbase * dinc * uprFreeWater / uzfwm
          let perc : α := Num.gmin lzair (Num.gmin uprFreeWater (perc * (1.0 + zperc * Num.pow (1.0 - (alzfpc + alzfsc + lwrTensionWater) / (alzfpm + alzfsm + lztwm)) rexp)))
          let uprFreeWater : α := uprFreeWater - perc
          (perc, uprFreeWater)
        else
          (perc, uprFreeWater)
      let perc : α := phi21.1
      let uprFreeWater : α := phi21.2
      let del_1 : α := duz * uprFreeWater
      let floin : α := floin + del_1
      let uprFreeWater : α := uprFreeWater - del_1
      let perctw : α := Num.gmin (perc * (1.0 - pfree)) (lztwm - lwrTensionWater)
      let percfw : α := perc - perctw
      let lzair : α := alzfsm - alzfsc + alzfpm - alzfpc
      let phi22 : α × α := if percfw > lzair then
          let perctw : α := perctw + percfw - lzair
          let percfw : α := lzair
          (perctw, percfw)
        else
          (perctw, percfw)
      let perctw : α := phi22.1
      let percfw : α := phi22.2
      let lwrTensionWater : α := lwrTensionWater + perctw
      let phi25 : α × α := if percfw > 0.0 then
          let ratlp : α := 1.0 - alzfpc / alzfpm
          let ratls : α := 1.0 - alzfsc / alzfsm
          let percs : α := Num.gmin (alzfsm - alzfsc) (percfw * (1.0 - Num.gmin 1.0 (hpl * (ratlp + ratlp) / (ratlp + ratls))))
          let alzfsc : α := alzfsc + percs
          let phi23 : α × α := if alzfsc > alzfsm then
              let percs : α := percs - alzfsc + alzfsm
              let alzfsc : α := alzfsm
              (percs, alzfsc)
            else
              (percs, alzfsc)
          let percs : α := phi23.1
          let alzfsc : α := phi23.2
          let alzfpc : α := alzfpc + percfw - percs
          let phi24 : α × α := if alzfpc > alzfpm then
              let alzfsc : α := alzfsc + alzfpc - alzfpm
              let alzfpc : α := alzfpm
              (alzfsc, alzfpc)
            else
              (alzfsc, alzfpc)
          let alzfsc : α := phi24.1
          let alzfpc : α := phi24.2
          (alzfsc, alzfpc)
        else
          (alzfsc, alzfpc)
      let alzfsc : α := phi25.1
      let alzfpc : α := phi25.2
      (uprFreeWater, floin, lwrTensionWater, alzfsc, alzfpc)
    else
      (uprFreeWater, floin, lwrTensionWater, alzfsc, alzfpc)
  let uprFreeWater : α := phi26.1
  let floin : α := phi26.2.1
  let lwrTensionWater : α := phi26.2.2.1
  let alzfsc : α := phi26.2.2.2.1
  let alzfpc : α := phi26.2.2.2.2
  let phi28 : α × α × α × α := if pinc > 0.0 then
      let pav : α := pinc
      let phi27 : α × α × α × α := if pav - uzfwm + uprFreeWater ≤ 0 then
          let uprFreeWater : α := uprFreeWater + pav
          (uprFreeWater, pav, flosf, addro)
        else
          let pav : α := pav - uzfwm + uprFreeWater
          let uprFreeWater : α := uzfwm
          let flosf : α := flosf + pav
          let addro : α := addro + pav * (1.0 - addro / pinc)
          (uprFreeWater, pav, flosf, addro)
      let uprFreeWater : α := phi27.1
      let pav : α := phi27.2.1
      let flosf : α := phi27.2.2.1
      let addro : α := phi27.2.2.2
      (pav, uprFreeWater, flosf, addro)
    else
      (pav, uprFreeWater, flosf, addro)
  let pav : α := phi28.1
  let uprFreeWater : α := phi28.2.1
  let flosf : α := phi28.2.2.1
  let addro : α := phi28.2.2.2
  let additionalImperviousStore : α := additionalImperviousStore + pinc - addro
  let roimp : α := roimp + addro * adimp
  (uprFreeWater, lwrTensionWater, additionalImperviousStore, alzfsc, alzfpc, roimp, pav, flobf, flosf, floin)
/-- models/rr/sacramento.go:258  the body of the loop over `ii`: index, carried values ↦ new carried values -/
def loopBody2 {α : Type} [Num α] (uprTensionWater lzpk lzsk uzk uzfwm lztwm pfree rexp zperc adimp alzfsm alzfpm pbase hpl : α) (ii : Int) (carried_1 : α × α × α × α × α × α × α × α × α × α × α × α) : α × α × α × α × α × α × α × α × α × α × α × α :=
  let uprFreeWater : α := carried_1.1
  let lwrTensionWater : α := carried_1.2.1
  let additionalImperviousStore : α := carried_1.2.2.1
  let alzfsc : α := carried_1.2.2.2.1
  let alzfpc : α := carried_1.2.2.2.2.1
  let roimp : α := carried_1.2.2.2.2.2.1
  let pav : α := carried_1.2.2.2.2.2.2.1
  let adj : α := carried_1.2.2.2.2.2.2.2.1
  let duz : α := carried_1.2.2.2.2.2.2.2.2.1
  let flobf : α := carried_1.2.2.2.2.2.2.2.2.2.1
  let flosf : α := carried_1.2.2.2.2.2.2.2.2.2.2.1
  let floin : α := carried_1.2.2.2.2.2.2.2.2.2.2.2
  let ninc : Int := Num.toInt (Num.floor ((uprFreeWater * adj + pav) * 0.2)) + 1
  let dinc : α := 1.0 / Num.ofInt ninc
  let pinc : α := pav * dinc
  let dinc : α := dinc * adj
  let dlzp : α := 0.0
  let dlzs : α := 0.0
  let phi17 : α × α × α := if decide (ninc = 1) && decide (adj ≥ 1.0) then
      let duz : α := uzk
      let dlzp : α := lzpk
      let dlzs : α := lzsk
      (duz, dlzp, dlzs)
    else
      let phi14 : α := if uzk < 1.0 then
          let duz : α := 1.0 - Num.pow (1.0 - uzk) dinc
          (duz)
        else
          let duz : α := 1.0
          (duz)
      let duz : α := phi14
      let phi15 : α := if lzpk < 1.0 then
          let dlzp : α := 1.0 - Num.pow (1.0 - lzpk) dinc
          (dlzp)
        else
          let dlzp : α := 1.0
          (dlzp)
      let dlzp : α := phi15
      let phi16 : α := if lzsk < 1.0 then
          let dlzs : α := 1.0 - Num.pow (1.0 - lzsk) dinc
          (dlzs)
        else
          let dlzs : α := 1.0
          (dlzs)
      let dlzs : α := phi16
      (duz, dlzp, dlzs)
  let duz : α := phi17.1
  let dlzp : α := phi17.2.1
  let dlzs : α := phi17.2.2
  let loop1 : α × α × α × α × α × α × α × α × α × α := forRange 1 (ninc + 1) (loopBody1 uprTensionWater uzfwm lztwm pfree rexp zperc adimp alzfsm alzfpm pbase duz hpl dinc pinc dlzp dlzs) (uprFreeWater, lwrTensionWater, additionalImperviousStore, alzfsc, alzfpc, roimp, pav, flobf, flosf, floin)
  let uprFreeWater : α := loop1.1
  let lwrTensionWater : α := loop1.2.1
  let additionalImperviousStore : α := loop1.2.2.1
  let alzfsc : α := loop1.2.2.2.1
  let alzfpc : α := loop1.2.2.2.2.1
  let roimp : α := loop1.2.2.2.2.2.1
  let pav : α := loop1.2.2.2.2.2.2.1
  let flobf : α := loop1.2.2.2.2.2.2.2.1
  let flosf : α := loop1.2.2.2.2.2.2.2.2.1
  let floin : α := loop1.2.2.2.2.2.2.2.2.2
  let adj : α := 1.0 - adj
  let pav : α := 0.0
  (uprFreeWater, lwrTensionWater, additionalImperviousStore, alzfsc, alzfpc, roimp, pav, adj, duz, flobf, flosf, floin)
/-- models/rr/sacramento.go:407  the body of the loop over `j`: index, carried values ↦ new carried values -/
def loopBody3 {α : Type} [Num α] (qq dro : List α) (j : Int) (carried_2 : α) : α :=
  let flwsf : α := carried_2
  let flwsf : α := flwsf + sliceGet qq j * sliceGet dro j
  flwsf
/-- models/rr/sacramento.go:410  the body of the loop over `k`: index, carried values ↦ new carried values -/
def loopBody4 {α : Type} [Num α] (k : Int) (carried_3 : List α) : List α :=
  let qq : List α := carried_3
  let qq : List α := sliceSet qq k (sliceGet qq (k - 1))
  qq
variable {α : Type} [Num α]

/-- a merged value read inside the branch that assigned it is the value assigned there -/
theorem ite_sub_ite (c : Prop) [Decidable c] (u d z w : α) :
    (if c then u - (if c then d else z) else w) = if c then u - d else w := by
  split <;> simp only [*]

theorem ite_gmin_ite (c : Prop) [Decidable c] (e x y f z : α) :
    (if c then Num.gmin (e - (if c then x else y)) f else z) = if c then Num.gmin (e - x) f else z := by
  split <;> simp only [*]

theorem ite_neg_add_ite (c : Prop) [Decidable c] (x y a w : α) :
    (if c then (if (if c then x else y) < 0 then a + (if c then x else y) else a) else w) =
      if c then (if x < 0 then a + x else a) else w := by
  split <;> simp only [*]

theorem ite_neg_ite (c : Prop) [Decidable c] (x y z w : α) :
    (if c then (if (if c then x else y) < 0 then z else (if c then x else y)) else w) =
      if c then (if x < 0 then z else x) else w := by
  split <;> simp only [*]

theorem ite_else_ite {β : Type} (c : Prop) [Decidable c] (x y z : β) :
    (if c then z else (if c then x else y)) = if c then z else y := by
  split <;> simp only [*]

open OW.Kernels

/-- the values the drainage loop carries, in the order of the regenerated tuple; `pav` is a scratch variable of the code
(assigned inside the loop body before it is read), not part of the hand model's record -/
def sacCarried (v : Sacramento.Inner α) (pav : α) : α × α × α × α × α × α × α × α × α × α :=
  (v.uzfwc, v.lztwc, v.adimc, v.alzfsc, v.alzfpc, v.roimp, pav, v.flobf, v.flosf, v.floin)

/-- one pass of `for inc` = `Sacramento.incBody`. The model merges `uz` as a tuple too (`ite_prod` on both sides, `ite_self` where
its two inner branches agree) and reads the merged `perc` inside the branch `0 < lzair` (`ite_sub_ite`). -/
theorem mid_incBody (p : Sacramento.Params α) (c : Sacramento.Consts α)
    (uztwc pinc dinc duz dlzp dlzs hpl pav : α) (v : Sacramento.Inner α) (inc : Int) :
    ∃ pav', loopBody1 uztwc p.uzfwm p.lztwm p.pfree p.rexp p.zperc p.adimp c.alzfsm c.alzfpm c.pbase duz hpl dinc
        pinc dlzp dlzs inc (sacCarried v pav) =
      sacCarried (Sacramento.incBody p c uztwc pinc dinc duz dlzp dlzs hpl v) pav' := by
  refine ⟨(loopBody1 uztwc p.uzfwm p.lztwm p.pfree p.rexp p.zperc p.adimp c.alzfsm c.alzfpm c.pbase duz hpl dinc
        pinc dlzp dlzs inc (sacCarried v pav)).2.2.2.2.2.2.1, ?_⟩
  unfold loopBody1 Sacramento.incBody sacCarried
  simp only [ite_prod, ite_self, ite_sub_ite]

theorem mid_incLoop (p : Sacramento.Params α) (c : Sacramento.Consts α)
    (uztwc pinc dinc duz dlzp dlzs hpl : α) :
    ∀ (n : Nat) (i : Int) (v : Sacramento.Inner α) (pav : α),
      ∃ pav', forRangeN (loopBody1 uztwc p.uzfwm p.lztwm p.pfree p.rexp p.zperc p.adimp c.alzfsm c.alzfpm c.pbase
          duz hpl dinc pinc dlzp dlzs) n i (sacCarried v pav) =
        sacCarried (Sacramento.incLoop p c uztwc pinc dinc duz dlzp dlzs hpl n v) pav' := by
  intro n
  induction n with
  | zero => intro i v pav; exact ⟨pav, rfl⟩
  | succ n ih =>
    intro i v pav
    obtain ⟨pav1, h1⟩ := mid_incBody p c uztwc pinc dinc duz dlzp dlzs hpl pav v i
    obtain ⟨pav2, h2⟩ := ih (i + 1) (Sacramento.incBody p c uztwc pinc dinc duz dlzp dlzs hpl v) pav1
    exact ⟨pav2, by rw [forRangeN, h1, h2]; rfl⟩

/-- the values the loop over `ii` carries, in the order of the regenerated tuple (`pav`, `adj` are its arguments in the
hand model; `duz` is declared outside the loop by the code and recomputed in every pass) -/
def sacCarried2 (v : Sacramento.Inner α) (pav adj duz : α) : α × α × α × α × α × α × α × α × α × α × α × α :=
  (v.uzfwc, v.lztwc, v.adimc, v.alzfsc, v.alzfpc, v.roimp, pav, adj, duz, v.flobf, v.flosf, v.floin)

theorem mid_iiBody (p : Sacramento.Params α) (c : Sacramento.Consts α)
    (uztwc hpl adj pav duz0 : α) (v : Sacramento.Inner α) (ii : Int) :
    ∃ duz', loopBody2 uztwc p.lzpk p.lzsk p.uzk p.uzfwm p.lztwm p.pfree p.rexp p.zperc p.adimp c.alzfsm c.alzfpm c.pbase
        hpl ii (sacCarried2 v pav adj duz0) =
      sacCarried2 (Sacramento.iiBody p c uztwc hpl adj pav v) 0.0 (1.0 - adj) duz' := by
  unfold loopBody2 Sacramento.iiBody Sacramento.fracRate sacCarried2 forRange
  simp only [ite_prod, Bool.and_eq_true, decide_eq_true_eq, ge_iff_le]
  generalize Num.toInt (Num.floor ((v.uzfwc * adj + pav) * 0.2)) + 1 = ninc
  have hcnt : (ninc + 1 - 1).toNat = ninc.toNat := by omega
  rw [hcnt]
  generalize 1.0 / Num.ofInt ninc * adj = dinc
  obtain ⟨pav', h⟩ := mid_incLoop p c uztwc (pav * (1.0 / Num.ofInt ninc)) dinc
    (if ninc = 1 ∧ (1.0 : α) ≤ adj then p.uzk else Sacramento.fracRate p.uzk dinc)
    (if ninc = 1 ∧ (1.0 : α) ≤ adj then p.lzpk else Sacramento.fracRate p.lzpk dinc)
    (if ninc = 1 ∧ (1.0 : α) ≤ adj then p.lzsk else Sacramento.fracRate p.lzsk dinc) hpl ninc.toNat 1
    { v with tags := v.tags ++ (if ninc = 1 ∧ (1.0 : α) ≤ adj then ["rates_direct"] else ["rates_pow"]) ++
        (if ninc = 1 then ["ninc=1"] else if ninc ≤ 0 then ["ninc<=0"] else ["ninc>1"]) } pav
  unfold sacCarried Sacramento.fracRate at h
  exact ⟨_, by rw [h]⟩

/-- the loop over `ii` runs for `ii = 2`, or for `ii = 1, 2` -/
theorem mid_iiLoop (p : Sacramento.Params α) (c : Sacramento.Consts α) (uztwc hpl adj pav duz0 : α)
    (v : Sacramento.Inner α) (once : Prop) [Decidable once] :
    ∃ adj' duz', forRange (if once then 2 else 1) (2 + 1) (loopBody2 uztwc p.lzpk p.lzsk p.uzk p.uzfwm p.lztwm p.pfree p.rexp
        p.zperc p.adimp c.alzfsm c.alzfpm c.pbase hpl) (sacCarried2 v pav adj duz0) =
      sacCarried2 (if once then Sacramento.iiBody p c uztwc hpl adj pav v
        else Sacramento.iiBody p c uztwc hpl (1.0 - adj) 0.0 (Sacramento.iiBody p c uztwc hpl adj pav v)) 0.0 adj' duz' := by
  split
  · obtain ⟨d, h⟩ := mid_iiBody p c uztwc hpl adj pav duz0 v 2
    exact ⟨1.0 - adj, d, h⟩
  · obtain ⟨d1, h1⟩ := mid_iiBody p c uztwc hpl adj pav duz0 v 1
    obtain ⟨d2, h2⟩ := mid_iiBody p c uztwc hpl (1.0 - adj) 0.0 d1 (Sacramento.iiBody p c uztwc hpl adj pav v) 2
    refine ⟨1.0 - (1.0 - adj), d2, ?_⟩
    show loopBody2 _ _ _ _ _ _ _ _ _ _ _ _ _ _ 2 (loopBody2 _ _ _ _ _ _ _ _ _ _ _ _ _ _ 1 _) = _
    rw [h1, h2]

/-- what the loop over `ii` leaves in the slots of the scratch variables `adj`, `duz` -/
def iiScratch (p : Sacramento.Params α) (c : Sacramento.Consts α) (uztwc hpl adj pav duz0 : α) (v : Sacramento.Inner α)
    (once : Prop) [Decidable once] : α × α :=
  let t := forRange (if once then 2 else 1) (2 + 1) (loopBody2 uztwc p.lzpk p.lzsk p.uzk p.uzfwm p.lztwm p.pfree p.rexp
    p.zperc p.adimp c.alzfsm c.alzfpm c.pbase hpl) (sacCarried2 v pav adj duz0)
  (t.2.2.2.2.2.2.2.1, t.2.2.2.2.2.2.2.2.1)

/-- `mid_iiLoop` as a rewrite rule: the carried tuple written out, the loop variables of the hand model built from it -/
theorem iiLoop_eq (p : Sacramento.Params α) (c : Sacramento.Consts α)
    (uztwc hpl adj pav duz0 alzfpc alzfsc uzfwc lztwc adimc flobf flosf floin roimp : α) (once : Prop) [Decidable once] :
    forRange (if once then 2 else 1) (2 + 1) (loopBody2 uztwc p.lzpk p.lzsk p.uzk p.uzfwm p.lztwm p.pfree p.rexp
        p.zperc p.adimp c.alzfsm c.alzfpm c.pbase hpl)
        (uzfwc, lztwc, adimc, alzfsc, alzfpc, roimp, pav, adj, duz0, flobf, flosf, floin) =
      sacCarried2 (if once then Sacramento.iiBody p c uztwc hpl adj pav ⟨alzfpc, alzfsc, uzfwc, lztwc, adimc, flobf, flosf, floin, roimp, []⟩
        else Sacramento.iiBody p c uztwc hpl (1.0 - adj) 0.0
          (Sacramento.iiBody p c uztwc hpl adj pav ⟨alzfpc, alzfsc, uzfwc, lztwc, adimc, flobf, flosf, floin, roimp, []⟩)) 0.0
        (iiScratch p c uztwc hpl adj pav duz0 ⟨alzfpc, alzfsc, uzfwc, lztwc, adimc, flobf, flosf, floin, roimp, []⟩ once).1
        (iiScratch p c uztwc hpl adj pav duz0 ⟨alzfpc, alzfsc, uzfwc, lztwc, adimc, flobf, flosf, floin, roimp, []⟩ once).2 := by
  obtain ⟨a, d, h⟩ := mid_iiLoop p c uztwc hpl adj pav duz0
    ⟨alzfpc, alzfsc, uzfwc, lztwc, adimc, flobf, flosf, floin, roimp, []⟩ once
  unfold iiScratch
  rw [h]
  exact h

theorem list5 {α : Type} (l : List α) (h : l.length = 5) : ∃ a b c d e, l = [a, b, c, d, e] := by
  match l, h with
  | [a, b, c, d, e], _ => exact ⟨a, b, c, d, e, rfl⟩

theorem conv_eq (qq dro : List α) (x : α) (hq : qq.length = 5) (hd : dro.length = 5) :
    forRange 0 5 (loopBody3 (sliceSet qq 0 x) dro) 0.0 = Sacramento.convolve (x :: qq.tail) dro := by
  obtain ⟨q0, q1, q2, q3, q4, rfl⟩ := list5 qq hq
  obtain ⟨d0, d1, d2, d3, d4, rfl⟩ := list5 dro hd
  rfl

theorem shift_eq (qq : List α) (x : α) (hq : qq.length = 5) :
    forRangeDown 4 0 loopBody4 (sliceSet qq 0 x) = x :: (x :: qq.tail).dropLast := by
  obtain ⟨q0, q1, q2, q3, q4, rfl⟩ := list5 qq hq
  rfl

end OW.Kernels.SacramentoMid
