import OW.Proofs.Scan
import Mathlib.Algebra.BigOperators.Group.List.Basic
import Mathlib.Tactic.Linarith
import Mathlib.Data.Real.Basic
/-!
Summed budgets of a run of `scan`: a one-step budget (inequality or equation) between what a step takes in, what it gives
out and what the state holds adds up along the run. The equation has two spellings: `scan_budget_eq`
(`Σ out + stor s' = Σ inn + stor s`, like the inequality `scan_budget_le`; bundled: `RR.StepBalance.run`) and, derived from it,
`scan_mass_eq` / `scan_mass` (`stor s + Σ inn = stor s' + Σ out`, the sides as the C11 / C12 statements have them; `scan_mass`:
no invariant).
-/
namespace OW

variable {σ ι ο : Type} {step : σ → ι → σ × ο} {Inv : σ → Prop} {Ok : ι → Prop} {stor : σ → ℝ} {inn : ι → ℝ} {out : ο → ℝ}

theorem scan_budget_le
    (h : ∀ s x, Inv s → Ok x → Inv (step s x).1 ∧ out (step s x).2 + stor (step s x).1 ≤ inn x + stor s)
    {xs : List ι} {s : σ} (hs : Inv s) (hok : ∀ x ∈ xs, Ok x) :
    Inv (scan step s xs).1 ∧
      ((scan step s xs).2.map out).sum + stor (scan step s xs).1 ≤ (xs.map inn).sum + stor s :=
  scan_run (M := fun s xs s' os => (os.map out).sum + stor s' ≤ (xs.map inn).sum + stor s)
    (fun s x hs hx => (h s x hs hx).1) (fun _ => le_refl _)
    (fun s x _ _ _ hs hx ih => by simp only [List.map_cons, List.sum_cons]; linarith [(h s x hs hx).2]) xs s hs hok

theorem scan_budget_eq
    (h : ∀ s x, Inv s → Ok x → Inv (step s x).1 ∧ out (step s x).2 + stor (step s x).1 = inn x + stor s)
    {xs : List ι} {s : σ} (hs : Inv s) (hok : ∀ x ∈ xs, Ok x) :
    Inv (scan step s xs).1 ∧
      ((scan step s xs).2.map out).sum + stor (scan step s xs).1 = (xs.map inn).sum + stor s :=
  scan_run (M := fun s xs s' os => (os.map out).sum + stor s' = (xs.map inn).sum + stor s)
    (fun s x hs hx => (h s x hs hx).1) (fun _ => rfl)
    (fun s x _ _ _ hs hx ih => by simp only [List.map_cons, List.sum_cons]; linarith [(h s x hs hx).2]) xs s hs hok

theorem scan_mass_eq
    (h : ∀ s x, Inv s → Ok x → Inv (step s x).1 ∧ stor s + inn x = stor (step s x).1 + out (step s x).2)
    {xs : List ι} {s : σ} (hs : Inv s) (hok : ∀ x ∈ xs, Ok x) :
    Inv (scan step s xs).1 ∧
      stor s + (xs.map inn).sum = stor (scan step s xs).1 + ((scan step s xs).2.map out).sum := by
  have := scan_budget_eq (stor := stor) (inn := inn) (out := out) (fun s x hs hx => ⟨(h s x hs hx).1, by linarith [(h s x hs hx).2]⟩) hs hok
  exact ⟨this.1, by linarith [this.2]⟩

theorem scan_mass (h : ∀ s x, stor s + inn x = stor (step s x).1 + out (step s x).2) {xs : List ι} {s : σ} :
    stor s + (xs.map inn).sum = stor (scan step s xs).1 + ((scan step s xs).2.map out).sum :=
  (scan_mass_eq (Inv := fun _ => True) (Ok := fun _ => True) (fun s x _ _ => ⟨trivial, h s x⟩) trivial
    fun _ _ => trivial).2

theorem scan_budget_take
    (h : ∀ s x, Inv s → Ok x → Inv (step s x).1 ∧ out (step s x).2 + stor (step s x).1 ≤ inn x + stor s)
    (hstor : ∀ s, Inv s → 0 ≤ stor s) {xs : List ι} {s : σ} (hs : Inv s) (hok : ∀ x ∈ xs, Ok x) (n : Nat) :
    (((scan step s xs).2.take n).map out).sum ≤ ((xs.take n).map inn).sum + stor s := by
  have := scan_budget_le h (xs := xs.take n) hs fun x hx => hok x (List.mem_of_mem_take hx)
  rw [scan_take] at this
  linarith [hstor _ this.1, this.2]

end OW

namespace OW.RR

/-- splits a budget whose output term is a difference (`out := runoff − import`) into its two sums -/
theorem list_sum_map_sub {β : Type} (l : List β) (f g : β → ℝ) :
    (l.map (fun o => f o - g o)).sum = (l.map f).sum - (l.map g).sum := by
  induction l with
  | nil => simp
  | cons o os ih => simp only [List.map_cons, List.sum_cons, ih]; exact sub_add_sub_comm _ _ _ _

/-- A loop body with a one-step water budget: it releases (`out`) at most what came in (`inn`) plus what the stores
(`stor`) gave up. -/
structure StepBudget {σ ι ο : Type} (step : σ → ι → σ × ο) (Inv : σ → Prop) (Ok : ι → Prop) (stor : σ → ℝ)
    (inn : ι → ℝ) (out : ο → ℝ) (Q : ο → Prop) : Prop where
  step_ok : ∀ s x, Inv s → Ok x →
    Inv (step s x).1 ∧ out (step s x).2 + stor (step s x).1 ≤ inn x + stor s ∧ Q (step s x).2
  stor_nonneg : ∀ s, Inv s → 0 ≤ stor s

namespace StepBudget
variable {σ ι ο : Type} {step : σ → ι → σ × ο} {Inv : σ → Prop} {Ok : ι → Prop} {stor : σ → ℝ} {inn : ι → ℝ}
  {out : ο → ℝ} {Q : ο → Prop} (h : StepBudget step Inv Ok stor inn out Q)
include h

theorem run (xs : List ι) (s : σ) (hs : Inv s) (hok : ∀ x ∈ xs, Ok x) :
    Inv (scan step s xs).1 ∧
    ((scan step s xs).2.map out).sum + stor (scan step s xs).1 ≤ (xs.map inn).sum + stor s ∧
    ∀ o ∈ (scan step s xs).2, Q o :=
  ⟨(scan_budget_le (fun s x hs hx => ⟨(h.step_ok s x hs hx).1, (h.step_ok s x hs hx).2.1⟩) hs hok).1,
   (scan_budget_le (fun s x hs hx => ⟨(h.step_ok s x hs hx).1, (h.step_ok s x hs hx).2.1⟩) hs hok).2,
   (scan_inv (fun s x hs hx => ⟨(h.step_ok s x hs hx).1, (h.step_ok s x hs hx).2.2⟩) hs hok).2⟩

theorem take (xs : List ι) (s : σ) (hs : Inv s) (hok : ∀ x ∈ xs, Ok x) (n : Nat) :
    (((scan step s xs).2.take n).map out).sum ≤ ((xs.take n).map inn).sum + stor s :=
  scan_budget_take (fun s x hs hx => ⟨(h.step_ok s x hs hx).1, (h.step_ok s x hs hx).2.1⟩) h.stor_nonneg hs hok n

end StepBudget

structure StepBalance {σ ι ο : Type} (step : σ → ι → σ × ο) (Inv : σ → Prop) (Ok : ι → Prop) (stor : σ → ℝ)
    (inn : ι → ℝ) (out : ο → ℝ) : Prop where
  step_ok : ∀ s x, Inv s → Ok x → Inv (step s x).1 ∧ out (step s x).2 + stor (step s x).1 = inn x + stor s

theorem StepBalance.run {σ ι ο : Type} {step : σ → ι → σ × ο} {Inv : σ → Prop} {Ok : ι → Prop} {stor : σ → ℝ}
    {inn : ι → ℝ} {out : ο → ℝ} (h : StepBalance step Inv Ok stor inn out) (xs : List ι) (s : σ) (hs : Inv s)
    (hok : ∀ x ∈ xs, Ok x) :
    Inv (scan step s xs).1 ∧
    ((scan step s xs).2.map out).sum + stor (scan step s xs).1 = (xs.map inn).sum + stor s :=
  scan_budget_eq h.step_ok hs hok

end OW.RR
