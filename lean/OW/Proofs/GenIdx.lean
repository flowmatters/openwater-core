import OW.Gen.Index
import OW.Nd.View
import OW.Sim.H5
/-!
Helper lemmas for `OW/Props/GenTieIndex.lean` (core Lean only): the prelude operations of the regenerated file
(`getIdx`, `setIdx`, `sliceFrom`, `goMake`, `loopN`) on lists split as `pre ++ suf`, and the loop SHAPES of the translated
functions, each stated for an ARBITRARY loop body `body` that satisfies the equation `h` (what one iteration does): one lemma for
the shape the source has and, where a stored rewrite of the source (/verif/harmless/h3) writes the loop in another shape, one for
that (`range_loopN1`, `argmax_idx_loop1`, `offsets_loop_stride`, `inc_body_reordered`, `ite_lt_eq_ite_ge`, `dot_loop_inline`, `mul_loop_inline`; in
`GenIdxFn.lean` `brackets_fin1`), which no proof about the present source uses. `loopRange`, the loop over the
elements of a list, is in the prelude for these lemmas only: the translator renders every `range` loop as `loopN` with a read of the
element, and `range_loopN0` reads that back as `loopRange`. None of these lemmas mentions a regenerated function, so none can break
when a function body changes; `GenTieIndex.lean` instantiates `body` with the regenerated loop body and proves `h` by unfolding. The one regenerated
declaration used here is the record `data.NdArrayTypeCommon` (data/arrays.go), read as the hand-written `View` by `toView` at the end.
-/
namespace OW.Proofs.GenIdx
open OW OW.Gen.Idx
open OW.Nd hiding R

@[simp] theorem bind_ok {α β : Type} (a : α) (f : α → R β) : (Except.ok a >>= f) = f a := rfl
@[simp] theorem bind_error {α β : Type} (e : String) (f : α → R β) : ((Except.error e : R α) >>= f) = Except.error e := rfl
@[simp] theorem pure_eq {α : Type} (a : α) : (pure a : R α) = Except.ok a := rfl
@[simp] theorem map_ok {α β : Type} (a : α) (f : α → β) : (f <$> (Except.ok a : R α)) = Except.ok (f a) := rfl
@[simp] theorem map_error {α β : Type} (e : String) (f : α → β) : (f <$> (Except.error e : R α)) = Except.error e := rfl

theorem getIdx_nat {τ : Type} (xs : List τ) (k : Nat) :
    getIdx xs (k : Int) = match xs[k]? with | some v => .ok v | none => .error "index-out-of-range" := by
  unfold getIdx
  have : ¬ ((k : Int) < 0) := by omega
  rw [if_neg this, Int.toNat_natCast]
  cases xs[k]? <;> rfl

theorem getIdx_neg {τ : Type} (xs : List τ) (i : Int) (h : i < 0) : getIdx xs i = .error "index-out-of-range" := by
  unfold getIdx; rw [if_pos h]

theorem getIdx_lt {τ : Type} (xs : List τ) {k : Nat} (h : k < xs.length) : getIdx xs (k : Int) = .ok xs[k] := by
  rw [getIdx_nat, List.getElem?_eq_getElem h]

theorem getIdx_ge {τ : Type} (xs : List τ) (i : Int) (h : (xs.length : Int) ≤ i) : getIdx xs i = .error "index-out-of-range" := by
  by_cases hneg : i < 0
  · exact getIdx_neg xs i hneg
  · obtain ⟨k, rfl⟩ := Int.eq_ofNat_of_zero_le (by omega : 0 ≤ i)
    rw [getIdx_nat]
    have : xs.length ≤ k := by omega
    simp [this]

@[simp] theorem getIdx_zero_cons {τ : Type} (x : τ) (xs : List τ) : getIdx (x :: xs) 0 = .ok x := by
  have := getIdx_nat (x :: xs) 0; simpa using this

@[simp] theorem getIdx_nil {τ : Type} (i : Int) : getIdx ([] : List τ) i = .error "index-out-of-range" := by
  unfold getIdx; split <;> simp

theorem getIdx_pre {τ : Type} (pre : List τ) (x : τ) (suf : List τ) :
    getIdx (pre ++ x :: suf) (pre.length : Int) = .ok x := by
  rw [getIdx_nat]; simp

theorem getIdx_drop {τ : Type} (xs : List τ) (k : Nat) :
    (∃ v, getIdx xs (k : Int) = .ok v ∧ xs.drop k = v :: xs.drop (k + 1)) ∨
    (getIdx xs (k : Int) = .error "index-out-of-range" ∧ xs.drop k = []) := by
  by_cases h : k < xs.length
  · exact .inl ⟨xs[k], getIdx_lt xs h, List.drop_eq_getElem_cons h⟩
  · exact .inr ⟨getIdx_ge xs k (by omega), List.drop_eq_nil_of_le (by omega)⟩

theorem setIdx_lt {τ : Type} (xs : List τ) (k : Nat) (v : τ) (h : k < xs.length) :
    setIdx xs (k : Int) v = .ok (xs.set k v) := by
  unfold setIdx
  have : ¬ ((k : Int) < 0 ∨ (xs.length : Int) ≤ (k : Int)) := by omega
  rw [if_neg this, Int.toNat_natCast]

theorem setIdx_pre {τ : Type} (pre : List τ) (x v : τ) (suf : List τ) :
    setIdx (pre ++ x :: suf) (pre.length : Int) v = .ok (pre ++ v :: suf) := by
  rw [setIdx_lt _ _ _ (by simp)]; simp

theorem setIdx_nat_of_le {τ : Type} (xs : List τ) (k : Nat) (v : τ) (h : xs.length ≤ k) :
    setIdx xs (k : Int) v = .error "index-out-of-range" := by
  unfold setIdx
  have : ((k : Int) < 0 ∨ (xs.length : Int) ≤ (k : Int)) := by right; omega
  rw [if_pos this]

theorem setIdx_neg {τ : Type} (xs : List τ) (i : Int) (v : τ) (h : i < 0) : setIdx xs i v = .error "index-out-of-range" := by
  unfold setIdx; rw [if_pos (Or.inl h)]

@[simp] theorem goMake_nat {τ : Type} (n : Nat) (z : τ) : goMake (n : Int) z = .ok (List.replicate n z) := by
  unfold goMake
  have : ¬ ((n : Int) < 0) := by omega
  rw [if_neg this]; simp

@[simp] theorem sliceFrom_one_cons {τ : Type} (x : τ) (xs : List τ) : sliceFrom (x :: xs) 1 = .ok xs := by
  unfold sliceFrom
  have : ¬ ((1 : Int) < 0 ∨ ((x :: xs).length : Int) < 1) := by simp only [List.length_cons]; omega
  rw [if_neg this]; simp

theorem replicate_succ_snoc {τ : Type} (n : Nat) (z : τ) : List.replicate (n + 1) z = z :: List.replicate n z := rfl

/-- the result of a loop that always falls through, followed by the generated `match` on it -/
def fin {σ ρ : Type} (k : σ → R ρ) : Ctl σ ρ → R ρ
  | Ctl.ret r => pure r
  | Ctl.next s => k s

@[simp] theorem loopRange_nil {τ σ ρ : Type} (body : Int → τ → σ → R (Ctl σ ρ)) (i : Int) (s : σ) :
    loopRange body [] i s = .ok (Ctl.next s) := rfl

theorem loopRange_cons {τ σ ρ : Type} (body : Int → τ → σ → R (Ctl σ ρ)) (v : τ) (vs : List τ) (i : Int) (s : σ) :
    loopRange body (v :: vs) i s = (body i v s >>= fun c => match c with
      | Ctl.next s' => loopRange body vs (i + 1) s'
      | Ctl.ret r => pure (Ctl.ret r)) := rfl

@[simp] theorem loopN_zero {σ ρ : Type} (body : Int → σ → R (Ctl σ ρ)) (d i : Int) (s : σ) :
    loopN body d 0 i s = .ok (Ctl.next s) := rfl

theorem loopN_succ {σ ρ : Type} (body : Int → σ → R (Ctl σ ρ)) (d : Int) (n : Nat) (i : Int) (s : σ) :
    loopN body d (n + 1) i s = (body i s >>= fun c => match c with
      | Ctl.next s' => loopN body d n (i + d) s'
      | Ctl.ret r => pure (Ctl.ret r)) := rfl

theorem loopN_down_succ {σ ρ : Type} (body : Int → σ → R (Ctl σ ρ)) (n : Nat) (s : σ) :
    loopN body (-1) (n + 1) (((n + 1 : Nat) : Int) - 1) s = (body (n : Int) s >>= fun c => match c with
      | Ctl.next s' => loopN body (-1) n ((n : Int) - 1) s'
      | Ctl.ret r => pure (Ctl.ret r)) := by
  have hi : (((n + 1 : Nat) : Int) - 1) = (n : Int) := by omega
  rw [loopN_succ, hi]
  rfl

/-- the number of iterations of `for i := n - 1; i >= 0; i--` as the translator writes it -/
theorem downCount (n : Nat) : ((n : Int) - 1 - 0 + 1).toNat = n := by omega

theorem snoc_of_length {τ : Type} {l : List τ} {n : Nat} (h : l.length = n + 1) :
    ∃ l' x, l = l' ++ [x] ∧ l'.length = n := by
  have hne : l ≠ [] := by intro e; simp [e] at h
  refine ⟨l.dropLast, l.getLast hne, (List.dropLast_concat_getLast hne).symm, ?_⟩
  simp [h]

/-- the loop invariants below are stated on `pre ++ suf` at index `pre.length`: the next index -/
theorem succ_length_eq {τ : Type} (pre : List τ) (v : τ) : ((pre.length : Int) + 1) = ((pre ++ [v]).length : Nat) := by simp

/-! ### `for i, v := range xs` is rendered as `for i := 0; i < len(xs); i++ { v := xs[i]; … }` -/

theorem range_loopN {τ σ ρ : Type} (body : Int → τ → σ → R (Ctl σ ρ)) :
    ∀ (suf pre : List τ) (s : σ),
      loopN (fun i s => getIdx (pre ++ suf) i >>= fun v => body i v s) 1 suf.length pre.length s = loopRange body suf pre.length s
  | [], _, _ => rfl
  | v :: vs, pre, s => by
    rw [List.length_cons, loopN_succ, getIdx_pre, bind_ok, loopRange_cons]
    congr 1
    funext c
    cases c with
    | ret r => rfl
    | next s' =>
      have := range_loopN body vs (pre ++ [v]) s'
      simpa using this

/-- as a simp lemma (with `Int.sub_zero`, `Int.toNat_natCast` for the iteration count) this reads the canonical three-clause
rendering of a `range` loop back as `loopRange`, for the lemmas stated about it -/
theorem range_loopN0 {τ σ ρ : Type} (body : Int → τ → σ → R (Ctl σ ρ)) (xs : List τ) (s : σ) :
    loopN (fun i s => getIdx xs i >>= fun v => body i v s) 1 xs.length 0 s = loopRange body xs 0 s :=
  range_loopN body xs [] s

/-- the index loop from 1 over `x :: xs` whose body first reads the element is the loop over the elements of `xs` (`for i := 1; i <
len(v); i++ { … v[i] … }` and `for i, e := range v[1:] { … e … }` visit the same elements; the index the body sees is the absolute one) -/
theorem range_loopN1 {τ σ ρ : Type} (body : Int → τ → σ → R (Ctl σ ρ)) (x : τ) (xs : List τ) (n : Nat) (s : σ) (hn : n = xs.length) :
    loopN (fun i s => getIdx (x :: xs) i >>= fun v => body i v s) 1 n 1 s = loopRange body xs 1 s := by
  subst hn
  exact range_loopN body xs [x] s

theorem bind_congr_right {β γ : Type} {x : R β} {f g : β → R γ} (h : ∀ a, f a = g a) : (x >>= f) = (x >>= g) :=
  bind_congr h

theorem ite_lt_eq_ite_ge {β : Type} (a b : Int) (x y : β) : (if a < b then x else y) = if a ≥ b then y else x := by
  by_cases h : a < b
  · rw [if_pos h, if_neg (by omega)]
  · rw [if_neg h, if_pos (by omega)]

/-! ### the loop shapes of data/sliceops.go, data/arraysint.go, data/arrays.go -/

/-- `for _, v := range xs { s = g s v }` (Product, Maximum) -/
theorem fold_loop {τ σ ρ : Type} (g : σ → τ → σ) (body : Int → τ → σ → R (Ctl σ ρ))
    (h : ∀ i v s, body i v s = .ok (Ctl.next (g s v))) :
    ∀ (xs : List τ) (i : Int) (s : σ), loopRange body xs i s = .ok (Ctl.next (xs.foldl g s)) := by
  intro xs
  induction xs with
  | nil => intro i s; rfl
  | cons v vs ih => intro i s; rw [loopRange_cons, h]; simp [ih]

section dot
variable {ρ : Type} (lhs rhs : List Int) (body : Int → Int → R (Ctl Int ρ))
    (h : ∀ i s, body i s = (getIdx lhs i >>= fun a => getIdx rhs i >>= fun b => .ok (Ctl.next (s + a * b))))
include h

/-- `for i := 0; i < len(lhs); i++ { result += lhs[i] * rhs[i] }` from index `pre.length` on -/
theorem dot_loop : ∀ (suf pre : List Int) (s : Int), lhs = pre ++ suf →
    loopN body 1 suf.length pre.length s = (dotProduct suf (rhs.drop pre.length) >>= fun r => .ok (Ctl.next (s + r)))
  | [], pre, s, _ => by simp [dotProduct]
  | a :: suf, pre, s, hl => by
    rw [List.length_cons, loopN_succ, h, hl, getIdx_pre]
    rcases getIdx_drop rhs pre.length with ⟨b, hb, hdb⟩ | ⟨hb, hdb⟩ <;> rw [hb, hdb]
    · simp only [bind_ok, dotProduct]
      rw [succ_length_eq pre a, dot_loop suf (pre ++ [a]) _ (by simp [hl]), List.length_append, List.length_singleton]
      cases dotProduct suf (List.drop (pre.length + 1) rhs) with
      | error e => rfl
      | ok r => simp only [bind_ok, pure_eq]; congr 2; omega
    · rfl

theorem dot_loop0 (s : Int) :
    loopN body 1 lhs.length 0 s = (dotProduct lhs rhs >>= fun r => .ok (Ctl.next (s + r))) :=
  dot_loop lhs rhs body h lhs [] s rfl

end dot

/-- the loops of `dotProduct` / `Multiply`, written out where a caller has them inline (simp lemmas: the counterpart of rewriting a
call with `gen_eq_dotProduct` / `gen_eq_Multiply`) -/
theorem dot_loop_inline {ρ : Type} (lhs rhs : List Int) (s : Int) :
    loopN (fun i s => getIdx lhs i >>= fun a => getIdx rhs i >>= fun b => (pure (Ctl.next (s + a * b)) : R (Ctl Int ρ)))
      1 lhs.length 0 s = (dotProduct lhs rhs >>= fun r => .ok (Ctl.next (s + r))) :=
  dot_loop0 lhs rhs _ (fun _ _ => rfl) s

section fill
variable {τ ρ : Type} (g : Nat → R τ) (body : Int → List τ → R (Ctl (List τ) ρ))
    (h : ∀ (k : Nat) res, body k res = (g k >>= fun v => setIdx res k v >>= fun r => .ok (Ctl.next r)))
    (N : Nat) (F : Nat → R (List τ)) (hN : F N = .ok [])
    (hF : ∀ k, k < N → F k = (g k >>= fun v => F (k + 1) >>= fun r => .ok (v :: r)))
include h hN hF

/-- `for i := k; i < N; i++ { res[i] = g i }` where computing `g i` may panic. `F k` = the values of the positions `k …` according
to the model: it is enough that `F` unfolds like the loop, one position at a time -/
theorem fill_loop :
    ∀ (n : Nat) (pre suf : List τ), pre.length + n = N → suf.length = n →
      loopN body 1 n pre.length (pre ++ suf) = (F pre.length >>= fun r => .ok (Ctl.next (pre ++ r))) := by
  intro n
  induction n with
  | zero =>
    intro pre suf hp hs
    have : suf = [] := List.eq_nil_of_length_eq_zero hs
    have hp' : pre.length = N := hp
    simp [this, hp', hN]
  | succ n ih =>
    intro pre suf hp hs
    match suf, hs with
    | z :: zs, hs =>
    rw [loopN_succ, h, hF _ (by omega)]
    cases g pre.length with
    | error e => rfl
    | ok v =>
      simp only [bind_ok, setIdx_pre]
      rw [List.append_cons, succ_length_eq pre v, ih (pre ++ [v]) zs (by simp; omega) (by simpa using hs), List.length_append,
        List.length_singleton]
      cases F (pre.length + 1) <;> simp

theorem fill_loop0 (z : τ) :
    loopN body 1 N 0 (List.replicate N z) = (F 0 >>= fun r => .ok (Ctl.next r)) := by
  have := fill_loop g body h N F hN hF N [] (List.replicate N z) (by simp) (by simp)
  simpa using this

end fill

/-- `for i := 0; i < len(lhs); i++ { result[i] = lhs[i] * rhs[i] }` -/
theorem mul_loop0 {ρ : Type} (lhs rhs : List Int) (body : Int → List Int → R (Ctl (List Int) ρ))
    (h : ∀ i res, body i res = (getIdx lhs i >>= fun a => getIdx rhs i >>= fun b => setIdx res i (a * b) >>= fun r => .ok (Ctl.next r))) :
    loopN body 1 lhs.length 0 (List.replicate lhs.length 0) = (multiply lhs rhs >>= fun r => .ok (Ctl.next r)) := by
  refine fill_loop0 (fun i : Nat => getIdx lhs i >>= fun a => getIdx rhs i >>= fun b => .ok (a * b)) body
    (fun k res => by rw [h]; cases getIdx lhs k <;> cases getIdx rhs k <;> rfl) lhs.length
    (fun k => multiply (lhs.drop k) (rhs.drop k)) (by simp [multiply]) (fun k hk => ?_) 0
  rw [List.drop_eq_getElem_cons hk, getIdx_lt lhs hk]
  rcases getIdx_drop rhs k with ⟨b, hb, hdb⟩ | ⟨hb, hdb⟩ <;> rw [hb, hdb] <;> rfl

theorem mul_loop_inline {ρ : Type} (lhs rhs : List Int) :
    loopN (fun i res => getIdx lhs i >>= fun a => getIdx rhs i >>= fun b => setIdx res i (a * b) >>= fun r =>
        (pure (Ctl.next r) : R (Ctl (List Int) ρ)))
      1 lhs.length 0 (List.replicate lhs.length 0) = (multiply lhs rhs >>= fun r => .ok (Ctl.next r)) :=
  mul_loop0 lhs rhs _ (fun _ _ => rfl)

/-- `for i := 0; i < len(xs); i++ { result[i] = f xs[i] }`, `for i, v := range xs { result[i] = f v }` (decrement, IntsToUints,
UintsToInts) -/
theorem map_loop0 {τ υ : Type} (f : υ → τ) (z : τ) (xs : List υ) (body : Int → List τ → R (Ctl (List τ) (List τ)))
    (h : ∀ i res, body i res = (getIdx xs i >>= fun a => setIdx res i (f a) >>= fun r => .ok (Ctl.next r))) :
    loopN body 1 xs.length 0 (List.replicate xs.length z) = .ok (Ctl.next (xs.map f)) := by
  refine fill_loop0 (fun i : Nat => getIdx xs i >>= fun a => .ok (f a)) body (fun k res => by rw [h]; cases getIdx xs k <;> rfl)
    xs.length (fun k => .ok ((xs.drop k).map f)) (by simp) (fun k hk => ?_) z
  rw [List.drop_eq_getElem_cons hk, getIdx_lt xs hk]
  rfl

/-- `for i := 0; i < n; i++ { result[i] = val }` (Uniform) -/
theorem const_loop0 {τ : Type} (val z : τ) (n : Nat) (body : Int → List τ → R (Ctl (List τ) (List τ)))
    (h : ∀ i res, body i res = (setIdx res i val >>= fun r => .ok (Ctl.next r))) :
    loopN body 1 n 0 (List.replicate n z) = .ok (Ctl.next (List.replicate n val)) := by
  refine fill_loop0 (fun _ => .ok val) body (fun k res => by rw [h]; rfl) n (fun k => .ok (List.replicate (n - k) val)) (by simp)
    (fun k hk => ?_) z
  rw [show n - k = n - (k + 1) + 1 by omega]
  rfl
/-- `for i := range den { res[i] = (n / den[i]) % mod[i] }`; the slice `xs` the loop ranges over (`den`, or the result slice) only
gives the number of iterations -/
theorem idivmod_loop0 (num : Int) (den md xs : List Int) (hx : xs.length = den.length)
    (body : Int → List Int → R (Ctl (List Int) (List Int)))
    (h : ∀ i res, body i res = (getIdx xs i >>= fun _ => getIdx den i >>= fun d => goDiv num d >>= fun q => getIdx md i >>= fun m =>
        goMod q m >>= fun x => setIdx res i x >>= fun r => .ok (Ctl.next r))) :
    loopN body 1 den.length 0 (List.replicate den.length 0) = (idivmod num den md >>= fun r => .ok (Ctl.next r)) := by
  refine fill_loop0 (fun i : Nat => getIdx xs i >>= fun _ => getIdx den i >>= fun d => goDiv num d >>= fun q => getIdx md i >>= fun m =>
      goMod q m) body (fun k res => by rw [h]; simp only [bind_assoc]) den.length (fun k => idivmod num (den.drop k) (md.drop k))
    (by simp [idivmod]) (fun k hk => ?_) 0
  rw [List.drop_eq_getElem_cons hk, getIdx_lt xs (hx ▸ hk), getIdx_lt den hk]
  simp only [bind_ok, idivmod, goDiv]
  split
  · rfl
  · rcases getIdx_drop md k with ⟨m, hm, hdm⟩ | ⟨hm, hdm⟩ <;> rw [hm, hdm]
    · simp only [bind_ok, goMod]
      split <;> rfl
    · rfl
/-- the loop of `Argmax` over `vector[1:]`; the second carried variable is the running maximum. The position stored is the loop
index plus `c` (1 for `range vector[1:]`, 0 for an index loop from 1) -/
theorem argmax_loop (c : Int) (body : Int → Int → (Int × Int) → R (Ctl (Int × Int) Int))
    (h : ∀ i v s, body i v s = .ok (Ctl.next (if v > s.2 then (i + c, v) else s))) :
    ∀ (xs : List Int) (i : Int) (s : Int × Int),
      loopRange body xs i s =
        .ok (Ctl.next (argmaxLoop xs (i + c) s.2 s.1, xs.foldl (fun m v => if v > m then v else m) s.2)) := by
  intro xs
  induction xs with
  | nil => intro i s; simp [argmaxLoop]
  | cons v vs ih =>
    intro i s
    rw [loopRange_cons, h]
    simp only [bind_ok]
    by_cases hv : v > s.2
    · simp only [hv, if_true, ih, argmaxLoop, List.foldl_cons, Int.add_right_comm i 1 c]
    · simp only [hv, if_false, ih, argmaxLoop, List.foldl_cons, Int.add_right_comm i 1 c]

/-- a `range` loop whose body does not use the element depends only on HOW MANY elements there are: `for i := range res` and
`for i := range den` with slices of one length are the same loop (no tie goes through it: `gen_eq_IDivMod` takes the slice the loop ranges
over as an argument of `idivmod_loop0`) -/
theorem loopRange_ignore {τ τ' σ ρ : Type} (body : Int → σ → R (Ctl σ ρ)) :
    ∀ (xs : List τ) (ys : List τ') (i : Int) (s : σ), xs.length = ys.length →
      loopRange (fun i _ s => body i s) xs i s = loopRange (fun i _ s => body i s) ys i s := by
  intro xs
  induction xs with
  | nil => intro ys i s h; cases ys with
    | nil => rfl
    | cons y ys => simp at h
  | cons x xs ih =>
    intro ys i s h
    cases ys with
    | nil => simp at h
    | cons y ys =>
      rw [loopRange_cons, loopRange_cons]
      congr 1
      funext c
      cases c with
      | ret r => rfl
      | next s' => exact ih ys (i + 1) s' (by simpa using h)

/-- the loop of `Argmax` written on the index: `for i := k; i < len(v); i++ { if v[i] > maxFound { maxFound = v[i]; res = i } }` -/
theorem argmax_idx_loop1 (x : Int) (xs : List Int) (body : Int → (Int × Int) → R (Ctl (Int × Int) Int))
    (h : ∀ i s, body i s = (getIdx (x :: xs) i >>= fun a => if a > s.2 then (getIdx (x :: xs) i >>= fun b => .ok (Ctl.next (i, b)))
        else .ok (Ctl.next s))) (n : Nat) (hn : n = xs.length) (s : Int × Int) :
    loopN body 1 n 1 s =
      .ok (Ctl.next (argmaxLoop xs 1 s.2 s.1, xs.foldl (fun m v => if v > m then v else m) s.2)) := by
  -- the second read of `vector[i]` gives the element already read: the body is that of the `range` form
  have hb : body = fun i s => getIdx (x :: xs) i >>= fun v => .ok (Ctl.next (if v > s.2 then (i, v) else s)) := by
    funext i s
    rw [h]
    cases getIdx (x :: xs) i with
    | error e => rfl
    | ok a => simp only [bind_ok]; split <;> rfl
  rw [hb, range_loopN1 _ x xs n s hn, argmax_loop 0 _ (fun i v s => by rw [Int.add_zero])]
  rfl

/-- one step of `offsetsT` read by index: the stride of position `n` is the stride of position `n+1` times `dims[n+1]` -/
theorem offsetsT_drop (dims : List Int) (n : Nat) (hn : n + 1 < dims.length) :
    ∃ r0 rt d', getIdx dims ((n + 1 : Nat) : Int) = .ok d' ∧ offsetsT (dims.drop (n + 1)) = r0 :: rt ∧
      offsetsT (dims.drop n) = (r0 * d') :: r0 :: rt := by
  have h1 : dims.drop (n + 1) = dims[n + 1] :: dims.drop (n + 1 + 1) := List.drop_eq_getElem_cons hn
  obtain ⟨r0, rt, hr⟩ : ∃ r0 rt, offsetsT (dims[n + 1] :: dims.drop (n + 1 + 1)) = r0 :: rt := by
    cases dims.drop (n + 1 + 1) <;> exact ⟨_, _, rfl⟩
  refine ⟨r0, rt, dims[n + 1], getIdx_lt dims hn, by rw [h1, hr], ?_⟩
  rw [List.drop_eq_getElem_cons (by omega : n < dims.length), h1]
  simp only [offsetsT, hr, List.headD_cons]

theorem setIdx_zeros {τ : Type} (n : Nat) (z v : τ) (rt : List τ) :
    setIdx (List.replicate (n + 1) z ++ rt) (n : Int) v = .ok (List.replicate n z ++ v :: rt) := by
  have := setIdx_pre (List.replicate n z) z v rt
  rwa [List.length_replicate, List.append_cons, ← List.replicate_succ'] at this

theorem getIdx_zeros {τ : Type} (n : Nat) (z x : τ) (rt : List τ) :
    getIdx (List.replicate n z ++ x :: rt) (n : Int) = .ok x := by
  have := getIdx_pre (List.replicate n z) x rt
  rwa [List.length_replicate] at this

/-- `for i := len(dims) - 2; i >= 0; i-- { res[i] = res[i+1] * dims[i+1] }`: with `n` iterations left, positions
`n …` of `res` hold the strides of `dims[n:]` -/
theorem offsets_loop (dims : List Int) (body : Int → List Int → R (Ctl (List Int) (List Int)))
    (h : ∀ i res, body i res = (getIdx res (i + 1) >>= fun a => getIdx dims (i + 1) >>= fun b =>
        setIdx res i (a * b) >>= fun r => .ok (Ctl.next r))) :
    ∀ (n : Nat), n < dims.length →
      loopN body (-1) n ((n : Int) - 1) (List.replicate n 0 ++ offsetsT (dims.drop n)) = .ok (Ctl.next (offsetsT dims)) := by
  intro n
  induction n with
  | zero => intro _; simp
  | succ n ih =>
    intro hn
    obtain ⟨r0, rt, d', hd', hr, e2⟩ := offsetsT_drop dims n hn
    have hk1 : ((n : Int) + 1) = ((n + 1 : Nat) : Int) := by omega
    rw [loopN_down_succ, h, hk1, hd', hr, getIdx_zeros, bind_ok, bind_ok, setIdx_zeros, bind_ok, ← e2]
    exact ih (by omega)

/-- the same strides with a RUNNING stride instead of a re-read of `res[i+1]`:
`stride := 1; for i := len(dims) - 1; i > 0; i-- { stride *= dims[i]; res[i-1] = stride }` — with `n` iterations left the
running stride is the stride of position `n` -/
theorem offsets_loop_stride (dims : List Int) (body : Int → (Int × List Int) → R (Ctl (Int × List Int) (List Int)))
    (h : ∀ i s, body i s = (getIdx dims i >>= fun b => setIdx s.2 (i - 1) (s.1 * b) >>= fun r => .ok (Ctl.next (s.1 * b, r)))) :
    ∀ (n : Nat), n < dims.length → ∀ (r0 : Int) (rt : List Int), offsetsT (dims.drop n) = r0 :: rt →
      loopN body (-1) n (n : Int) (r0, List.replicate n 0 ++ r0 :: rt) =
        .ok (Ctl.next ((offsetsT dims).headD 1, offsetsT dims)) := by
  intro n
  induction n with
  | zero =>
    intro _ r0 rt hr
    have hr' : offsetsT dims = r0 :: rt := by simpa using hr
    simp [hr']
  | succ n ih =>
    intro hn r0 rt hr
    obtain ⟨r0', rt', d', hd', hr', e2⟩ := offsetsT_drop dims n hn
    obtain ⟨rfl, rfl⟩ : r0 = r0' ∧ rt = rt' := by simpa [hr] using hr'
    have hi : (((n + 1 : Nat) : Int) - 1) = (n : Int) := by omega
    have hi2 : (((n + 1 : Nat) : Int) + -1) = (n : Int) := by omega
    rw [loopN_succ, h, hd', bind_ok, hi, setIdx_zeros, bind_ok, hi2]
    exact ih (by omega) (r0 * d') (r0 :: rt) e2

theorem incCarry_snoc : ∀ (vp wp : List Int) (v w : Int), vp.length = wp.length →
    incCarry (vp ++ [v]) (wp ++ [w]) =
      if v + 1 ≥ w then ((incCarry vp wp).1 ++ [0], (incCarry vp wp).2) else (vp ++ [v + 1], false)
  | [], [], v, w, _ => by
    by_cases hvw : v + 1 ≥ w <;> simp [incCarry, hvw]
  | [], _ :: _, _, _, h => by simp at h
  | _ :: _, [], _, _, h => by simp at h
  | a :: vp, b :: wp, v, w, h => by
    have ih := incCarry_snoc vp wp v w (by simpa using h)
    simp only [List.cons_append, incCarry, ih]
    by_cases hvw : v + 1 ≥ w
    · simp only [hvw, if_true]
      rcases hc : incCarry vp wp with ⟨r, c⟩
      cases c <;> simp
      split <;> simp
    · simp [hvw]

section inc
variable (wrt : List Int) (body : Int → List Int → R (Ctl (List Int) (List Int)))
    (h : ∀ i vec, body i vec = (getIdx vec i >>= fun a => setIdx vec i (a + 1) >>= fun vec1 => getIdx vec1 i >>= fun b =>
        getIdx wrt i >>= fun w =>
          if b ≥ w then (setIdx vec1 i 0 >>= fun vec2 => .ok (Ctl.next vec2)) else .ok (Ctl.ret vec1)))
include h

/-- the loop of `Increment` over the positions `n-1 … 0`: it leaves by `return` exactly when there is no carry out -/
theorem inc_loop :
    ∀ (n : Nat) (vp wp wsuf rest : List Int), vp.length = n → wp.length = n → wrt = wp ++ wsuf →
      loopN body (-1) n ((n : Int) - 1) (vp ++ rest) =
        .ok (if (incCarry vp wp).2 then Ctl.next ((incCarry vp wp).1 ++ rest) else Ctl.ret ((incCarry vp wp).1 ++ rest)) := by
  intro n
  induction n with
  | zero =>
    intro vp wp wsuf rest hv hw _
    have e1 : vp = [] := by simpa using hv
    have e2 : wp = [] := by simpa using hw
    simp [e1, e2, incCarry]
  | succ n ih =>
    intro vp wp wsuf rest hv hw hwrt
    obtain ⟨vp', v, rfl, rfl⟩ := snoc_of_length hv
    obtain ⟨wp', w, rfl, hw'⟩ := snoc_of_length hw
    rw [loopN_down_succ, h, ← List.append_cons, getIdx_pre, bind_ok, setIdx_pre, bind_ok, getIdx_pre, bind_ok]
    have gw : getIdx wrt ((vp'.length : Nat) : Int) = .ok w := by
      rw [hwrt, ← hw', ← List.append_cons]
      exact getIdx_pre _ _ _
    rw [gw, bind_ok, incCarry_snoc vp' wp' v w (by omega)]
    by_cases hvw : v + 1 ≥ w
    · simp only [hvw, if_true, setIdx_pre, bind_ok]
      rw [ih vp' wp' (w :: wsuf) (0 :: rest) rfl hw' (by simp [hwrt])]
      simp
    · simp [hvw]

/-- a vector shorter than `wrt`: the first iteration reads `vector[len(wrt)-1]` and panics -/
theorem inc_loop_short (n : Nat) (vec : List Int) (hn : vec.length < n) :
    loopN body (-1) n ((n : Int) - 1) vec = .error "index-out-of-range" := by
  cases n with
  | zero => omega
  | succ n => rw [loopN_succ, h, getIdx_ge vec _ (by omega)]; rfl

/-- `Increment` as generated: the loop, then the (updated) vector whichever way the loop ended -/
theorem inc_fin (vector : List Int) (k : Ctl (List Int) (List Int) → R (List Int))
    (k1 : ∀ r, k (Ctl.ret r) = .ok r) (k2 : ∀ s, k (Ctl.next s) = .ok s) :
    (loopN body (-1) wrt.length ((wrt.length : Int) - 1) vector >>= k) = increment vector wrt := by
  unfold increment
  by_cases hlt : vector.length < wrt.length
  · rw [inc_loop_short wrt body h wrt.length vector hlt]
    simp [hlt, oob]
  · have hsplit : vector.take wrt.length ++ vector.drop wrt.length = vector := List.take_append_drop _ _
    have := inc_loop wrt body h wrt.length (vector.take wrt.length) wrt [] (vector.drop wrt.length)
      (by simp; omega) rfl (by simp)
    rw [hsplit] at this
    rw [this]
    simp only [hlt, if_false, bind_ok]
    split <;> simp [k1, k2]

end inc

/-- the `if nd.Dims[i] > 1 { … }` block of `Contiguous`: `some b` = `return b`, `none` = falls through -/
def contigInner (v : View) (i : Nat) (co : Int) (must : Bool) (d : Int) : R (Option Bool) :=
  if d > 1 then
    if must then .ok (some false)
    else match v.step[i]? with
      | none => oob
      | some s =>
        if s > 1 then .ok (some false)
        else match v.offset[i]? with
          | none => oob
          | some o => if o > co then .ok (some false) else .ok none
  else .ok none

/-- one iteration of the `Contiguous` loop at index `i`, in the words of `View.contigLoop` -/
def contigStep (v : View) (i : Nat) (co : Int) (must : Bool) : R (Ctl (Bool × Int) Bool) :=
  match v.dims[i]? with
  | none => oob
  | some d =>
    match contigInner v i co must d with
    | .error e => .error e
    | .ok (some b) => .ok (Ctl.ret b)
    | .ok none =>
      match v.orig[i]? with
      | none => oob
      | some od => .ok (Ctl.next (must || (d != od), co * d))

theorem contigLoop_succ (v : View) (i : Nat) (co : Int) (must : Bool) :
    v.contigLoop (i + 1) co must =
      match v.dims[i]? with
      | none => oob
      | some d =>
        match contigInner v i co must d with
        | .error e => .error e
        | .ok (some b) => .ok b
        | .ok none =>
          match v.orig[i]? with
          | none => oob
          | some od => v.contigLoop i (co * d) (must || (d != od)) := rfl

/-- `Contiguous()` as generated: the loop (one iteration = `contigStep`), then `return true` -/
theorem contig_fin (v : View) (body : Int → (Bool × Int) → R (Ctl (Bool × Int) Bool))
    (k : Ctl (Bool × Int) Bool → R Bool)
    (h : ∀ (i : Nat) (s : Bool × Int), body (i : Int) s = contigStep v i s.2 s.1)
    (k1 : ∀ b, k (Ctl.ret b) = .ok b) (k2 : ∀ s, k (Ctl.next s) = .ok true) :
    ∀ (n : Nat) (co : Int) (must : Bool),
      (loopN body (-1) n ((n : Int) - 1) (must, co) >>= k) = v.contigLoop n co must := by
  intro n
  induction n with
  | zero => intro co must; exact k2 _
  | succ n ih =>
    intro co must
    rw [loopN_down_succ, h, contigLoop_succ]
    simp only [contigStep]
    cases v.dims[n]? with
    | none => rfl
    | some d =>
      dsimp only
      generalize contigInner v n co must d = inner
      rcases inner with e | (_ | b)
      · rfl
      · dsimp only
        cases v.orig[n]? with
        | none => rfl
        | some od => exact ih _ _
      · exact k1 b

/-- `Increment` with the new value computed first and stored once (`next := v[i] + 1; if next < w[i] { v[i] = next; return };
v[i] = 0`) performs, on every input, what the read-modify-write form does (the same result, the same panic) -/
theorem inc_body_reordered (wrt : List Int) (i : Int) (vec : List Int) :
    (getIdx vec i >>= fun a => getIdx wrt i >>= fun w =>
        if a + 1 < w then (setIdx vec i (a + 1) >>= fun v => (.ok (Ctl.ret v) : R (Ctl (List Int) (List Int))))
        else (setIdx vec i 0 >>= fun v => .ok (Ctl.next v))) =
    (getIdx vec i >>= fun a => setIdx vec i (a + 1) >>= fun vec1 => getIdx vec1 i >>= fun b =>
        getIdx wrt i >>= fun w =>
          if b ≥ w then (setIdx vec1 i 0 >>= fun vec2 => .ok (Ctl.next vec2)) else .ok (Ctl.ret vec1)) := by
  unfold getIdx setIdx
  by_cases hneg : i < 0
  · simp only [hneg, if_true, bind_error]
  · by_cases hlt : i.toNat < vec.length
    · have h1 : ¬ ((vec.length : Int) ≤ i) := by omega
      have h2 : ∀ v : Int, ¬ (((vec.set i.toNat v).length : Int) ≤ i) := by
        intro v; simp only [List.length_set]; omega
      simp only [hneg, false_or, if_false, List.getElem?_eq_getElem hlt, bind_ok, h1, h2, List.getElem?_set_self hlt, List.set_set]
      cases wrt[i.toNat]? with
      | none => rfl
      | some w =>
        simp only [bind_ok]
        by_cases hc : vec[i.toNat] + 1 < w
        · have : ¬ (vec[i.toNat] + 1 ≥ w) := by omega
          simp only [hc, this, if_true, if_false]
        · have : vec[i.toNat] + 1 ≥ w := by omega
          simp only [hc, this, if_true, if_false]
    · simp only [hneg, if_false, List.getElem?_eq_none (by omega : vec.length ≤ i.toNat), bind_error]

section equal
variable (lhs rhs : List Int) (body : Int → Int → Unit → R (Ctl Unit Bool))
    (h : ∀ i v u, body i v u = (getIdx lhs i >>= fun a => getIdx rhs i >>= fun b =>
        if a ≠ b then .ok (Ctl.ret false) else .ok (Ctl.next ())))
include h

/-- `for i := range lhs { if lhs[i] != rhs[i] { return false } }` on two slices of the same length, both split at the loop index -/
theorem equal_loop : ∀ (ls lp rs rp : List Int), lhs = lp ++ ls → rhs = rp ++ rs → rp.length = lp.length → rs.length = ls.length →
    loopRange body ls lp.length () = .ok (if ls = rs then Ctl.next () else Ctl.ret false)
  | [], _, [], _, _, _, _, _ => rfl
  | a :: ls, lp, b :: rs, rp, hl, hr, hp, hs => by
    rw [loopRange_cons, h, hl, getIdx_pre, hr, ← hp, getIdx_pre, hp]
    simp only [bind_ok]
    by_cases hab : a = b
    · simp only [hab, ne_eq, not_true_eq_false, if_false, bind_ok, succ_length_eq lp b, List.cons.injEq, true_and]
      exact equal_loop ls (lp ++ [b]) rs (rp ++ [b]) (by simp [hl, hab]) (by simp [hr]) (by simp [hp]) (by simpa using hs)
    · simp only [hab, ne_eq, not_false_eq_true, if_true, bind_ok, pure_eq, List.cons.injEq, false_and, if_false]

theorem equal_loop0 (hlen : lhs.length = rhs.length) :
    loopRange body lhs 0 () = .ok (if lhs = rhs then Ctl.next () else Ctl.ret false) :=
  equal_loop lhs rhs body h lhs [] rhs [] rfl rfl rfl hlen.symm

end equal

theorem getIdx_cons_succ {τ : Type} (x : τ) (xs : List τ) (k : Nat) : getIdx (x :: xs) ((k + 1 : Nat) : Int) = getIdx xs k := by
  rw [getIdx_nat, getIdx_nat, List.getElem?_cons_succ]

@[simp] theorem getIdx_one_cons {τ : Type} (x : τ) (xs : List τ) : getIdx (x :: xs) 1 = getIdx xs 0 := getIdx_cons_succ x xs 0

@[simp] theorem getIdx_two_cons {τ : Type} (x : τ) (xs : List τ) : getIdx (x :: xs) 2 = getIdx xs 1 := getIdx_cons_succ x xs 1

theorem setIdx_pre' {τ : Type} (pre : List τ) (x v : τ) (suf : List τ) (k : Nat) (hk : pre.length = k) :
    setIdx (pre ++ x :: suf) (k : Int) v = .ok (pre ++ v :: suf) := by
  subst hk; exact setIdx_pre pre x v suf

theorem toUint_eq (x : Int) : toUint x = OW.Sim.H5.toUint x := rfl

abbrev Quad := List Nat × List Nat × List Nat × List Nat

section slab
variable (dims : List Int) (body : Int → Option (List Int) → Quad → R (Ctl Quad Quad))
    (h : ∀ (po so ps ss pc sc pb sb : List Nat) (z1 z2 z3 z4 : Nat) (dim : Option (List Int)),
        ps.length = po.length → pc.length = po.length → pb.length = po.length →
        body (po.length : Int) dim (po ++ z1 :: so, ps ++ z2 :: ss, pc ++ z3 :: sc, pb ++ z4 :: sb) =
          (OW.Sim.H5.slabDim dims po.length dim >>= fun e =>
            .ok (Ctl.next (po ++ e.1 :: so, ps ++ e.2.1 :: ss, pc ++ e.2.2 :: sc, pb ++ 1 :: sb))))
include h

/-- the loop of `makeHyperslab`: four result slices filled position by position. `h` = one iteration on slices whose
first `k` positions are done (all four of the same length) is `slabDim` of the hand-written model. -/
theorem slab_loop :
    ∀ (sel : List (Option (List Int))) (po so ps ss pc sc pb sb : List Nat),
      ps.length = po.length → pc.length = po.length → pb.length = po.length →
      so.length = sel.length → ss.length = sel.length → sc.length = sel.length → sb.length = sel.length →
      loopRange body sel (po.length : Int) (po ++ so, ps ++ ss, pc ++ sc, pb ++ sb) =
        (OW.Sim.H5.slabDims dims po.length sel >>= fun l =>
          .ok (Ctl.next (po ++ l.map (·.1), ps ++ l.map (·.2.1), pc ++ l.map (·.2.2), pb ++ l.map (fun _ => 1)))) := by
  intro sel
  induction sel with
  | nil =>
    intro po so ps ss pc sc pb sb _ _ _ h1 h2 h3 h4
    obtain rfl := List.eq_nil_of_length_eq_zero h1
    obtain rfl := List.eq_nil_of_length_eq_zero h2
    obtain rfl := List.eq_nil_of_length_eq_zero h3
    obtain rfl := List.eq_nil_of_length_eq_zero h4
    simp [OW.Sim.H5.slabDims]
  | cons d rest ih =>
    intro po so ps ss pc sc pb sb hps hpc hpb h1 h2 h3 h4
    match so, ss, sc, sb, h1, h2, h3, h4 with
    | z1 :: so, z2 :: ss, z3 :: sc, z4 :: sb, h1, h2, h3, h4 =>
    rw [loopRange_cons, h po so ps ss pc sc pb sb z1 z2 z3 z4 d hps hpc hpb]
    simp only [OW.Sim.H5.slabDims]
    cases OW.Sim.H5.slabDim dims po.length d with
    | error e => rfl
    | ok e =>
      simp only [bind_ok]
      rw [List.append_cons po, List.append_cons ps, List.append_cons pc, List.append_cons pb, succ_length_eq po e.1, ih (po ++ [e.1]) so (ps ++ [e.2.1]) ss (pc ++ [e.2.2]) sc (pb ++ [1]) sb
        (by simp [hps]) (by simp [hpc]) (by simp [hpb]) (by simpa using h1) (by simpa using h2) (by simpa using h3) (by simpa using h4)]
      have e2 : (po ++ [e.1]).length = po.length + 1 := by simp
      rw [e2]
      cases OW.Sim.H5.slabDims dims (po.length + 1) rest with
      | error e => rfl
      | ok l => simp only [bind_ok, pure_eq, List.map_cons, List.append_assoc, List.singleton_append]

theorem slab_loop0 (sel : List (Option (List Int))) :
    loopRange body sel 0 (List.replicate sel.length 0, List.replicate sel.length 0, List.replicate sel.length 0, List.replicate sel.length 0) =
      (OW.Sim.H5.slabDims dims 0 sel >>= fun l =>
        .ok (Ctl.next (l.map (·.1), l.map (·.2.1), l.map (·.2.2), l.map (fun _ => 1)))) := by
  have := slab_loop dims body h sel [] (List.replicate sel.length 0) [] (List.replicate sel.length 0) []
    (List.replicate sel.length 0) [] (List.replicate sel.length 0) rfl rfl rfl (by simp) (by simp) (by simp) (by simp)
  simpa using this

end slab

/-! ### `NdArrayTypeCommon` of the regenerated file as the hand-written `View` -/

def toView (nd : data.NdArrayTypeCommon) : View :=
  { orig := nd.OriginalDims, dims := nd.Dims, start := nd.Start, offset := nd.Offset, step := nd.Step, offStep := nd.OffsetStep }

def ofView (v : View) : data.NdArrayTypeCommon :=
  { OriginalDims := v.orig, Dims := v.dims, Start := v.start, Offset := v.offset, Step := v.step, OffsetStep := v.offStep }

@[simp] theorem toView_ofView (v : View) : toView (ofView v) = v := rfl
@[simp] theorem ofView_toView (nd : data.NdArrayTypeCommon) : ofView (toView nd) = nd := rfl

end OW.Proofs.GenIdx
