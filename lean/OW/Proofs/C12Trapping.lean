import OW.Proofs.C12Mix
import OW.Kernels.StorageParticulateTrapping
import Mathlib.Tactic.LinearCombination
/-!
C12 helpers: `storageParticulateTrapping` over ℝ.
-/
namespace OW.C12
open OW OW.Kernels
open StorageParticulateTrapping (Params)

theorem damTrappingPC_bounds {p : Params ℝ} {qi pc : ℝ} (h : pc = StorageParticulateTrapping.damTrappingPC p qi) :
    0 ≤ pc ∧ pc ≤ 100 := by
  subst h
  unfold StorageParticulateTrapping.damTrappingPC
  split_ifs with h
  · simp only [realnum, RealNum.sci_zero, RealNum.sci_100]
    exact ⟨le_min (by norm_num) (le_max_left _ _), min_le_left _ _⟩
  · simp only [realnum, RealNum.sci_zero]
    exact ⟨le_refl _, by norm_num⟩

theorem trapping_step_eq (p : Params ℝ) (s im qi q v : ℝ) :
    ∃ pc s1 out, pc = StorageParticulateTrapping.damTrappingPC p qi ∧
      s1 = s + im * p.deltaT - im * p.deltaT * pc / 100 ∧
      out = (if 0 < q * p.deltaT + v then q * (s1 / (q * p.deltaT + v)) else 0) ∧
      StorageParticulateTrapping.step p s (im, qi, q, v) =
        (max (s1 - out * p.deltaT) 0, ⟨im * p.deltaT * pc / 100, out⟩) := by
  refine ⟨_, _, _, rfl, rfl, rfl, ?_⟩
  simp only [StorageParticulateTrapping.step, realnum, RealNum.sci_zero, RealNum.sci_100]

/-- Not a `MassStep`: the budget holds only for a non-negative store and non-negative inputs (the code clips the new store at
0, and the clip is inactive because the released mass never exceeds `s1`). The conclusion is `(invariant ∧ budget) ∧ io`, the
shapes `scan_mass_eq` and `scan_io` take; `r` names the result (callers pass `rfl`). -/
theorem trapping_step (p : Params ℝ) (s : ℝ) (x : ℝ × ℝ × ℝ × ℝ) (hdt : 0 ≤ p.deltaT) (hs : 0 ≤ s)
    (hx : 0 ≤ x.1 ∧ 0 ≤ x.2.2.1 ∧ 0 ≤ x.2.2.2) {r : ℝ × StorageParticulateTrapping.Out ℝ}
    (h : StorageParticulateTrapping.step p s x = r) :
    (0 ≤ r.1 ∧ s + x.1 * p.deltaT = r.1 + (r.2.trappedMass + r.2.outflowLoad * p.deltaT)) ∧
    0 ≤ r.2.trappedMass ∧ r.2.trappedMass ≤ x.1 * p.deltaT ∧ 0 ≤ r.2.outflowLoad := by
  obtain ⟨im, qi, q, v⟩ := x
  obtain ⟨him, hq, hv⟩ := hx
  subst h
  obtain ⟨pc, s1, out, hpc, hs1, hout, e⟩ := trapping_step_eq p s im qi q v
  obtain ⟨pc0, pc100⟩ := damTrappingPC_bounds hpc
  rw [e]
  have hin : 0 ≤ im * p.deltaT := mul_nonneg him hdt
  have htr0 : 0 ≤ im * p.deltaT * pc / 100 := div_nonneg (mul_nonneg hin pc0) (by norm_num)
  have htr1 : im * p.deltaT * pc / 100 ≤ im * p.deltaT := RealNum.mul_div_hundred_le hin pc100
  have hs1nn : 0 ≤ s1 := by rw [hs1]; linarith
  by_cases h : 0 < q * p.deltaT + v
  · -- the clip at 0 is inactive: what is released is the outflow's share of `s1`
    rw [if_pos h] at hout
    have key := mix_split s1 h rfl
    have hconc : 0 ≤ s1 / (q * p.deltaT + v) := div_nonneg hs1nn h.le
    have hrest : s1 - out * p.deltaT = s1 / (q * p.deltaT + v) * v := by
      rw [hout]; linear_combination (-1 : ℝ) * key
    rw [hrest, max_eq_left (mul_nonneg hconc hv)]
    exact ⟨⟨mul_nonneg hconc hv, by linear_combination hrest - hs1⟩, htr0, htr1, hout ▸ mul_nonneg hq hconc⟩
  · rw [if_neg h] at hout
    rw [hout, zero_mul, sub_zero, max_eq_left hs1nn]
    exact ⟨⟨hs1nn, by linear_combination -hs1⟩, htr0, htr1, le_rfl⟩

end OW.C12
