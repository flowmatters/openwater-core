import OW.Proofs.SimUpd
/-!
C07: the SCHEDULE ABSTRACTION in which `owsim_eq_ref_safe_schedule` is stated. A schedule is a list of data actions
(`OW.Sim.Act`: `run i`, `links i` of the main loop, `write k`, `purge k` of the writers); `Prog` counts how far it has
come, `progStep` admits an action only in the order the writer protocol guarantees, and `SafeComplete` says that every
action of the list is admitted and that at the end every generation has run, is linked and written. Nothing here looks at
data: `OW/Proofs/SimGraph.lean` proves that admitted actions keep the data invariant, `OW/Proofs/SimBridge.lean` that every
run of the writer protocol projects to an admitted schedule, and `earlySchedule_safe` (here) that the schedule of `owsim`
is one. Core Lean only.
-/
namespace OW.Sim

/-- how far a schedule has progressed -/
structure Prog where
  /-- generations `< ran` have run -/
  ran : Nat
  /-- the outgoing links of generations `< linked` have been applied -/
  linked : Nat
  written : Nat → Bool
  purged : Nat → Bool

def Prog.init : Prog := ⟨0, 0, fun _ => false, fun _ => false⟩

/-- what the writer protocol guarantees about the order of actions (C07-T2): the main loop runs generation `i` after
the links of generation `i-1`; a generation is written after it has run and before it is purged, and only once; it is
purged only after it is written and its outgoing links are applied. (The guard `p.purged k = false` of `write k` follows
from `p.written k = false` wherever `PInv` holds; it is spelt out so that the order can be read off this definition alone.) -/
def progStep (G : Nat) (p : Prog) : Act → Option Prog
  | .run i => if i = p.ran ∧ p.linked = i ∧ i < G then some { p with ran := i + 1 } else none
  | .links i => if i + 1 = p.ran ∧ p.linked = i then some { p with linked := i + 1 } else none
  | .write k =>
    if k < p.ran ∧ p.written k = false ∧ p.purged k = false then some { p with written := upd p.written k true } else none
  | .purge k => if p.written k = true ∧ k < p.linked then some { p with purged := upd p.purged k true } else none

def progRun (G : Nat) : Prog → List Act → Option Prog
  | p, [] => some p
  | p, a :: rest => match progStep G p a with
    | some p' => progRun G p' rest
    | none => none

/-- a schedule that respects the protocol and is complete: every generation run, linked and written -/
def SafeComplete (G : Nat) (acts : List Act) : Prop :=
  ∃ p, progRun G Prog.init acts = some p ∧ p.ran = G ∧ p.linked = G ∧ ∀ k, k < G → p.written k = true

theorem progStep_run {G : Nat} {p : Prog} {i : Nat} (h : i = p.ran ∧ p.linked = i ∧ i < G) :
    progStep G p (.run i) = some { p with ran := i + 1 } := if_pos h

theorem progStep_links {G : Nat} {p : Prog} {i : Nat} (h : i + 1 = p.ran ∧ p.linked = i) :
    progStep G p (.links i) = some { p with linked := i + 1 } := if_pos h

theorem progStep_write {G : Nat} {p : Prog} {k : Nat} (h : k < p.ran ∧ p.written k = false ∧ p.purged k = false) :
    progStep G p (.write k) = some { p with written := upd p.written k true } := if_pos h

theorem progStep_purge {G : Nat} {p : Prog} {k : Nat} (h : p.written k = true ∧ k < p.linked) :
    progStep G p (.purge k) = some { p with purged := upd p.purged k true } := if_pos h

theorem progRun_cons {G : Nat} {p p' : Prog} {a : Act} {rest : List Act} {r : Option Prog}
    (h : progStep G p a = some p') (h' : progRun G p' rest = r) : progRun G p (a :: rest) = r := by
  simp only [progRun, h, h']

theorem progRun_append (G : Nat) : ∀ (a b : List Act) (p : Prog),
    progRun G p (a ++ b) = match progRun G p a with
      | some p' => progRun G p' b
      | none => none := by
  intro a
  induction a with
  | nil => intro b p; rfl
  | cons x rest ih =>
    intro b p
    simp only [List.cons_append, progRun]
    cases h : progStep G p x with
    | none => rfl
    | some p1 => exact ih b p1

/-- the invariant of the counters of a schedule (`Writer.InvP`, with the letters the other way round, is the invariant of the
writer PROTOCOL, a different transition system) -/
structure PInv (G : Nat) (p : Prog) : Prop where
  ranG : p.ran ≤ G
  lr : p.linked ≤ p.ran
  rl : p.ran ≤ p.linked + 1
  wr : ∀ k, p.written k = true → k < p.ran
  pw : ∀ k, p.purged k = true → p.written k = true ∧ k < p.linked

theorem PInv.not_purged {G : Nat} {p : Prog} (hp : PInv G p) {k : Nat} (hk : p.linked ≤ k) : p.purged k = false :=
  Bool.eq_false_iff.mpr fun h => Nat.not_le_of_lt (hp.pw k h).2 hk

theorem pinv_step {G : Nat} {p p' : Prog} {a : Act} (hp : PInv G p) (h : progStep G p a = some p') : PInv G p' := by
  obtain ⟨ranG, lr, rl, wr, pw⟩ := hp
  cases a <;> simp only [progStep, Option.ite_none_right_eq_some, Option.some.injEq] at h <;> obtain ⟨hc, rfl⟩ := h
  case run i =>
    refine ⟨hc.2.2, ?_, ?_, fun k hk => ?_, pw⟩
    · show p.linked ≤ i + 1; omega
    · show i + 1 ≤ p.linked + 1; omega
    · have := wr k hk; show k < i + 1; omega
  case links i =>
    refine ⟨ranG, ?_, ?_, wr, fun k hk => ⟨(pw k hk).1, ?_⟩⟩
    · show i + 1 ≤ p.ran; omega
    · show p.ran ≤ i + 1 + 1; omega
    · have := (pw k hk).2; show k < i + 1; omega
  case write k =>
    exact ⟨ranG, lr, rl, fun k' hk' => (upd_true_iff.mp hk').elim (fun e => e ▸ hc.1) (wr k'),
      fun k' hk' => ⟨upd_true_iff.mpr (Or.inr (pw k' hk').1), (pw k' hk').2⟩⟩
  case purge k =>
    exact ⟨ranG, lr, rl, wr, fun k' hk' => (upd_true_iff.mp hk').elim (fun e => e ▸ hc) (pw k')⟩

theorem earlySchedule_succ (n : Nat) :
    earlySchedule (n + 1) = earlySchedule n ++
      ([Act.run n] ++ (if n = 0 then [] else [Act.purge (n - 1)]) ++ [Act.write n, Act.links n]) := by
  unfold earlySchedule
  rw [List.range_succ, List.flatMap_append]
  simp

/-- the progress after `n` rounds of the early schedule: generations `< n` run, linked and written, all but the last
of them purged -/
def progAt (n : Nat) : Prog := ⟨n, n, fun k => decide (k < n), fun k => decide (k + 1 < n)⟩

theorem progRun_round {G n : Nat} (hn : n < G) :
    progRun G (progAt n) ([Act.run n] ++ (if n = 0 then [] else [Act.purge (n - 1)]) ++ [Act.write n, Act.links n]) =
      some (progAt (n + 1)) := by
  have hw : upd (fun k => decide (k < n)) n true = fun k => decide (k < n + 1) := upd_decide fun k => by omega
  cases n with
  | zero =>
    show progRun G (progAt 0) [.run 0, .write 0, .links 0] = _
    refine progRun_cons (progStep_run ⟨rfl, rfl, hn⟩) ?_
    refine progRun_cons (progStep_write ⟨Nat.zero_lt_one, rfl, rfl⟩) ?_
    refine progRun_cons (progStep_links ⟨rfl, rfl⟩) ?_
    exact congrArg (fun f => some (Prog.mk 1 1 f _)) hw
  | succ m =>
    have hp : upd (fun k => decide (k + 1 < m + 1)) m true = fun k => decide (k + 1 < m + 1 + 1) :=
      upd_decide fun k => by omega
    have hnp : upd (fun k => decide (k + 1 < m + 1)) m true (m + 1) = false := by
      rw [hp]; exact decide_eq_false (Nat.lt_irrefl _)
    show progRun G (progAt (m + 1)) [.run (m + 1), .purge m, .write (m + 1), .links (m + 1)] = _
    refine progRun_cons (progStep_run ⟨rfl, rfl, hn⟩) ?_
    refine progRun_cons (progStep_purge ⟨decide_eq_true (Nat.lt_succ_self m), Nat.lt_succ_self m⟩) ?_
    refine progRun_cons (progStep_write ⟨Nat.lt_succ_self _, decide_eq_false (Nat.lt_irrefl _), hnp⟩) ?_
    refine progRun_cons (progStep_links ⟨rfl, rfl⟩) ?_
    exact (congrArg (fun f => some (Prog.mk _ _ f _)) hw).trans (congrArg (fun f => some (Prog.mk _ _ _ f)) hp)

theorem earlySchedule_prog (G : Nat) : ∀ n, n ≤ G → progRun G Prog.init (earlySchedule n) = some (progAt n) := by
  intro n
  induction n with
  | zero => intro _; rfl
  | succ n ih =>
    intro hn
    rw [earlySchedule_succ, progRun_append, ih (by omega)]
    exact progRun_round hn

theorem earlySchedule_safe (G : Nat) : SafeComplete G (earlySchedule G) :=
  ⟨progAt G, earlySchedule_prog G G (Nat.le_refl _), rfl, rfl, fun _ hk => decide_eq_true hk⟩

end OW.Sim
