import OW.Proofs.NdUnroll
/-!
`ApplySlice(loc, step, vals)` / `CopyFrom(other)` — the sub-array write — is the same list of storage writes on all paths
(Go back-end contiguous fast path `copy(slice.Unroll(), vals.Unroll())`, Go element loop, C element loop), when source and
destination live in different storages.
-/
namespace OW.Nd
open OW.NdC02

section
variable {α : Type}

theorem rowMajor_getElem?_ravel {dims i : Idx} (hi : InBounds i dims) :
    (rowMajor dims)[(ravel i dims).toNat]? = some i := by
  obtain ⟨h0, h1⟩ := ravel_bounds hi
  rw [rowMajor_getElem? (by omega), Int.toNat_of_nonneg h0, unravel_ravel hi]

/-- body of the copy loop: `slice.Set(idx, vals.Get(idx))` -/
def copyBody (dst src : Arr) : Heap α → Idx → R (Heap α) :=
  fun h idx => do let x ← get h src idx; set h dst idx x

/-- source in another storage: no `Set` changes what the source reads, so the copy loop is the sequence of `Set`s of the values
read beforehand -/
theorem foldCopy_eq {dst src : Arr} (gs : Geo src.v) (hsid : src.sid ≠ dst.sid) :
    ∀ (l : List Idx) (h : Heap α) (vals : List α), ArrOK h src → (∀ i ∈ l, InBounds i src.v.dims) →
      getAll h src l = .ok vals → foldIdx (copyBody dst src) l h = setAll h dst l vals
  | [], _, _, _, _, _ => rfl
  | i :: is, h, _, oks, hib, e => by
    obtain ⟨x, vs, rfl, hx, hvs⟩ := getAll_cons_ok e
    have hib' : ∀ j ∈ is, InBounds j src.v.dims := fun j hj => hib j (List.mem_cons_of_mem _ hj)
    simp only [foldIdx, copyBody, setAll, hx, bind, Except.bind]
    cases hset : set h dst i x with
    | error m => rfl
    | ok h' =>
      obtain ⟨pos, rfl⟩ := set_setStore hset
      have oks' := oks.sameShape (sameShape_setStore h dst.sid pos x)
      refine foldCopy_eq gs hsid is _ vs oks' hib' (Eq.trans ?_ hvs)
      exact getAll_congr is fun j hj => get_congr gs oks' gs oks (hib' j hj) (hib' j hj)
        (by rw [cell_setStore, if_neg fun c => hsid c.1])

theorem copyLoop_eq {dst src : Arr} (gs : Geo src.v) (hsid : src.sid ≠ dst.sid) {h : Heap α} (oks : ArrOK h src)
    (hrank : dst.v.dims.length = src.v.dims.length) {vals : List α}
    (hv : getAll h src (rowMajor src.v.dims) = .ok vals) :
    copyLoop h dst src src.v.dims = setAll h dst (rowMajor src.v.dims) vals := by
  unfold copyLoop
  simp only [View.newIndex, View.ndims, hrank]
  exact (forIdx_rowMajor gs.pos_dims (copyBody dst src) h).trans
    (foldCopy_eq gs hsid _ h vals oks (rowMajor_inBounds gs.pos_dims) hv)

theorem mem_zip_getAll {h : Heap α} {src : Arr} (gs : Geo src.v) {vals : List α}
    (hv : getAll h src (rowMajor src.v.dims) = .ok vals) (i : Idx) (x : α) :
    (i, x) ∈ (rowMajor src.v.dims).zip vals ↔ InBounds i src.v.dims ∧ get h src i = .ok x := by
  constructor
  · intro hm
    obtain ⟨n, hn⟩ := List.mem_iff_getElem?.mp hm
    obtain ⟨h1, h2⟩ := List.getElem?_zip_eq_some.mp hn
    obtain ⟨x', hx', gx⟩ := getAll_getElem hv n i h1
    rw [h2] at hx'
    have e : x = x' := Option.some.inj hx'
    exact ⟨rowMajor_inBounds gs.pos_dims _ (List.mem_of_getElem? h1), e ▸ gx⟩
  · rintro ⟨hi, gx⟩
    have hk := rowMajor_getElem?_ravel hi
    obtain ⟨x', hx', gx'⟩ := getAll_getElem hv _ i hk
    rw [gx] at gx'
    rw [Except.ok.inj gx']
    exact List.mem_of_getElem? (List.getElem?_zip_eq_some.mpr ⟨hk, hx'⟩)

theorem bulk_applySlice {h : Heap α} {a src : Arr} (g : Geo a.v) (ok : ArrOK h a) (gs : Geo src.v) (oks : ArrOK h src)
    (hsid : src.sid ≠ a.sid) {loc : Idx} {step : Option Idx}
    (okS : SliceOK a.v.dims loc src.v.dims (stepOr a.v.dims.length step)) {vals : List α}
    (hv : getAll h src (rowMajor src.v.dims) = .ok vals) :
    BulkWrite h (applySlice h a loc step src) (dstSlice a loc src.v.dims step) (rowMajor src.v.dims) vals := by
  refine ⟨?_, rowMajor_inBounds gs.pos_dims, rowMajor_nodup gs.dims_ne, getAll_length hv⟩
  obtain ⟨hslice, gS, _⟩ := sliceOK_dstSlice g okS
  have okSl := arrOK_dstSlice ok loc src.v.dims step
  have hvl : vals.length = (product src.v.dims).toNat := (getAll_length hv).trans (rowMajor_length _)
  have hloop := copyLoop_eq (dst := dstSlice a loc src.v.dims step) gs hsid oks rfl hv
  rw [setAll_eq gS _ vals h okSl fun w hw => rowMajor_inBounds gs.pos_dims _ (List.of_mem_zip hw).1] at hloop ⊢
  unfold applySlice
  simp only [hslice, bind, Except.bind, pure, Except.pure]
  by_cases hC : a.isC = true
  · simp only [hC, if_true]
    exact hloop
  · simp only [hC, Bool.false_eq_true, if_false]
    obtain ⟨c, hc⟩ := gS.contiguous_total
    rw [hc]
    cases c with
    | false => simp only [Bool.false_eq_true, if_false]; exact hloop
    | true =>
      -- `copy(slice.Unroll(), vals.Unroll())`: the window of the destination receives the source's row-major elements
      obtain ⟨s, hs1, hs2, _⟩ := unroll_ok gs oks hv
      simp only [if_true, unroll_contig gS okSl (eq_false_of_ne_true hC) hc, hs1, hs2]
      rw [show (dstSlice a loc src.v.dims step).v.size.toNat = vals.length from hvl.symm, List.take_length]
      exact congrArg Except.ok (writeRun_contig gS okSl hc hvl)

theorem applySlice_wrote {h : Heap α} {a src : Arr} (g : Geo a.v) (ok : ArrOK h a) (gs : Geo src.v)
    (oks : ArrOK h src) (hsid : src.sid ≠ a.sid) {loc : Idx} {step : Option Idx}
    (okS : SliceOK a.v.dims loc src.v.dims (stepOr a.v.dims.length step)) :
    ∃ h', applySlice h a loc step src = .ok h' ∧
      Wrote h h' a (fun i' x => ∃ i, (InBounds i src.v.dims ∧ get h src i = .ok x) ∧
        i' = affine loc i (stepOr a.v.dims.length step)) := by
  obtain ⟨vals, hv, _⟩ := elems_ok gs oks
  obtain ⟨h', e, w⟩ := (bulk_applySlice g ok gs oks hsid okS hv).wrote (sliceOK_dstSlice g okS).2.1
    (arrOK_dstSlice ok _ _ _)
  exact ⟨h', e, ((w.congr (mem_zip_getAll gs hv)).of_dstSlice g okS)⟩

/-- the request `CopyFrom` makes of its receiver: all of it -/
theorem sliceOK_copyFrom {v : View} (g : Geo v) {dims : Idx} (hshape : dims = v.dims) :
    SliceOK v.dims (v.newIndex 0) dims (stepOr v.dims.length none) := by
  rw [hshape]
  exact sliceOK_zero_ones v.dims g.pos_dims

theorem dstSlice_self {a : Arr} (g : Geo a.v) : dstSlice a (a.v.newIndex 0) a.v.dims none = a := by
  have e : sliceView a.v (a.v.newIndex 0) a.v.dims none = a.v := by
    simp only [sliceView, View.newIndex, View.ndims, stepOr, dot_zeros, g.regular.step_ones, ← g.offStep_eq, Int.add_zero]
  simp only [dstSlice, e]

theorem bulk_copyFrom {h : Heap α} {a src : Arr} (g : Geo a.v) (ok : ArrOK h a) (gs : Geo src.v) (oks : ArrOK h src)
    (hsid : src.sid ≠ a.sid) (hshape : src.v.dims = a.v.dims) {vals : List α}
    (hv : getAll h src (rowMajor src.v.dims) = .ok vals) :
    BulkWrite h (copyFrom h a src) a (rowMajor src.v.dims) vals := by
  have b := bulk_applySlice g ok gs oks hsid (sliceOK_copyFrom g hshape) hv
  rwa [show dstSlice a (a.v.newIndex 0) src.v.dims none = a by rw [hshape, dstSlice_self g]] at b

theorem copyFrom_wrote {h : Heap α} {a src : Arr} (g : Geo a.v) (ok : ArrOK h a) (gs : Geo src.v)
    (oks : ArrOK h src) (hsid : src.sid ≠ a.sid) (hshape : src.v.dims = a.v.dims) :
    ∃ h', copyFrom h a src = .ok h' ∧
      Wrote h h' a (fun i x => InBounds i a.v.dims ∧ get h src i = .ok x) := by
  obtain ⟨vals, hv, _⟩ := elems_ok gs oks
  obtain ⟨h', e, w⟩ := (bulk_copyFrom g ok gs oks hsid hshape hv).wrote g ok
  exact ⟨h', e, w.congr fun i x => by rw [mem_zip_getAll gs hv, hshape]⟩

end
end OW.Nd
