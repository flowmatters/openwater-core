import OW.Sim.H5
import OW.Proofs.ListLemmas
import Mathlib.Tactic.Set
import Mathlib.Tactic.SplitIfs
import Mathlib.Data.List.Nodup
/-!
Lemmas behind the C08 theorems about the abstract HDF5 file (`OW/Sim/H5.lean`), in this order: the row-major enumeration
of a box (`grid`, `cartesian_map`); sequential stores (`scatter`); the tree, through `find` and the split at the first entry
with a path (`find_ds_iff`, `setVals_split`); `createDataset` only appends (`createDs_spec`); `sliceSize` as a count of
indices; a `Slice` entry as one (offset, stride, count) per dimension (`triple`), what the library selects for such a list
(`selectHyperslab_trip`) and `loadSubset` in those terms; the transfer of one block (`h5write_block`).
The file model counts in ℕ (`ravelN`, `prodN`, `CoordIn`, `grid`) and so do the lemmas here, except where Go's `int`
enters: `sliceSize` (`sliceSize_spec`, over ℤ) and the conversions of shapes, `intsToUints` and `uintsToInts` = `castL`
(`product_cast`, `prodN_intsToUints`). The ENUMERATIONS of the n-d array model, which counts in ℤ (`ravel`, `InBounds`,
`rowMajor`), meet `ravelN`, `CoordIn`, `grid` in `OW/Proofs/C08Slice.lean`.
-/
namespace OW.Proofs.C08H5
open OW.Nd OW.Sim.H5

theorem flatMap_range_mul (d P : Nat) :
    (List.range d).flatMap (fun x => (List.range P).map (fun r => x * P + r)) = List.range (d * P) := by
  induction d with
  | zero => simp
  | succ d ih =>
    rw [List.range_succ, List.flatMap_append, ih, Nat.succ_mul, List.range_add]
    simp

theorem linear_all (s : List Nat) : linear s .all = List.range (prodN s) := by
  unfold linear
  simp only [selCoords]
  induction s with
  | nil => rfl
  | cons d ds ih =>
    simp only [List.map_cons, cartesian, prodN, List.map_flatMap, List.map_map]
    rw [← flatMap_range_mul, ← ih]
    simp only [List.map_map, Function.comp_def, ravelN]

/-! The row-major enumeration of a box: `grid ns` lists the coordinates of `[0, ns)`, last dimension fastest. Two facts
characterise it — `ravelN` numbers it `0, 1, 2, …` (`grid_ravel`) and its members are the coordinates inside the box
(`mem_grid`) — and every traversal the library makes is the image of a grid under a per-dimension map (`cartesian_map`).
Bounds and injectivity of `ravelN`, lengths, positions and the absence of duplicates are read off these. -/

def grid (ns : List Nat) : List (List Nat) := cartesian (ns.map List.range)

theorem grid_ravel (s : List Nat) : (grid s).map (ravelN · s) = List.range (prodN s) := linear_all s

theorem mem_grid : ∀ {s c : List Nat}, c ∈ grid s ↔ CoordIn c s
  | [], [] | [], _ :: _ | _ :: _, [] => by simp [grid, cartesian, CoordIn]
  | e :: es, x :: xs => by
    have := mem_grid (s := es) (c := xs)
    simp only [grid] at this
    simp [grid, cartesian, CoordIn, this]

theorem cartesian_map {α : Type} (n : α → Nat) (f : α → Nat → Nat) : ∀ T : List α,
    cartesian (T.map fun t => (List.range (n t)).map (f t)) = (grid (T.map n)).map (List.zipWith f T)
  | [] => rfl
  | t :: T => by
    have ih := cartesian_map n f T
    simp only [grid, List.map_map, Function.comp_def] at ih ⊢
    simp [cartesian, ih, List.flatMap_map, List.map_flatMap, Function.comp_def]

theorem grid_length (s : List Nat) : (grid s).length = prodN s := by
  simpa using congrArg List.length (grid_ravel s)

theorem ravelN_lt {c s : List Nat} (h : CoordIn c s) : ravelN c s < prodN s :=
  List.mem_range.mp (grid_ravel s ▸ List.mem_map_of_mem (mem_grid.mpr h))

theorem ravelN_inj {c c' s : List Nat} (h : CoordIn c s) (h' : CoordIn c' s) (e : ravelN c s = ravelN c' s) : c = c' :=
  List.inj_on_of_nodup_map (grid_ravel s ▸ List.nodup_range) (mem_grid.mpr h) (mem_grid.mpr h') e

theorem nodup_grid (s : List Nat) : (grid s).Nodup := .of_map _ (grid_ravel s ▸ List.nodup_range)

theorem grid_getElem? {i s : List Nat} (h : CoordIn i s) : (grid s)[ravelN i s]? = some i := by
  obtain ⟨k, hk, rfl⟩ := List.getElem_of_mem (mem_grid.mpr h)
  have := List.getElem_map (ravelN · s) (l := grid s) (i := k) (h := by simpa using hk)
  simp only [grid_ravel, List.getElem_range] at this
  simp [← this, hk]

theorem scatter_length (v : List Int) (is : List Nat) (xs : List Int) : (scatter v is xs).length = v.length := by
  fun_induction scatter v is xs with
  | case1 v i is x xs ih => simpa using ih
  | case2 => rfl

theorem scatter_getElem?_not_mem (v : List Int) (is : List Nat) (xs : List Int) (j : Nat) (hj : j ∉ is) :
    (scatter v is xs)[j]? = v[j]? := by
  fun_induction scatter v is xs with
  | case1 v i is x xs ih =>
    simp only [List.mem_cons, not_or] at hj
    rw [ih hj.2, List.getElem?_set_ne (Ne.symm hj.1)]
  | case2 => rfl

theorem scatter_getElem?_mem (v : List Int) : ∀ (is : List Nat) (xs : List Int), is.Nodup → is.length ≤ xs.length →
    (∀ i ∈ is, i < v.length) → ∀ {k j : Nat}, is[k]? = some j → (scatter v is xs)[j]? = xs[k]? := by
  intro is
  induction is generalizing v with
  | nil => intro xs _ _ _ k j hk; simp at hk
  | cons i is ih =>
    intro xs hnd hlen hin k j hk
    cases xs with
    | nil => simp at hlen
    | cons x xs =>
      simp only [scatter]
      rw [List.nodup_cons] at hnd
      cases k with
      | zero =>
        cases Option.some.inj hk
        rw [scatter_getElem?_not_mem _ is xs i hnd.1]
        simp [hin i (by simp)]
      | succ k =>
        exact ih (v.set i x) xs hnd.2 (by simpa using hlen)
          (fun j hj => by simpa using hin j (List.mem_cons_of_mem _ hj)) hk

theorem scatter_range (v xs : List Int) (h : xs.length = v.length) : scatter v (List.range v.length) xs = xs := by
  apply List.ext_getElem?
  intro j
  by_cases hj : j < v.length
  · exact scatter_getElem?_mem v (List.range v.length) xs List.nodup_range (by simp [h])
      (fun i hi => by simpa using hi) (List.getElem?_range hj)
  · have h1 : (scatter v (List.range v.length) xs).length = v.length := scatter_length _ _ _
    rw [List.getElem?_eq_none (by omega), List.getElem?_eq_none (by omega)]

theorem wf_nil : WF [] := fun _ _ _ hm => by simp at hm

theorem wf_append {t ext : Tree} (wf : WF t) (wfe : WF ext) : WF (t ++ ext) := fun p s v hm =>
  (List.mem_append.mp hm).elim (wf p s v) (wfe p s v)

theorem find_ds_iff {t : Tree} {p : Path} {s : List Nat} {v : List Int} :
    find t p = some (.ds s v) ↔ p ≠ [] ∧ ∃ l₁ l₂, t = l₁ ++ (p, .ds s v) :: l₂ ∧ ∀ e ∈ l₁, p ≠ e.1 := by
  unfold find
  split
  · rename_i hp
    exact ⟨fun h => Obj.noConfusion (Option.some.inj h), fun h => absurd hp h.1⟩
  · rename_i hp
    rw [List.lookup_eq_some_iff]
    simp only [bne_iff_ne, ne_eq, hp, not_false_eq_true, true_and]

theorem setVals_split {l₁ : Tree} (l₂ : Tree) {p : Path} (s : List Nat) (v v' : List Int) (h : ∀ e ∈ l₁, p ≠ e.1) :
    setVals (l₁ ++ (p, .ds s v) :: l₂) p v' = l₁ ++ (p, .ds s v') :: l₂ := by
  induction l₁ with
  | nil => simp [setVals]
  | cons e l ih =>
    obtain ⟨q, o⟩ := e
    simp only [List.cons_append, setVals, if_neg (h _ List.mem_cons_self).symm,
      ih (fun e he => h e (List.mem_cons_of_mem _ he))]

theorem wf_of_find {t : Tree} {p : Path} {s : List Nat} {v : List Int} (wf : WF t)
    (h : find t p = some (.ds s v)) : v.length = prodN s := by
  obtain ⟨-, l₁, l₂, rfl, -⟩ := find_ds_iff.mp h
  exact wf p s v (by simp)

theorem find_setVals_self {t : Tree} {p : Path} {s : List Nat} {v : List Int} (v' : List Int)
    (h : find t p = some (.ds s v)) : find (setVals t p v') p = some (.ds s v') := by
  obtain ⟨hp, l₁, l₂, rfl, h1⟩ := find_ds_iff.mp h
  rw [setVals_split l₂ s v v' h1]
  exact find_ds_iff.mpr ⟨hp, l₁, l₂, rfl, h1⟩

theorem setVals_same {t : Tree} {p : Path} {s : List Nat} {v : List Int} (h : find t p = some (.ds s v)) :
    setVals t p v = t := by
  obtain ⟨-, l₁, l₂, rfl, h1⟩ := find_ds_iff.mp h
  exact setVals_split l₂ s v v h1

theorem wf_setVals {t : Tree} {p : Path} {s : List Nat} {v v' : List Int} (wf : WF t)
    (h : find t p = some (.ds s v)) (hl : v'.length = v.length) : WF (setVals t p v') := by
  obtain ⟨-, l₁, l₂, rfl, h1⟩ := find_ds_iff.mp h
  rw [setVals_split l₂ s v v' h1]
  intro r s' w hm
  rcases List.mem_append.mp hm with hm | hm
  · exact wf r s' w (List.mem_append_left _ hm)
  · rcases List.mem_cons.mp hm with hm | hm
    · cases hm
      rw [hl]
      exact wf p s v (by simp)
    · exact wf r s' w (List.mem_append_right _ (List.mem_cons_of_mem _ hm))

theorem find_setVals_other (t : Tree) (p q : Path) (v' : List Int) (hne : q ≠ p) :
    find (setVals t p v') q = find t q := by
  unfold find
  split
  · rfl
  · induction t with
    | nil => rfl
    | cons e t ih =>
      obtain ⟨r, o⟩ := e
      simp only [setVals]
      split
      · subst r
        cases o <;> simp only [List.lookup_cons, beq_eq_false_iff_ne.mpr hne]
      · simp only [List.lookup_cons, ih]

theorem find_append_of_ne_none {t : Tree} (ext : Tree) {r : Path} (h : find t r ≠ none) :
    find (t ++ ext) r = find t r := by
  unfold find at h ⊢
  split
  · rfl
  · rename_i hr
    rw [if_neg hr] at h
    rw [List.lookup_append, Option.or_of_isSome (Option.isSome_iff_ne_none.mpr h)]

theorem find_append_of_none {t : Tree} {q : Path} {o : Obj} (hq : q ≠ []) (h : find t q = none) :
    find (t ++ [(q, o)]) q = some o := by
  simp only [find, hq, if_false] at h ⊢
  rw [List.lookup_append, h]
  simp


theorem openDataset_eq {t : Tree} {path : String} {p : Path} {s : List Nat} {v : List Int} :
    openDataset t path = .ok (p, s, v) ↔ (p = splitPath path ∧ p ≠ [] ∧ find t p = some (.ds s v)) := by
  constructor
  · intro h
    simp only [openDataset] at h
    split at h
    · cases h
    · split at h
      · rename_i hp _ s' v' heq
        cases h
        exact ⟨rfl, hp, heq⟩
      · cases h
  · rintro ⟨rfl, h2, h3⟩
    simp only [openDataset, if_neg h2, h3]

/-- the path components that count: `splitPath s` is `(s.splitOn "/").filter keepC`, by `rfl` -/
def keepC (c : String) : Bool := c != "" && c != "."

theorem keepC_eq_false {c : String} (h : c = "" ∨ c = ".") : keepC c = false := by
  rcases h with rfl | rfl <;> rfl

theorem keepC_eq_true {c : String} (h : ¬(c = "" ∨ c = ".")) : keepC c = true := by
  simpa [keepC, not_or] using h

theorem filter_stripLead (l : List String) : (stripLead l).filter keepC = l.filter keepC := by
  unfold stripLead
  split
  · simp [keepC]
  · rfl

theorem createDs_spec (dims : List Nat) (t : Tree) (cur : Path) (comps : List String) :
    (∃ ext, (createDs dims t cur comps).1 = t ++ ext ∧ WF ext) ∧
    ∀ q, (createDs dims t cur comps).2 = .ok q →
      q = cur ++ comps.filter keepC ∧ comps.filter keepC ≠ [] ∧
      find (createDs dims t cur comps).1 q = some (.ds dims (List.replicate (prodN dims) 0)) := by
  have same : ∀ t : Tree, ∃ ext, t = t ++ ext ∧ WF ext := fun t => ⟨[], (List.append_nil t).symm, wf_nil⟩
  fun_induction createDs dims t cur comps with
  | case1 | case2 | case3 | case7 => exact ⟨same _, fun q h => by cases h⟩
  | case4 t cur comps name hs hname hnone =>
    refine ⟨⟨_, rfl, fun p s v hm => ?_⟩, fun q h => ?_⟩
    · cases List.mem_singleton.mp hm
      exact List.length_replicate
    · cases h
      have hf : comps.filter keepC = [name] := by
        rw [← filter_stripLead, hs, List.filter_singleton, keepC_eq_true hname]; rfl
      rw [hf]
      exact ⟨rfl, List.cons_ne_nil _ _, find_append_of_none (by simp) hnone⟩
  | case5 t cur comps g r rest hs hg ih =>
    have hf : comps.filter keepC = (r :: rest).filter keepC := by
      rw [← filter_stripLead, hs, List.filter_cons_of_neg (by simp [keepC_eq_false hg])]
    rw [hf]
    exact ih
  | case6 t cur comps g r rest hs hg hfind ih =>
    have hf : comps.filter keepC = g :: (r :: rest).filter keepC := by
      rw [← filter_stripLead, hs, List.filter_cons_of_pos (keepC_eq_true hg)]
    refine ⟨ih.1, fun q h => ?_⟩
    obtain ⟨h1, -, h3⟩ := ih.2 q h
    rw [hf]
    exact ⟨by rw [h1, List.append_assoc]; rfl, List.cons_ne_nil _ _, h3⟩
  | case8 t cur comps g r rest hs hg hnone ih =>
    have hf : comps.filter keepC = g :: (r :: rest).filter keepC := by
      rw [← filter_stripLead, hs, List.filter_cons_of_pos (keepC_eq_true hg)]
    obtain ⟨⟨ext, h1, h2⟩, ih2⟩ := ih
    refine ⟨⟨_ :: ext, by rw [h1, List.append_assoc]; rfl, fun p s v hm => ?_⟩, fun q h => ?_⟩
    · rcases List.mem_cons.mp hm with hm | hm
      · cases hm
      · exact h2 p s v hm
    · obtain ⟨h1, -, h3⟩ := ih2 q h
      rw [hf]
      exact ⟨by rw [h1, List.append_assoc]; rfl, List.cons_ne_nil _ _, h3⟩

theorem toUint_nonneg {x : Int} (h : 0 ≤ x) : toUint x = x.toNat := by simp [toUint, h]

theorem uintsToInts_intsToUints {l : Idx} (h : ∀ x ∈ l, 0 ≤ x) : uintsToInts (intsToUints l) = l := by
  rw [uintsToInts, intsToUints, List.map_map, List.map_congr_left (g := id), List.map_id]
  intro x hx
  simp [toUint_nonneg (h x hx), Int.toNat_of_nonneg (h x hx)]

/-- `uintsToInts` (by `rfl`), written with the coercion `ℕ → ℤ`: the form `push_cast` / `exact_mod_cast` work on -/
abbrev castL (l : List Nat) : Idx := l.map (fun c => ((c : Nat) : Int))

theorem product_cast (l : List Nat) : product (castL l) = (prodN l : Int) := by
  induction l with
  | nil => rfl
  | cons x xs ih => simp only [List.map_cons, product, prodN, ih]; push_cast; rfl

theorem prodN_intsToUints {l : Idx} (h : ∀ x ∈ l, 0 ≤ x) : (prodN (intsToUints l) : Int) = product l :=
  (product_cast _).symm.trans (congrArg product (uintsToInts_intsToUints h))

theorem openOrCreate_append (t : Tree) (path : String) (shape : Idx) :
    ∃ ext, (openOrCreate t path shape).1 = t ++ ext ∧ WF ext := by
  unfold openOrCreate
  split
  · split <;> exact ⟨[], (List.append_nil t).symm, wf_nil⟩
  · exact (createDs_spec _ _ _ _).1

theorem openOrCreate_ok {t t1 : Tree} {path : String} {shape : Idx} {p : Path}
    (h : openOrCreate t path shape = (t1, .ok p)) :
    p = splitPath path ∧ p ≠ [] ∧
      ∃ s v, find t1 p = some (.ds s v) ∧ ((∀ x ∈ shape, 0 ≤ x) → uintsToInts s = shape) ∧
        ((∀ p s v, openDataset t path ≠ .ok (p, s, v)) →
          s = intsToUints shape ∧ v = List.replicate (prodN (intsToUints shape)) 0) := by
  unfold openOrCreate at h
  split at h
  · rename_i p' s v hod
    split at h
    · rename_i hs
      cases h
      obtain ⟨h1, h2, h3⟩ := openDataset_eq.mp hod
      exact ⟨h1, h2, s, v, h3, fun _ => hs, fun hno => absurd hod (hno _ _ _)⟩
    · cases h
  · have h1 := congrArg Prod.fst h
    obtain ⟨rfl, h2, h3⟩ := (createDs_spec _ _ _ _).2 p (congrArg Prod.snd h)
    rw [h1] at h3
    exact ⟨rfl, by simpa using h2, _, _, h3, uintsToInts_intsToUints, fun _ => ⟨rfl, rfl⟩⟩

theorem h5read_all (v : List Int) (s : List Nat) (hv : v.length = prodN s) :
    h5read v s .all (prodN s) (zeroBuf false (prodN s)) = .ok v := by
  simp only [h5read, npoints, selValid, linear_all, zeroBuf]
  simp only [ne_eq, not_true_eq_false, if_false]
  rw [← hv]
  simpa using map_range_window v 0 id 0 v.length (Nat.le_of_eq (Nat.zero_add _))

theorem h5write_all (v xs : List Int) (s : List Nat) (hv : v.length = prodN s) (hx : xs.length = v.length) :
    h5write v s .all (prodN s) xs = .ok xs := by
  simp only [h5write, npoints, selValid, linear_all]
  simp only [ne_eq, not_true_eq_false, if_false]
  rw [← hv, scatter_range v xs hx]

theorem h5write_length {v : List Int} {s : List Nat} {sel : Selection} {n : Nat} {buf v' : List Int}
    (h : h5write v s sel n buf = .ok v') : v'.length = v.length := by
  unfold h5write at h
  split at h
  · cases h
  · split at h
    · cases h
    · cases h; exact scatter_length _ _ _

theorem load_full {t : Tree} {path : String} {p : Path} {s : List Nat} {v : List Int}
    (hod : openDataset t path = .ok (p, s, v)) (hv : v.length = prodN s) :
    load false (some t) path none = .ok (uintsToInts s, v) := by
  simp only [load, hod, h5read_all v s hv, unpackBuf]
  simp


theorem walkIdx_eq (lim st : Nat) : ∀ (c fuel x : Nat), (∀ k : Nat, k < c ↔ x + k * st < lim) → c ≤ fuel →
    walkIdx lim st fuel x = (List.range c).map (fun k => x + k * st)
  | 0, fuel, x, hk, _ => by
    have h0 : ¬ x < lim := by have := hk 0; omega
    cases fuel
    · rfl
    · rw [walkIdx, if_neg h0]; rfl
  | c + 1, 0, _, _, hf => by omega
  | c + 1, fuel + 1, x, hk, hf => by
    have h0 : x < lim := by have := hk 0; omega
    have ih := walkIdx_eq lim st c fuel (x + st) (fun k => by have := hk (k + 1); rw [Nat.succ_mul] at this; omega)
      (by omega)
    rw [walkIdx, if_pos h0, ih, List.range_succ_eq_map, List.map_cons, List.map_map, Nat.zero_mul, Nat.add_zero]
    congr 1
    apply List.map_congr_left
    intro k _
    simp only [Function.comp, Nat.succ_mul]
    omega

theorem lt_ceilDiv {k d s : Int} (hs : 0 < s) : k < (d + s - 1) / s ↔ k * s < d := by
  rw [Int.lt_iff_add_one_le, Int.le_ediv_iff_mul_le hs, Int.add_mul, Int.one_mul]
  omega

theorem lt_span {a b e q : Int} (hq : 0 ≤ q) : q < maxInt 0 (minInt e b - minInt e a) ↔ a + q < min b e := by
  simp only [maxInt, minInt]
  omega

theorem sliceSize_spec (start stop step extent : Int) (hs : 1 ≤ step) :
    ∃ n : Int, sliceSize [start, stop, step] extent = .ok n ∧ 0 ≤ n ∧
      ∀ k : Int, 0 ≤ k → (k < n ↔ start + k * step < min stop extent) := by
  have hpos : (0 : Int) < step := by omega
  have hd0 : 0 ≤ maxInt 0 (minInt extent stop - minInt extent start) := by
    simp only [maxInt]; omega
  refine ⟨(maxInt 0 (minInt extent stop - minInt extent start) + step - 1) / step, ?_, ?_, ?_⟩
  · simp only [sliceSize, Int.ne_of_gt hpos, if_false]
    rw [Int.tdiv_eq_ediv_of_nonneg (by omega)]
  · exact Int.ediv_nonneg (by omega) (by omega)
  · intro k hk
    rw [lt_ceilDiv hpos, lt_span (Int.mul_nonneg hk (by omega))]

/-- (offset, stride, count) that `makeHyperslab` must produce for one dimension -/
def triple (e : Nat) (x : SelDim) : Nat × Nat × Nat :=
  match x with
  | none => (0, 1, e)
  | some [a, _, st] => (a.toNat, st.toNat, (specIdx e x).length)
  | some _ => (0, 1, 0)

theorem dimCoords_block1 (o st c : Nat) : dimCoords o st c 1 = (List.range c).map (fun k => o + k * st) := by
  simp only [dimCoords, List.range_one, List.map_cons, List.map_nil, Nat.add_zero]
  exact List.flatMap_pure_eq_map _ _

/-- per dimension (offset, stride, count): the selected indices -/
def tripCoords (T : List (Nat × Nat × Nat)) : List (List Nat) :=
  T.map (fun t => (List.range t.2.2).map (fun k => t.1 + k * t.2.1))

/-- the file coordinate of element `i` of the selection -/
def tripPt (T : List (Nat × Nat × Nat)) (i : List Nat) : List Nat :=
  List.zipWith (fun t x => t.1 + x * t.2.1) T i

theorem cartesian_tripCoords (T : List (Nat × Nat × Nat)) :
    cartesian (tripCoords T) = (grid (T.map (·.2.2))).map (tripPt T) :=
  cartesian_map (α := Nat × Nat × Nat) (·.2.2) (fun t k => t.1 + k * t.2.1) T

theorem specIdx_some {a b st : Int} (e : Nat) (ha : 0 ≤ a) (hs : 1 ≤ st) :
    ∃ c : Nat, sliceSize [a, b, st] (e : Int) = .ok (c : Int) ∧
      specIdx e (some [a, b, st]) = (List.range c).map (fun k => a.toNat + k * st.toNat) ∧
      ∀ k : Nat, k < c ↔ a.toNat + k * st.toNat < min b.toNat e := by
  obtain ⟨n, h1, hn, h3⟩ := sliceSize_spec a b st e hs
  obtain ⟨c, rfl⟩ := Int.eq_ofNat_of_zero_le hn
  have h2 : ∀ k : Nat, k < c ↔ a.toNat + k * st.toNat < min b.toNat e := fun k => by
    obtain ⟨a', rfl⟩ := Int.eq_ofNat_of_zero_le ha
    obtain ⟨m, rfl⟩ := Int.eq_ofNat_of_zero_le (by omega : 0 ≤ st)
    have := h3 (k : Int) (by omega)
    simp only [Int.toNat_natCast]
    omega
  refine ⟨c, h1, walkIdx_eq _ _ c e _ h2 ?_, h2⟩
  -- the fuel `e` suffices: the last index `a + (c-1)·st ≥ c - 1` lies below `e`
  have := (h2 (c - 1)).mp
  have h3 : (c - 1) * 1 ≤ (c - 1) * st.toNat := Nat.mul_le_mul_left _ (by omega)
  omega

/-- what `triple e x` = (offset, stride, count) is to the index list `specIdx e x` and to the Go code that computes it:
all that the inductions over the dimensions (`slabDims_eq`, `newShape_eq`, `selIdx_eq_trip`, `sliceOK_sel`) need of one
dimension -/
structure TripleSpec (e : Nat) (x : SelDim) : Prop where
  stride : 1 ≤ (triple e x).2.1
  coords : specIdx e x = (List.range (triple e x).2.2).map (fun k => (triple e x).1 + k * (triple e x).2.1)
  count : (triple e x).2.2 = (specIdx e x).length
  within : (triple e x).2.2 = 0 ∨ (triple e x).1 + ((triple e x).2.2 - 1) * (triple e x).2.1 < e
  slab : ∀ (dims : Idx) (i : Nat), dims[i]? = some (e : Int) → slabDim dims i x = .ok (triple e x)
  size : (match x with
    | none => (pure (e : Int) : R Int)
    | some sl => sliceSize sl (e : Int)) = .ok (((triple e x).2.2 : Nat) : Int)

theorem triple_spec (e : Nat) (x : SelDim) (hx : SelDimOK x) : TripleSpec e x := by
  match x, hx with
  | none, _ =>
    refine ⟨Nat.le_refl 1, ?_, List.length_range.symm, ?_, fun dims i hd => ?_, rfl⟩
    · simp only [triple, specIdx, Nat.mul_one, Nat.zero_add, List.map_id']
    · simp only [triple]
      omega
    · simp only [slabDim, hd, triple, toUint, Int.natCast_nonneg, if_true, Int.toNat_natCast]
  | some [a, b, st], ⟨ha, hs⟩ =>
    obtain ⟨c, h1, h2, h3⟩ := specIdx_some (b := b) e ha hs
    have hlen : (specIdx e (some [a, b, st])).length = c := by rw [h2, List.length_map, List.length_range]
    have ht : triple e (some [a, b, st]) = (a.toNat, st.toNat, c) := by simp only [triple, hlen]
    constructor <;> rw [ht]
    · dsimp only; omega
    · exact h2
    · exact hlen.symm
    · have := (h3 (c - 1)).mp
      dsimp only
      omega
    · intro dims i hd
      have hst : 0 ≤ st := by omega
      simp only [slabDim, hd, h1, bind, Except.bind, pure, Except.pure, toUint, ha, hst, Int.natCast_nonneg, if_true, Int.toNat_natCast]
    · exact h1

/-- the `triple`s of a selection on a dataset of shape `s`, one per dimension -/
def trip (sel : Sel) (s : List Nat) : List (Nat × Nat × Nat) := List.zipWith (fun x e => triple e x) sel s

/-- one entry per dimension, each well-formed -/
abbrev SelOK (sel : Sel) (s : List Nat) : Prop := List.Forall₂ (fun x _ => SelDimOK x) sel s

theorem selOK_of {sel : Sel} {s : List Nat} (hl : sel.length = s.length) (hok : ∀ x ∈ sel, SelDimOK x) : SelOK sel s :=
  List.forall₂_iff_zip.mpr ⟨hl, fun h => hok _ (List.of_mem_zip h).1⟩

theorem slabDims_eq {sel : Sel} {s : List Nat} (h : SelOK sel s) (pre : Idx) :
    slabDims (pre ++ uintsToInts s) pre.length sel = .ok (trip sel s) := by
  induction h generalizing pre with
  | nil => rfl
  | @cons x e xs es hx _ ih =>
    have h1 := (triple_spec e x hx).slab (pre ++ uintsToInts (e :: es)) pre.length (by simp [uintsToInts])
    have h2 := ih (pre ++ [(e : Int)])
    rw [show pre ++ [(e : Int)] ++ uintsToInts es = pre ++ uintsToInts (e :: es) by simp [uintsToInts],
      List.length_append, List.length_singleton] at h2
    simp only [slabDims, h1, h2, bind, Except.bind, pure, Except.pure, trip, List.zipWith_cons_cons]

theorem newShape_eq {sel : Sel} {s : List Nat} (h : SelOK sel s) :
    newShape sel (uintsToInts s) = .ok (uintsToInts ((trip sel s).map (·.2.2))) := by
  induction h with
  | nil => rfl
  | @cons x e xs es hx _ ih =>
    have h1 := (triple_spec e x hx).size
    simp only [uintsToInts, List.map_cons] at ih ⊢
    cases x with
    | none => simp only [newShape, ih, bind, Except.bind, pure, Except.pure, trip, List.zipWith_cons_cons, List.map_cons]; rfl
    | some sl =>
      simp only [newShape, show sliceSize sl (Int.ofNat e) = _ from h1, ih, bind, Except.bind, pure, Except.pure, trip,
        List.zipWith_cons_cons, List.map_cons]; rfl

theorem zip4_map {α : Type} (l : List α) (f1 f2 f3 f4 : α → Nat) :
    zip4 (l.map f1) (l.map f2) (l.map f3) (l.map f4) = l.map (fun t => (f1 t, f2 t, f3 t, f4 t)) := by
  induction l with
  | nil => rfl
  | cons a l ih => simp [zip4, ih]

theorem trip_length {sel : Sel} {s : List Nat} (h : SelOK sel s) : (trip sel s).length = s.length := by
  simp [trip, h.length_eq]

theorem prodN_eq_zero : ∀ (l : List Nat), 0 ∈ l → prodN l = 0 := by
  intro l
  induction l with
  | nil => intro h; simp at h
  | cons x xs ih =>
    intro h
    rcases List.mem_cons.mp h with h | h
    · subst h; simp [prodN]
    · simp [prodN, ih h]

theorem intsToUints_uintsToInts (l : List Nat) : intsToUints (uintsToInts l) = l := by
  rw [intsToUints, uintsToInts, List.map_map, List.map_congr_left (g := id), List.map_id]
  intro x _
  simp [toUint]

theorem selIdx_eq_trip {sel : Sel} {s : List Nat} (h : SelOK sel s) :
    selIdx sel s = tripCoords (trip sel s) ∧
    uintsToInts ((trip sel s).map (·.2.2)) = (selIdx sel s).map (fun l => ((l.length : Nat) : Int)) ∧
    (∀ t ∈ trip sel s, 1 ≤ t.2.1) ∧
    ((∀ t ∈ trip sel s, t.2.2 ≠ 0) → selValid s (.hyper ((trip sel s).map (·.1)) ((trip sel s).map (·.2.1))
      ((trip sel s).map (·.2.2)) ((trip sel s).map fun _ => 1)) = true) := by
  induction h with
  | nil => simp [selIdx, trip, tripCoords, uintsToInts, selValid, zip4]
  | @cons x e xs es hx _ ih =>
      obtain ⟨h1, h2, h3, h4, -, -⟩ := triple_spec e x hx
      obtain ⟨i1, i2, i3, i4⟩ := ih
      simp only [selIdx, trip, tripCoords, uintsToInts, selValid, zip4, List.zipWith_cons_cons, List.map_cons]
        at i1 i2 i3 i4 ⊢
      refine ⟨by rw [← h2, i1], by rw [h3, i2]; rfl, List.forall_mem_cons.mpr ⟨h1, i3⟩, fun hnz => ?_⟩
      obtain ⟨hz, hnz⟩ := List.forall_mem_cons.mp hnz
      simp only [List.zip_cons_cons, List.all_cons, Bool.and_eq_true]
      exact ⟨by simpa [dimWithin] using h4.resolve_left hz, i4 hnz⟩

theorem mem_zip4 {a b c d : List Nat} {x : Nat × Nat × Nat × Nat} (h : x ∈ zip4 a b c d) :
    x.2.1 ∈ b ∧ x.2.2.1 ∈ c ∧ x.2.2.2 ∈ d := by
  fun_induction zip4 a b c d with
  | case1 a as b bs c cs d ds ih =>
    rcases List.mem_cons.mp h with rfl | h
    · exact ⟨.head _, .head _, .head _⟩
    · have := ih h
      exact ⟨.tail _ this.1, .tail _ this.2.1, .tail _ this.2.2⟩
  | case2 => simp at h

theorem selectHyperslab_ok {dims o s c b : List Nat} {cur : Selection} (hr : o.length ≠ 0) (hd : o.length = dims.length)
    (hs : s.length = o.length) (hc : c.length = o.length) (hb : b.length = o.length) (hs0 : ∀ x ∈ s, x ≠ 0)
    (hov : (∀ x ∈ c, x ≤ 1) ∨ ∀ x ∈ b, x ≤ 1) :
    selectHyperslab dims cur o s c b =
      if (c.any (· == 0) || b.any (· == 0)) = true then .ok .none else .ok (.hyper o s c b) := by
  unfold selectHyperslab
  have h1 : s.any (· == 0) = false := by
    rw [List.any_eq_false]
    intro x hx
    simpa using hs0 x hx
  have h2 : (zip4 o s c b).any (fun (_, s, c, b) => decide (c > 1) && decide (s < b)) = false := by
    rw [List.any_eq_false]
    rintro ⟨x1, x2, x3, x4⟩ hx
    obtain ⟨m2, m3, m4⟩ := mem_zip4 hx
    have : x3 ≤ 1 ∨ x4 ≤ 1 := hov.imp (fun h => h x3 m3) (fun h => h x4 m4)
    have := hs0 x2 m2
    simp only [Bool.and_eq_true, decide_eq_true_eq, not_and]
    omega
  simp only [List.take_of_length_le (Nat.le_of_eq hs), List.take_of_length_le (Nat.le_of_eq hc),
    List.take_of_length_le (Nat.le_of_eq hb), h1, h2]
  rw [if_neg hr, if_neg (by omega), if_neg (by omega)]
  rfl

/-- the selection `WriteSlice` makes: one block of extents `dn` at `ln` -/
theorem selectHyperslab_block {dims ln dn : List Nat} {cur : Selection} (hr : ln.length ≠ 0)
    (hd : ln.length = dims.length) (hb : dn.length = ln.length) :
    selectHyperslab dims cur ln (List.replicate ln.length 1) (List.replicate ln.length 1) dn =
      if 0 ∈ dn then .ok .none
      else .ok (.hyper ln (List.replicate ln.length 1) (List.replicate ln.length 1) dn) := by
  have h1 : (List.replicate ln.length 1).any (· == 0) = false := by simp
  have h2 : (dn.any (· == 0) = true) = (0 ∈ dn) := by simp
  rw [selectHyperslab_ok hr hd List.length_replicate List.length_replicate hb
    (fun x hx => by simp [List.eq_of_mem_replicate hx])
    (.inl fun x hx => Nat.le_of_eq (List.eq_of_mem_replicate hx)), h1, Bool.false_or]
  simp only [h2]

theorem writeSlice_eq (narrow : Bool) {h : Heap Int} {a : Arr} {vals : List Int} (hu : unrollVals h a = .ok vals)
    {t : Tree} {path : String} {p : Path} {s : List Nat} {v : List Int} (hod : openDataset t path = .ok (p, s, v))
    {loc : Idx} (hl : loc.length = s.length) (hd : a.v.dims.length = s.length) (hne : a.v.dims ≠ []) :
    writeSlice narrow h a (some t) path loc =
      match h5write v s (if 0 ∈ intsToUints a.v.dims then .none else
          .hyper (intsToUints loc) (List.replicate (intsToUints loc).length 1)
            (List.replicate (intsToUints loc).length 1) (intsToUints a.v.dims))
          (prodN (intsToUints a.v.dims)) (packBuf narrow vals) with
      | .ok v' => (some (setVals t p v'), .ok ())
      | .error _ => (some t, .ok ()) := by
  have hll : (intsToUints loc).length = loc.length := List.length_map _
  have hdl : (intsToUints a.v.dims).length = a.v.dims.length := List.length_map _
  have := List.length_pos_iff.mpr hne
  unfold writeSlice
  simp only [openW, hod, hu]
  rw [← hll, selectHyperslab_block (by omega) (by omega) (by omega)]
  split_ifs <;> rfl

theorem selectHyperslab_trip {l : List (Nat × Nat × Nat)} {s : List Nat} (hll : l.length = s.length) (hl0 : l.length ≠ 0)
    (hstr : ∀ t ∈ l, 1 ≤ t.2.1)
    (hval : (∀ t ∈ l, t.2.2 ≠ 0) →
      selValid s (.hyper (l.map (·.1)) (l.map (·.2.1)) (l.map (·.2.2)) (l.map fun _ => 1)) = true) :
    ∃ fsel, selectHyperslab s .all (l.map (·.1)) (l.map (·.2.1)) (l.map (·.2.2)) (l.map fun _ => 1) = .ok fsel ∧
      npoints s fsel = prodN (l.map (·.2.2)) ∧ selValid s fsel = true ∧
      linear s fsel = (cartesian (tripCoords l)).map (ravelN · s) := by
  have hsel := selectHyperslab_ok (dims := s) (cur := .all) (o := l.map (·.1)) (s := l.map (·.2.1)) (c := l.map (·.2.2))
    (b := l.map (fun _ => 1)) (by simpa using hl0) (by simpa using hll) (by simp) (by simp) (by simp)
    (fun x hx => by
      obtain ⟨t, ht, rfl⟩ := List.mem_map.mp hx
      have := hstr t ht
      omega)
    (.inr (by simp))
  rw [show (l.map (fun _ => 1)).any (· == 0) = false by simp, Bool.or_false] at hsel
  by_cases hz : (l.map (·.2.2)).any (· == 0) = true
  · -- some dimension selects nothing: no points, and the grid of the counts is empty
    obtain ⟨x, hx, hx0⟩ := List.any_eq_true.mp hz
    have hp0 : prodN (l.map (·.2.2)) = 0 := prodN_eq_zero _ (beq_iff_eq.mp hx0 ▸ hx)
    refine ⟨.none, by rw [hsel, if_pos hz], hp0.symm, rfl, ?_⟩
    rw [cartesian_tripCoords, List.eq_nil_of_length_eq_zero ((grid_length _).trans hp0)]
    rfl
  · have hz' : ∀ t ∈ l, t.2.2 ≠ 0 := fun t ht h0 =>
      hz (List.any_eq_true.mpr ⟨t.2.2, List.mem_map.mpr ⟨t, ht, rfl⟩, beq_iff_eq.mpr h0⟩)
    refine ⟨_, by rw [hsel, if_neg hz], ?_, ?_, ?_⟩
    · simp only [npoints, List.zip_map', List.map_map]
      exact congrArg prodN (List.map_congr_left fun t _ => Nat.mul_one _)
    · exact hval hz'
    · simp only [linear, selCoords, zip4_map, List.map_map, Function.comp_def, dimCoords_block1]
      rfl

theorem loadSubset_spec (sel : Sel) (s : List Nat) (v : List Int) (hl : sel.length = s.length) (hne : sel ≠ [])
    (hok : ∀ x ∈ sel, SelDimOK x) :
    loadSubset false sel s v =
      .ok ((selIdx sel s).map (fun l => ((l.length : Nat) : Int)),
           (cartesian (selIdx sel s)).map (fun c => v.getD (ravelN c s) 0)) := by
  have hso := selOK_of hl hok
  obtain ⟨hidx, hshape, hstr, hval⟩ := selIdx_eq_trip hso
  have hmk := slabDims_eq hso []
  obtain ⟨fsel, hsel, hnp, hvalid, hlin⟩ := selectHyperslab_trip (trip_length hso)
    (by rw [trip_length hso, ← hl]; exact fun h => hne (List.length_eq_zero_iff.mp h)) hstr hval
  have hprod : product (uintsToInts ((trip sel s).map (·.2.2))) = (prodN ((trip sel s).map (·.2.2)) : Int) :=
    product_cast _
  simp only [List.nil_append, List.length_nil] at hmk
  -- the code: hyperslab, selection, new shape, a buffer of `prodN counts` elements
  simp only [loadSubset, makeHyperslab, hmk, bind, Except.bind, pure, Except.pure, hsel, newShape_eq hso, hprod,
    Int.not_lt.mpr (Int.natCast_nonneg _), if_false, intsToUints_uintsToInts, Int.toNat_natCast]
  -- the library: as many points as the buffer holds, so the read fills all of it
  simp only [h5read, hnp, hvalid, hlin, ← hidx, ne_eq, not_true_eq_false, if_false, zeroBuf, unpackBuf,
    Bool.false_eq_true, List.drop_replicate, Nat.sub_self, List.replicate_zero, List.append_nil, List.map_map]
  rw [hshape]
  rfl

/-- per dimension, the coordinates of the block `os + [0, ns)` -/
def blockCoords (os ns : List Nat) : List (List Nat) := (os.zip ns).map fun p => (List.range p.2).map (p.1 + ·)

theorem blockCoords_cons (o n : Nat) (os ns : List Nat) :
    blockCoords (o :: os) (n :: ns) = (List.range n).map (o + ·) :: blockCoords os ns := rfl

theorem cartesian_blockCoords {os ns : List Nat} (h : os.length = ns.length) :
    cartesian (blockCoords os ns) = (grid ns).map (List.zipWith (· + ·) os) := by
  have := cartesian_map (α := Nat × Nat) (·.2) (fun p x => p.1 + x) (os.zip ns)
  rw [List.map_snd_zip (Nat.le_of_eq h.symm)] at this
  rw [blockCoords, this]
  exact List.map_congr_left fun i _ => by rw [← List.zipWith_map_left, List.map_fst_zip (Nat.le_of_eq h)]

theorem dimCoords_one (l d : Nat) : dimCoords l 1 1 d = (List.range d).map (l + ·) := by
  simp [dimCoords, List.range_one]

theorem block_sel (ln dn es : List Nat) (hb : BlockIn ln dn es) (hp : ∀ d ∈ dn, 1 ≤ d) :
    ln.length = es.length ∧ dn.length = es.length ∧
    selValid es (.hyper ln (List.replicate ln.length 1) (List.replicate ln.length 1) dn) = true ∧
    npoints es (.hyper ln (List.replicate ln.length 1) (List.replicate ln.length 1) dn) = prodN dn ∧
    selCoords es (.hyper ln (List.replicate ln.length 1) (List.replicate ln.length 1) dn) = blockCoords ln dn := by
  fun_induction BlockIn ln dn es with
  | case1 => simp [selValid, npoints, selCoords, zip4, blockCoords]
  | case2 l ls d ds e es ih =>
    obtain ⟨h1, h2, h3, h4, h5⟩ := ih hb.2 fun x hx => hp x (List.mem_cons_of_mem _ hx)
    have := hb.1
    have := hp d List.mem_cons_self
    simp only [selValid, npoints, selCoords] at h3 h4 h5 ⊢
    simp only [List.length_cons, List.replicate_succ, zip4, List.zip_cons_cons, List.all_cons, List.map_cons, prodN,
      h3, h4, h5, blockCoords_cons, dimCoords_one, Bool.and_true, Nat.one_mul, and_true]
    exact ⟨by omega, by omega, by simp only [dimWithin, decide_eq_true_eq]; omega⟩
  | case3 => exact hb.elim

theorem add_in_block : ∀ (ln dn es i : List Nat), BlockIn ln dn es → CoordIn i dn →
    CoordIn (List.zipWith (· + ·) ln i) es ∧ inBlock (List.zipWith (· + ·) ln i) ln dn = true ∧
      List.zipWith (· - ·) (List.zipWith (· + ·) ln i) ln = i
  | [], [], [], [], _, _ => ⟨trivial, rfl, rfl⟩
  | l :: ls, d :: ds, e :: es, x :: xs, hb, hi => by
    obtain ⟨h1, h2, h3⟩ := add_in_block ls ds es xs hb.2 hi.2
    have := hb.1
    have := hi.1
    simp only [List.zipWith_cons_cons, CoordIn, inBlock, h1, h2, h3, Bool.and_true, Bool.and_eq_true, decide_eq_true_eq,
      List.cons.injEq, and_true]
    omega
  | [], [], [], _ :: _, _, hi | _ :: _, _ :: _, _ :: _, [], _, hi => hi.elim
  | [], [], _ :: _, _, hb, _ | [], _ :: _, _, _, hb, _ | _ :: _, [], _, _, hb, _ | _ :: _, _ :: _, [], _, hb, _ => hb.elim

theorem sub_in_dims (c os ns : List Nat) (h : inBlock c os ns = true) :
    CoordIn (List.zipWith (· - ·) c os) ns ∧ List.zipWith (· + ·) os (List.zipWith (· - ·) c os) = c := by
  fun_induction inBlock c os ns with
  | case1 => exact ⟨trivial, rfl⟩
  | case2 x xs o os n ns ih =>
    simp only [Bool.and_eq_true, decide_eq_true_eq] at h
    obtain ⟨h1, h2⟩ := ih h.2
    simp only [List.zipWith_cons_cons, CoordIn, h2]
    exact ⟨⟨by omega, h1⟩, by congr 1; omega⟩
  | case3 => cases h

/-- The traversal is the image of the grid of `dn` under `i ↦ ravelN (ln + i) s`: injective (`ravelN_inj`, `add_in_block`)
and inside `v`, so `scatter` puts `vals[k]` at the `k`-th index and leaves a cell outside the block as it was. -/
theorem h5write_block (s ln dn : List Nat) (v vals : List Int) (hb : BlockIn ln dn s) (hpos : ∀ d ∈ dn, 1 ≤ d)
    (hv : v.length = prodN s) (hvals : vals.length = prodN dn) :
    ∃ v', h5write v s (.hyper ln (List.replicate ln.length 1) (List.replicate ln.length 1) dn) (prodN dn) vals = .ok v' ∧
      v'.length = v.length ∧
      ∀ c, CoordIn c s → v'[ravelN c s]? =
        if inBlock c ln dn = true then vals[ravelN (List.zipWith (· - ·) c ln) dn]? else v[ravelN c s]? := by
  obtain ⟨hl1, hl2, hvalid, hnp, hco⟩ := block_sel ln dn s hb hpos
  set idxs := (grid dn).map fun i => ravelN (List.zipWith (· + ·) ln i) s with hidx
  have hlin : linear s (.hyper ln (List.replicate ln.length 1) (List.replicate ln.length 1) dn) = idxs := by
    simp only [linear, hco, cartesian_blockCoords (hl1.trans hl2.symm), List.map_map, hidx]; rfl
  have hadd := fun i (hi : i ∈ grid dn) => add_in_block ln dn s i hb (mem_grid.mp hi)
  have hnd : idxs.Nodup := (nodup_grid dn).map_on fun i hi j hj e => by
    rw [← (hadd i hi).2.2, ← (hadd j hj).2.2, ravelN_inj (hadd i hi).1 (hadd j hj).1 e]
  have hib : ∀ k ∈ idxs, k < v.length := fun k hk => by
    obtain ⟨i, hi, rfl⟩ := List.mem_map.mp hk
    exact hv ▸ ravelN_lt (hadd i hi).1
  have hil : idxs.length = prodN dn := by rw [hidx, List.length_map, grid_length]
  refine ⟨scatter v idxs vals, ?_, scatter_length _ _ _, fun c hc => ?_⟩
  · simp only [h5write, hnp, ne_eq, not_true_eq_false, if_false, hvalid, hlin]
  · split
    · rename_i hbk
      obtain ⟨hsub, hback⟩ := sub_in_dims c ln dn hbk
      refine scatter_getElem?_mem v idxs vals hnd (by omega) hib ?_
      rw [hidx, List.getElem?_map, grid_getElem? hsub, Option.map_some, hback]
    · rename_i hbk
      refine scatter_getElem?_not_mem _ _ _ _ fun hm => hbk ?_
      obtain ⟨i, hi, e⟩ := List.mem_map.mp hm
      exact ravelN_inj (hadd i hi).1 hc e ▸ (hadd i hi).2.1

end OW.Proofs.C08H5
