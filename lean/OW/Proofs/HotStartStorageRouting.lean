import OW.Proofs.StorageRouting
/-!
`calcOutflow` in the simplest reach (ℝ): k = 1 s, Δt = 1 s, power 1, no bias, evaporation, lateral flow or dead storage. There the
index storage of an index flow `q ≥ 0` is `q` and the mass-balance residual is `2q − (S + I)`, so the exits of the solver can be
read off: the counter-example to hot-start continuity of StorageRouting (C06) and the non-vacuity example of its tolerance
clause are instances (`sr_calc_A/B/C`).
-/
namespace OW.Proofs.StorageRouting
open OW OW.Kernels OW.Kernels.StorageRouting

attribute [-simp] OW.RealNum.ofNat_eq  -- as a simp lemma it loops with `Nat.cast_ofNat` on numerals ≥ 2 (see OW/Proofs/RealNum.lean, "literals")

/-- k = 1 s, Δt = 1 s, power 1, no bias, no evaporation, no lateral flow, no dead storage -/
noncomputable def srCtx (I S : ℝ) : Ctx ℝ := mkCtx I 0 0 S 0 0 0 1 1 1 0 1 0

theorem srCtx_sIndex (I S q : ℝ) : sIndex (srCtx I S) q = max q 0 := by
  rw [sIndex_eq]
  simp only [srCtx, mkCtx, lt_irrefl, false_and, or_false, Real.rpow_one, one_mul, sub_zero, add_zero, le_refl, true_and]
  split_ifs with h h'
  · exact (max_eq_right h).symm
  · exact absurd h'.le h
  · exact (max_eq_left (not_le.mp h).le).symm

theorem srCtx_rr (I S q : ℝ) (hS : 0 ≤ S) (hI : 0 ≤ I) (hq : 0 ≤ q) :
    rr (srCtx I S) q = ⟨2 * q - (S + I), max 0 (S + I - q), q⟩ := by
  have d := dry_ctx I S 0 1 1 1 hS one_pos hI le_rfl
  have h1 : (rr (srCtx I S) q).massBalance = q * 1 + sIndex (srCtx I S) q - (S + I * 1) := d.massBalance_eq q
  have h2 : (rr (srCtx I S) q).outflow = max 0 (S + I * 1 - sIndex (srCtx I S) q) / 1 := d.outflow_eq q
  have h3 := rr_sIndex (srCtx I S) q
  rw [srCtx_sIndex, max_eq_left hq] at h1 h2 h3
  generalize rr (srCtx I S) q = r at h1 h2 h3 ⊢
  obtain ⟨m, o, s⟩ := r
  simp only [mul_one, div_one] at h1 h2 h3
  rw [h1, h2, h3, two_mul]

theorem srCtx_maxQI (I S : ℝ) (hS : 0 ≤ S) (hI : 0 ≤ I) : maxQI (srCtx I S) 0 = S + I := by
  have h : maxQI (srCtx I S) (0 * (I + 0)) = _ := (dry_ctx I S 0 1 1 1 hS one_pos hI le_rfl).maxQI_eq
  rwa [zero_mul, div_one] at h

theorem sr_calc_solve (I S pq o : ℝ) (hS : 0 ≤ S) (hI : 0 ≤ I) (hbig : 1 / 1000 < S + I) :
    calcOutflow I 0 0 pq o S 0 0 0 1 1 1 0 1 0 = solve (srCtx I S) pq 0 (S + I) := by
  have c1 : ¬ (1 / 1000 ≤ 2 * 0 - (S + I)) := by linarith
  have c2 : ¬ (-(1 / 1000) ≤ 2 * 0 - (S + I)) := by linarith
  have c3 : ¬ (S + I ≤ 0) := by linarith
  rw [calcOutflow_real (c := srCtx I S) rfl, add_zero, zero_mul, srCtx_rr I S 0 hS hI le_rfl, mbl_eq, if_neg c1, if_neg c2,
    srCtx_maxQI I S hS hI, if_neg c3]

/-- fresh seed (or a seed outside the bracket): the midpoint of the bracket balances exactly -/
theorem sr_solve_mid (I S pq : ℝ) (hS : 0 ≤ S) (hI : 0 ≤ I) (hbig : 1 / 1000 < S + I) (hpq : pq ≤ 0 ∨ S + I ≤ pq) :
    solve (srCtx I S) pq 0 (S + I) = .ok ⟨(S + I) / 2, (S + I) / 2, (S + I) / 2, "mid-qi"⟩ := by
  have hm : (0:ℝ) ≤ (S + I) / 2 := by linarith
  have c1 : ¬ (2 * (S + I) - (S + I) < 1 / 1000) := by linarith
  have c2 : |2 * ((S + I) / 2) - (S + I)| < 1 / 1000 := by
    rw [mul_div_cancel₀ _ two_ne_zero, sub_self, abs_zero]
    norm_num
  rw [solve_real _ _ _ _ (if_pos hpq), zero_add, srCtx_rr I S (S + I) hS hI (by linarith), mbl_eq, if_neg c1,
    srCtx_rr I S _ hS hI hm, if_pos c2, if_pos hpq, max_eq_right (by linarith), sub_half]

theorem sr_solve_prev (I S pq : ℝ) (hS : 0 ≤ S) (hI : 0 ≤ I) (hbig : 1 / 1000 < S + I) (h0 : 0 < pq) (h1 : pq < S + I)
    (hbal : |2 * pq - (S + I)| < 1 / 1000) :
    solve (srCtx I S) pq 0 (S + I) = .ok ⟨pq, S + I - pq, pq, "prev-qi"⟩ := by
  have c1 : ¬ (2 * (S + I) - (S + I) < 1 / 1000) := by linarith
  have hr : ¬ (pq ≤ 0 ∨ S + I ≤ pq) := fun h => h.elim (not_le.mpr h0) (not_le.mpr h1)
  rw [solve_real _ _ _ _ (if_neg hr), srCtx_rr I S (S + I) hS hI (by linarith), mbl_eq, if_neg c1,
    srCtx_rr I S _ hS hI h0.le, if_pos hbal, if_neg hr, max_eq_right (sub_nonneg.mpr h1.le)]

theorem sr_calc_balanced (I S pq o : ℝ) (hS : 0 ≤ S) (hI : 0 ≤ I) (hsmall : S + I ≤ 1 / 1000) :
    calcOutflow I 0 0 pq o S 0 0 0 1 1 1 0 1 0 = .ok ⟨0, S + I, 0, "balanced-at-minqi"⟩ := by
  have c1 : ¬ (1 / 1000 ≤ 2 * 0 - (S + I)) := by linarith
  have c2 : -(1 / 1000) ≤ 2 * 0 - (S + I) := by linarith
  rw [calcOutflow_real (c := srCtx I S) rfl, add_zero, zero_mul, srCtx_rr I S 0 hS hI le_rfl, mbl_eq, if_neg c1, if_pos c2,
    sub_zero, max_eq_right (add_nonneg hS hI)]

/-! ### the three `calcOutflow` calls of `OW.Props.C06.hotstart_StorageRouting_counterexample` (the last two also witness the
hypotheses of the tolerance clause, OW/Props/C06Tol.lean) -/

/-- step 1 of the counter-example (empty reach, inflow 2, fresh seed): the midpoint 1 of the bracket [0, 2] balances exactly -/
theorem sr_calc_A (o : ℝ) :
    calcOutflow (α := ℝ) 2 0 0 0 o 0 0 0 0 1 1 1 0 1 0 = .ok ⟨1, 1, 1, "mid-qi"⟩ := by
  rw [sr_calc_solve _ _ _ _ le_rfl (by norm_num) (by norm_num), sr_solve_mid _ _ _ le_rfl (by norm_num) (by norm_num) (Or.inl le_rfl)]
  norm_num

/-- step 2, uninterrupted run (storage 1, inflow 1.0005, seed = index flow 1 of step 1): the seed misses the balance by
0.0005 m³ < 1e-3 and is accepted as it is -/
theorem sr_calc_B (o : ℝ) :
    calcOutflow (α := ℝ) (2001 / 2000) 0 0 1 o 1 0 0 0 1 1 1 0 1 0 = .ok ⟨1, 2001 / 2000, 1, "prev-qi"⟩ := by
  rw [sr_calc_solve _ _ _ _ zero_le_one (by norm_num) (by norm_num),
    sr_solve_prev _ _ _ zero_le_one (by norm_num) (by norm_num) zero_lt_one (by norm_num) (by rw [abs_lt]; norm_num)]
  norm_num

/-- step 2, second call of a split run (same storage and inflow, fresh seed 0): the midpoint 1.00025 balances exactly -/
theorem sr_calc_C (o : ℝ) :
    calcOutflow (α := ℝ) (2001 / 2000) 0 0 0 o 1 0 0 0 1 1 1 0 1 0 = .ok ⟨4001 / 4000, 4001 / 4000, 4001 / 4000, "mid-qi"⟩ := by
  rw [sr_calc_solve _ _ _ _ zero_le_one (by norm_num) (by norm_num),
    sr_solve_mid _ _ _ zero_le_one (by norm_num) (by norm_num) (Or.inl le_rfl)]
  norm_num

end OW.Proofs.StorageRouting
