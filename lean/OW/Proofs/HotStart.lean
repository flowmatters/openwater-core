import OW.Kernels.Basic
/-!
The notions of hot-start continuity (C06: `HotStart`, `HotStartWhen`) and causality (C14: `Causal`, and the strong form
`OW.Props.C14.CausalStrongFrom`, which does not assume that the truncated run succeeds) of kernel models, with their generic
lemmas: the laws of `catSeries` and `AllLen` (with its `Decidable` instance), the list facts about `zeros` and `zip3/4/5` of
OW/Kernels/Basic.lean that the loops of the models need, and the scheme of the hot-start counter-examples
(`not_hotStart_of_runs`). Core Lean only; everything holds over ANY `Num α` (also `Float`): the statements are structural,
no arithmetic law is used.
-/
namespace OW

def catSeries {β} (a b : List (List β)) : List (List β) := List.zipWith (· ++ ·) a b

def AllLen {β} (n : Nat) (xs : List (List β)) : Prop := ∀ s ∈ xs, s.length = n

/-- **Hot-start continuity of a kernel model**: running a period in one call equals running its two parts
consecutively, the second part starting from the final states of the first; outputs concatenate, final states agree.
(`n₁`, `n₂` = lengths of the two parts; all input series of a part have the same length, as in the real arrays.) -/
def HotStart {α} (km : KModel α) : Prop :=
  ∀ (p : List α) (a b : List (List α)) (st : List α) (n₁ n₂ : Nat) (o₁ o₂ : KOut α),
    a.length = b.length → AllLen n₁ a → AllLen n₂ b →
    km.run p a st = .ok o₁ → km.run p b o₁.states = .ok o₂ →
    ∃ o, km.run p (catSeries a b) st = .ok o ∧ o.outputs = catSeries o₁.outputs o₂.outputs ∧ o.states = o₂.states

/-- `HotStart` restricted to splits that satisfy a side condition `C p st o₁.states` on the parameter column, the
initial state row and the state row handed from the first call to the second (used for the models where the
unrestricted statement is false; the condition says exactly what must not happen at the split point). -/
def HotStartWhen {α} (km : KModel α) (C : List α → List α → List α → Prop) : Prop :=
  ∀ (p : List α) (a b : List (List α)) (st : List α) (n₁ n₂ : Nat) (o₁ o₂ : KOut α),
    a.length = b.length → AllLen n₁ a → AllLen n₂ b →
    km.run p a st = .ok o₁ → km.run p b o₁.states = .ok o₂ → C p st o₁.states →
    ∃ o, km.run p (catSeries a b) st = .ok o ∧ o.outputs = catSeries o₁.outputs o₂.outputs ∧ o.states = o₂.states

theorem hotStart_iff_when {α} (km : KModel α) : HotStart km ↔ HotStartWhen km (fun _ _ _ => True) :=
  ⟨fun h p a b st n₁ n₂ o₁ o₂ hl ha hb h₁ h₂ _ => h p a b st n₁ n₂ o₁ o₂ hl ha hb h₁ h₂,
   fun h p a b st n₁ n₂ o₁ o₂ hl ha hb h₁ h₂ => h p a b st n₁ n₂ o₁ o₂ hl ha hb h₁ h₂ trivial⟩

theorem HotStartWhen.mono {α} {km : KModel α} {C D : List α → List α → List α → Prop} (h : HotStartWhen km C)
    (hd : ∀ p st s, D p st s → C p st s) : HotStartWhen km D :=
  fun p a b st n₁ n₂ o₁ o₂ hl ha hb h₁ h₂ hc => h p a b st n₁ n₂ o₁ o₂ hl ha hb h₁ h₂ (hd _ _ _ hc)

theorem catSeries_take {β} (a b : List (List β)) (n : Nat) (hl : a.length = b.length) (ha : AllLen n a) :
    (catSeries a b).map (·.take n) = a := by
  unfold catSeries
  induction a generalizing b with
  | nil => rfl
  | cons s ss ih =>
    cases b with
    | nil => cases hl
    | cons t ts =>
      rw [List.zipWith_cons_cons, List.map_cons, List.take_left' (ha s List.mem_cons_self),
        ih ts (Nat.succ.inj hl) (fun u hu => ha u (List.mem_cons_of_mem _ hu))]

theorem catSeries_length {β} (a b : List (List β)) (h : a.length = b.length) : (catSeries a b).length = a.length := by
  simp only [catSeries, List.length_zipWith, h, Nat.min_self]

theorem catSeries_allLen {β} {n m : Nat} {a b : List (List β)} (ha : AllLen n a) (hb : AllLen m b) :
    AllLen (n + m) (catSeries a b) := by
  intro s hs
  rw [catSeries, ← List.map_uncurry_zip_eq_zipWith] at hs
  obtain ⟨⟨x, y⟩, hxy, rfl⟩ := List.mem_map.mp hs
  obtain ⟨hx, hy⟩ := List.of_mem_zip hxy
  exact (List.length_append).trans (by rw [ha x hx, hb y hy])

theorem catSeries_map {β γ} (fs : List γ) (g h : γ → List β) :
    catSeries (fs.map g) (fs.map h) = fs.map (fun f => g f ++ h f) := by
  simp only [catSeries, List.zipWith_map, List.zipWith_self]

theorem causal_of_hotStart {α} (km : KModel α) (h : HotStart km)
    (p : List α) (a b : List (List α)) (st : List α) (n₁ n₂ : Nat) (o₁ o₂ : KOut α)
    (hl : a.length = b.length) (ha : AllLen n₁ a) (hb : AllLen n₂ b)
    (h₁ : km.run p a st = .ok o₁) (h₂ : km.run p b o₁.states = .ok o₂)
    (hout : AllLen n₁ o₁.outputs) (hlen : o₁.outputs.length = o₂.outputs.length) :
    ∃ o, km.run p (catSeries a b) st = .ok o ∧ o.outputs.map (·.take n₁) = o₁.outputs := by
  obtain ⟨o, ho, hoo, _⟩ := h p a b st n₁ n₂ o₁ o₂ hl ha hb h₁ h₂
  exact ⟨o, ho, by rw [hoo, catSeries_take _ _ n₁ hlen hout]⟩

/-- **Causality (truncation form)**: whenever the run over the whole period and the run over its first part both
succeed, the outputs of the whole run restricted to the first `n₁` steps are the outputs of the truncated run — whatever the
later inputs `b` are. (Consequently two runs whose inputs agree on the first `n₁` steps have the same first `n₁` outputs
provided the run over those `n₁` steps alone succeeds: `Causal.change`. `Props.C14.CausalStrongFrom` below delivers that run.) -/
def Causal {α} (km : KModel α) : Prop :=
  ∀ (p : List α) (a b : List (List α)) (st : List α) (n₁ n₂ : Nat) (o o₁ : KOut α),
    a.length = b.length → AllLen n₁ a → AllLen n₂ b →
    km.run p (catSeries a b) st = .ok o → km.run p a st = .ok o₁ →
    o.outputs.map (·.take n₁) = o₁.outputs

theorem Causal.change {α} {km : KModel α} (h : Causal km) (p : List α) (a b b' : List (List α)) (st : List α)
    (n₁ n₂ n₂' : Nat) (o o' o₁ : KOut α) (hl : a.length = b.length) (hl' : a.length = b'.length)
    (ha : AllLen n₁ a) (hb : AllLen n₂ b) (hb' : AllLen n₂' b')
    (hr : km.run p (catSeries a b) st = .ok o) (hr' : km.run p (catSeries a b') st = .ok o')
    (h₁ : km.run p a st = .ok o₁) :
    o.outputs.map (·.take n₁) = o'.outputs.map (·.take n₁) := by
  rw [h p a b st n₁ n₂ o o₁ hl ha hb hr h₁, h p a b' st n₁ n₂' o' o₁ hl' ha hb' hr' h₁]

theorem zeros_length {α} [Num α] (n : Nat) : (zeros n : List α).length = n := by simp [zeros]

theorem zip3_eq_zip {β γ δ} (a : List β) (b : List γ) (c : List δ) : zip3 a b c = a.zip (b.zip c) := by
  induction a generalizing b c with
  | nil => rfl
  | cons x xs ih => cases b <;> cases c <;> simp [zip3, ih]

theorem zip4_eq_zip {β γ δ ε} (a : List β) (b : List γ) (c : List δ) (d : List ε) :
    zip4 a b c d = a.zip (zip3 b c d) := by
  induction a generalizing b c d with
  | nil => rfl
  | cons x xs ih => cases b <;> cases c <;> cases d <;> simp [zip4, zip3, ih]

theorem zip5_eq_zip {β γ δ ε ζ} (a : List β) (b : List γ) (c : List δ) (d : List ε) (e : List ζ) :
    zip5 a b c d e = a.zip (zip4 b c d e) := by
  induction a generalizing b c d e with
  | nil => rfl
  | cons x xs ih => cases b <;> cases c <;> cases d <;> cases e <;> simp [zip5, zip4, ih]

theorem zeros_add {α} [Num α] (m n : Nat) : (zeros (m + n) : List α) = zeros m ++ zeros n := by
  simp [zeros, List.replicate_append_replicate]

instance {β : Type} (n : Nat) (xs : List (List β)) : Decidable (AllLen n xs) := List.decidableBAll _ xs

/-- three successful runs — first part, second part from the states handed over, whole period — whose results do not fit
together refute `HotStart` -/
theorem not_hotStart_of_runs {α : Type} {km : KModel α} {p : List α} {a b : List (List α)} {st : List α} {n₁ n₂ : Nat}
    {o₁ o₂ o : KOut α} (h₁ : km.run p a st = .ok o₁) (h₂ : km.run p b o₁.states = .ok o₂)
    (hw : km.run p (catSeries a b) st = .ok o) (hl : a.length = b.length) (ha : AllLen n₁ a) (hb : AllLen n₂ b)
    (hne : ¬ (o.outputs = catSeries o₁.outputs o₂.outputs ∧ o.states = o₂.states)) : ¬ HotStart km := by
  intro h
  obtain ⟨o', ho', hout, hst⟩ := h p a b st n₁ n₂ o₁ o₂ hl ha hb h₁ h₂
  cases ho'.symm.trans hw
  exact hne ⟨hout, hst⟩

end OW

namespace OW.Props.C14

/-- **causality, strong form** (truncation points `n₁ ≥ k`): if the run over the whole period succeeds, then the run over its
first `n₁` steps succeeds as well and its outputs are the first `n₁` outputs of the whole run — whatever the later inputs are -/
def CausalStrongFrom {α} (k : Nat) (km : KModel α) : Prop :=
  ∀ (p : List α) (a b : List (List α)) (st : List α) (n₁ n₂ : Nat) (o : KOut α), k ≤ n₁ →
    a.length = b.length → AllLen n₁ a → AllLen n₂ b →
    km.run p (catSeries a b) st = .ok o →
    ∃ o₁, km.run p a st = .ok o₁ ∧ o.outputs.map (·.take n₁) = o₁.outputs

abbrev CausalStrong {α} (km : KModel α) : Prop := CausalStrongFrom 0 km

variable {α : Type}

/-- the contrapositive reading: a panic of the truncated run is a panic of the whole run -/
theorem CausalStrongFrom.error_propagates {k : Nat} {km : KModel α} (h : CausalStrongFrom k km)
    (p : List α) (a b : List (List α)) (st : List α) (n₁ n₂ : Nat) (hk : k ≤ n₁)
    (hl : a.length = b.length) (ha : AllLen n₁ a) (hb : AllLen n₂ b) (e : String)
    (h₁ : km.run p a st = .error e) : ∃ e', km.run p (catSeries a b) st = .error e' := by
  cases hw : km.run p (catSeries a b) st with
  | error e' => exact ⟨e', rfl⟩
  | ok o =>
    obtain ⟨o₁, ho₁, _⟩ := h p a b st n₁ n₂ o hk hl ha hb hw
    rw [ho₁] at h₁; cases h₁

theorem CausalStrongFrom.mono {k k' : Nat} {km : KModel α} (h : CausalStrongFrom k km) (hk : k ≤ k') : CausalStrongFrom k' km :=
  fun p a b st n₁ n₂ o hn hl ha hb hr => h p a b st n₁ n₂ o (Nat.le_trans hk hn) hl ha hb hr

end OW.Props.C14
