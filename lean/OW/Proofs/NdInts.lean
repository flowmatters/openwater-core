import OW.Proofs.NdGeo
/-!
Helper lemmas for C02, Part A: the integer index helpers of `OW/Nd/Ints.lean`
(`product`, `offsets`, `idivmod`, `increment`, `multiply`, `dotProduct`, `maximum`, `argmax`).
The mixed-radix bijection `ravel`/`unravel` is proved in `OW/Proofs/NdGeo.lean`; it is restated here in the form
(extents ≥ 1, `0 ≤ k < Π dims`, the empty shape included) in which the bulk operations use it.
-/
namespace OW.NdC02
open OW.Nd

@[simp] theorem product_nil : product [] = 1 := rfl
@[simp] theorem product_cons (x : Int) (xs : Idx) : product (x :: xs) = x * product xs := rfl

theorem product_append (a b : Idx) : product (a ++ b) = product a * product b := by
  induction a with
  | nil => simp
  | cons x xs ih => simp [ih, Int.mul_assoc]

theorem offsets_nil : offsets [] = (oob : R Idx) := rfl

/-- `n` successive `Increment`s -/
def incrN (w : Idx) : Nat → Idx → R Idx
  | 0, v => .ok v
  | n + 1, v => do let v' ← increment v w; incrN w n v'

end OW.NdC02

namespace OW.Nd
open OW.NdC02

theorem foldl_mul_eq (ix : Idx) (a : Int) : ix.foldl (· * ·) a = a * product ix := by
  induction ix generalizing a with
  | nil => simp [product]
  | cons x xs ih => rw [List.foldl_cons, ih, product, Int.mul_assoc]

theorem product_eq_one {l : Idx} (hp : Pos l) (hle : ∀ x ∈ l, x ≤ 1) : product l = 1 := by
  induction l with
  | nil => rfl
  | cons d ds ih =>
    have h1 := hle d List.mem_cons_self
    have h2 := hp.head
    have : d = 1 := by omega
    subst this
    simp [ih (hp.tail) (fun x hx => hle x (List.mem_cons_of_mem _ hx))]

theorem offsetsT_getElem? (ds : Idx) (i : Nat) (hi : i < ds.length) :
    (offsetsT ds)[i]? = some (product (ds.drop (i + 1))) := by
  induction ds generalizing i with
  | nil => simp at hi
  | cons d ds ih =>
    rw [offsetsT_cons]
    cases i with
    | zero => rfl
    | succ j => exact ih j (Nat.lt_of_succ_lt_succ hi)

theorem ravel_unravel_lt {d : Idx} {k : Int} (h0 : 0 ≤ k) (h1 : k < product d) : ravel (unravel k d) d = k :=
  ravel_unravel k d fun e => by rw [e, product_nil] at h1; omega

theorem ediv_emod_digit (k d P : Int) (hP : 0 < P) : (k / P) % d = (k % (d * P)) / P := by
  rw [Int.emod_def, Int.emod_def, Int.ediv_ediv_of_nonneg (Int.le_of_lt hP), Int.mul_comm d P,
    Int.mul_assoc, Int.mul_comm P (d * _), Int.sub_mul_ediv_right _ _ (Int.ne_of_gt hP)]

theorem idivmod_offsetsT {d : Idx} (hd : Pos d) {k : Int} (h0 : 0 ≤ k) :
    idivmod k (offsetsT d) d = .ok (unravel (k % product d) d) := by
  induction d generalizing k with
  | nil => rfl
  | cons y ys ih =>
    have hp := product_pos (hd.tail)
    have hy := hd.head
    rw [offsetsT_cons]
    simp only [idivmod]
    rw [if_neg (by omega), if_neg (by omega), ih (hd.tail) h0]
    simp only [bind, Except.bind, pure, Except.pure, unravel, product_cons]
    rw [Int.tdiv_eq_ediv_of_nonneg h0,
      Int.tmod_eq_emod_of_nonneg (Int.ediv_nonneg h0 (by omega)),
      ediv_emod_digit k y (product ys) (by omega),
      Int.emod_emod_of_dvd k (Int.dvd_mul_left y (product ys))]

theorem idivmod_rowmajor' {d : Idx} (hd : Pos d) {k : Int} (h0 : 0 ≤ k) (h1 : k < product d) :
    idivmod k (offsetsT d) d = .ok (unravel k d) := by
  rw [idivmod_offsetsT hd h0, Int.emod_eq_of_lt h0 h1]

/-- `incCarry` adds one to the row-major rank, the carry out of position 0 standing for `Π w` -/
theorem incCarry_spec {v w : Idx} (h : InBounds v w) :
    InBounds (incCarry v w).1 w ∧
      ravel (incCarry v w).1 w + (if (incCarry v w).2 then product w else 0) = ravel v w + 1 := by
  induction v generalizing w with
  | nil => cases w with
    | nil => exact ⟨trivial, rfl⟩
    | cons _ _ => exact h.elim
  | cons x xs ih => cases w with
    | nil => exact h.elim
    | cons y ys =>
    obtain ⟨h0, h1, ht⟩ := h
    have ih := ih ht
    rw [incCarry]
    rcases hp : incCarry xs ys with ⟨r, c⟩
    rw [hp] at ih
    obtain ⟨ib, e⟩ := ih
    have hm : (x + 1) * product ys = x * product ys + product ys := by rw [Int.add_mul, Int.one_mul]
    cases c with
    | false =>
      simp only [Bool.false_eq_true, if_false, ravel_cons] at e ⊢
      exact ⟨⟨h0, h1, ib⟩, by omega⟩
    | true =>
      simp only [if_true] at e ⊢
      split
      · have : y = x + 1 := by omega
        subst this
        simp only [if_true, ravel_cons, product_cons]
        exact ⟨⟨Int.le_refl 0, by omega, ib⟩, by omega⟩
      · simp only [Bool.false_eq_true, if_false, ravel_cons]
        exact ⟨⟨by omega, by omega, ib⟩, by omega⟩

theorem increment_eq {v w : Idx} (h : v.length = w.length) :
    increment v w = .ok (incCarry v w).1 := by
  unfold increment
  rw [if_neg (by omega), ← h]
  simp

theorem increment_spec {v w : Idx} (h : InBounds v w) :
    ∃ v', increment v w = .ok v' ∧ InBounds v' w ∧ ravel v' w = (ravel v w + 1) % product w := by
  refine ⟨(incCarry v w).1, increment_eq h.length, ?_⟩
  obtain ⟨ib, e⟩ := incCarry_spec h
  have ⟨b0, b1⟩ := ravel_bounds ib
  refine ⟨ib, ?_⟩
  rw [← e]
  split
  · rw [Int.add_emod_right, Int.emod_eq_of_lt b0 b1]
  · rw [Int.add_zero, Int.emod_eq_of_lt b0 b1]

theorem inBounds_zeros {d : Idx} (hd : Pos d) : InBounds (uniform d.length 0) d := by
  induction d with
  | nil => simp [uniform]
  | cons y ys ih =>
    have := hd.head
    rw [List.length_cons, uniform_succ, InBounds_cons]
    exact ⟨by omega, by omega, ih (hd.tail)⟩

theorem ravel_zeros (d : Idx) : ravel (uniform d.length 0) d = 0 := by
  rw [← dot_offsetsT_ravel _ _ (uniform_length _ _), dot_zeros]

theorem unravel_zero {d : Idx} (hd : Pos d) : unravel 0 d = uniform d.length 0 := by
  have h := unravel_ravel (inBounds_zeros hd)
  rwa [ravel_zeros] at h

theorem incrN_spec {w : Idx} (n : Nat) {v : Idx} (h : InBounds v w) (hn : ravel v w + n < product w) :
    incrN w n v = .ok (unravel (ravel v w + n) w) := by
  induction n generalizing v with
  | zero => simp [incrN, unravel_ravel h]
  | succ n ih =>
    obtain ⟨v', e, ib, hr⟩ := increment_spec h
    have ⟨b0, _⟩ := ravel_bounds h
    rw [Int.emod_eq_of_lt (by omega) (by omega)] at hr
    simp only [incrN, e, bind, Except.bind]
    rw [ih ib (by rw [hr]; omega), hr]
    congr 2
    omega

theorem mulL_eq_zipWith : ∀ (a b : Idx), mulL a b = List.zipWith (· * ·) a b
  | [], _ => by simp
  | _ :: _, [] => by simp
  | _ :: as, _ :: bs => by simp [mulL_eq_zipWith as bs]

theorem dot_eq_sum : ∀ (a b : Idx), dot a b = (List.zipWith (· * ·) a b).sum
  | [], _ => by simp
  | _ :: _, [] => by simp
  | _ :: as, _ :: bs => by simp [dot_eq_sum as bs]

theorem foldl_max_spec (vs : Idx) (v : Int) :
    let m := vs.foldl (fun r x => if r > x then r else x) v
    m ∈ v :: vs ∧ ∀ x ∈ v :: vs, x ≤ m := by
  induction vs generalizing v with
  | nil => simp
  | cons y ys ih =>
    have hz : v ≤ (if v > y then v else y) ∧ y ≤ (if v > y then v else y) ∧
        ((if v > y then v else y) = v ∨ (if v > y then v else y) = y) := by split <;> simp <;> omega
    obtain ⟨hm, hub⟩ := ih (if v > y then v else y)
    simp only [List.foldl_cons]
    generalize (if v > y then v else y) = z at *
    have hzm := hub z List.mem_cons_self
    refine ⟨?_, fun x hx => ?_⟩
    · rcases List.mem_cons.mp hm with e | e
      · rcases hz.2.2 with rfl | rfl <;> simp [e]
      · exact .tail _ (.tail _ e)
    · rcases List.mem_cons.mp hx with rfl | hx
      · omega
      · rcases List.mem_cons.mp hx with rfl | hx
        · omega
        · exact hub x (.tail _ hx)

/-- invariant of the `Argmax` loop: `res` is the least index of the maximum `mx` of the non-empty prefix `pre` -/
def ArgmaxAt (pre : Idx) (mx res : Int) : Prop :=
  0 ≤ res ∧ res < pre.length ∧ pre[res.toNat]? = some mx ∧ (∀ x ∈ pre, x ≤ mx) ∧
    ∀ j : Nat, (j : Int) < res → ∀ x, pre[j]? = some x → x < mx

theorem ArgmaxAt.snoc_le {pre : Idx} {mx res y : Int} (h : ArgmaxAt pre mx res) (hy : ¬ y > mx) :
    ArgmaxAt (pre ++ [y]) mx res := by
  obtain ⟨h0, h1, hres, hub, hlt⟩ := h
  refine ⟨h0, by rw [List.length_append, List.length_singleton]; omega, ?_, ?_, fun j hj x hx => ?_⟩
  · rw [List.getElem?_append_left (by omega)]; exact hres
  · simp only [List.mem_append, List.mem_singleton]
    rintro x (hx | rfl)
    · exact hub x hx
    · omega
  · rw [List.getElem?_append_left (by omega)] at hx
    exact hlt j hj x hx

theorem ArgmaxAt.snoc_gt {pre : Idx} {mx res y : Int} (h : ArgmaxAt pre mx res) (hy : y > mx) :
    ArgmaxAt (pre ++ [y]) y pre.length := by
  obtain ⟨h0, h1, hres, hub, hlt⟩ := h
  refine ⟨Int.natCast_nonneg _, ?_, ?_, ?_, fun j hj x hx => ?_⟩
  · rw [List.length_append, List.length_singleton]; omega
  · rw [Int.toNat_natCast, List.getElem?_append_right (Nat.le_refl _), Nat.sub_self]; rfl
  · simp only [List.mem_append, List.mem_singleton]
    rintro x (hx | rfl)
    · have := hub x hx; omega
    · omega
  · rw [List.getElem?_append_left (by omega)] at hx
    have := hub x (List.mem_of_getElem? hx)
    omega

theorem argmaxLoop_spec (vs pre : Idx) (mx res : Int) (h : ArgmaxAt pre mx res) :
    ∃ m, ArgmaxAt (pre ++ vs) m (argmaxLoop vs pre.length mx res) := by
  induction vs generalizing pre mx res with
  | nil => exact ⟨mx, by simpa [argmaxLoop] using h⟩
  | cons y ys ih =>
    have e : ((pre ++ [y]).length : Int) = pre.length + 1 := by simp
    rw [argmaxLoop, ← e, List.append_cons pre y ys]
    split
    · exact ih _ _ _ (h.snoc_gt ‹_›)
    · exact ih _ _ _ (h.snoc_le ‹_›)

end OW.Nd
