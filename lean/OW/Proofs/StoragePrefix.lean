import OW.Proofs.HotStartStorage
import OW.Proofs.ScanModel
/-!
Storage (reservoir water balance) as a loop over timesteps: `Storage.loop`, its laws `Storage.loop_lawful` and
`restartable_Storage` (hot-start continuity C06, causality C14). The law that takes work is `run_prefix` (C14 strong causality,
`run_prefix_ok`): if `storageWaterBalance` completes on a period, it completes on every initial part of it. The only place where the truncated run does something the whole run does not do at the same point is the
look-up of the FINAL volume in the level and area tables after the timestep loop. Whether `cappedPiecewise(vol, ys)` panics depends
on `vol`, the volume table and the LENGTH of `ys` only; all five tables of a cell have the same length; and the whole run either
starts its next timestep with the same look-up in the release table (Δt > 0) or never changes the volume again (Δt ≤ 0).
No Mathlib.
-/
namespace OW.Proofs.StoragePrefix
open OW OW.Kernels.Storage OW.Proofs.StorageHot
variable {α : Type} [Num α]

omit [Num α] in
theorem getElem?_some_of_len {ys ys' : List α} (hlen : ys.length = ys'.length) {i : Nat} {y : α} (h : ys[i]? = some y) :
    ∃ y', ys'[i]? = some y' :=
  ⟨_, List.getElem?_eq_getElem (hlen ▸ (List.getElem?_eq_some_iff.mp h).1)⟩

omit [Num α] in
theorem getAt_ok_of_len (ys ys' : List α) (i : Nat) (hlen : ys.length = ys'.length) :
    (∃ r, getAt ys i = .ok r) → ∃ r', getAt ys' i = .ok r' := by
  rintro ⟨r, hr⟩
  unfold getAt at hr ⊢
  split at hr
  · rename_i v hv
    obtain ⟨v', hv'⟩ := getElem?_some_of_len hlen hv
    rw [hv']
    exact ⟨_, rfl⟩
  · cases hr

theorem piecewise_val_of_len (x : α) (xs ys ys' : List α) (hlen : ys.length = ys'.length) :
    (∃ v, Fn.piecewise x xs ys = .val v) → ∃ v', Fn.piecewise x xs ys' = .val v' := by
  rintro ⟨v, hv⟩
  unfold Fn.piecewise at hv ⊢
  split at hv
  · cases hv
  · cases hv
  · split at hv
    · rename_i x0 x1 y0 y1 hx0 hx1 hy0 hy1
      obtain ⟨y0', hy0'⟩ := getElem?_some_of_len hlen hy0
      obtain ⟨y1', hy1'⟩ := getElem?_some_of_len hlen hy1
      rw [hx0, hx1, hy0', hy1']
      dsimp only
      split
      · exact ⟨_, rfl⟩
      · split <;> exact ⟨_, rfl⟩
    · cases hv

theorem cappedPiecewise_ok_of_len (t : Tables α) (vol : α) (ys ys' : List α) (hlen : ys.length = ys'.length) :
    (∃ r, cappedPiecewise t vol ys = .ok r) → ∃ r', cappedPiecewise t vol ys' = .ok r' := by
  rintro ⟨r, hr⟩
  unfold cappedPiecewise at hr ⊢
  split at hr
  · rename_i h1
    rw [if_pos h1]
    exact getAt_ok_of_len ys ys' 0 hlen ⟨r, hr⟩
  · rename_i h1
    rw [if_neg h1]
    split at hr
    · rename_i h2
      rw [if_pos h2]
      exact getAt_ok_of_len ys ys' _ hlen ⟨r, hr⟩
    · rename_i h2
      rw [if_neg h2]
      cases hp : Fn.piecewise vol t.volumes ys with
      | val v =>
        obtain ⟨v', hv'⟩ := piecewise_val_of_len vol t.volumes ys ys' hlen ⟨v, hp⟩
        rw [hv']
        exact ⟨_, rfl⟩
      | err => rw [hp] at hr; cases hr
      | panic e => rw [hp] at hr; cases hr

theorem step_ok_lookup (t : Tables α) (keep : Bool) (fo fi : Nat) (deltaT volume : α) (tags : List String) (i : StepIn α)
    (hdt : 0 < deltaT) (r : α × List String × StepOut α)
    (h : step t keep fo fi deltaT volume tags i = .ok r) :
    ∃ m, cappedPiecewise t volume t.minRelease = .ok m := by
  obtain ⟨rainfall, pet, inflow, demand⟩ := i
  -- without fuel `outer` fails; with fuel, Δt > 0 sends it through `outerBody` at least once
  cases fo with
  | zero => cases h
  | succ fo =>
  simp only [step, outer, if_pos hdt, bind, Except.bind] at h
  cases hm : cappedPiecewise t volume t.minRelease with
  | ok m => exact ⟨m, rfl⟩
  | error e =>
    exfalso
    simp only [outerBody, releaseRate, bind, Except.bind, hm] at h
    cases h

theorem step_volume_of_not_pos (t : Tables α) (keep : Bool) (fo fi : Nat) (deltaT volume : α) (tags : List String) (i : StepIn α)
    (hdt : ¬ 0 < deltaT) (r : α × List String × StepOut α)
    (h : step t keep fo fi deltaT volume tags i = .ok r) : r.1 = volume := by
  obtain ⟨rainfall, pet, inflow, demand⟩ := i
  cases fo with
  | zero => cases h
  | succ fo =>
  simp only [step, outer, if_neg hdt, bind, Except.bind, pure, Except.pure, Except.ok.injEq] at h
  subst h
  rfl

theorem steps_volume_of_not_pos (t : Tables α) (keep : Bool) (fo fi : Nat) (deltaT : α) (hdt : ¬ 0 < deltaT)
    (xs : List (StepIn α)) (volume : α) (tags : List String) (r : α × List String × List (StepOut α))
    (h : steps t keep fo fi deltaT volume tags xs = .ok r) : r.1 = volume :=
  (scanM_run (Inv := fun _ => True) (Ok := fun _ => True)
    (M := fun (s : α × List String) (_ : List (StepIn α)) (s' : α × List String) (_ : List (StepOut α)) => s'.1 = s.1)
    (fun _ _ _ _ _ _ _ => trivial) (fun _ => rfl)
    (fun s x _ _ _ _ _ _ _ h₁ ih => ih.trans (step_volume_of_not_pos t keep fo fi deltaT s.1 s.2 x hdt _ (stepM_ok h₁)))
    xs (volume, tags) _ trivial (fun _ _ => trivial) (steps_ok h)).2

theorem run_prefix_ok (t : Tables α) (keep : Bool) (fo fi : Nat) (deltaT v0 : α) (xs ys : List (StepIn α)) (r : RunOut α)
    (hlv : t.levels.length = t.minRelease.length) (har : t.areas.length = t.minRelease.length)
    (h : run t keep fo fi deltaT v0 (xs ++ ys) = .ok r) :
    ∃ r₁, run t keep fo fi deltaT v0 xs = .ok r₁ := by
  obtain ⟨tg, hs, hl, ha, -⟩ := run_eq_ok.mp h
  obtain ⟨⟨v1, tg1, o1⟩, hs1⟩ := steps_prefix hs
  rw [steps_append hs1] at hs
  obtain ⟨⟨v2, tg2, o2⟩, hs2, e⟩ := Except.map_eq_ok.mp hs
  rw [← show v2 = r.volume from congrArg Prod.fst e] at hl ha
  -- the look-ups of the whole run are at `v2`, those of the truncated run at `v1`
  have hv1 : (∃ l, cappedPiecewise t v1 t.levels = .ok l) ∧ ∃ a, cappedPiecewise t v1 t.areas = .ok a := by
    cases ys with
    | nil =>
      cases hs2
      exact ⟨⟨_, hl⟩, _, ha⟩
    | cons y ys' =>
      by_cases hdt : 0 < deltaT
      · -- the next timestep of the whole run starts with the look-up in the release table
        obtain ⟨s₁, o, os, hst, -, -⟩ := scanM_cons_ok (steps_ok hs2)
        have hm := step_ok_lookup t keep fo fi deltaT v1 tg1 y hdt _ (stepM_ok hst)
        exact ⟨cappedPiecewise_ok_of_len t v1 t.minRelease t.levels hlv.symm hm,
          cappedPiecewise_ok_of_len t v1 t.minRelease t.areas har.symm hm⟩
      · -- no sub-step is ever executed: the volume stays `v1`
        cases steps_volume_of_not_pos t keep fo fi deltaT hdt (y :: ys') v1 tg1 _ hs2
        exact ⟨⟨_, hl⟩, _, ha⟩
  obtain ⟨⟨l, hl₁⟩, a, ha₁⟩ := hv1
  exact ⟨⟨o1, v1, l, a, tg1⟩, run_eq_ok.mpr ⟨tg1, hs1, hl₁, ha₁, rfl⟩⟩

/-- what `restartable_Storage` needs of a decoded parameter column: three of the five tables are the columns given -/
theorem mkTables_fields (levels volumes areas minRelease maxRelease : List α) (t : Tables α)
    (h : mkTables levels volumes areas minRelease maxRelease = .ok t) :
    t.levels = levels ∧ t.areas = areas ∧ t.minRelease = minRelease := by
  simp only [mkTables, Except.bind_eq_ok, pure, Except.pure, Except.ok.injEq] at h
  obtain ⟨_, _, _, _, _, _, rfl⟩ := h
  exact ⟨rfl, rfl, rfl⟩

end OW.Proofs.StoragePrefix

namespace OW.Kernels
open OW OW.Kernels.Storage OW.Proofs.StorageHot
variable {α : Type} [Num α]

/-- `storageWaterBalance` on a whole period; of the six input series only rainfall, pet, inflow, demand are read; the loop
state is (volume, level, area) as written to the state row, of which only the volume is read. The branch tags threaded through
the timestep loop are not part of it: `steps_tags` (they never influence a number) is used once, in `run_append`. -/
abbrev Storage.loop (t : Tables α) (deltaT : α) : KLoop α where
  σ := α × α × α
  rows := fun ins => rows4 (ins.take 4)
  run := fun s xs => (run t false fuelOuter fuelInner deltaT s.1 xs).map fun r => ((r.volume, r.level, r.area), r.outs)
  outs := [(·.volume), (·.outflow), (·.rainfallVolume), (·.evaporationVolume)]
  enc := fun s => [s.1, s.2.1, s.2.2]

theorem Storage.loop_lawful (t : Tables α) (deltaT : α) (hlv : t.levels.length = t.minRelease.length)
    (har : t.areas.length = t.minRelease.length) : (Storage.loop t deltaT).Lawful 6 where
  rows := rows4_lawful.init 2
  run_append := fun (s : α × α × α) (x y : List (StepIn α)) r₁ h₁ => by
    obtain ⟨q, hx, rfl⟩ := Except.map_eq_ok.mp h₁
    obtain ⟨tg, hs, -, -, -⟩ := run_eq_ok.mp hx
    show (run t false fuelOuter fuelInner deltaT s.1 (x ++ y)).map _ = ((run t false fuelOuter fuelInner deltaT q.volume y).map _).map _
    simp only [run, steps_append hs, bind, Except.bind]
    rcases Except.map_eq_cases (steps_tags t fuelOuter fuelInner deltaT y q.volume tg []) with
      ⟨err, e1, e2⟩ | ⟨⟨w, th, ps⟩, ⟨w', th', ps'⟩, e1, e2, hcc⟩
    · rw [e1, e2]
      rfl
    · simp only [eS, Prod.mk.injEq] at hcc
      obtain ⟨rfl, rfl⟩ := hcc
      rw [e1, e2]
      simp only [pure, Except.pure, Except.map]
      cases cappedPiecewise t w t.levels with
      | error e => rfl
      | ok l => cases cappedPiecewise t w t.areas <;> rfl
  run_prefix := fun (s : α × α × α) (x y : List (StepIn α)) r h => by
    obtain ⟨q, hw, -⟩ := Except.map_eq_ok.mp h
    obtain ⟨r₁, hr₁⟩ := OW.Proofs.StoragePrefix.run_prefix_ok t false _ _ deltaT s.1 x y q hlv har hw
    exact ⟨_, Except.map_eq_ok.mpr ⟨r₁, hr₁, rfl⟩⟩
  run_length := fun (s : α × α × α) (x : List (StepIn α)) r h => by
    obtain ⟨q, hx, rfl⟩ := Except.map_eq_ok.mp h
    obtain ⟨tg, hs, -, -, -⟩ := run_eq_ok.mp hx
    show q.outs.length = x.length
    exact scanM_length (steps_ok hs)

/-- the volume is the whole memory of the timestep loop: each timestep restarts its adaptive sub-stepping from `subtimestep = Δt` -/
theorem restartable_Storage : Restartable (Storage.model (α := α)) := by
  refine restartableWhen_of_loop fun p ins st o h => ?_
  unfold Storage.model at h
  dsimp only at h
  split at h
  case h_2 => cases h
  case h_1 deltaT nLVAf tbl a1 a2 a3 a4 a5 a6 cv lv ar =>
    -- the two panicking guards were not taken: the table count is not negative, the table column holds five tables of that length
    obtain ⟨hneg, h⟩ := Except.ite_error_eq_ok.mp h
    obtain ⟨hlen, h⟩ := Except.ite_error_eq_ok.mp h
    generalize hm : mkTables (α := α) _ _ _ _ _ = mt at h
    cases mt with
    | error e => cases h
    | ok t =>
      dsimp only at h
      generalize hc : checkConfig (α := α) _ _ = cc at h
      -- every call with this parameter column decodes in the same way: `hneg`, `hlen`, `hm`, `hc` do not mention series or states
      cases cc with
      | error e => cases h
      | ok cfg =>
        clear h
        cases cfg with
        | invalid =>
          have hrun : ∀ cv' lv' ar' : α, (Storage.model (α := α)).RunsFrom (deltaT :: nLVAf :: tbl) 6 0
              (KLoop.ofZeros 4 [Num.zero, Num.zero, Num.zero]) [cv', lv', ar'] () :=
            fun cv' lv' ar' => KModel.runsFrom_zeros fun f => ⟨⟨_, _, ["config-invalid"]⟩, by
              simp only [Storage.model, List.ofFn_succ, List.ofFn_zero, if_neg hneg, if_neg hlen, hm, hc]
              rfl, rfl, rfl⟩
          exact ⟨_, (), KLoop.ofZeros_lawful 4 5 _, hrun _ _ _, fun _ _ _ _ => hrun _ _ _⟩
        | ok =>
          obtain ⟨e1, e2, e3⟩ := OW.Proofs.StoragePrefix.mkTables_fields _ _ _ _ _ t hm
          have hl5 : tbl.length = 5 * (Num.toInt nLVAf).toNat := by simpa using hlen
          have hlv : t.levels.length = t.minRelease.length := by
            rw [e1, e3]; simp only [splitTables, List.length_take, List.length_drop]; omega
          have har : t.areas.length = t.minRelease.length := by
            rw [e2, e3]; simp only [splitTables, List.length_take, List.length_drop]; omega
          have hrun : ∀ s' : α × α × α, (Storage.model (α := α)).RunsFrom (deltaT :: nLVAf :: tbl) 6 0
              (Storage.loop t deltaT) [s'.1, s'.2.1, s'.2.2] s' :=
            fun s' => KModel.runsFrom_zero fun ins' hk => by
              match ins', hk with
              | [b1, b2, b3, b4, b5, b6], _ =>
                simp only [Storage.model, if_neg hneg, if_neg hlen, hm, hc, KLoop.call, List.take, rows4]
                cases run t false fuelOuter fuelInner deltaT s'.1 (zip4 b1 b2 b3 b4) <;> rfl
          exact ⟨Storage.loop t deltaT, (cv, lv, ar), Storage.loop_lawful t deltaT hlv har, hrun (cv, lv, ar),
            fun _ r _ _ => hrun r.1⟩

end OW.Kernels
