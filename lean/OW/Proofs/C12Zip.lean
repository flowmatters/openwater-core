import OW.Proofs.HotStart
import OW.Kernels.InstreamParticulateNutrient
/-!
C12 helpers: what the `zipN` of the `KModel.run` adapters does to the input series.

The C12 theorems quantify over the list `xs` of per-step input tuples. The adapter `model.run` builds that list from
the input series with `zip3/zip4/zip5/zipIn`. For series of EQUAL length the tuple list is faithful: it has that
length and its columns are the series (`zip3_faithful` … `zipIn_faithful`); and every tuple list is the `zipN` of its own
columns (`zip3_columns` … `zipIn_columns`), so "for every `xs`" is exactly "for every call with equal series lengths". For series of UNEQUAL
length `zipN` truncates to the shortest one (`zip4_truncates`), where the Go kernel loops to the length of the FIRST
series and panics (`index out of range`) on a shorter one: that case is outside every C12 theorem
(assumption "equal series lengths"; the generated wrapper always passes equal lengths — the series of one cell are
rows of one `[cell, input, time]` array).

`zip3_eq_zip`, `zip4_eq_zip`, `zip5_eq_zip` (an n-ary zip is a zip onto the next smaller one) are in OW/Proofs/HotStart.lean:
the reason for that import.
-/
namespace OW.C12
open OW OW.Kernels

theorem exists_cons_of_length_eq_cons {α β : Type} {l : List α} {x : β} {xs : List β}
    (h : l.length = (x :: xs).length) : ∃ y t, l = y :: t ∧ t.length = xs.length := by
  obtain ⟨y, t, rfl⟩ := List.exists_cons_of_length_eq_add_one h
  exact ⟨y, t, rfl, Nat.succ.inj h⟩

/-- The n-ary zips are zips onto the next smaller one (`zip3_eq_zip`, `zip4_eq_zip`, `zip5_eq_zip`): one step of
`zip3_faithful` … `zip5_faithful`; `g` is a column of the tuple list. -/
theorem zip_faithful {α β : Type} (a : List α) (t : List β) (h : t.length = a.length) :
    (a.zip t).length = a.length ∧ (a.zip t).map (·.1) = a ∧
    ∀ {γ : Type} (g : β → γ), (a.zip t).map (fun x => g x.2) = t.map g :=
  ⟨by rw [List.length_zip, h, Nat.min_self], List.map_fst_zip (Nat.le_of_eq h.symm),
    fun g => List.map_map.symm.trans (congrArg (List.map g) (List.map_snd_zip (Nat.le_of_eq h)))⟩

theorem zip3_faithful {α : Type} (a b c : List α) (hb : b.length = a.length) (hc : c.length = a.length) :
    (zip3 a b c).length = a.length ∧ (zip3 a b c).map (·.1) = a ∧ (zip3 a b c).map (·.2.1) = b ∧
    (zip3 a b c).map (·.2.2) = c := by
  have hcb : c.length = b.length := hc.trans hb.symm
  obtain ⟨l, f, s⟩ := zip_faithful a (b.zip c) ((zip_faithful b c hcb).1.trans hb)
  rw [zip3_eq_zip]
  exact ⟨l, f, (s _).trans (List.map_fst_zip (Nat.le_of_eq hcb.symm)), (s _).trans (List.map_snd_zip (Nat.le_of_eq hcb))⟩

theorem zip4_faithful {α : Type} (a b c d : List α) (hb : b.length = a.length) (hc : c.length = a.length)
    (hd : d.length = a.length) :
    (zip4 a b c d).length = a.length ∧ (zip4 a b c d).map (·.1) = a ∧ (zip4 a b c d).map (·.2.1) = b ∧
    (zip4 a b c d).map (·.2.2.1) = c ∧ (zip4 a b c d).map (·.2.2.2) = d := by
  obtain ⟨l3, c1, c2, c3⟩ := zip3_faithful b c d (hc.trans hb.symm) (hd.trans hb.symm)
  obtain ⟨l, f, s⟩ := zip_faithful a (zip3 b c d) (l3.trans hb)
  rw [zip4_eq_zip]
  exact ⟨l, f, (s _).trans c1, (s _).trans c2, (s _).trans c3⟩

theorem zip5_faithful {α : Type} (a b c d e : List α) (hb : b.length = a.length) (hc : c.length = a.length)
    (hd : d.length = a.length) (he : e.length = a.length) :
    (zip5 a b c d e).length = a.length ∧ (zip5 a b c d e).map (·.1) = a ∧ (zip5 a b c d e).map (·.2.1) = b ∧
    (zip5 a b c d e).map (·.2.2.1) = c ∧ (zip5 a b c d e).map (·.2.2.2.1) = d ∧
    (zip5 a b c d e).map (·.2.2.2.2) = e := by
  obtain ⟨l4, c1, c2, c3, c4⟩ := zip4_faithful b c d e (hc.trans hb.symm) (hd.trans hb.symm) (he.trans hb.symm)
  obtain ⟨l, f, s⟩ := zip_faithful a (zip4 b c d e) (l4.trans hb)
  rw [zip5_eq_zip]
  exact ⟨l, f, (s _).trans c1, (s _).trans c2, (s _).trans c3, (s _).trans c4⟩

theorem zip3_columns {α : Type} (xs : List (α × α × α)) :
    zip3 (xs.map (·.1)) (xs.map (·.2.1)) (xs.map (·.2.2)) = xs := by
  induction xs with
  | nil => rfl
  | cons x xs ih => simp [zip3, ih]

theorem zip4_columns {α : Type} (xs : List (α × α × α × α)) :
    zip4 (xs.map (·.1)) (xs.map (·.2.1)) (xs.map (·.2.2.1)) (xs.map (·.2.2.2)) = xs := by
  induction xs with
  | nil => rfl
  | cons x xs ih => simp [zip4, ih]

theorem zip5_columns {α : Type} (xs : List (α × α × α × α × α)) :
    zip5 (xs.map (·.1)) (xs.map (·.2.1)) (xs.map (·.2.2.1)) (xs.map (·.2.2.2.1)) (xs.map (·.2.2.2.2)) = xs := by
  induction xs with
  | nil => rfl
  | cons x xs ih => simp [zip5, ih]

open InstreamParticulateNutrient (In zipIn) in
theorem zipIn_columns {α : Type} (xs : List (In α)) :
    zipIn (xs.map (·.incomingMassUpstream)) (xs.map (·.incomingMassLateral)) (xs.map (·.reachVolume))
      (xs.map (·.outflow)) (xs.map (·.streamBankErosion)) (xs.map (·.lateralSediment))
      (xs.map (·.floodplainDepositionFraction)) (xs.map (·.channelDepositionFraction)) = xs := by
  induction xs with
  | nil => rfl
  | cons x xs ih => simp [zipIn, ih]

open InstreamParticulateNutrient (In zipIn) in
theorem zipIn_faithful {α : Type} (a b c d e f g h : List α) (hb : b.length = a.length) (hc : c.length = a.length)
    (hd : d.length = a.length) (he : e.length = a.length) (hf : f.length = a.length) (hg : g.length = a.length)
    (hh : h.length = a.length) :
    (zipIn a b c d e f g h).length = a.length ∧
    (zipIn a b c d e f g h).map (·.incomingMassUpstream) = a ∧ (zipIn a b c d e f g h).map (·.incomingMassLateral) = b ∧
    (zipIn a b c d e f g h).map (·.reachVolume) = c ∧ (zipIn a b c d e f g h).map (·.outflow) = d ∧
    (zipIn a b c d e f g h).map (·.streamBankErosion) = e ∧ (zipIn a b c d e f g h).map (·.lateralSediment) = f ∧
    (zipIn a b c d e f g h).map (·.floodplainDepositionFraction) = g ∧
    (zipIn a b c d e f g h).map (·.channelDepositionFraction) = h := by
  induction a generalizing b c d e f g h with
  | nil =>
    exact ⟨rfl, rfl, (List.eq_nil_of_length_eq_zero hb).symm, (List.eq_nil_of_length_eq_zero hc).symm, (List.eq_nil_of_length_eq_zero hd).symm, (List.eq_nil_of_length_eq_zero he).symm, (List.eq_nil_of_length_eq_zero hf).symm, (List.eq_nil_of_length_eq_zero hg).symm, (List.eq_nil_of_length_eq_zero hh).symm⟩
  | cons x xs ih =>
    obtain ⟨_, b, rfl, kb⟩ := exists_cons_of_length_eq_cons hb
    obtain ⟨_, c, rfl, kc⟩ := exists_cons_of_length_eq_cons hc
    obtain ⟨_, d, rfl, kd⟩ := exists_cons_of_length_eq_cons hd
    obtain ⟨_, e, rfl, ke⟩ := exists_cons_of_length_eq_cons he
    obtain ⟨_, f, rfl, kf⟩ := exists_cons_of_length_eq_cons hf
    obtain ⟨_, g, rfl, kg⟩ := exists_cons_of_length_eq_cons hg
    obtain ⟨_, h, rfl, kh⟩ := exists_cons_of_length_eq_cons hh
    obtain ⟨h0, h1, h2, h3, h4, h5, h6, h7, h8⟩ := ih b c d e f g h kb kc kd ke kf kg kh
    simp only [zipIn, List.length_cons, List.map_cons, h0, h1, h2, h3, h4, h5, h6, h7, h8, and_self]

/-- the truncation itself: a SHORTER second series silently shortens the run of the model (the Go kernel panics with
`index out of range` at step 1 instead) -/
theorem zip4_truncates : (zip4 [(1 : Nat), 2] [1] [1, 2] [1, 2]).length = 1 := rfl

end OW.C12
