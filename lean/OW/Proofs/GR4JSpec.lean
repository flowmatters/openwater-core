import OW.Proofs.GR4JUH
import OW.Proofs.HotStartGR4J
import OW.Proofs.Scan
import Mathlib.Data.List.GetD
/-!
C15: the GR4J kernel model (mirror of the Go code) and the independent specification OW/Spec/GR4J.lean compute the
same day, hence the same runs: same runoff, same production / routing stores, same unit-hydrograph stores; each piece of
the day is compared on its own. The vocabulary of that comparison (`toSpec`, `toDay`, `Shaped`, `cap`) is defined here and
used by the later GR4J files. Last, the specification with and without the tanh safeguard, where the safeguard is inactive.
-/
namespace OW.RR.GR4J
open OW OW.Kernels.GR4J

/-- the tanh argument after the numerical safeguard, in real form -/
noncomputable def cap (w : ℝ) : ℝ := if 13 < w then 13 else w

theorem capWs_real (x1 x : ℝ) : capWs x1 x = cap (x / x1) := by
  simp only [capWs, cap, RealNum.ofNat_eq]
  norm_num only

theorem safeguarded_real (w : ℝ) : Spec.GR4J.tanhArgSafeguarded w = cap w := by
  simp only [Spec.GR4J.tanhArgSafeguarded, cap, RealNum.ofNat_eq]

theorem cap_zero : cap 0 = 0 := by unfold cap; norm_num
theorem cap_nonneg {w : ℝ} (h : 0 ≤ w) : 0 ≤ cap w := by unfold cap; split_ifs <;> linarith
theorem cap_le {w : ℝ} : cap w ≤ w := by unfold cap; split_ifs <;> linarith

/-- eqs. 3, 4 over ℝ for either tanh argument: both are the curve `a·t/(1 + c·t)` of the tanh value `t` -/
theorem Ps_real (f : ℝ → ℝ) (x1 S pn : ℝ) :
    Spec.GR4J.Ps f x1 S pn =
      (x1 * (1 - (S / x1) ^ 2) * Real.tanh (f (pn / x1))) / (1 + (S / x1) * Real.tanh (f (pn / x1))) := by
  simp only [Spec.GR4J.Ps, Spec.GR4J.sq, RealNum.tanh_eq, RealNum.ofNat_eq]
  ring_nf

theorem Es_real (f : ℝ → ℝ) (x1 S en : ℝ) :
    Spec.GR4J.Es f x1 S en =
      (S * (2 - S / x1) * Real.tanh (f (en / x1))) / (1 + (1 - S / x1) * Real.tanh (f (en / x1))) := by
  simp only [Spec.GR4J.Es, RealNum.tanh_eq, RealNum.ofNat_eq]
  norm_num only

theorem Pn_real (P E : ℝ) : Spec.GR4J.Pn P E = if E ≤ P then P - E else 0 := by
  simp only [Spec.GR4J.Pn, RealNum.lit0]

theorem En_real (P E : ℝ) : Spec.GR4J.En P E = if E ≤ P then 0 else E - P := by
  simp only [Spec.GR4J.En, RealNum.lit0]

/-- production: same Ps, Es and Pn − Ps, including the day P = E, where the code takes its evaporation branch
(with zero demand) and the paper its rainfall branch (with zero net rainfall) -/
theorem production_eq (x1 S P E : ℝ) :
    production x1 S P E =
      (Spec.GR4J.Ps Spec.GR4J.tanhArgSafeguarded x1 S (Spec.GR4J.Pn P E),
       Spec.GR4J.Es Spec.GR4J.tanhArgSafeguarded x1 S (Spec.GR4J.En P E),
       Spec.GR4J.Pn P E - Spec.GR4J.Ps Spec.GR4J.tanhArgSafeguarded x1 S (Spec.GR4J.Pn P E)) := by
  rw [Ps_real, Es_real, safeguarded_real, safeguarded_real, Pn_real, En_real]
  simp only [production, capWs_real, RealNum.pow_eq, RealNum.tanh_eq, RealNum.ofNat_eq]
  norm_num only
  simp only [Real.rpow_two]
  by_cases h : E < P
  · rw [if_pos h, if_pos h.le, if_pos h.le]
    simp only [zero_div, cap_zero, Real.tanh_zero, mul_zero]
  · rw [if_neg h]
    by_cases h' : E ≤ P
    · have : E = P := le_antisymm h' (not_lt.mp h)
      subst this
      simp only [le_refl, if_true, sub_self, zero_div, cap_zero, Real.tanh_zero, mul_zero]
    · rw [if_neg h', if_neg h']
      simp only [zero_div, cap_zero, Real.tanh_zero, mul_zero, sub_self]

theorem rpow_four (y : ℝ) : y ^ (4 : ℝ) = y * y * (y * y) := by
  rw [show (4 : ℝ) = ((4 : ℕ) : ℝ) by norm_num, Real.rpow_natCast]; ring

theorem percolation_eq (x1 s : ℝ) : percolation x1 s = Spec.GR4J.Perc x1 s := by
  simp only [percolation, Spec.GR4J.Perc, Spec.GR4J.pow4, Spec.GR4J.sq, RealNum.pow_eq, RealNum.ofNat_eq]
  norm_num only
  simp only [rpow_four]

/-- `R − R/(1+(R/x3)⁴)^(1/4)` (code) is `R·(1 − (1+(R/x3)⁴)^(−1/4))` (paper) -/
theorem routing_eq (x3 r : ℝ) : routingOutflow x3 r = Spec.GR4J.Qr x3 r := by
  simp only [routingOutflow, Spec.GR4J.Qr, Spec.GR4J.pow4, Spec.GR4J.sq, RealNum.pow_eq, RealNum.ofNat_eq]
  norm_num only
  simp only [rpow_four]
  have hb : (0 : ℝ) ≤ 1 + r / x3 * (r / x3) * (r / x3 * (r / x3)) := by nlinarith [mul_self_nonneg (r / x3 * (r / x3))]
  rw [Real.rpow_neg hb]
  ring

/-- one day of a unit hydrograph: the pending-deliveries bookkeeping of the convolution (specification) is add-then-shift on
the state vector (code); the last cell, which the code sets to `0.0`, agrees because `ord (n+1)` vanishes -/
theorem uh_step_eq (ord : ℕ → ℝ) {q uh : List ℝ} {n : ℕ} (hq : q.length = n) (hn : 0 < n)
    (huh : uh = (List.range n).map (fun i => ord (i + 1))) (hord : ord (n + 1) = 0) (pr f : ℝ) :
    Spec.GR4J.uhDay ord q (f * pr) = (head0 (addUH pr f q uh), shift (addUH pr f q uh)) := by
  subst huh hq
  cases q with
  | nil => simp at hn
  | cons q0 qs =>
    simp only [List.length_cons] at hord ⊢
    rw [List.range_succ_eq_map]
    simp only [List.map_cons, List.map_map, addUH, List.zipWith_cons_cons, head0, List.headD_cons, shift,
      List.tail_cons, Spec.GR4J.uhDay, List.getD_cons_zero, List.getD_cons_succ, RealNum.sci_zero, RealNum.lit0]
    refine Prod.ext (by ring) (List.ext_getElem (by simp) fun j h1 h2 => ?_)
    simp only [List.length_map, List.length_range, List.length_cons] at h1
    simp only [List.getElem_map, List.getElem_range]
    by_cases hj : j < qs.length
    · rw [List.getElem_append_left (by simpa using hj)]
      simp only [List.getElem_zipWith, List.getElem_map, List.getElem_range, Function.comp]
      rw [List.getD_eq_getElem _ _ hj]
      ring
    · have hj' : j = qs.length := by omega
      subst hj'
      rw [List.getElem_append_right (by simp)]
      simp only [List.getElem_singleton]
      rw [List.getD_eq_default _ _ le_rfl, hord]
      ring

theorem max_clip (r : ℝ) [Decidable (r < 0)] : max 0 r = if r < 0 then 0 else r := by
  rw [max_comm, max_def_lt]; congr

theorem pos_eq_clip (t : ℝ) [Decidable (0 < t)] [Decidable (t < 0)] :
    (if 0 < t then t else 0) = if t < 0 then 0 else t := by
  split_ifs <;> linarith

def toSpec (st : State ℝ) : Spec.GR4J.State ℝ := ⟨st.S, st.R, st.q1, st.q9⟩

/-- a state whose unit-hydrograph vectors have the lengths chosen by `initGR4J` -/
def Shaped (x4 : ℝ) (st : State ℝ) : Prop := st.q9.length = ⌈x4⌉₊ ∧ st.q1.length = ⌈2 * x4⌉₊

def toDay (o : Out ℝ) : Spec.GR4J.Day ℝ := ⟨o.runoff, o.qr, o.qd⟩

theorem init_shaped (x4 : ℝ) : Shaped x4 (initState x4).1 :=
  ⟨List.length_replicate.trans (init_n1 x4), List.length_replicate.trans (init_n2 x4)⟩

theorem step_eq_spec (x1 x2 x3 x4 : ℝ) (hx4 : 0 < x4) (st : State ℝ) (hst : Shaped x4 st) (pe : ℝ × ℝ) :
    Spec.GR4J.day Spec.GR4J.tanhArgSafeguarded x1 x2 x3 x4 (toSpec st) pe =
      (toSpec (step x1 x2 x3 (uh1 x4 ⌈x4⌉₊) (uh2 x4 ⌈2 * x4⌉₊) st pe).1,
       toDay (step x1 x2 x3 (uh1 x4 ⌈x4⌉₊) (uh2 x4 ⌈2 * x4⌉₊) st pe).2) ∧
    Shaped x4 (step x1 x2 x3 (uh1 x4 ⌈x4⌉₊) (uh2 x4 ⌈2 * x4⌉₊) st pe).1 := by
  obtain ⟨h9, h1⟩ := hst
  obtain ⟨hn1, hn2⟩ := uh_lengths_pos hx4
  have u9 := uh_step_eq (Spec.GR4J.UH1 x4) h9 hn1 (uh1_spec x4 hx4).1 (UH1_beyond x4 hx4 _ (Nat.lt_succ_self _))
  have u1 := uh_step_eq (Spec.GR4J.UH2 x4) h1 hn2 (uh2_spec x4 hx4).1 (UH2_beyond x4 hx4 _ (Nat.lt_succ_self _))
  refine ⟨?_, (OW.Proofs.GR4JHot.step_len x1 x2 x3 x4 _ _ hn1 hn2 st pe h1 h9).symm⟩
  simp only [Spec.GR4J.day, step, toSpec, toDay, production_eq, percolation_eq, routing_eq, Spec.GR4J.F,
    RealNum.gmax_eq, RealNum.lit0, RealNum.sci_zero, u9, u1, max_clip, pos_eq_clip]

theorem run_eq_spec (x1 x2 x3 x4 : ℝ) (hx4 : 0 < x4) (xs : List (ℝ × ℝ)) (st : State ℝ) (hst : Shaped x4 st) :
    Spec.GR4J.run Spec.GR4J.tanhArgSafeguarded x1 x2 x3 x4 (toSpec st) xs =
      (toSpec (run x1 x2 x3 x4 ⌈x4⌉₊ ⌈2 * x4⌉₊ st xs).1, (run x1 x2 x3 x4 ⌈x4⌉₊ ⌈2 * x4⌉₊ st xs).2.map toDay) ∧
    Shaped x4 (run x1 x2 x3 x4 ⌈x4⌉₊ ⌈2 * x4⌉₊ st xs).1 :=
  (scan_sim (φ := toSpec) (ψ := toDay) (fun s x hs => (step_eq_spec x1 x2 x3 x4 hx4 s hs x).symm) xs hst).symm

theorem day_published_eq (x1 x2 x3 x4 : ℝ) (hx1 : 0 < x1) (st : Spec.GR4J.State ℝ) (pe : ℝ × ℝ)
    (h : |pe.1 - pe.2| ≤ 13 * x1) :
    Spec.GR4J.day Spec.GR4J.tanhArgPublished x1 x2 x3 x4 st pe =
      Spec.GR4J.day Spec.GR4J.tanhArgSafeguarded x1 x2 x3 x4 st pe := by
  have hc : ∀ w : ℝ, w ≤ 13 → Spec.GR4J.tanhArgSafeguarded w = Spec.GR4J.tanhArgPublished w := by
    intro w hw
    rw [safeguarded_real]; unfold cap Spec.GR4J.tanhArgPublished
    rw [if_neg (not_lt.mpr hw)]
  obtain ⟨h1, h2⟩ := abs_le.mp h
  have hpn : Spec.GR4J.Pn pe.1 pe.2 / x1 ≤ 13 := by
    rw [Pn_real, div_le_iff₀ hx1]; split_ifs <;> nlinarith
  have hen : Spec.GR4J.En pe.1 pe.2 / x1 ≤ 13 := by
    rw [En_real, div_le_iff₀ hx1]; split_ifs <;> nlinarith
  simp only [Spec.GR4J.day, Spec.GR4J.Ps, Spec.GR4J.Es, hc _ hpn, hc _ hen]

end OW.RR.GR4J
