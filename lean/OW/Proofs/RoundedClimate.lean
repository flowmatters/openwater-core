import OW.Proofs.Rounded
import OW.Kernels.Climate
/-!
Helper lemmas for OW/Props/Rounded/C20.lean: the wet-bulb bisection on the half-integer grid with rounding away from zero, where
halving the width `1/2` rounds back to `1/2` and the bisection walks out of its bracket.
-/
namespace OW.Rounded.ClimateWalk
open OW OW.Kernels.Climate

noncomputable abbrev A2 : Rounding := Rounding.away 2 (by norm_num)
noncomputable def g (k : ℤ) : RNum A2 := RNum.ofRep ((k : ℝ) / ((2 : ℕ) : ℝ)) (Rounding.away_rep_grid 2 (by norm_num) k)
theorem g_val (k : ℤ) : (g k).val = (k : ℝ) / 2 := by
  show (k : ℝ) / ((2 : ℕ) : ℝ) = (k : ℝ) / 2
  rw [Nat.cast_ofNat]

theorem a2_rnd_half {x : ℝ} (h0 : 0 < x) (h1 : x ≤ 1 / 2) : A2.rnd x = 1 / 2 := by
  have h2 : (0 : ℝ) < ((2 : ℕ) : ℝ) := by norm_num
  rw [Rounding.away_eq 2 _ 1 h0.le (by rw [Int.cast_one, sub_self]; exact mul_pos h0 h2)
    (by rw [Int.cast_one, ← le_div_iff₀ h2, Nat.cast_ofNat]; exact h1), Int.cast_one, Nat.cast_ofNat]

theorem a2_half : (0.5 : RNum A2).val = 1 / 2 := by
  rw [RNum.ofScientific_val]; exact a2_rnd_half (by norm_num) (by norm_num)

/-- the accuracy `1e-4` rounds to `1/2` -/
theorem a2_acc : (acc : RNum A2).val = 1 / 2 := by
  unfold acc
  rw [RNum.ofScientific_val]; exact a2_rnd_half (by norm_num) (by norm_num)

/-- halving the width `1` gives `1/2`; halving `1/2` gives `1/4`, which rounds back to `1/2`: the width stops shrinking -/
theorem a2_halve (k : ℤ) (hk : k = 1 ∨ k = 2) : g k * (0.5 : RNum A2) = g 1 := by
  apply RNum.ext
  rw [RNum.mul_val, g_val, a2_half, g_val]
  rcases hk with rfl | rfl <;> rw [a2_rnd_half (by norm_num) (by norm_num)] <;> norm_num

theorem a2_add (k : ℤ) : g k + g 1 = g (k + 1) := by
  apply RNum.ext
  show A2.rnd ((k : ℝ) / ((2 : ℕ) : ℝ) + ((1 : ℤ) : ℝ) / ((2 : ℕ) : ℝ)) = ((k + 1 : ℤ) : ℝ) / ((2 : ℕ) : ℝ)
  rw [← add_div, ← Int.cast_add]
  exact Rounding.away_rep_grid 2 _ (k + 1)

/-- a searched function that is always below the level: the bisection always moves right -/
noncomputable def fLow : RNum A2 → RNum A2 := fun _ => g 0

theorem a2_moves (x : RNum A2) : (0 : RNum A2) < g 2 - fLow x := by
  rw [RNum.lt_iff, RNum.nat_zero_val, RNum.sub_val, fLow, g_val, g_val]
  exact lt_of_lt_of_le (by norm_num) (Rounding.le_away 2 _ (by norm_num))

/-- from width `1` or `1/2` the halved width is `1/2` in every iteration: each one moves the left end by `1/2`, and the accuracy
test `|dx| < acc` (`1/2 < 1/2`) never fires -/
theorem a2_walk (n : Nat) (k w : ℤ) (hw : w = 1 ∨ w = 2) : bisect fLow (g 2) n (g k) (g w) = g (k + n) := by
  induction n generalizing k w with
  | zero => simp [bisect]
  | succ n ih =>
    simp only [bisect, a2_halve w hw, a2_add k]
    rw [if_pos (a2_moves _), if_neg, ih (k + 1) 1 (Or.inl rfl)]
    · congr 1; push_cast; ring
    · rw [RNum.lt_iff, RNum.abs_val, g_val, a2_acc]; norm_num

end OW.Rounded.ClimateWalk
