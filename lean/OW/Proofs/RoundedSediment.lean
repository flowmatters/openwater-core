import OW.Proofs.Rounded
import OW.Kernels.C16.BankErosion
import OW.Kernels.C16.SednetGully
import OW.Kernels.C16.UsleFine
/-!
Helper lemmas for OW/Props/Rounded/C16Sediment.lean: signs of the building blocks of the sediment generation kernels over rounded
arithmetic (`RNum R`).
-/
namespace OW.Rounded.Sediment
open OW OW.Kernels

variable {R : Rounding}

theorem percent_le_rnd_one (pc : RNum R) (h100 : R.Rep 100) (h1 : pc.val ≤ 100) : (pc / 100).val ≤ R.rnd 1 :=
  RNum.div_le_rnd_one (by rw [RNum.lit_val h100]; norm_num) (by rw [RNum.lit_val h100]; exact h1)

theorem one_sub_percent_nonneg (pc : RNum R) (h100 : R.Rep 100) (h1 : pc.val ≤ 100) :
    0 ≤ ((1 : RNum R) - pc / 100).val :=
  RNum.one_sub_nonneg_of_le_rnd_one (percent_le_rnd_one pc h100 h1)

/-- the branch condition makes the divisor `longTermAvDailyFlow` positive -/
theorem bank_ldf_nonneg (p : BankErosion.Params (RNum R)) (hdt : 0 ≤ p.durationInSeconds.val) (outflow tv : RNum R) :
    0 ≤ (BankErosion.linkDischargeFactor p outflow tv).val := by
  unfold BankErosion.linkDischargeFactor
  split_ifs with h
  · rw [RNum.nat_zero_val]
  · simp only [Bool.or_eq_true, decide_eq_true_eq, not_or, RNum.le_iff, RNum.nat_zero_val, not_le] at h
    exact RNum.div_nonneg (RNum.pow_nonneg (RNum.mul_nonneg h.1.2.le hdt)) h.2.le

/-- the vegetation factor `1 ⊖ min(riparianVegPercent ⊘ 100, …)` is non-negative because the quotient is `≤ rnd 1` (`100` representable);
the rest is a product of non-negative parameters -/
theorem bank_meanAnnual_nonneg (p : BankErosion.Params (RNum R)) (h100 : R.Rep 100)
    (h1 : p.riparianVegPercent.val ≤ 100) (h2 : 0 ≤ p.soilErodibility.val) (h3 : 0 ≤ p.bankErosionCoeff.val)
    (h4 : 0 ≤ p.linkSlope.val) (h5 : 0 ≤ p.bankFullFlow.val) (h6 : 0 ≤ p.bankMgtFactor.val) (h7 : 0 ≤ p.sedBulkDensity.val)
    (h8 : 0 ≤ p.bankHeight.val) (h9 : 0 ≤ p.linkLength.val) : 0 ≤ (BankErosion.meanAnnualBankErosion p).val := by
  have hveg : 0 ≤ ((1 : RNum R) - Num.gmin (p.riparianVegPercent / 100) (p.maxRiparianVegEffectiveness / 100)).val :=
    RNum.one_sub_nonneg_of_le_rnd_one (RNum.gmin_le_left.trans (percent_le_rnd_one _ h100 h1))
  simp only [BankErosion.meanAnnualBankErosion]
  exact RNum.mul_nonneg (RNum.mul_nonneg (RNum.mul_nonneg (RNum.mul_nonneg h7 h8) h9)
    (RNum.mul_nonneg (RNum.mul_nonneg (RNum.mul_nonneg (RNum.mul_nonneg (RNum.mul_nonneg h3 RNum.sci_nonneg)
      RNum.sci_nonneg) h4) h5) h6))
    (RNum.mul_nonneg hveg (RNum.div_nonneg h2 RNum.ofNat_nonneg))

theorem gully_dailyRunoffFactor_nonneg (q ltrf drpf : RNum R) (hq : 0 ≤ q.val) :
    0 ≤ (SednetGully.dailyRunoffFactor q ltrf drpf).val := by
  unfold SednetGully.dailyRunoffFactor
  by_cases h : ltrf > 0
  · rw [if_pos h]
    rw [RNum.gt_iff, RNum.nat_zero_val] at h
    dsimp only
    exact RNum.div_nonneg (RNum.pow_nonneg hq) h.le
  · rw [if_neg h]; exact RNum.sci_nonneg

theorem gullyLoadOrig_nonneg (q ar area pf af mpf al supply ltrf drpf : RNum R) (hq : 0 ≤ q.val)
    (hpf0 : 0 ≤ pf.val) (hpf1 : pf.val ≤ R.rnd 1) (haf : 0 ≤ af.val) (hmpf : 0 ≤ mpf.val) (hsup : 0 ≤ supply.val) :
    0 ≤ (SednetGully.gullyLoadOrig q ar area pf af mpf al supply ltrf drpf).1.val ∧
    0 ≤ (SednetGully.gullyLoadOrig q ar area pf af mpf al supply ltrf drpf).2.val := by
  have ha : 0 ≤ ((1 : RNum R) / 365.25).val := RNum.div_nonneg RNum.ofNat_nonneg RNum.sci_nonneg
  have hd := gully_dailyRunoffFactor_nonneg q ltrf drpf hq
  simp only [SednetGully.gullyLoadOrig]
  exact ⟨RNum.mul_nonneg (RNum.mul_nonneg (RNum.mul_nonneg (RNum.mul_nonneg (RNum.mul_nonneg (RNum.mul_nonneg ha hd) hpf0) haf)
      hmpf) hsup) RNum.ofNat_nonneg,
    RNum.mul_nonneg (RNum.mul_nonneg (RNum.mul_nonneg (RNum.mul_nonneg (RNum.mul_nonneg ha hd)
      (RNum.one_sub_nonneg_of_le_rnd_one hpf1)) hsup) hmpf) RNum.ofNat_nonneg⟩

theorem gullyLoadDerm_nonneg (q ar area pf af mpf al supply ltrf drpf : RNum R) (hq : 0 ≤ q.val) (har : 0 ≤ ar.val)
    (harea : 0 ≤ area.val) (hpf0 : 0 ≤ pf.val) (hpf1 : pf.val ≤ R.rnd 1) (haf : 0 ≤ af.val) (hmpf : 0 ≤ mpf.val)
    (hal : 0 ≤ al.val) :
    0 ≤ (SednetGully.gullyLoadDerm q ar area pf af mpf al supply ltrf drpf).1.val ∧
    0 ≤ (SednetGully.gullyLoadDerm q ar area pf af mpf al supply ltrf drpf).2.val := by
  have hdepth : 0 ≤ (q / area * Units.metresToMillimetres * Units.secondsPerDay / ar).val :=
    RNum.div_nonneg (RNum.mul_nonneg (RNum.mul_nonneg (RNum.div_nonneg hq harea) RNum.ofNat_nonneg) RNum.ofNat_nonneg) har
  simp only [SednetGully.gullyLoadDerm]
  exact ⟨RNum.mul_nonneg (RNum.mul_nonneg (RNum.mul_nonneg hdepth hpf0) haf) (RNum.mul_nonneg hmpf hal),
    RNum.mul_nonneg (RNum.mul_nonneg hdepth (RNum.one_sub_nonneg_of_le_rnd_one hpf1)) (RNum.mul_nonneg hmpf hal)⟩

theorem usle_adjustedRates_nonneg (p : UsleFine.Params (RNum R)) (qf F C : RNum R) (hq : 0 ≤ qf.val) (hF : 0 ≤ F.val)
    (hC : 0 ≤ C.val) (harea : 0 ≤ p.area.val) (hmax : 0 ≤ p.maxConc.val) :
    0 ≤ (UsleFine.adjustedRates p qf F C).1.val ∧ 0 ≤ (UsleFine.adjustedRates p qf F C).2.val := by
  have hlpd : 0 ≤ (UsleFine.litresPerDay qf).val := by
    unfold UsleFine.litresPerDay
    exact RNum.mul_nonneg (RNum.mul_nonneg hq RNum.sci_nonneg) RNum.ofNat_nonneg
  have hcur : 0 ≤ (F * p.area * Units.squareMetresToHectares * Units.tonnesToKg).val :=
    RNum.mul_nonneg (RNum.mul_nonneg (RNum.mul_nonneg hF harea) RNum.sci_nonneg) RNum.ofNat_nonneg
  have hadj : 0 ≤ (p.maxConc * UsleFine.litresPerDay qf / Units.kgToMilligram /
      (F * p.area * Units.squareMetresToHectares * Units.tonnesToKg)).val :=
    RNum.div_nonneg (RNum.div_nonneg (RNum.mul_nonneg hmax hlpd) RNum.ofNat_nonneg) hcur
  simp only [UsleFine.adjustedRates]
  split_ifs
  · exact ⟨RNum.mul_nonneg hF hadj, RNum.mul_nonneg hC hadj⟩
  · exact ⟨hF, hC⟩

end OW.Rounded.Sediment
