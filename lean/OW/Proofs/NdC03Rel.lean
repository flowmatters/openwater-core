import OW.Proofs.NdSlice
/-!
C03, the two-heap vocabulary and the simulation between a Go-backed and a C-backed array at the level of heaps. A pair of
storage windows (Go side, C side), cell-wise equality of two windows (`RelHeaps`), compatibility of two window pairs
(`Compat`), and the simulation relation `Props.C03.Rel`. `Paired w`: the new heaps come from the old ones by the SAME finite
sequence of single-cell writes at corresponding addresses of the window pair `w` — every compatible window pair sees them
alike. `RelW`: `Props.C03.Rel` without the back-end flags, so that a pair of Go temporaries is covered too.
-/
namespace OW.NdC03
open OW.Nd

section
variable {α : Type}

/-- a pair of storage windows: storage `gs` from `gb` on the Go side, storage `cs` from `cb` on the C side -/
structure Win where
  gs : Nat
  gb : Int
  cs : Nat
  cb : Int

def winOf (g c : Arr) : Win := ⟨g.sid, g.base, c.sid, c.base⟩

def RelHeaps (hg hc : Heap α) (w : Win) (n : Int) : Prop :=
  ∀ p : Int, 0 ≤ p → p < n → cell hg w.gs (w.gb + p).toNat = cell hc w.cs (w.cb + p).toNat

def Compat (w w' : Win) : Prop :=
  (w'.gs = w.gs ∧ w'.cs = w.cs ∧ w'.gb - w.gb = w'.cb - w.cb) ∨ (w'.gs ≠ w.gs ∧ w'.cs ≠ w.cs)

theorem Compat.refl (w : Win) : Compat w w := Or.inl ⟨rfl, rfl, by omega⟩

theorem Compat.symm {w w' : Win} (h : Compat w w') : Compat w' w := by
  rcases h with ⟨a, b, c⟩ | ⟨a, b⟩
  · exact Or.inl ⟨a.symm, b.symm, by omega⟩
  · exact Or.inr ⟨fun e => a e.symm, fun e => b e.symm⟩

theorem Compat.of_ne {w w' : Win} (h1 : w'.gs ≠ w.gs) (h2 : w'.cs ≠ w.cs) : Compat w w' := Or.inr ⟨h1, h2⟩

theorem Compat.sid_iff {w w' : Win} (h : Compat w w') : w'.gs = w.gs ↔ w'.cs = w.cs := by
  rcases h with ⟨a, b, _⟩ | ⟨a, b⟩
  · exact ⟨fun _ => b, fun _ => a⟩
  · exact ⟨fun e => absurd e a, fun e => absurd e b⟩

theorem toNat_inj {a b : Int} (ha : 0 ≤ a) (hb : 0 ≤ b) (h : a.toNat = b.toNat) : a = b := by
  rw [← Int.toNat_of_nonneg ha, ← Int.toNat_of_nonneg hb, h]

theorem relHeaps_setStore {hg hc : Heap α} {w w' : Win} {n : Int} (hgb : 0 ≤ w.gb) (hcb : 0 ≤ w.cb)
    (hgb' : 0 ≤ w'.gb) (hcb' : 0 ≤ w'.cb) (cp : Compat w w') (r : RelHeaps hg hc w' n)
    (p : Int) (p0 : 0 ≤ p) (x : α) :
    RelHeaps (setStore hg w.gs (w.gb + p).toNat x) (setStore hc w.cs (w.cb + p).toNat x) w' n := by
  intro q q0 q1
  rw [cell_setStore, cell_setStore]
  rcases cp with ⟨e1, e2, e3⟩ | ⟨e1, e2⟩
  · -- same storages, same displacement: the written cell is the `q`-th of `w'` on one side iff on the other
    have hiff : w'.gb + q = w.gb + p ↔ w'.cb + q = w.cb + p := by omega
    by_cases e : w'.gb + q = w.gb + p
    · rw [if_pos ⟨e1, by rw [e]⟩, if_pos ⟨e2, by rw [hiff.mp e]⟩, r q q0 q1]
    · rw [if_neg (fun hh => e (toNat_inj (Int.add_nonneg hgb' q0) (Int.add_nonneg hgb p0) hh.2)),
        if_neg (fun hh => e (hiff.mpr (toNat_inj (Int.add_nonneg hcb' q0) (Int.add_nonneg hcb p0) hh.2)))]
      exact r q q0 q1
  · rw [if_neg (fun hh => e1 hh.1), if_neg (fun hh => e2 hh.1)]
    exact r q q0 q1

end
end OW.NdC03

namespace OW.Props.C03
open OW.Nd

variable {α : Type}

/-- The simulation relation between a Go-backed array `g` (in heap `hg`) and a C-backed array `c` (in heap `hc`):
same view metadata, both windows valid, and the same element at every address of the allocated shape. -/
structure Rel (hg hc : Heap α) (g c : Arr) : Prop where
  goBacked : g.isC = false
  cBacked : c.isC = true
  view : g.v = c.v
  reach : Reach g.v
  okG : ArrOK hg g
  okC : ArrOK hc c
  same : ∀ p : Int, 0 ≤ p → p < product g.v.orig →
    cell hg g.sid (g.base + p).toNat = cell hc c.sid (c.base + p).toNat

end OW.Props.C03

namespace OW.NdC03
open OW.Nd OW.NdC02
open OW.Props.C03 (Rel)

section
variable {α : Type}

/-- `hg', hc'` are obtained from `hg, hc` by the same finite sequence of single-cell writes at corresponding
addresses `gb + p` / `cb + p` (`p ≥ 0`) of the window pair `w` -/
inductive Paired (w : Win) : Heap α → Heap α → Heap α → Heap α → Prop
  | refl (hg hc : Heap α) : Paired w hg hc hg hc
  | step {hg hc hg' hc' : Heap α} (p : Int) (x : α) (p0 : 0 ≤ p)
      (rest : Paired w (setStore hg w.gs (w.gb + p).toNat x) (setStore hc w.cs (w.cb + p).toNat x) hg' hc') :
      Paired w hg hc hg' hc'

theorem Paired.sameShape {w : Win} {hg hc hg' hc' : Heap α} (pw : Paired w hg hc hg' hc') :
    SameShape hg hg' ∧ SameShape hc hc' := by
  induction pw with
  | refl hg hc => exact ⟨SameShape.refl _, SameShape.refl _⟩
  | step p x _ _ ih => exact ⟨(sameShape_setStore _ _ _ x).trans ih.1, (sameShape_setStore _ _ _ x).trans ih.2⟩

theorem Paired.trans {w : Win} {h1 h2 h3 h4 h5 h6 : Heap α} (a : Paired w h1 h2 h3 h4) (b : Paired w h3 h4 h5 h6) :
    Paired w h1 h2 h5 h6 := by
  induction a with
  | refl _ _ => exact b
  | step p x p0 _ ih => exact .step p x p0 (ih b)

theorem Paired.displace {gs cs : Nat} {gb cb d : Int} {hg hc hg' hc' : Heap α}
    (pw : Paired ⟨gs, gb + d, cs, cb + d⟩ hg hc hg' hc') (d0 : 0 ≤ d) : Paired ⟨gs, gb, cs, cb⟩ hg hc hg' hc' := by
  induction pw with
  | refl _ _ => exact .refl _ _
  | step p x p0 _ ih =>
    refine .step (d + p) x (Int.add_nonneg d0 p0) ?_
    simp only [← Int.add_assoc]
    exact ih

theorem Paired.relHeaps {w w' : Win} {hg hc hg' hc' : Heap α} (pw : Paired w hg hc hg' hc') {n : Int}
    (hgb : 0 ≤ w.gb) (hcb : 0 ≤ w.cb) (hgb' : 0 ≤ w'.gb) (hcb' : 0 ≤ w'.cb) (cp : Compat w w')
    (r : RelHeaps hg hc w' n) : RelHeaps hg' hc' w' n := by
  induction pw with
  | refl _ _ => exact r
  | step p x p0 _ ih => exact ih (relHeaps_setStore hgb hcb hgb' hcb' cp r p p0 x)

/-- `Props.C03.Rel` without its two back-end flags (`same` is `Rel.same`, written with `RelHeaps`; `Rel.toW`, `RelW.toRel`):
all that the pair lemmas `RelW.*` use of a pair. It also holds of a pair of Go temporaries, of two C-backed arrays, and of
an array with itself (`RelW.refl`). -/
structure RelW (hg hc : Heap α) (g c : Arr) : Prop where
  view : g.v = c.v
  reach : Reach g.v
  okG : ArrOK hg g
  okC : ArrOK hc c
  same : RelHeaps hg hc (winOf g c) (product g.v.orig)

theorem _root_.OW.Props.C03.Rel.toW {hg hc : Heap α} {g c : Arr} (r : Rel hg hc g c) : RelW hg hc g c :=
  ⟨r.view, r.reach, r.okG, r.okC, r.same⟩

theorem RelW.toRel {hg hc : Heap α} {g c : Arr} (r : RelW hg hc g c) (h1 : g.isC = false) (h2 : c.isC = true) :
    Rel hg hc g c := ⟨h1, h2, r.view, r.reach, r.okG, r.okC, r.same⟩

/-- what a pair lemma says of either side therefore holds of every single array -/
theorem RelW.refl {h : Heap α} {a : Arr} (hr : Reach a.v) (ok : ArrOK h a) : RelW h h a a :=
  ⟨rfl, hr, ok, ok, fun _ _ _ => rfl⟩

theorem RelW.reachC {hg hc : Heap α} {g c : Arr} (r : RelW hg hc g c) : Reach c.v := by
  rw [← r.view]; exact r.reach

theorem RelW.geo {hg hc : Heap α} {g c : Arr} (r : RelW hg hc g c) : Geo g.v := reach_geo r.reach

theorem RelW.geoC {hg hc : Heap α} {g c : Arr} (r : RelW hg hc g c) : Geo c.v := reach_geo r.reachC

theorem RelW.contiguous {hg hc : Heap α} {g c : Arr} (r : RelW hg hc g c) :
    ∃ b, g.v.contiguous = .ok b ∧ c.v.contiguous = .ok b :=
  r.geo.contiguous_total.imp fun _ hb => ⟨hb, r.view ▸ hb⟩

theorem Paired.relW {g c g' c' : Arr} {hg hc hg' hc' : Heap α} (pw : Paired (winOf g c) hg hc hg' hc')
    (hgb : 0 ≤ g.base) (hcb : 0 ≤ c.base) (r : RelW hg hc g' c') (cp : Compat (winOf g c) (winOf g' c')) :
    RelW hg' hc' g' c' :=
  ⟨r.view, r.reach, r.okG.sameShape pw.sameShape.1, r.okC.sameShape pw.sameShape.2,
    pw.relHeaps hgb hcb r.okG.base_nonneg r.okC.base_nonneg cp r.same⟩

theorem RelW.slice {hg hc : Heap α} {g c : Arr} (r : RelW hg hc g c) {loc dims : Idx} {step : Option Idx}
    (hok : SliceOK g.v.dims loc dims (stepOr g.v.dims.length step)) :
    Nd.slice g loc dims step = .ok { g with v := sliceView g.v loc dims step } ∧
    Nd.slice c loc dims step = .ok { c with v := sliceView g.v loc dims step } ∧
    RelW hg hc { g with v := sliceView g.v loc dims step } { c with v := sliceView g.v loc dims step } := by
  obtain ⟨hl1, _, hl3⟩ := hok.lengths
  have hsg := slice_eq_dstSlice r.geo loc dims step hl1 hl3
  have hsc : Nd.slice c loc dims step = .ok { c with v := sliceView g.v loc dims step } := by
    rw [r.view] at hl1 hl3 ⊢; exact slice_eq_dstSlice r.geoC loc dims step hl1 hl3
  exact ⟨hsg, hsc, rfl, Reach.slice r.reach hok (r.geo.regular.sliceInto_eq loc dims step hl1 hl3), r.okG.slice hsg,
    r.okC.slice hsc, r.same⟩

theorem RelW.get {hg hc : Heap α} {g c : Arr} (r : RelW hg hc g c) {i : Idx} (hi : InBounds i g.v.dims) :
    ∃ x, Nd.get hg g i = .ok x ∧ Nd.get hc c i = .ok x := by
  have gg := r.geo
  obtain ⟨x, _, hget⟩ := get_addr gg r.okG hi
  refine ⟨x, hget, ?_⟩
  rw [← hget]
  exact (get_congr gg r.okG r.geoC r.okC hi (r.view ▸ hi)
    (r.view ▸ r.same _ (addr_bounds gg hi).1 (addr_bounds gg hi).2)).symm

theorem RelW.elems {hg hc : Heap α} {g c : Arr} (r : RelW hg hc g c) :
    ∃ vals, NdC02.getAll hg g (rowMajor g.v.dims) = .ok vals ∧ NdC02.getAll hc c (rowMajor c.v.dims) = .ok vals ∧
      (vals.length : Int) = g.v.size := by
  have gg := r.geo
  obtain ⟨vals, h1, hlen⟩ := elems_ok gg r.okG
  refine ⟨vals, h1, ?_, hlen ▸ Int.toNat_of_nonneg (Int.le_of_lt (product_pos gg.pos_dims))⟩
  rw [← h1, ← r.view]
  exact getAll_congr _ fun i hi => let ⟨_, e1, e2⟩ := r.get (rowMajor_inBounds gg.pos_dims i hi); e2.trans e1.symm

theorem paired_seqWrites {g c : Arr} (hv : g.v = c.v) (ws : List (Idx × α)) (h0 : ∀ w ∈ ws, 0 ≤ addr g.v w.1)
    (hg hc : Heap α) :
    Paired (winOf g c) hg hc (writeList hg g.sid (seqWrites g ws)) (writeList hc c.sid (seqWrites c ws)) := by
  induction ws generalizing hg hc with
  | nil => exact .refl hg hc
  | cons w rest ih =>
    simp only [seqWrites, List.map_cons, writeList, ← hv]
    exact .step (addr g.v w.1) w.2 (h0 w List.mem_cons_self)
      (by simpa only [seqWrites, ← hv, winOf] using ih (fun w hw => h0 w (List.mem_cons_of_mem _ hw)) _ _)

theorem RelW.set {hg hc : Heap α} {g c : Arr} (r : RelW hg hc g c) {i : Idx} (hi : InBounds i g.v.dims) (x : α) :
    ∃ hg' hc', Nd.set hg g i x = .ok hg' ∧ Nd.set hc c i x = .ok hc' ∧ Paired (winOf g c) hg hc hg' hc' := by
  refine ⟨_, _, set_addr r.geo r.okG hi x, set_addr r.geoC r.okC (r.view ▸ hi) x, ?_⟩
  rw [← r.view]
  exact .step (addr g.v i) x (addr_bounds r.geo hi).1 (.refl _ _)

theorem RelW.bulk {hg hc : Heap α} {g c : Arr} (r : RelW hg hc g c) {rg rc : R (Heap α)} {idxs : List Idx}
    {vals : List α} (bg : BulkWrite hg rg g idxs vals) (bc : BulkWrite hc rc c idxs vals) :
    ∃ hg' hc', rg = .ok hg' ∧ rc = .ok hc' ∧ Paired (winOf g c) hg hc hg' hc' := by
  have hib : ∀ w ∈ idxs.zip vals, InBounds w.1 g.v.dims := fun _ hw => bg.inb _ (List.of_mem_zip hw).1
  exact ⟨_, _, bg.eq.trans (setAll_eq r.geo idxs vals hg r.okG hib),
    bc.eq.trans (setAll_eq r.geoC idxs vals hc r.okC (r.view ▸ hib)),
    paired_seqWrites r.view _ (fun w hw => (addr_bounds r.geo (hib w hw)).1) _ _⟩

theorem RelW.paired_self {hg hc hg' hc' : Heap α} {g c : Arr} (r : RelW hg hc g c)
    (pw : Paired (winOf g c) hg hc hg' hc') : RelW hg' hc' g c :=
  pw.relW r.okG.base_nonneg r.okC.base_nonneg r (Compat.refl _)

theorem RelW.append {hg hc : Heap α} {g c : Arr} (r : RelW hg hc g c) (vg vc : List α) :
    RelW (hg ++ [vg]) (hc ++ [vc]) g c := by
  refine ⟨r.view, r.reach, arrOK_append r.okG vg, arrOK_append r.okC vc, ?_⟩
  intro p p0 p1
  simp only [winOf]
  rw [cell_append_lt hg vg (arrOK_sid_lt r.okG), cell_append_lt hc vc (arrOK_sid_lt r.okC)]
  exact r.same p p0 p1

end
end OW.NdC03
