import OW.Proofs.NdGeo
import OW.Proofs.ExceptList
/-!
Heaps read cell by cell; the window conditions `ArrOK` under which an `Impl[i]` access does not panic; `Get` / `Set` of an
in-bounds index as the cell `base + addr`; the constructors establish the window conditions.
-/
namespace OW.Nd

section
variable {α : Type}

def cell (h : Heap α) (sid pos : Nat) : Option α := (h[sid]?).bind (·[pos]?)

def SameShape (h h' : Heap α) : Prop :=
  h'.length = h.length ∧ ∀ t : Nat, (h'[t]?).map List.length = (h[t]?).map List.length

theorem SameShape.refl (h : Heap α) : SameShape h h := ⟨rfl, fun _ => rfl⟩
theorem SameShape.trans {h1 h2 h3 : Heap α} (a : SameShape h1 h2) (b : SameShape h2 h3) : SameShape h1 h3 :=
  ⟨b.1.trans a.1, fun t => (b.2 t).trans (a.2 t)⟩

theorem SameShape.store {h h' : Heap α} (s : SameShape h h') {t : Nat} {st : List α} (e : h[t]? = some st) :
    ∃ st', h'[t]? = some st' ∧ st'.length = st.length := by
  have := s.2 t
  rw [e] at this
  cases e' : h'[t]? with
  | none => simp [e'] at this
  | some st' => exact ⟨st', rfl, by simpa [e'] using this⟩

theorem getElem?_setStore (h : Heap α) (sid pos : Nat) (x : α) (t : Nat) :
    (setStore h sid pos x)[t]? = if sid = t then (h[t]?).map (fun s => s.set pos x) else h[t]? := by
  unfold setStore
  rw [List.getElem?_modify]
  by_cases e : sid = t
  · simp only [e, if_true]
    cases h[t]? <;> rfl
  · simp only [e, if_false]
    cases h[t]? <;> rfl

theorem sameShape_setStore (h : Heap α) (sid pos : Nat) (x : α) : SameShape h (setStore h sid pos x) := by
  refine ⟨by simp [setStore, List.length_modify], fun t => ?_⟩
  rw [getElem?_setStore]
  by_cases e : sid = t
  · simp only [e, if_true]
    cases h[t]? <;> simp
  · simp only [e, if_false]

theorem cell_setStore (h : Heap α) (sid pos : Nat) (x : α) (t q : Nat) :
    cell (setStore h sid pos x) t q =
      if t = sid ∧ q = pos then (cell h t q).map (fun _ => x) else cell h t q := by
  unfold cell
  rw [getElem?_setStore]
  by_cases e : sid = t
  · subst e
    cases hs : h[sid]? with
    | none => simp
    | some s =>
      by_cases e2 : q = pos
      · subst e2
        by_cases hl : q < s.length
        · simp [hl]
        · simp [hl]
      · have e3 : ¬ pos = q := fun e => e2 e.symm
        simp [e2, e3]
  · have e' : ¬ t = sid := fun e' => e e'.symm
    simp [e, e']

theorem setStore_self {h : Heap α} {sid pos : Nat} {x : α} (hc : cell h sid pos = some x) :
    setStore h sid pos x = h := by
  apply List.ext_getElem?
  intro t
  rw [getElem?_setStore]
  by_cases e : sid = t
  · subst e
    simp only [if_true]
    cases hs : h[sid]? with
    | none => rfl
    | some st =>
      simp only [cell, hs, Option.bind_some] at hc
      simp only [Option.map_some, Option.some.injEq]
      apply List.ext_getElem?
      intro j
      rw [List.getElem?_set]
      by_cases e2 : pos = j
      · subst e2
        obtain ⟨hlt, hxe⟩ := List.getElem?_eq_some_iff.mp hc
        simp [hlt, hxe]
      · simp [e2]
  · simp [e]

/-- **Window conditions** on an array value `a` in heap `h`: its storage exists, its `Impl` window
`[base, base+len)` lies inside that storage, the window is at least as large as the allocated shape
`Π OriginalDims` (so every address of a reachable view is inside it), and — for the C back-end, whose index is
checked against the `1<<30` array type — the allocated shape is at most `1<<30`.
Holds for the results of `newArray`, `fromStore`, `fromC` (lemmas `arrOK_*`) and is preserved by `slice` and by every
heap operation (which never changes a storage's length). -/
structure ArrOK (h : Heap α) (a : Arr) : Prop where
  store : ∃ s, h[a.sid]? = some s ∧ a.base + a.len ≤ s.length
  base_nonneg : 0 ≤ a.base
  fits : product a.v.orig ≤ a.len
  cfits : a.isC = true → product a.v.orig ≤ 1073741824

theorem ArrOK.sameShape {h h' : Heap α} {a : Arr} (ok : ArrOK h a) (s : SameShape h h') : ArrOK h' a := by
  obtain ⟨st, e, hl⟩ := ok.store
  obtain ⟨st', e', hl'⟩ := s.store e
  exact ⟨⟨st', e', by omega⟩, ok.base_nonneg, ok.fits, ok.cfits⟩

theorem cell_append_lt (h : Heap α) (vs : List α) {sid : Nat} (hs : sid < h.length) (pos : Nat) :
    cell (h ++ [vs]) sid pos = cell h sid pos := by
  unfold cell
  rw [List.getElem?_append_left hs]

theorem cell_append_new (h : Heap α) (vs : List α) (pos : Nat) : cell (h ++ [vs]) h.length pos = vs[pos]? := by
  unfold cell
  rw [List.getElem?_concat_length]
  rfl

theorem arrOK_sid_lt {h : Heap α} {a : Arr} (ok : ArrOK h a) : a.sid < h.length := by
  obtain ⟨s, hs, _⟩ := ok.store
  by_contra hn
  rw [List.getElem?_eq_none (by omega)] at hs
  cases hs

/-- allocation (`h ++ [vs]`: the copying `Reshape`, `NewArray`) changes the number of storages, so it is not covered by `SameShape` -/
theorem arrOK_append {h : Heap α} {a : Arr} (ok : ArrOK h a) (vs : List α) : ArrOK (h ++ [vs]) a := by
  obtain ⟨s, hs, hl⟩ := ok.store
  exact ⟨⟨s, by rw [List.getElem?_append_left (arrOK_sid_lt ok)]; exact hs, hl⟩, ok.base_nonneg, ok.fits, ok.cfits⟩

theorem slice_eq {a b : Arr} {loc dims : Idx} {step : Option Idx} (h : slice a loc dims step = .ok b) :
    ∃ w, a.v.sliceInto loc dims step = .ok w ∧ b = { a with v := w } := by
  obtain ⟨w, hw, h⟩ := Except.bind_eq_ok.mp h
  exact ⟨w, hw, (Except.ok.inj h).symm⟩

theorem sliceInto_orig {v w : View} {loc dims : Idx} {step : Option Idx} (h : v.sliceInto loc dims step = .ok w) :
    w.orig = v.orig := by
  obtain ⟨d, _, h⟩ := Except.bind_eq_ok.mp h
  cases step <;>
  · obtain ⟨st, _, h⟩ := Except.bind_eq_ok.mp h
    obtain ⟨os, _, h⟩ := Except.bind_eq_ok.mp h
    rw [← Except.ok.inj h]

theorem ArrOK.slice {h : Heap α} {a b : Arr} {loc dims : Idx} {step : Option Idx} (ok : ArrOK h a)
    (hs : slice a loc dims step = .ok b) : ArrOK h b := by
  obtain ⟨w, hw, rfl⟩ := slice_eq hs
  have := sliceInto_orig hw
  exact ⟨ok.store, ok.base_nonneg, by show product w.orig ≤ a.len; rw [this]; exact ok.fits,
    by intro hc; show product w.orig ≤ _; rw [this]; exact ok.cfits hc⟩

theorem toNat_lt_length {base p : Int} {n : Nat} (h0 : 0 ≤ base) (hp : 0 ≤ p) (h : base + p < n) :
    (base + p).toNat < n := by omega

/-- at an address of the allocated shape every bounds test of `readAt` / `writeAt` passes, on either back-end -/
theorem ArrOK.tests {h : Heap α} {a : Arr} (ok : ArrOK h a) {p : Int} (h0 : 0 ≤ p) (hp : p < product a.v.orig) :
    ∃ s, h[a.sid]? = some s ∧ (0 ≤ p ∧ p < a.len) ∧ (a.isC = true → 0 ≤ p ∧ p < 1073741824) ∧
      0 ≤ a.base + p ∧ a.base + p < s.length := by
  obtain ⟨s, e, hl⟩ := ok.store
  have hb := ok.base_nonneg
  have hf := ok.fits
  exact ⟨s, e, ⟨h0, by omega⟩, fun hc => ⟨h0, by have := ok.cfits hc; omega⟩, by omega, by omega⟩

theorem readAt_eq {h : Heap α} {a : Arr} (ok : ArrOK h a) {p : Int} (h0 : 0 ≤ p) (hp : p < product a.v.orig) :
    ∃ x, cell h a.sid (a.base + p).toNat = some x ∧ readAt h a p = .ok x := by
  obtain ⟨s, e, c0, c1, c2, c3⟩ := ok.tests h0 hp
  have hlt : (a.base + p).toNat < s.length := by omega
  have hx : s[(a.base + p).toNat]? = some s[(a.base + p).toNat] := List.getElem?_eq_getElem hlt
  refine ⟨s[(a.base + p).toNat], by simp [cell, e, hx], ?_⟩
  unfold readAt storeOf
  simp only [e, bind, Except.bind, pure, Except.pure]
  by_cases hc : a.isC = true
  · simp only [hc, if_true, c1 hc, c2, and_self, hx]
  · simp only [hc, c0, and_self, if_true, hx]
    rfl

theorem writeAt_eq {h : Heap α} {a : Arr} (ok : ArrOK h a) {p : Int} (h0 : 0 ≤ p) (hp : p < product a.v.orig)
    (x : α) : writeAt h a p x = .ok (setStore h a.sid (a.base + p).toNat x) := by
  obtain ⟨s, e, c0, c1, c2, c3⟩ := ok.tests h0 hp
  unfold writeAt storeOf
  simp only [e, bind, Except.bind, pure, Except.pure]
  by_cases hc : a.isC = true
  · simp only [hc, if_true, c1 hc, c2, c3, and_self]
  · simp only [hc, c0, and_self, if_true]
    rfl

theorem set_addr {h : Heap α} {a : Arr} (g : Geo a.v) (ok : ArrOK h a) {i : Idx} (hi : InBounds i a.v.dims)
    (x : α) : set h a i x = .ok (setStore h a.sid (a.base + addr a.v i).toNat x) := by
  unfold set
  rw [index_addr g i (Nat.le_of_eq hi.length)]
  exact writeAt_eq ok (addr_bounds g hi).1 (addr_bounds g hi).2 x

theorem get_addr {h : Heap α} {a : Arr} (g : Geo a.v) (ok : ArrOK h a) {i : Idx} (hi : InBounds i a.v.dims) :
    ∃ x, cell h a.sid (a.base + addr a.v i).toNat = some x ∧ get h a i = .ok x := by
  obtain ⟨x, hx, hr⟩ := readAt_eq ok (addr_bounds g hi).1 (addr_bounds g hi).2
  refine ⟨x, hx, ?_⟩
  unfold get
  rw [index_addr g i (Nat.le_of_eq hi.length)]
  exact hr

theorem get_congr {h h' : Heap α} {a b : Arr} (ga : Geo a.v) (oka : ArrOK h a) (gb : Geo b.v) (okb : ArrOK h' b)
    {i j : Idx} (hi : InBounds i a.v.dims) (hj : InBounds j b.v.dims)
    (e : cell h a.sid (a.base + addr a.v i).toNat = cell h' b.sid (b.base + addr b.v j).toNat) :
    get h a i = get h' b j := by
  obtain ⟨x, cx, gx⟩ := get_addr ga oka hi
  obtain ⟨y, cy, gy⟩ := get_addr gb okb hj
  rw [gx, gy, Option.some.inj (cx.symm.trans (e.trans cy))]


theorem writeAt_setStore {h h' : Heap α} {a : Arr} {p : Int} {x : α} (hw : writeAt h a p x = .ok h') :
    ∃ pos, h' = setStore h a.sid pos x := by
  unfold writeAt at hw
  obtain ⟨s, _, hw⟩ := Except.bind_eq_ok.mp hw
  split at hw
  · split at hw
    · split at hw
      · exact ⟨_, (Except.ok.inj hw).symm⟩
      · cases hw
    · cases hw
  · split at hw
    · exact ⟨_, (Except.ok.inj hw).symm⟩
    · cases hw

theorem set_setStore {h h' : Heap α} {a : Arr} {loc : Idx} {x : α} (hs : set h a loc x = .ok h') :
    ∃ pos, h' = setStore h a.sid pos x := by
  obtain ⟨p, _, hw⟩ := Except.bind_eq_ok.mp hs
  exact writeAt_setStore hw

theorem set_sameShape {h h' : Heap α} {a : Arr} {loc : Idx} {x : α} (hs : set h a loc x = .ok h') :
    SameShape h h' := by
  obtain ⟨pos, rfl⟩ := set_setStore hs
  exact sameShape_setStore h a.sid pos x

/-- `arrayFromSlice` on storage `sid` (Go back-end); that the storage holds at least `Π dims` elements (`hfit`) is not
checked by the Go code -/
theorem arrOK_fromStore {h : Heap α} {sid : Nat} {s : List α} {dims : Idx} (hne : dims ≠ []) (hpos : Pos dims)
    (hs : h[sid]? = some s) (hfit : product dims ≤ s.length) :
    ∃ a, fromStore h sid dims = .ok a ∧ a = ⟨rootView dims 0, sid, 0, s.length, false⟩ ∧ Reach a.v ∧ ArrOK h a := by
  refine ⟨⟨rootView dims 0, sid, 0, s.length, false⟩, ?_, rfl, reach_root hne hpos, ?_⟩
  · simp [fromStore, storeOf, hs, root_eq dims 0 hne, bind, Except.bind, pure, Except.pure]
  · exact ⟨⟨s, hs, by simp⟩, Int.le_refl 0, hfit, by simp⟩

/-- `New<T>CArray` on the caller's buffer `sid` (C back-end): as `arrOK_fromStore`, with the `1<<30` bound of the
C array type -/
theorem arrOK_fromC {h : Heap α} {sid : Nat} {s : List α} {dims : Idx} (hne : dims ≠ []) (hpos : Pos dims)
    (hs : h[sid]? = some s) (hfit : product dims ≤ s.length) (hbig : product dims ≤ 1073741824) :
    ∃ a, fromC h sid dims = .ok a ∧ a = ⟨rootView dims 0, sid, 0, s.length, true⟩ ∧ Reach a.v ∧ ArrOK h a := by
  refine ⟨⟨rootView dims 0, sid, 0, s.length, true⟩, ?_, rfl, reach_root hne hpos, ?_⟩
  · simp [fromC, storeOf, hs, root_eq dims 0 hne, bind, Except.bind, pure, Except.pure]
  · exact ⟨⟨s, hs, by simp⟩, Int.le_refl 0, hfit, fun _ => hbig⟩

theorem arrOK_newArray (zero : α) (h : Heap α) {dims : Idx} (hne : dims ≠ []) (hpos : Pos dims) :
    ∃ a, newArray zero h dims = .ok (h ++ [List.replicate (product dims).toNat zero], a) ∧
      a = ⟨rootView dims 0, h.length, 0, (product dims).toNat, false⟩ ∧ Reach a.v ∧
      ArrOK (h ++ [List.replicate (product dims).toNat zero]) a := by
  have hp := product_pos hpos
  have hs : (h ++ [List.replicate (product dims).toNat zero])[h.length]? =
      some (List.replicate (product dims).toNat zero) := by simp
  obtain ⟨a, ha, rfl, hr, hok⟩ := arrOK_fromStore hne hpos hs (by simp)
  refine ⟨_, ?_, ?_, hr, hok⟩
  · have : ¬ product dims < 0 := by omega
    simp only [newArray, this, if_false, alloc, ha, bind, Except.bind, pure, Except.pure]
  · simp

end
end OW.Nd
