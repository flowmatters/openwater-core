import OW.Proofs.FindRoot
/-!
A family of functions on which `FindRoot` does NOT reach its tolerance within the iteration budget (exact arithmetic).

Situation: bracket `[0, hi]`, `f 0 = −T` with `T ≥ tol`, and `f t ≥ T` for every `t` of the bracket that the iteration can reach
(`t ≥ δ N`): the root sits in a tiny interval `(0, δ N)`. Then
* the lower end never moves (every trial has `f ≥ T > 0`), the returned candidate stays `(0, −T)` (`|f min| ≤ f max`),
* the Newton trial from `x = 0` is `T / f'(0)`, outside the bracket when `hi ≤ T / f'(0)`, hence never used,
* one iteration replaces the upper end `u` by `u·T/(f u + T)`: the halving trial moves it to `u/2`, then the secant trial of the old
  bracket, which is not above `u/2` (`secant_from_zero`), moves it there.
A certificate is a sequence `δ 0, …, δ N > 0` with `δ (n+1) ≤ t·T/(f t + T)` for all `t ∈ [δ n, hi]`.
-/
namespace OW.Proofs.FindRoot
open OW OW.Fn

/-- `hd`: a trial that IS the upper end fails the code's strict test and nothing moves, but the stored value there is already `f` of it -/
theorem trialStep_upper (f : ℝ → ℝ) (tol conv x : ℝ) (s : Inner ℝ) (t : ℝ)
    (h1 : ¬ |f t| < tol) (h2 : ¬ f t < 0) (h3 : t ≤ s.b.maxX) (h4 : s.b.minX ≤ t) (hd : s.b.maxDelta = f s.b.maxX)
    (hc : conv ≤ 0) :
    trialStep f tol conv x s t =
      .inr { b := { s.b with maxX := t, maxDelta := f t }, hit := s.hit, evals := t :: s.evals } := by
  rw [trialStep_eq, if_neg h1, if_neg h2, if_neg (not_lt.mpr (le_trans hc (abs_nonneg _)))]
  rcases lt_or_eq_of_le h3 with h | h
  · rw [if_pos ⟨h, h4⟩]
  · have e : ({ s.b with maxX := t, maxDelta := f t } : Bracket ℝ) = s.b := by rw [h, ← hd]
    rw [if_neg (fun hh => absurd hh.1 (by rw [h]; exact lt_irrefl _)), e]

theorem secant_from_zero {u T F : ℝ} (hu : 0 < u) (hT : 0 < T) (hF : T ≤ F) :
    u - (u - 0) * F / (F - -T) = u * T / (F + T) ∧ u * T / (F + T) ≤ u / 2 ∧ 0 ≤ u * T / (F + T) := by
  have hden : 0 < F + T := add_pos_of_pos_of_nonneg (lt_of_lt_of_le hT hF) hT.le
  refine ⟨?_, ?_, div_nonneg (mul_nonneg hu.le hT.le) hden.le⟩
  · rw [sub_zero, sub_neg_eq_add, eq_div_iff hden.ne', sub_mul, div_mul_cancel₀ _ hden.ne']
    ring
  · rw [div_le_iff₀ hden]
    have := mul_nonneg hu.le (sub_nonneg.mpr hF)
    linarith

section stall
variable (f d : ℝ → ℝ) (tol conv T hi : ℝ) (N : Nat) (δ : Nat → ℝ)

structure Stalled (n : Nat) (b : Bracket ℝ) : Prop where
  minX : b.minX = 0
  minD : b.minDelta = -T
  lo : δ n ≤ b.maxX
  hi : b.maxX ≤ hi
  maxD : b.maxDelta = f b.maxX

structure Cert : Prop where
  tol_pos : 0 < tol
  tol_le : tol ≤ T
  conv : conv ≤ 0
  pos : ∀ n, n ≤ N → 0 < δ n
  shrink : ∀ n, n < N → ∀ t, δ n ≤ t → t ≤ hi → δ (n + 1) ≤ t * T / (f t + T)
  big : ∀ n, n ≤ N → ∀ t, δ n ≤ t → t ≤ hi → T ≤ f t
  newton : d 0 = 0 ∨ hi ≤ T / d 0

variable {f d tol conv T hi N δ}

theorem stalled_trials (hC : Cert f d tol conv T hi N δ) {n : Nat} {b : Bracket ℝ}
    (hS : Stalled f T hi δ n b) :
    trialXs (some d) 0 (-T) b = [halvingX b, secantX b] := by
  rcases trialXs_cases (some d) 0 (-T) b with e | ⟨d', hd', ⟨h1, h2⟩, _⟩
  · exact e
  · -- the Newton point `T / d 0` is `0` (if `d 0 = 0`) or beyond `hi`: not strictly inside the bracket
    cases hd'
    exfalso
    rcases hC.newton with h0 | h0
    · rw [h0, div_zero, sub_zero, hS.minX] at h1
      exact lt_irrefl _ h1
    · rw [zero_sub, neg_div, neg_neg] at h2
      exact not_lt.mpr (le_trans hS.hi h0) h2

theorem stalled_step (hC : Cert f d tol conv T hi N δ) {n : Nat} (hn : n < N) {b : Bracket ℝ}
    (hS : Stalled f T hi δ n b) (fuel : Nat) (ev dev : List ℝ) :
    ∃ b' ev' dev', Stalled f T hi δ (n + 1) b' ∧
      iterate f (some d) tol conv (fuel + 1) 0 (-T) b ev dev = iterate f (some d) tol conv fuel 0 (-T) b' ev' dev' := by
  have hT : 0 < T := lt_of_lt_of_le hC.tol_pos hC.tol_le
  have hu : 0 < b.maxX := lt_of_lt_of_le (hC.pos n hn.le) hS.lo
  have hfu : T ≤ f b.maxX := hC.big n hn.le _ hS.lo hS.hi
  have sh2 := hC.shrink n hn _ hS.lo hS.hi
  obtain ⟨hraw, ht2le, ht2nn⟩ := secant_from_zero hu hT hfu
  set u' := b.maxX * T / (f b.maxX + T)
  have sh1 : δ (n + 1) ≤ b.maxX / 2 := le_trans sh2 ht2le
  have ht1 : halvingX b = b.maxX / 2 := by rw [halvingX_eq, hS.minX, sub_zero, sub_half]
  have ht2 : secantX b = u' := by
    rw [secantX_eq_raw b (by rw [hS.minX]; exact hu.le) (by rw [hS.minD]; exact neg_nonpos.mpr hT.le)
      (by rw [hS.maxD]; exact le_trans hT.le hfu)
      (by rw [hS.minD, hS.maxD]; exact lt_of_lt_of_le (neg_lt_zero.mpr hT) (le_trans hT.le hfu)),
      secantRaw, hS.minX, hS.minD, hS.maxD]
    exact hraw
  have ht1hi : b.maxX / 2 ≤ hi := le_trans (half_le_self hu.le) hS.hi
  have ht2hi : u' ≤ hi := le_trans ht2le ht1hi
  -- every point the iteration can still reach has a value `≥ T`: outside the tolerance and not negative
  have hbig : ∀ t, δ (n + 1) ≤ t → t ≤ hi → ¬ |f t| < tol ∧ ¬ f t < 0 := fun t h1 h2 =>
    have h := hC.big (n + 1) hn t h1 h2
    ⟨not_lt.mpr (le_trans (le_trans hC.tol_le h) (le_abs_self _)), not_lt.mpr (le_trans hT.le h)⟩
  -- trial 1 (halving) becomes the upper end, then trial 2 (secant, not above the halving point) does
  have step1 := trialStep_upper f tol conv 0 { b := b, hit := 0, evals := ev } (b.maxX / 2)
    (hbig _ sh1 ht1hi).1 (hbig _ sh1 ht1hi).2 (half_le_self hu.le)
    (by show b.minX ≤ b.maxX / 2; rw [hS.minX]; exact (half_pos hu).le) hS.maxD hC.conv
  have step2 := trialStep_upper f tol conv 0
    { b := { b with maxX := b.maxX / 2, maxDelta := f (b.maxX / 2) }, hit := 0, evals := b.maxX / 2 :: ev }
    u' (hbig _ sh2 ht2hi).1 (hbig _ sh2 ht2hi).2 ht2le
    (by show b.minX ≤ _; rw [hS.minX]; exact ht2nn) rfl hC.conv
  refine ⟨{ b with maxX := u', maxDelta := f u' },
    u' :: b.maxX / 2 :: ev, 0 :: dev, ⟨hS.minX, hS.minD, sh2, ht2hi, rfl⟩, ?_⟩
  have hp : pick { b with maxX := u', maxDelta := f u' }
      = (0, -T) := by
    unfold pick
    simp only [RealNum.abs_eq]
    rw [hS.minD, abs_neg, abs_of_pos hT, if_pos (hC.big (n + 1) hn _ sh2 ht2hi), hS.minX]
  conv_lhs => rw [iterate]
  simp only [stalled_trials hC hS, ht1, ht2, trialLoop, step1, step2, Option.isSome_some, if_true]
  rw [hp]
  rfl

theorem stalled_iterate (hC : Cert f d tol conv T hi N δ) :
    ∀ (fuel n : Nat) (b : Bracket ℝ) (ev dev : List ℝ), n + fuel = N → Stalled f T hi δ n b →
      (iterate f (some d) tol conv fuel 0 (-T) b ev dev).exit = .fuel ∧
      (iterate f (some d) tol conv fuel 0 (-T) b ev dev).x = 0 ∧
      (iterate f (some d) tol conv fuel 0 (-T) b ev dev).delta = -T := by
  intro fuel
  induction fuel with
  | zero =>
    intro n b ev dev _ _
    simp only [iterate]
    exact ⟨trivial, trivial, trivial⟩
  | succ k ih =>
    intro n b ev dev hn hS
    obtain ⟨b', ev', dev', hS', heq⟩ := stalled_step hC (by omega : n < N) hS k ev dev
    rw [heq]
    exact ih (n + 1) b' ev' dev' (by omega) hS'

theorem stalled_findRoot (hC : Cert f d tol conv T hi N δ) (hf0 : f 0 = -T) (h0 : δ 0 ≤ hi) :
    ∃ r, findRoot f (some d) 0 0 hi tol conv N = .ok r ∧ r.exit = .fuel ∧ r.x = 0 ∧ r.delta = -T := by
  have hTpos : 0 < T := lt_of_lt_of_le hC.tol_pos hC.tol_le
  have hfhi : T ≤ f hi := hC.big 0 (Nat.zero_le _) hi h0 (le_refl _)
  rw [findRoot_eq (by rw [hf0]; linarith) (by linarith), hf0]
  refine ⟨_, rfl, ?_⟩
  exact stalled_iterate hC N 0 ⟨0, -T, hi, f hi⟩ _ _ (by omega) ⟨rfl, rfl, h0, le_refl _, rfl⟩

end stall
end OW.Proofs.FindRoot
