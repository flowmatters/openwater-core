import OW.Proofs.Rounded
import OW.Kernels.StorageRouting
/-!
Helper lemmas for OW/Props/Rounded/C11.lean: the exits of StorageRouting's `calcOutflow` over rounded arithmetic (`RNum R`).
-/
namespace OW.Rounded.Routing
open OW OW.Kernels OW.Kernels.StorageRouting

variable {R : Rounding}

/-- over `RNum R` nothing is NaN: `runRouting` never panics -/
theorem runRouting_ok (c : Ctx (RNum R)) (q : RNum R) : runRouting c q = .ok (rr c q) := by
  unfold runRouting
  simp only [RNum.isNaN_eq, Bool.false_eq_true, if_false]

/-- what every exit of `calcOutflow` satisfies -/
def Good (c : Ctx (RNum R)) (r : CO (RNum R)) : Prop :=
  0 ≤ r.outflow.val ∧ ((∀ q, 0 ≤ (sIndex c q).val) → 0 ≤ r.storage.val)

theorem good_rr {c : Ctx (RNum R)} {q qi : RNum R} {tag : String} (hd : 0 ≤ c.duration.val) :
    Good c ⟨qi, (rr c q).outflow, (rr c q).sIndex, tag⟩ :=
  ⟨RNum.div_nonneg (RNum.gmax_nonneg_left RNum.ofNat_nonneg) hd, fun hS => hS q⟩

theorem solve_good (c : Ctx (RNum R)) (prevQi minQI mx : RNum R) (r : CO (RNum R)) (hd : 0 ≤ c.duration.val)
    (h : solve c prevQi minQI mx = .ok r) : Good c r := by
  unfold solve at h
  simp -zeta only [runRouting_ok] at h
  extract_lets outflow storage reset qi at h
  clear_value reset qi
  by_cases h1 : (rr c mx).massBalance < massBalanceLimit
  · rw [if_pos h1] at h
    cases h
    exact ⟨RNum.gmax_nonneg_left RNum.sci_nonneg, fun _ => RNum.gmax_nonneg_right RNum.sci_nonneg⟩
  rw [if_neg h1] at h
  by_cases h2 : Num.abs (rr c qi).massBalance < massBalanceLimit
  · rw [if_pos h2] at h
    cases h
    exact good_rr hd
  rw [if_neg h2] at h
  split at h
  · cases h
  · split_ifs at h
    cases h
    exact good_rr hd

/-- `Koffset = 0` is the zero-bias set-up; `q^m` is idealised as correctly rounded, and only its sign is used -/
theorem sIndex_nonneg_zero_offset (c : Ctx (RNum R)) (hkl : 0 ≤ c.klimit.val) (hrc : 0 ≤ c.routingConstant.val)
    (hdead : 0 ≤ c.deadStorage.val) (hko : c.koffset.val = 0) (q : RNum R) : 0 ≤ (sIndex c q).val := by
  unfold sIndex
  split_ifs with h1 h2
  · exact hdead
  · rw [RNum.le_iff, RNum.sci_zero_val, not_le] at h1
    exact RNum.add_nonneg (RNum.mul_nonneg hkl h1.le) hdead
  · rw [RNum.le_iff, RNum.sci_zero_val, not_le] at h1
    apply RNum.add_nonneg _ hdead
    rw [RNum.sub_val, hko, sub_zero, (c.routingConstant * Num.pow q c.routingPower).rep]
    exact RNum.mul_nonneg hrc (RNum.pow_nonneg h1.le)

end OW.Rounded.Routing
