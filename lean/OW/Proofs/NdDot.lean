import OW.Nd.View
/-!
`dotProduct`, `Multiply` and the loop of `Index` in closed form: the total list operations `dot`, `mulL`. Core Lean only
(the generated-code ties read it as well as the view geometry).
-/
namespace OW.Nd

/-- Σ aᵢ·bᵢ over the common prefix (total version of `dotProduct` / the loop of `Index`) -/
def dot : Idx → Idx → Int
  | a :: as, b :: bs => a * b + dot as bs
  | _, _ => 0

/-- element-wise product over the common prefix (total version of `Multiply`) -/
def mulL : Idx → Idx → Idx
  | a :: as, b :: bs => a * b :: mulL as bs
  | _, _ => []

@[simp] theorem dot_nil_left (b : Idx) : dot [] b = 0 := by simp [dot]
@[simp] theorem dot_nil_right (a : Idx) : dot a [] = 0 := by cases a <;> simp [dot]
@[simp] theorem dot_cons (a b : Int) (as bs : Idx) : dot (a :: as) (b :: bs) = a * b + dot as bs := rfl
@[simp] theorem mulL_nil_left (b : Idx) : mulL [] b = [] := by simp [mulL]
@[simp] theorem mulL_nil_right (a : Idx) : mulL a [] = [] := by cases a <;> simp [mulL]
@[simp] theorem mulL_cons (a b : Int) (as bs : Idx) : mulL (a :: as) (b :: bs) = a * b :: mulL as bs := rfl

theorem mulL_length : ∀ (a b : Idx), a.length = b.length → (mulL a b).length = a.length
  | [], _, _ => by simp
  | _ :: _, [], h => nomatch h
  | _ :: as, _ :: bs, h => by simp [mulL_length as bs (by simpa using h)]

theorem dotProduct_ok : ∀ (a b : Idx), a.length ≤ b.length → dotProduct a b = .ok (dot a b)
  | [], _, _ => by simp [dotProduct]
  | _ :: _, [], h => nomatch h
  | a :: as, b :: bs, h => by
    simp [dotProduct, dotProduct_ok as bs (by simpa using h), bind, Except.bind, pure, Except.pure]

theorem indexAux_eq_dotProduct : ∀ (a b : Idx), View.indexAux a b = dotProduct a b
  | [], _ => rfl
  | _ :: _, [] => rfl
  | _ :: as, _ :: bs => by rw [View.indexAux, dotProduct, indexAux_eq_dotProduct as bs]

theorem indexAux_ok (a b : Idx) (h : a.length ≤ b.length) : View.indexAux a b = .ok (dot a b) :=
  (indexAux_eq_dotProduct a b).trans (dotProduct_ok a b h)

theorem multiply_ok : ∀ (a b : Idx), a.length ≤ b.length → multiply a b = .ok (mulL a b)
  | [], _, _ => by simp [multiply]
  | _ :: _, [], h => nomatch h
  | a :: as, b :: bs, h => by
    simp [multiply, multiply_ok as bs (by simpa using h), bind, Except.bind, pure, Except.pure]

theorem multiply_short : ∀ {a b : Idx}, b.length < a.length → multiply a b = oob
  | [], _, h => by simp at h
  | _ :: _, [], _ => rfl
  | _ :: as, _ :: bs, h => by
    rw [multiply, multiply_short (a := as) (b := bs) (by simpa using h)]
    rfl

theorem dotProduct_short : ∀ {a b : Idx}, b.length < a.length → dotProduct a b = oob
  | [], _, h => by simp at h
  | _ :: _, [], _ => rfl
  | _ :: as, _ :: bs, h => by
    rw [dotProduct, dotProduct_short (a := as) (b := bs) (by simpa using h)]
    rfl

theorem indexAux_err : ∀ (a b : Idx), b.length < a.length → View.indexAux a b = oob :=
  fun a b h => (indexAux_eq_dotProduct a b).trans (dotProduct_short h)

end OW.Nd
