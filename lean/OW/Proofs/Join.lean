import OW.Sim.Join
import OW.Sim.JoinWG
/-!
Lemmas about the two join protocols, `OW.Sim.Join` (one send on `doneChan` per goroutine, `n` receives by the parent) and
`OW.Sim.JoinWG` (`sync.WaitGroup`), on which `join_complete` and `wg_join_complete` of `OW/Props/C05.lean` rest: the
invariant that ties the parent's counter to the phases of the goroutines (`reach_inv`, `wg_reach_inv`) and the measure that
every transition lowers by one (`trans_measure`, `wg_trans_measure`), which bounds the length of every execution. Core Lean only.
-/
namespace OW.Sim.Join

theorem sumf_set (f : Phase → Nat) : ∀ (l : List Phase) (i : Nat) (a b : Phase), l[i]? = some a →
    sumf f (l.set i b) + f a = sumf f l + f b
  | [], i, a, b, h => by cases h
  | p :: l, 0, a, b, h => by
    cases h
    simp only [List.set_cons_zero, sumf]; omega
  | p :: l, i + 1, a, b, h => by
    have := sumf_set f l i a b h
    simp only [List.set_cons_succ, sumf]; omega

theorem sumf_replicate (f : Phase → Nat) (p : Phase) : ∀ n : Nat, sumf f (List.replicate n p) = n * f p
  | 0 => (Nat.zero_mul _).symm
  | n + 1 => by rw [List.replicate_succ, sumf, sumf_replicate f p n, Nat.succ_mul, Nat.add_comm]

theorem sumf_isDone : ∀ l : List Phase, sumf isDone l = l.count .done
  | [] => rfl
  | p :: l => by
    rw [sumf, sumf_isDone l, List.count_cons, Nat.add_comm]
    cases p <;> rfl

theorem weight_zero_allDone : ∀ l : List Phase, sumf weight l = 0 → ∀ p, p ∈ l → p = .done
  | [], _, p, hp => by cases hp
  | q :: l, h, p, hp => by
    simp only [sumf] at h
    rcases List.mem_cons.mp hp with e | e
    · subst e
      cases p <;> simp only [weight] at h <;> first | rfl | omega
    · exact weight_zero_allDone l (by omega) p e

theorem reach_length {n : Nat} {s : St} (h : Reach n s) : s.ph.length = n := by
  induction h with
  | init => simp [init]
  | step _ ht ih => cases ht <;> simpa using ih

/-- what a transition does: one goroutine moves one phase on (`running → ready`, or `ready → done` with a receive), seen
through any weighting `f` of the phases -/
theorem trans_sumf (f : Phase → Nat) {s t : St} (h : Trans s t) :
    (sumf f t.ph + f .running = sumf f s.ph + f .ready ∧ t.recvd = s.recvd) ∨
    (sumf f t.ph + f .ready = sumf f s.ph + f .done ∧ t.recvd = s.recvd + 1) := by
  cases h with
  | finish i hi => exact .inl ⟨sumf_set f s.ph i .running .ready hi, rfl⟩
  | rendezvous i hi hlt => exact .inr ⟨sumf_set f s.ph i .ready .done hi, rfl⟩

/-- invariant: the parent has received exactly as many values as goroutines are past their send -/
theorem reach_inv {n : Nat} {s : St} (h : Reach n s) : s.recvd = sumf isDone s.ph := by
  induction h with
  | init => exact (sumf_replicate isDone .running n).symm ▸ (Nat.mul_zero n).symm
  | step _ ht ih => rcases trans_sumf isDone ht with ⟨h, e⟩ | ⟨h, e⟩ <;> simp only [isDone] at h <;> omega

theorem trans_measure {s t : St} (h : Trans s t) : remaining t + 1 = remaining s := by
  unfold remaining
  rcases trans_sumf weight h with ⟨h, _⟩ | ⟨h, _⟩ <;> simp only [weight] at h <;> omega

theorem path_reach {n : Nat} {s t : St} {k : Nat} (hs : Reach n s) (h : Path s t k) : Reach n t := by
  induction h with
  | nil => exact hs
  | snoc _ ht ih => exact Reach.step ih ht

theorem path_measure {s t : St} {k : Nat} (h : Path s t k) : remaining t + k = remaining s := by
  induction h with
  | nil => rfl
  | snoc _ ht ih => have := trans_measure ht; omega

end OW.Sim.Join

namespace OW.Sim.JoinWG

theorem count_eq : ∀ l : List Bool, count l = l.count true
  | [] => rfl
  | b :: l => by
    rw [count, count_eq l, List.count_cons, Nat.add_comm]
    cases b <;> rfl

theorem count_replicate (n : Nat) : count (List.replicate n true) = n :=
  (count_eq _).trans List.count_replicate_self

theorem count_pos_iff {l : List Bool} : 0 < count l ↔ ∃ i : Nat, l[i]? = some true := by
  rw [count_eq, List.count_pos_iff, List.mem_iff_getElem?]

theorem count_set_false (l : List Bool) (i : Nat) (h : l[i]? = some true) : count (l.set i false) + 1 = count l := by
  have hpos : 0 < l.count true := List.count_pos_iff.mpr (List.mem_of_getElem? h)
  obtain ⟨hi, e⟩ := List.getElem?_eq_some_iff.mp h
  -- one `true` fewer, and there was one
  rw [count_eq, count_eq l, List.count_set hi, e]
  simp only [beq_self_eq_true, if_true, beq_iff_eq, Bool.false_eq_true, if_false, Nat.add_zero]
  omega

theorem wg_reach_inv {n : Nat} {s : St} (h : Reach n s) :
    s.counter = count s.running ∧ (s.waited = true → count s.running = 0) := by
  induction h with
  | init => exact ⟨(count_replicate n).symm, fun h => by cases h⟩
  | step _ ht ih =>
    cases ht with
    | done i hi =>
      have hc := count_set_false _ i hi
      refine ⟨?_, ?_⟩
      · simp only; omega
      · intro hw
        have := ih.2 hw
        omega
    | wait h0 hw => exact ⟨ih.1, fun _ => ih.1 ▸ h0⟩

theorem wg_trans_measure {s t : St} (h : Trans s t) : remaining t + 1 = remaining s := by
  cases h with
  | done i hi =>
    have hc := count_set_false _ i hi
    simp only [remaining]
    omega
  | wait h0 hw =>
    simp [remaining, hw]

theorem wg_path_reach {n : Nat} {s t : St} {k : Nat} (hs : Reach n s) (h : Path s t k) : Reach n t := by
  induction h with
  | nil => exact hs
  | snoc _ ht ih => exact Reach.step ih ht

theorem wg_path_measure {s t : St} {k : Nat} (h : Path s t k) : remaining t + k = remaining s := by
  induction h with
  | nil => rfl
  | snoc _ ht ih => have := wg_trans_measure ht; omega

end OW.Sim.JoinWG
