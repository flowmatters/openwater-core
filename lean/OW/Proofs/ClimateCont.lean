import OW.Proofs.Climate
import Mathlib.Analysis.SpecialFunctions.Pow.Continuity
/-!
Continuity of the functions searched by the wet-bulb bisection (C20), at `α := ℝ`: each Goff-Gratch branch of `vaporPressure`
is continuous on its own side of 0 °C, and `satEnthalpy pa` is continuous on any set on one side of 0 °C on which the saturation
vapour pressure differs from the atmospheric pressure (the divisor `pa − vp` of `humidityRatio`).
At 0 °C itself `vaporPressure` JUMPS (`OW.Props.C20.vp_jump_at_zero`), so no continuity statement spans the freezing point.
-/
namespace OW.Proofs.Climate
open OW OW.Kernels.Climate Set

theorem expWater_continuousAt {z : ℝ} (hz : z ≠ 0) : ContinuousAt expWater z := by
  unfold expWater Real.logb
  fun_prop (disch := first | assumption | norm_num)

theorem expIce_continuousAt {z : ℝ} (hz : z ≠ 0) : ContinuousAt expIce z := by
  unfold expIce Real.logb
  fun_prop (disch := first | assumption | norm_num)

theorem branch_continuousOn (e : ℝ → ℝ) (c : ℝ) (hc : 0 < c) (he : ∀ z, z ≠ 0 → ContinuousAt e z) {S : Set ℝ}
    (hS : ∀ t ∈ S, -273.16 < t) (hvp : ∀ t ∈ S, vaporPressure t = 101.325 * (10:ℝ) ^ e (c / (t + 273.16))) :
    ContinuousOn (vaporPressure : ℝ → ℝ) S := by
  refine ContinuousOn.congr (fun t ht => ContinuousAt.continuousWithinAt ?_) hvp
  have hta : t + 273.16 ≠ 0 := by linarith [hS t ht]
  have hzc : ContinuousAt (fun t : ℝ => c / (t + 273.16)) t :=
    continuousAt_const.div (continuousAt_id.add continuousAt_const) hta
  have hec : ContinuousAt (fun t : ℝ => e (c / (t + 273.16))) t :=
    ContinuousAt.comp (f := fun t : ℝ => c / (t + 273.16)) (he _ (div_ne_zero hc.ne' hta)) hzc
  exact continuousAt_const.mul (ContinuousAt.rpow continuousAt_const hec (Or.inl (by norm_num)))

theorem vaporPressure_continuousOn_water : ContinuousOn (vaporPressure : ℝ → ℝ) (Ioi 0) :=
  branch_continuousOn expWater 373.16 (by norm_num) (fun _ => expWater_continuousAt)
    (fun t ht => lt_trans (by norm_num) (show (0:ℝ) < t from ht)) vp_water

theorem vaporPressure_continuousOn_ice : ContinuousOn (vaporPressure : ℝ → ℝ) (Ioc (-273.16) 0) :=
  branch_continuousOn expIce 273.16 (by norm_num) (fun _ => expIce_continuousAt) (fun _ ht => ht.1)
    (fun t ht => vp_ice t (not_lt.mpr ht.2))

theorem satEnthalpy_eq (pa x : ℝ) :
    satEnthalpy pa x = 1.006 * x + (1.84 * x + 2501) * (0.62198 * vaporPressure x / (pa - vaporPressure x)) := by
  unfold satEnthalpy enthalpy humidityRatio
  simp only [RealNum.ofNat_lit 2501]

theorem satEnthalpy_continuousOn (pa : ℝ) (S : Set ℝ) (hvp : ContinuousOn (vaporPressure : ℝ → ℝ) S)
    (hne : ∀ x ∈ S, pa - vaporPressure x ≠ 0) : ContinuousOn (satEnthalpy pa) S := by
  have : ContinuousOn (fun x : ℝ =>
      1.006 * x + (1.84 * x + 2501) * (0.62198 * vaporPressure x / (pa - vaporPressure x))) S := by
    fun_prop (disch := assumption)
  exact this.congr (fun x _ => satEnthalpy_eq pa x)

end OW.Proofs.Climate
