import OW.Proofs.Climate
/-!
Verified numerics for C20: at 40 °C the Goff-Gratch saturation pressure used by `calcVaporPressure` (7.37777… kPa) EXCEEDS the
Magnus saturation pressure `0.6108·exp(17.27·40/277.3)` (7.37561… kPa) that `calcDewPoint` inverts, so that at RH = 100 % the
dew point comes out above the dry bulb. Margin 1.27·10⁻⁴ in log₁₀; every transcendental is enclosed by a rational through exact
integer-power comparisons (`le_logb_of_zpow_le` and its siblings):
  log₁₀ z ≥ 81/1064 (z = 373.16/313.16),  log₁₀ e ≤ 271/624,  log₁₀(0.6108/101.325) ≤ −2666/1201,
  10^1.825 ≤ 67,  10^(−97/145) ≥ 0.2143.
-/
namespace OW.Proofs.Climate
open OW OW.Kernels.Climate

set_option exponentiation.threshold 8000 in
/-- 271/624 = 0.4342948…, log₁₀ e = 0.4342944819… -/
theorem logb_exp_one_upper : Real.logb 10 (Real.exp 1) ≤ (271:ℝ) / 624 :=
  logb_le_of_le_zpow (Real.exp_pos 1) 271 624 (by norm_num) (by norm_num)
    ((pow_le_pow_left₀ (Real.exp_pos 1).le Real.exp_one_lt_d9.le 624).trans (by norm_num))

set_option exponentiation.threshold 8000 in
theorem logb_z40_lower : (81:ℝ) / 1064 ≤ Real.logb 10 (373.16 / (40 + 273.16)) :=
  le_logb_of_zpow_le 81 1064 (by norm_num) (by norm_num)
    (by rw [show (373.16:ℝ) / (40 + 273.16) = 9329 / 7829 by norm_num, div_pow, le_div_iff₀ (by positivity)]; norm_num)

set_option exponentiation.threshold 8000 in
theorem logb_ratio_upper : Real.logb 10 (0.6108 / 101.325) ≤ -((2666:ℝ) / 1201) :=
  logb_le_of_le_zpow (by norm_num) (-2666) 1201 (by norm_num) (by norm_num)
    (by rw [show (0.6108:ℝ) / 101.325 = 6108 / 1013250 by norm_num, div_pow, div_le_iff₀ (by positivity)]; norm_num)

theorem magnus_lt_goffGratch_40 :
    0.6108 * Real.exp (17.27 * 40 / (40 + 237.3)) < vaporPressure (40:ℝ) := by
  have hP : (10:ℝ) ^ ((1 - 1 / ((373.16:ℝ) / (40 + 273.16))) * 11.344) ≤ 67 :=
    rpow_ten_le_of_zpow_le (by norm_num) 73 40 (by norm_num) (by norm_num) (by norm_num)
  have hQ : (0.2143:ℝ) ≤ (10:ℝ) ^ (-3.49149 * ((373.16:ℝ) / (40 + 273.16) - 1)) :=
    le_rpow_ten_of_le_zpow (by norm_num) (-97) 145 (by norm_num) (by norm_num) (by norm_num)
  have hE := expWater_lower _ _ _ _ logb_z40_lower hP hQ
  have hM := mul_le_mul_of_nonneg_left logb_exp_one_upper (show (0:ℝ) ≤ 17.27 * 40 / (40 + 237.3) by norm_num)
  -- in log₁₀ the claim is `log₁₀ (0.6108 / 101.325) + a · log₁₀ e < expWater z`, `a` the Magnus exponent
  rw [vp_water 40 (by norm_num), ← div_lt_iff₀' (by norm_num), ← Real.logb_lt_iff_lt_rpow (by norm_num) (by positivity),
    mul_div_right_comm, Real.logb_mul (by norm_num) (Real.exp_pos _).ne', ← Real.exp_one_rpow (17.27 * 40 / (40 + 237.3)),
    Real.logb_rpow_eq_mul_logb_of_pos (Real.exp_pos 1)]
  refine lt_of_le_of_lt (add_le_add logb_ratio_upper hM) (lt_of_lt_of_le ?_ hE)
  norm_num

end OW.Proofs.Climate
