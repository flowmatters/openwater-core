import OW.Proofs.C12Mix
import OW.Kernels.LumpedConstituent
import OW.Kernels.StorageDissolvedDecay
/-!
C12 helpers: one step of `LumpedConstituentTransport` over ℝ (also the decay-disabled branch of
`storageDissolvedDecay` and the bank-full-flow-0 branch of `instreamFineSediment`, which call it).
-/
namespace OW.C12
open OW OW.Kernels

theorem lumped_step_eq (pi dt s il ll q v : ℝ) :
    LumpedConstituent.step pi dt s (il, ll, q, v) =
      ((mix (q * dt + v < 0.01) (s + (il + ll + pi) * dt) (q * dt + v) q v).1,
        ⟨(mix (q * dt + v < 0.01) (s + (il + ll + pi) * dt) (q * dt + v) q v).2.1, if q * dt + v < 0.01 then 0 else pi,
          (mix (q * dt + v < 0.01) (s + (il + ll + pi) * dt) (q * dt + v) q v).2.2⟩) := by
  unfold mix
  by_cases h : q * dt + v < 0.01
  · simp only [if_pos h]; exact if_pos h
  · simp only [if_neg h]; exact if_neg h

/-- The only division (`workingMass / workingVol`) happens on the branch `¬ workingVol < 0.01`, where the divisor is
≥ 0.01 > 0: no hypothesis needed. `flushed` is a ghost output: the mass dropped below the minimum volume. -/
theorem lumped_step (pi dt s : ℝ) (x : ℝ × ℝ × ℝ × ℝ) :
    MassStep (stor := fun s => s) (inn := fun x => (x.1 + x.2.1 + pi) * dt)
      (out := fun o => o.outflowLoad * dt + o.flushed)
      (R := fun x o => o.flushed ≠ 0 → x.2.2.1 * dt + x.2.2.2 < 0.01)
      (H := 0 ≤ pi ∧ 0 ≤ dt) (Inv := (0 ≤ ·)) (Ok := fun x => 0 ≤ x.1 ∧ 0 ≤ x.2.1 ∧ 0 ≤ x.2.2.1 ∧ 0 ≤ x.2.2.2)
      (P := fun o => 0 ≤ o.outflowLoad ∧ 0 ≤ o.flushed) s x (LumpedConstituent.step pi dt s x) := by
  obtain ⟨il, ll, q, v⟩ := x
  rw [lumped_step_eq]
  obtain ⟨b, f, n⟩ := mix_facts (m := s + (il + ll + pi) * dt) (dry := q * dt + v < 0.01) rfl pos_of_not_lt_min rfl
  exact ⟨b, f, fun ⟨h1, h2⟩ h3 ⟨h4, h5, h6, h7⟩ =>
    n (add_nonneg h3 (mul_nonneg (add_nonneg (add_nonneg h4 h5) h1) h2)) h6 h7⟩

/-- decay-disabled step of `storageDissolvedDecay` = lumped step with lateral 0 and point input 0 -/
theorem dissolvedOff_step (dt s : ℝ) (x : ℝ × ℝ × ℝ × ℝ) :
    MassStep (stor := fun s => s) (inn := fun x => x.1 * dt) (out := fun o => o.outflowMass * dt + o.flushed)
      (R := fun x o => (o.flushed ≠ 0 → x.2.2.1 * dt + x.2.2.2 < 0.01) ∧ o.decayedMass = 0)
      (H := 0 ≤ dt) (Inv := (0 ≤ ·)) (Ok := fun x => 0 ≤ x.1 ∧ 0 ≤ x.2.2.1 ∧ 0 ≤ x.2.2.2)
      (P := fun o => 0 ≤ o.outflowMass ∧ 0 ≤ o.flushed) s x (StorageDissolvedDecay.stepOff dt s x) := by
  obtain ⟨im, qi, q, v⟩ := x
  obtain ⟨h1, h2, h3⟩ := lumped_step 0.0 dt s (im, 0.0, q, v)
  refine ⟨Eq.trans ?_ h1, ⟨h2, rfl⟩, fun a b ⟨c, d, e⟩ => h3 ⟨RealNum.sci_zero.ge, a⟩ b ⟨c, RealNum.sci_zero.ge, d, e⟩⟩
  simp only [RealNum.sci_zero, add_zero]

theorem dissolved_run_off {α} [Num α] (dt dsd bff mfrt s0 : α) (xs : List (α × α × α × α)) (h : dsd < 0.5) :
    StorageDissolvedDecay.run dt dsd bff mfrt s0 xs = scan (StorageDissolvedDecay.stepOff dt) s0 xs :=
  congrArg (scan · s0 xs) (if_pos h)

end OW.C12
