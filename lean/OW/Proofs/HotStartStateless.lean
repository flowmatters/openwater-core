import OW.Proofs.ScanModel
import OW.Kernels.C16.Partitions
import OW.Kernels.DateGenerator
/-!
The loops of the two stateless kernels whose loop can panic (C06/C14): the rating-curve partition (stops at the first panicking
step) and the date generator (`Option`-valued recursion on the number of ticks, from the start date in the parameters). Both are
`scanM` of their loop body (`<Model>.stepM`: named here for the proofs, not part of the model). RatingCurvePartition is restartable (no state at all); DateGenerator is loop-shaped only: its loop
state, the current date, comes from the parameters at every call (`OW.Props.C14.hotstart_DateGenerator_counterexample`). No Mathlib.
-/
namespace OW.Kernels
open OW
variable {α : Type} [Num α]

/-- the loop body of `ratingPartition` with the (empty) loop state -/
def RatingCurvePartition.stepM (xs ys : List α) (_ : Unit) (x : α) : Except String (Unit × (α × α)) :=
  (RatingCurvePartition.step xs ys x).map fun o => ((), o)

theorem RatingCurvePartition.run_eq_scanM (xs ys : List α) : ∀ l : List α,
    (RatingCurvePartition.run xs ys l).map (fun r => ((), r)) = scanM (RatingCurvePartition.stepM xs ys) () l
  | [] => rfl
  | x :: rest => by
    have ih := RatingCurvePartition.run_eq_scanM xs ys rest
    simp only [RatingCurvePartition.run, scanM, RatingCurvePartition.stepM]
    cases RatingCurvePartition.step xs ys x with
    | error e => rfl
    | ok o =>
      dsimp only [Except.map]
      rw [← ih]
      cases RatingCurvePartition.run xs ys rest <;> rfl

theorem restartable_RatingCurvePartition : Restartable (RatingCurvePartition.model (α := α)) := by
  refine restartable_of_enc fun p ins st o h => ?_
  unfold RatingCurvePartition.model at h
  dsimp only at h
  split at h
  next xs ys input hd =>
    refine ⟨KLoop.ofScanM rows1 (RatingCurvePartition.stepM xs ys) [(·.1), (·.2)] (fun _ => []), (),
      KLoop.ofScanM_lawful rows1_lawful _ _ _, rfl, fun () => KModel.runsFrom_zero fun ins' hk => ?_⟩
    match ins', hk with
    | [a'], _ =>
      simp only [RatingCurvePartition.model, hd, KLoop.call, rows1, ← RatingCurvePartition.run_eq_scanM]
      cases RatingCurvePartition.run xs ys a' <;> rfl
  next => cases h

/-- one tick of `dateGenerator`: the loop state is the current date, the tick value is not read -/
def DateGenerator.stepM (t : Dates.Date) (_ : α) : Except String (Dates.Date × Dates.Row) :=
  match Dates.step t with
  | none => .error "index-out-of-range"
  | some (r, t') => .ok (t', r)

omit [Num α] in
theorem DateGenerator.run_eq_scanM : ∀ (xs : List α) (t : Dates.Date),
    (match Dates.run xs.length t with
      | none => Except.error "index-out-of-range"
      | some rows => .ok rows) = (scanM (DateGenerator.stepM (α := α)) t xs).map (·.2)
  | [], _ => rfl
  | x :: xs, t => by
    have ih := DateGenerator.run_eq_scanM xs
    simp only [List.length_cons, Dates.run, scanM, DateGenerator.stepM]
    cases Dates.step t with
    | none => rfl
    | some q =>
      obtain ⟨r, t'⟩ := q
      dsimp only
      have := ih t'
      cases hs : scanM (DateGenerator.stepM (α := α)) t' xs <;> cases hd : Dates.run xs.length t' <;>
        rw [hs, hd] at this <;> cases this <;> rfl

/-- DateGenerator: the dates are generated from the start date in the parameters; there is no state, so every call starts
again from that date: loop-shaped, not restartable (`OW.Props.C14.hotstart_DateGenerator_counterexample`) -/
theorem loopShaped_DateGenerator : LoopShaped 0 (DateGenerator.model (α := α)) := by
  intro p ins st o h
  unfold DateGenerator.model at h
  dsimp only at h
  split at h
  next d m y tick =>
    refine ⟨KLoop.ofScanM rows1 (DateGenerator.stepM (α := α))
        [fun r => Num.ofInt r.date, fun r => Num.ofInt r.month, fun r => Num.ofInt r.year, fun r => Num.ofInt r.doy]
        (fun _ => []), ⟨Num.toInt d, Num.toInt m, Num.toInt y⟩, KLoop.ofScanM_lawful rows1_lawful _ _ _,
      KModel.runsFrom_zero fun ins' hk => ?_⟩
    match ins', hk with
    | [a'], _ =>
      have := DateGenerator.run_eq_scanM a' ⟨Num.toInt d, Num.toInt m, Num.toInt y⟩
      simp only [DateGenerator.model, KLoop.call, rows1]
      cases hs : scanM (DateGenerator.stepM (α := α)) ⟨Num.toInt d, Num.toInt m, Num.toInt y⟩ a' <;>
        cases hd : Dates.run a'.length ⟨Num.toInt d, Num.toInt m, Num.toInt y⟩ <;>
        rw [hs, hd] at this <;> cases this <;> rfl
  next => cases h

end OW.Kernels
