import OW.Proofs.GenLoops
/-! The `Lag` model: its loops as list expressions (`forLoop_copy`, `forLoop_shift_from` of `OW/Proofs/GenLoops.lean`), `lagCore` in closed form (`lagCore_outflow_eq`,
`lagCore_lagged_eq`), the outcomes of `run`. Pure list theory, core Lean only (`omega`, `simp`). -/
namespace OW.Proofs.Lag
open OW OW.Kernels.Lag OW.Proofs.GenLoops

variable {α : Type}

theorem getD_zeros [Num α] (n j : Nat) (d : α) : (zeros n : List α).getD j d = if j < n then Num.zero else d := by
  unfold zeros
  simp only [List.getD_eq_getElem?_getD, List.getElem?_replicate]
  by_cases h : j < n <;> simp [h]

theorem set_length_body (w : Nat → Nat) (v : Nat → List α → α) :
    ∀ i (l : List α), ((fun i (l : List α) => l.set (w i) (v i l)) i l).length = l.length := by
  intro i l; simp

theorem lagCore_length [Inhabited α] (lag : Nat) (ia lagged z : List α) :
    (lagCore lag ia lagged z).outflow.length = z.length ∧ (lagCore lag ia lagged z).lagged.length = lagged.length := by
  unfold lagCore
  simp only
  split <;> simp only [forLoop_length _ (set_length_body _ _), and_self]

/-- `lagCore` in closed form: the stream "first `lag` cells of the buffer, then the inflow" is cut after `T = len(inflow)`
values — the first part is the outflow, the rest becomes the first `lag` cells of the buffer (cells beyond `lag` stay). -/
theorem lagCore_outflow_eq [Inhabited α] (lag : Nat) (ia lagged z : List α) (hz : z.length = ia.length) (hlen : lag ≤ lagged.length) :
    (lagCore lag ia lagged z).outflow = (lagged.take lag ++ ia).take ia.length := by
  have hl : (lagged.take lag).length = lag := by rw [List.length_take, Nat.min_eq_left hlen]
  -- both branches of `lagCore` report the output array left by its first two loops
  unfold lagCore
  simp only [apply_ite Out.outflow, ite_self]
  -- the first loop copies `min lag T` cells of the buffer to the front of the output array
  have e1 := forLoop_copy (fun i => i) (fun i => i) lagged default (Nat.min lag ia.length) 0 0 [] z
    (by rw [hz]; exact Nat.min_le_right ..) (by rw [Nat.zero_add]; exact Nat.le_trans (Nat.min_le_left ..) hlen)
    (fun i _ _ => ⟨(Nat.zero_add _).symm, (Nat.zero_add _).symm⟩)
  rw [List.nil_append, List.nil_append, List.drop_zero] at e1
  rw [e1]
  by_cases h : lag ≤ ia.length
  · -- the second loop copies the first `T - lag` values of the inflow behind them
    have e2 := forLoop_copy (fun i => i) (fun i => i - lag) ia default (ia.length - lag) lag 0 (lagged.take lag) (z.drop lag)
      (by rw [List.length_drop, hz]; exact Nat.le_refl _) (by omega) (fun i _ _ => by rw [hl]; omega)
    rw [show Nat.min lag ia.length = lag from Nat.min_eq_left h, e2, List.drop_zero, List.drop_drop,
      List.drop_of_length_le (by omega), List.append_nil, List.take_append, List.take_of_length_le (l := lagged.take lag) (by omega), hl]
  · -- the series is shorter than the lag: the second loop does not run
    have h' : ia.length ≤ lag := Nat.le_of_not_le h
    rw [show Nat.min lag ia.length = ia.length from Nat.min_eq_right h', Nat.sub_eq_zero_of_le h', forLoop,
      List.drop_of_length_le (by omega), List.append_nil, List.take_append_of_le_length (by omega), List.take_take,
      Nat.min_eq_left h']

theorem lagCore_lagged_eq [Inhabited α] (lag : Nat) (ia lagged z : List α) (hlen : lag ≤ lagged.length) :
    (lagCore lag ia lagged z).lagged = (lagged.take lag ++ ia).drop ia.length ++ lagged.drop lag := by
  have hl : (lagged.take lag).length = lag := by rw [List.length_take, Nat.min_eq_left hlen]
  unfold lagCore
  by_cases hT : ia.length < lag
  · -- the buffer is shifted down by the length of the series, then the series is copied behind what is left of it
    have e1 := forLoop_shift_from ia.length default (lag - ia.length) [] lagged (by omega)
    have e2 := forLoop_copy (fun i => lag - ia.length + i) (fun i => i) ia default ia.length 0 0
      ((lagged.drop ia.length).take (lag - ia.length)) (lagged.drop (lag - ia.length)) (by rw [List.length_drop]; omega)
      (by omega) (fun i _ _ => by rw [List.length_take, List.length_drop]; omega)
    rw [List.length_nil, Nat.add_zero, List.nil_append, List.nil_append] at e1
    simp only [if_pos hT]
    rw [e1, e2, List.drop_zero, List.take_length, List.drop_drop, Nat.sub_add_cancel (Nat.le_of_lt hT),
      List.drop_append_of_le_length (by omega), List.drop_take]
  · -- the series is at least as long as the lag: its last `lag` values fill the first `lag` cells
    have e := forLoop_copy (fun i => i) (fun i => ia.length - lag + i) ia default lag 0 (ia.length - lag) [] lagged hlen
      (by omega) (fun i _ _ => ⟨(Nat.zero_add _).symm, rfl⟩)
    rw [List.nil_append, List.nil_append] at e
    simp only [if_neg hT]
    rw [e, List.take_of_length_le (by rw [List.length_drop]; omega), List.drop_append,
      List.drop_of_length_le (l := lagged.take lag) (by omega), List.nil_append, hl]

theorem run_zero {α : Type} [Num α] {tl : α} (h0 : Num.toInt tl = 0) (x st : List α) : run tl x st = .ok ⟨x, st⟩ := by
  unfold run
  dsimp only
  rw [h0]
  rfl

theorem run_pos {α : Type} [Num α] {tl : α} {st : List α} (hp : 0 < Num.toInt tl)
    (hs : (Num.toInt tl).toNat ≤ st.length) (x : List α) :
    run tl x st = .ok (lagCore (Num.toInt tl).toNat x st (zeros x.length)) := by
  have h0 : ¬ (Num.toInt tl == 0) = true := fun h => by rw [beq_iff_eq.mp h] at hp; exact absurd hp (by decide)
  unfold run
  dsimp only
  rw [if_neg h0, if_neg (by omega), if_neg (by omega)]

theorem run_ok_cases {α : Type} [Num α] {tl : α} {x st : List α} {r : Out α} (h : run tl x st = .ok r) :
    (Num.toInt tl = 0 ∧ r = ⟨x, st⟩) ∨
    (0 < Num.toInt tl ∧ (Num.toInt tl).toNat ≤ st.length ∧ r = lagCore (Num.toInt tl).toNat x st (zeros x.length)) := by
  unfold run at h
  dsimp only at h
  split at h
  next h0 => exact .inl ⟨beq_iff_eq.mp h0, (Except.ok.inj h).symm⟩
  next h0 =>
    have hne : Num.toInt tl ≠ 0 := fun e => h0 (beq_iff_eq.mpr e)
    split at h
    · cases h
    · split at h
      · cases h
      · exact .inr ⟨by omega, by omega, (Except.ok.inj h).symm⟩

end OW.Proofs.Lag
