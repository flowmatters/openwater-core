import OW.Proofs.RealNum
import OW.Kernels.Sacramento
/-!
Sacramento over ℝ — first the predicates the theorems of OW/Props/C10Sacramento.lean are stated with (hypotheses on
parameters and inputs, the state a call starts from and the invariant, the water held, what is said of the outputs), then
what holds of one time step whatever the parameters and the stores (components of the outputs, the channel stage, the
normalised unit hydrograph). C10 (OW/Proofs/SacramentoInv*.lean, OW/Props/C10.lean) and the hot-start lemmas
(OW/Proofs/HotStartSacramento.lean) both start from here: `stateOfRow`, `Scaled` and `channel_scaled` are what they share.
-/
namespace OW.RR.Sac
open OW OW.Kernels OW.Kernels.Sacramento

/-- Parameter ranges under which the Sacramento theorems are proved. Capacities are positive (they are divisors);
rates and fractions lie in [0,1]; the area fractions satisfy pctim + adimp ≤ 1; `side`, `ssout`, `sarva`, `zperc`
are non-negative (no condition on `rexp`); the unit-hydrograph proportions are non-negative with a positive sum.
`5 ≤ lztwm`: a rain increment of the drainage loop is below 5 mm (`ninc = ⌊0.2·(uzfwc·adj + pav)⌋ + 1`), and the
additional-impervious store overshoots (and then goes negative) when an increment exceeds `lztwm`
(`sacramento_small_lztwm_counterexample` in OW/Props/C10Sacramento.lean). -/
structure ParamsOk (p : Params ℝ) : Prop where
  lzpk0 : 0 ≤ p.lzpk
  lzpk1 : p.lzpk ≤ 1
  lzsk0 : 0 ≤ p.lzsk
  lzsk1 : p.lzsk ≤ 1
  uzk0 : 0 ≤ p.uzk
  uzk1 : p.uzk ≤ 1
  uztwm : 0 < p.uztwm
  uzfwm : 0 < p.uzfwm
  lztwm : 5 ≤ p.lztwm
  lzfsm : 0 < p.lzfsm
  lzfpm : 0 < p.lzfpm
  pfree0 : 0 ≤ p.pfree
  pfree1 : p.pfree ≤ 1
  zperc0 : 0 ≤ p.zperc
  side0 : 0 ≤ p.side
  ssout0 : 0 ≤ p.ssout
  pctim0 : 0 ≤ p.pctim
  adimp0 : 0 ≤ p.adimp
  area : p.pctim + p.adimp ≤ 1
  sarva0 : 0 ≤ p.sarva
  rserv0 : 0 ≤ p.rserv
  rserv1 : p.rserv ≤ 1
  uh1 : 0 ≤ p.uh1
  uh2 : 0 ≤ p.uh2
  uh3 : 0 ≤ p.uh3
  uh4 : 0 ≤ p.uh4
  uh5 : 0 ≤ p.uh5
  uhs : 0 < p.uh1 + p.uh2 + p.uh3 + p.uh4 + p.uh5

theorem ParamsOk.lztwm_pos {p : Params ℝ} (hp : ParamsOk p) : 0 < p.lztwm := by linarith [hp.lztwm]
theorem ParamsOk.tension_pos {p : Params ℝ} (hp : ParamsOk p) : 0 < p.uztwm + p.lztwm :=
  add_pos hp.uztwm hp.lztwm_pos
theorem ParamsOk.upper_pos {p : Params ℝ} (hp : ParamsOk p) : 0 < p.uztwm + p.uzfwm := add_pos hp.uztwm hp.uzfwm
theorem ParamsOk.side_pos {p : Params ℝ} (hp : ParamsOk p) : 0 < 1 + p.side := add_pos_of_pos_of_nonneg one_pos hp.side0

/-- admissible input of one step; the upper bound on PET is what `e5_spec` needs to keep `adimc − uztwc` from growing -/
def InOk (p : Sacramento.Params ℝ) (x : ℝ × ℝ) : Prop := 0 ≤ x.1 ∧ 0 ≤ x.2 ∧ x.2 ≤ p.uztwm + p.lztwm

/-- the bound on potential evapotranspiration under which e5 is proved non-negative (its first part is the PET bound of
`InOk` again; both parts follow from `evapt ≤ lztwm`) -/
def PetOk (p : Params ℝ) (E : ℝ) : Prop :=
  E ≤ p.uztwm + p.lztwm ∧ E * p.uzfwm ≤ p.lztwm * (p.uztwm + p.uzfwm)

theorem petOk_of_le_lztwm (p : Params ℝ) (hp : ParamsOk p) (E : ℝ) (hE : E ≤ p.lztwm) :
    PetOk p E := by
  refine ⟨by linarith [hp.uztwm], ?_⟩
  have h1 : E * p.uzfwm ≤ p.lztwm * p.uzfwm := mul_le_mul_of_nonneg_right hE hp.uzfwm.le
  have h2 : 0 ≤ p.lztwm * p.uztwm := mul_nonneg hp.lztwm_pos.le hp.uztwm.le
  linarith

/-- admissible input within the PET bound under which e5 is non-negative -/
def InOkPet (p : Sacramento.Params ℝ) (x : ℝ × ℝ) : Prop := InOk p x ∧ PetOk p x.2

theorem inOkPet_of_le_lztwm (p : Sacramento.Params ℝ) (hp : ParamsOk p) (x : ℝ × ℝ) (hr : 0 ≤ x.1) (hE0 : 0 ≤ x.2)
    (hE : x.2 ≤ p.lztwm) : InOkPet p x :=
  ⟨⟨hr, hE0, by linarith [hp.uztwm]⟩, petOk_of_le_lztwm p hp x.2 hE⟩

/-- the state a call starts from, built from the state row exactly as `Sacramento.model.run` does -/
noncomputable def stateOfRow (p : Sacramento.Params ℝ) (s0 s1 s2 s3 s4 s5 : ℝ) : Sacramento.State ℝ :=
  ⟨s0, s1, s2, s3, s4, s5, s4 * (1.0 + p.side), s3 * (1.0 + p.side), zeros 5⟩

/-- The code works with the lower free-water contents in (1+side)-scaled form (`alzfsc`, `alzfpc`) and reports them scaled
back (`lzfsc`, `lzfpc`, the entries of the state row): this is the relation between the two. It holds of the state a call
starts from and of the state after every step, so that a state row determines the state up to the unit-hydrograph
buffer. The invariant carries the same two equations as its fields `SacInv.cs`, `SacInv.cp`. -/
def Scaled (p : Params ℝ) (s : State ℝ) : Prop :=
  s.lzfsc * (1 + p.side) = s.alzfsc ∧ s.lzfpc * (1 + p.side) = s.alzfpc

theorem stateOfRow_scaled (p : Params ℝ) (s0 s1 s2 s3 s4 s5 : ℝ) : Scaled p (stateOfRow p s0 s1 s2 s3 s4 s5) := by
  unfold stateOfRow
  rw [RealNum.sci_one]
  exact ⟨rfl, rfl⟩

/-- **The invariant of the Sacramento state** between time steps: the five stores of the pervious area within
their capacities (the lower free-water stores in the (1+side)-scaled form the code works with, consistent with the
reported `LwrPrimaryFreeWater`, `LwrSupplFreeWater`), the additional impervious store in `[0, uztwc + 5/4·lztwm]`,
the upper free water relatively not fuller than the upper tension water (`uzfwc/uzfwm ≤ uztwc/uztwm`, established by
the free-to-tension transfer of every step), and a five-slot unit-hydrograph buffer with non-negative entries (nothing
is asked of slot 0: the next step overwrites it before reading it, see `uhStor`).
`u` is there for the clause `e5 ≥ 0` of a step only (`e5_arg_nonneg` bounds the free water transferred to the tension
water by it); the other fields and the budget are proved without it. -/
structure SacInv (p : Params ℝ) (st : State ℝ) : Prop where
  tw0 : 0 ≤ st.uztwc
  tw1 : st.uztwc ≤ p.uztwm
  fw0 : 0 ≤ st.uzfwc
  fw1 : st.uzfwc ≤ p.uzfwm
  lt0 : 0 ≤ st.lztwc
  lt1 : st.lztwc ≤ p.lztwm
  s0 : 0 ≤ st.alzfsc
  s1 : st.alzfsc ≤ p.lzfsm * (1 + p.side)
  p0 : 0 ≤ st.alzfpc
  p1 : st.alzfpc ≤ p.lzfpm * (1 + p.side)
  cs : st.lzfsc * (1 + p.side) = st.alzfsc
  cp : st.lzfpc * (1 + p.side) = st.alzfpc
  a0 : 0 ≤ st.adimc
  a1 : 4 * (st.adimc - st.uztwc) ≤ 5 * p.lztwm
  u : st.uzfwc * p.uztwm ≤ st.uztwc * p.uzfwm
  qq : ∃ a q1 q2 q3 q4 : ℝ, st.qq = [a, q1, q2, q3, q4] ∧ 0 ≤ q1 ∧ 0 ≤ q2 ∧ 0 ≤ q3 ∧ 0 ≤ q4

/-- what the invariant asks of a state row (`stateOfRow_inv`, OW/Proofs/SacramentoInvRun.lean); the capacities of the lower
free-water stores are the unscaled ones here -/
structure RowInv (p : Sacramento.Params ℝ) (s0 s1 s2 s3 s4 s5 : ℝ) : Prop where
  tw0 : 0 ≤ s0
  tw1 : s0 ≤ p.uztwm
  fw0 : 0 ≤ s1
  fw1 : s1 ≤ p.uzfwm
  lt0 : 0 ≤ s2
  lt1 : s2 ≤ p.lztwm
  p0 : 0 ≤ s3
  p1 : s3 ≤ p.lzfpm
  s0' : 0 ≤ s4
  s1' : s4 ≤ p.lzfsm
  a0 : 0 ≤ s5
  a1 : 4 * (s5 - s0) ≤ 5 * p.lztwm
  u : s1 * p.uztwm ≤ s0 * p.uzfwm

/-- water in transit in the unit-hydrograph buffer: the inflow of `j` steps ago is still owed the ordinates `j … 4`
(slot 0 of the buffer is overwritten by the next inflow before it is read) -/
def uhStor : List ℝ → List ℝ → ℝ
  | [_, q1, q2, q3, q4], [_, d1, d2, d3, d4] =>
    q1 * (d1 + d2 + d3 + d4) + q2 * (d2 + d3 + d4) + q3 * (d3 + d4) + q4 * d4
  | _, _ => 0

/-- water of the pervious area (per unit pervious area); the lower free-water stores count (1+side)-fold -/
def wSt (st : State ℝ) : ℝ := st.uztwc + st.uzfwc + st.lztwc + st.alzfsc + st.alzfpc

/-- water held per unit catchment area: pervious stores × (1 − pctim − adimp), additional impervious store × adimp,
plus the water in transit in the unit-hydrograph buffer -/
noncomputable def stor (p : Params ℝ) (st : State ℝ) : ℝ :=
  (1 - p.pctim - p.adimp) * wSt st + p.adimp * st.adimc + uhStor st.qq (consts p).dro

/-- the storage term of the C10 oracle (harness oracle_C10.go, `held`): pervious stores × (1 − pctim − adimp) with the
lower free-water stores counted (1+side)-fold, additional impervious store × adimp — computed from the REPORTED state
row [UprTensionWater, UprFreeWater, LwrTensionWater, LwrPrimaryFreeWater, LwrSupplFreeWater, AdditionalImperviousStore] -/
noncomputable def held (p : Sacramento.Params ℝ) (st : Sacramento.State ℝ) : ℝ :=
  (1 - p.pctim - p.adimp) * (st.uztwc + st.uzfwc + st.lztwc + (st.lzfpc + st.lzfsc) * (1 + p.side)) +
    p.adimp * st.adimc

/-- what the one-step theorem says of the outputs under `InOk`: the two component equations, and every output non-negative
except e5 and the actual evapotranspiration (those need `PetOk`) -/
structure OutOk (o : Out ℝ) : Prop where
  comp : o.runoff = o.surfaceRunoff + o.baseflow
  aet : o.actualET = o.e1 + o.e2 + o.e3 + o.e4 + o.e5
  runoff0 : 0 ≤ o.runoff
  baseflow0 : 0 ≤ o.baseflow
  surface0 : 0 ≤ o.surfaceRunoff
  imperv0 : 0 ≤ o.imperviousRunoff
  e10 : 0 ≤ o.e1
  e20 : 0 ≤ o.e2
  e30 : 0 ≤ o.e3
  e40 : 0 ≤ o.e4

theorem step_components (p : Params ℝ) (c : Consts ℝ) (st : State ℝ) (x : ℝ × ℝ) :
    (step p c st x).2.runoff = (step p c st x).2.surfaceRunoff + (step p c st x).2.baseflow := by
  exact (sub_add_cancel (channel p c st.qq x.2 _).qf (channel p c st.qq x.2 _).bf).symm

theorem step_aet_parts (p : Params ℝ) (c : Consts ℝ) (st : State ℝ) (x : ℝ × ℝ) :
    (step p c st x).2.actualET =
      (step p c st x).2.e1 + (step p c st x).2.e2 + (step p c st x).2.e3 + (step p c st x).2.e4 +
        (step p c st x).2.e5 := rfl

/-- the channel losses on real variables: base flow `flwbf ≥ 0` and routed surface flow `flwsf` lose `ssout`, then the
evaporation `e4 ≤ dem`; `bff` is the baseflow share of what is left -/
theorem channel_arith (flwbf flwsf ssout dem : ℝ) (hb : 0 ≤ flwbf) (hdem : 0 ≤ dem) (qf1 e4 bff : ℝ)
    (h1 : qf1 = max 0 (flwbf + flwsf - ssout)) (h4 : e4 = min dem qf1)
    (hbff : bff = if 0 < flwbf + flwsf then flwbf / (flwbf + flwsf) else 0) :
    0 ≤ qf1 - e4 ∧ 0 ≤ bff * (qf1 - e4) ∧ 0 ≤ e4 ∧
      (0 ≤ flwsf → bff * (qf1 - e4) ≤ qf1 - e4 ∧ (0 ≤ ssout → qf1 ≤ flwbf + flwsf)) := by
  have hq0 : 0 ≤ qf1 := h1 ▸ le_max_left _ _
  have hqf : 0 ≤ qf1 - e4 := sub_nonneg.mpr (h4 ▸ min_le_right _ _)
  have hb0 : 0 ≤ bff := by
    rw [hbff]
    split_ifs with h
    · exact div_nonneg hb h.le
    · exact le_refl _
  refine ⟨hqf, mul_nonneg hb0 hqf, h4 ▸ le_min hdem hq0, fun hsf => ⟨?_, fun hss => ?_⟩⟩
  · refine mul_le_of_le_one_left hqf ?_
    rw [hbff]
    split_ifs with h
    · exact (div_le_one h).mpr (le_add_of_nonneg_right hsf)
    · exact zero_le_one
  · exact h1 ▸ max_le (add_nonneg hb hsf) (sub_le_self _ hss)

theorem channel_nonneg (p : Params ℝ) (c : Consts ℝ) (qq : List ℝ) (evapt : ℝ) (v2 : Inner ℝ) (hpet : 0 ≤ evapt)
    (hsarva : 0 ≤ p.sarva) :
    0 ≤ (channel p c qq evapt v2).qf ∧ 0 ≤ (channel p c qq evapt v2).bf ∧ 0 ≤ (channel p c qq evapt v2).e4 := by
  simp only [channel, realnum, RealNum.sci_zero]
  generalize convolve _ c.dro = flwsf
  generalize v2.flobf * (1.0 - p.pctim - p.adimp) / (1.0 + p.side) = flwbf0
  have hb : 0 ≤ (if flwbf0 < 0 then (0 : ℝ) else flwbf0) := by
    split_ifs with h
    · exact le_refl _
    · exact not_lt.mp h
  obtain ⟨k1, k2, k3, -⟩ := channel_arith _ flwsf p.ssout (evapt * p.sarva) hb (mul_nonneg hpet hsarva) _ _ _ rfl rfl rfl
  exact ⟨k1, k2, k3⟩

/-- five non-negative unit-hydrograph ordinates that sum to one -/
def Weights5 (l : List ℝ) : Prop :=
  ∃ d0 d1 d2 d3 d4 : ℝ, l = [d0, d1, d2, d3, d4] ∧ 0 ≤ d0 ∧ 0 ≤ d1 ∧ 0 ≤ d2 ∧ 0 ≤ d3 ∧ 0 ≤ d4 ∧ d0 + d1 + d2 + d3 + d4 = 1

theorem uh_list (p : Params ℝ) (h1 : 0 ≤ p.uh1) (h2 : 0 ≤ p.uh2) (h3 : 0 ≤ p.uh3) (h4 : 0 ≤ p.uh4)
    (h5 : 0 ≤ p.uh5) (hs : 0 < p.uh1 + p.uh2 + p.uh3 + p.uh4 + p.uh5) :
    Weights5 (makeUnitHydrograph p) := by
  simp only [Weights5, makeUnitHydrograph, realnum, RealNum.sci_zero, zero_add]
  refine ⟨_, _, _, _, _, rfl, div_nonneg h1 hs.le, div_nonneg h2 hs.le, div_nonneg h3 hs.le, div_nonneg h4 hs.le,
    div_nonneg h5 hs.le, ?_⟩
  rw [← add_div, ← add_div, ← add_div, ← add_div]
  exact div_self hs.ne'

/-- the channel stage reports the lower free-water contents scaled back: its result is `Scaled` with respect to the loop
variables it was given (the divisor `1 + side` is not zero) -/
theorem channel_scaled (p : Params ℝ) (c : Consts ℝ) (qq : List ℝ) (evapt : ℝ) (v2 : Inner ℝ) (hside : 1 + p.side ≠ 0) :
    (channel p c qq evapt v2).lzfsc * (1 + p.side) = v2.alzfsc ∧
      (channel p c qq evapt v2).lzfpc * (1 + p.side) = v2.alzfpc := by
  simp only [channel, realnum, RealNum.sci_one]
  exact ⟨div_mul_cancel₀ _ hside, div_mul_cancel₀ _ hside⟩

end OW.RR.Sac
