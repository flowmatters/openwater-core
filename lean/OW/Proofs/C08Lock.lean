import OW.Sim.LockCheck
/-!
Helper lemmas for the lock-discipline theorem of C08 (core Lean only): what `verify G ctx = true` says about one
function, and the induction along a call path.
-/
namespace OW.Proofs.C08Lock
open OW.Sim.LockCheck

/-- what `verifyAt` establishes for function `i` (of its check on the callees only the bound: that a callee without a
bound lies outside the graph is not needed) -/
structure Ok (ctx : List Nat) (i : Nat) (f : Fn) (c : Nat) : Prop where
  ctx_eq : ctx[i]? = some c
  regular : f.irregular = false
  entry : f.exported = true → c = 0
  lib : ∀ l ∈ f.lib, need l.2 ≤ eff c f
  calls : ∀ j ∈ f.calls, ∀ cj, ctx[j]? = some cj → cj ≤ eff c f

theorem ok_of_verify {G : Graph} {ctx : List Nat} (h : verify G ctx = true) {i : Nat} {f : Fn}
    (hf : G[i]? = some f) : ∃ c, Ok ctx i f c := by
  have h := List.all_eq_true.mp h i (List.mem_range.mpr (List.getElem?_eq_some_iff.mp hf).1)
  unfold verifyAt at h
  rw [hf] at h
  cases hc : ctx[i]? with
  | none => rw [hc] at h; simp at h
  | some c =>
    rw [hc] at h
    simp only [Bool.and_eq_true, Bool.not_eq_true', Bool.or_eq_true, beq_iff_eq, List.all_eq_true,
      decide_eq_true_eq] at h
    obtain ⟨⟨⟨h1, h2⟩, h3⟩, h4⟩ := h
    refine ⟨c, hc, h1, fun he => ?_, h3, fun j hj cj hcj => ?_⟩
    · rcases h2 with h2 | h2
      · rw [he] at h2; exact absurd h2 (by simp)
      · exact h2
    · have := h4 j hj
      rw [hcj] at this
      simpa using this

theorem Ok.eff_le {G : Graph} {ctx : List Nat} {i : Nat} {f : Fn} {c s : Nat} (ok : Ok ctx i f c) (hf : G[i]? = some f)
    (hcs : ∀ c, ctx[i]? = some c → c ≤ s) : eff c f ≤ max s (rankAt G i) := by
  have := hcs c ok.ctx_eq
  simp only [rankAt, hf, eff]
  omega

/-- along a call path the guaranteed strength never exceeds what the functions on the path actually hold: `s` bounds
whatever `ctx` guarantees on entry to the head of the path -/
theorem path_need {G : Graph} {ctx : List Nat} (h : verify G ctx = true) :
    ∀ (p : List Nat) (i s : Nat), IsPath G (i :: p) → (∀ c, ctx[i]? = some c → c ≤ s) →
      ∀ k f, (i :: p).getLast? = some k → G[k]? = some f →
        ∀ l ∈ f.lib, need l.2 ≤ max s (heldRank G (i :: p)) := by
  intro p
  induction p with
  | nil =>
    intro i s _ hcs k f hk hf l hl
    cases Option.some.inj hk
    obtain ⟨c, ok⟩ := ok_of_verify h hf
    simpa [heldRank] using Nat.le_trans (ok.lib l hl) (ok.eff_le hf hcs)
  | cons j rest ih =>
    intro i s hp hcs k f hk hf l hl
    obtain ⟨⟨fi, hfi, hj⟩, hrest⟩ := hp
    obtain ⟨c, ok⟩ := ok_of_verify h hfi
    -- whatever is guaranteed to the callee is at most what is in force inside the caller
    have := ih j (max s (rankAt G i)) hrest (fun cj hcj => Nat.le_trans (ok.calls j hj cj hcj) (ok.eff_le hfi hcs))
      k f (by simpa [List.getLast?_cons_cons] using hk) hf l hl
    rwa [heldRank, ← Nat.max_assoc]

theorem le_heldRank {G : Graph} : ∀ (p : List Nat) (r : Nat), 1 ≤ r → r ≤ heldRank G p →
    ∃ i ∈ p, ∃ g, G[i]? = some g ∧ r ≤ g.lock.rank := by
  intro p
  induction p with
  | nil => intro r h1 h2; simp [heldRank] at h2; omega
  | cons i rest ih =>
    intro r h1 h2
    simp only [heldRank] at h2
    by_cases hi : r ≤ rankAt G i
    · simp only [rankAt] at hi
      cases hg : G[i]? with
      | none => rw [hg] at hi; simp at hi; omega
      | some g => rw [hg] at hi; exact ⟨i, by simp, g, hg, hi⟩
    · obtain ⟨j, hj, g, hg, hr⟩ := ih r h1 (by omega)
      exact ⟨j, List.mem_cons_of_mem _ hj, g, hg, hr⟩

end OW.Proofs.C08Lock
