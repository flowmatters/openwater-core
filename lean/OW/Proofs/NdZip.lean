import OW.Proofs.NdApply
import OW.Proofs.NdUnroll
/-!
The whole-array helpers of `data/arrayops.go` (`zipWithInto`: scale / add-to / apply-function) equal the sequential
element-by-element reference for every contiguity combination and both back-ends.
-/
namespace OW.Nd
open OW.NdC02

section
variable {α : Type}

/-- loop body of `ApplyFunc1` / `AddTo` / scaling, slow path: `dest[idx] = f dest[idx] source[idx]` -/
def zipBody (f : α → α → α) (dest source : Arr) : Heap α → Idx → R (Heap α) :=
  fun h idx => do
    let dx ← Nd.get h dest idx
    let sx ← Nd.get h source idx
    Nd.set h dest idx (f dx sx)

/-- the loop reads `dest[idx]` before it writes it: with pairwise distinct indices, and the source in another storage, every
value written is computed from the PRE-state -/
theorem foldIdx_zipBody (f : α → α → α) {dest source : Arr} (gd : Geo dest.v) (gs : Geo source.v)
    (hsid : dest.sid ≠ source.sid) :
    ∀ (l : List Idx), l.Nodup → (∀ i ∈ l, InBounds i dest.v.dims) → (∀ i ∈ l, InBounds i source.v.dims) →
      ∀ (h1 : Heap α), ArrOK h1 dest → ArrOK h1 source → ∀ (dv sv : List α),
        getAll h1 dest l = .ok dv → getAll h1 source l = .ok sv →
        foldIdx (zipBody f dest source) l h1 = setAll h1 dest l (List.zipWith f dv sv)
  | [], _, _, _, _, _, _, _, _, _, _ => rfl
  | i :: is, nd, hl, hls, h1, okd, oks, dv, sv, hdv, hsv => by
    obtain ⟨dx, dr, rfl, hdx, hdr⟩ := getAll_cons_ok hdv
    obtain ⟨sx, sr, rfl, hsx, hsr⟩ := getAll_cons_ok hsv
    have hi := hl i List.mem_cons_self
    have hset := set_addr gd okd hi (f dx sx)
    have w := wrote_set gd okd hi (f dx sx)
    have nd' := List.nodup_cons.mp nd
    rw [foldIdx, zipBody, hdx, hsx, List.zipWith_cons_cons, setAll]
    simp only [bind, Except.bind]
    rw [hset]
    apply foldIdx_zipBody f gd gs hsid is nd'.2 (fun j hj => hl j (List.mem_cons_of_mem _ hj))
      (fun j hj => hls j (List.mem_cons_of_mem _ hj)) _ (okd.sameShape w.shape) (oks.sameShape w.shape)
    · rw [← hdr]
      refine getAll_congr _ fun j hj => ?_
      have hjb := hl j (List.mem_cons_of_mem _ hj)
      refine (w.visible gd okd gd okd hjb).2 (.inr fun i' _ e heq => nd'.1 ?_)
      rw [← e.1, ← addr_inj gd hjb (e.1 ▸ hi) (Int.add_left_cancel heq)]
      exact hj
    · rw [← hsr]
      exact getAll_congr _ fun j hj =>
        (w.visible gd okd gs oks (hls j (List.mem_cons_of_mem _ hj))).2 (.inl fun e => hsid e.symm)

theorem zipLoopFresh_eq (f : α → α → α) : ∀ (dv sv : List α), dv.length ≤ sv.length →
    zipLoopFresh f dv sv = .ok (List.zipWith f dv sv)
  | [], _, _ => by simp [zipLoopFresh]
  | _ :: _, [], h => by simp at h
  | d :: ds, s :: ss, h => by
    rw [zipLoopFresh, zipLoopFresh_eq f ds ss (by simpa using h)]
    rfl

theorem zipWithInto_slow (f : α → α → α) (h : Heap α) (dest source : Arr)
    (hcase : dest.v.contiguous = .ok false ∨ (dest.v.contiguous = .ok true ∧ source.v.contiguous = .ok false)) :
    zipWithInto f h dest source =
      forIdx dest.v.dims (zipBody f dest source) (product dest.v.dims).toNat (dest.v.newIndex 0) h := by
  unfold zipWithInto
  rcases hcase with hc | ⟨hc, hs⟩
  · rw [hc]; rfl
  · rw [hc]
    rw [hs]; rfl

/-- what the fast loop knows about the unrolled source: an alias of the source window, or a snapshot whose entries are
(still) the source elements -/
def SrcInv (source : Arr) (dims : Idx) (h1 : Heap α) : Slice α → Prop
  | .alias ssid slo sn => ssid = source.sid ∧ slo = source.base + source.v.start ∧ sn = product dims
  | .fresh vs => ∀ (j : Nat), (j : Int) < product dims →
      ∃ x, vs[j]? = some x ∧ Nd.get h1 source (unravel (j : Int) dims) = .ok x

theorem zipLoopAlias_succ_alias (f : α → α → α) {h : Heap α} {dsid dlo ssid : Nat} {slo sn : Int} {i k : Nat}
    {dx sx : α} (hd : cell h dsid (dlo + i) = some dx) (hs : cell h ssid (slo.toNat + i) = some sx)
    (hi : (i : Int) < sn) :
    zipLoopAlias f dsid dlo (.alias ssid slo sn) h i (k + 1) =
      zipLoopAlias f dsid dlo (.alias ssid slo sn) (setStore h dsid (dlo + i) (f dx sx)) (i + 1) k := by
  unfold cell at hd hs
  cases hds : h[dsid]? with
  | none => simp [hds] at hd
  | some dst =>
    cases hss : h[ssid]? with
    | none => simp [hss] at hs
    | some sst =>
      simp only [hds, hss, Option.bind_some] at hd hs
      simp only [zipLoopAlias, storeOf, hds, hss, bind, Except.bind, pure, Except.pure, hi, if_true, hd, hs]

theorem zipLoopAlias_succ_fresh (f : α → α → α) {h : Heap α} {dsid dlo : Nat} {vs : List α} {i k : Nat}
    {dx sx : α} (hd : cell h dsid (dlo + i) = some dx) (hs : vs[i]? = some sx) :
    zipLoopAlias f dsid dlo (.fresh vs) h i (k + 1) =
      zipLoopAlias f dsid dlo (.fresh vs) (setStore h dsid (dlo + i) (f dx sx)) (i + 1) k := by
  unfold cell at hd
  cases hds : h[dsid]? with
  | none => simp [hds] at hd
  | some dst =>
    simp only [hds, Option.bind_some] at hd
    simp only [zipLoopAlias, storeOf, hds, bind, Except.bind, pure, Except.pure, hd, hs]

theorem zipLoopAlias_eq (f : α → α → α) {dest source : Arr} (gd : Geo dest.v) (gs : Geo source.v)
    (hsid : dest.sid ≠ source.sid) (hdims : source.v.dims = dest.v.dims)
    (hcd : dest.v.contiguous = .ok true) (hcs : source.v.contiguous = .ok true) (s : Slice α) :
    ∀ (k i : Nat) (h1 : Heap α), ((i + k : Nat) : Int) ≤ product dest.v.dims → ArrOK h1 dest → ArrOK h1 source →
      SrcInv source dest.v.dims h1 s →
      zipLoopAlias f dest.sid (dest.base + dest.v.start).toNat s h1 i k =
        foldIdx (zipBody f dest source) (rowMajorFrom dest.v.dims i k) h1
  | 0, _, _, _, _, _, _ => rfl
  | k + 1, i, h1, hik, okd, oks, inv => by
    have hi1 : (i : Int) < product dest.v.dims := by omega
    obtain ⟨dx, hcelld, hgetd⟩ := contig_get gd okd hcd hi1
    obtain ⟨sx, hcells, hgets⟩ := contig_get gs oks hcs (k := i) (hdims ▸ hi1)
    rw [hdims] at hgets
    have hbody : zipBody f dest source h1 (unravel (i : Int) dest.v.dims) =
        .ok (setStore h1 dest.sid ((dest.base + dest.v.start).toNat + i) (f dx sx)) := by
      rw [zipBody, hgetd, hgets]
      exact contig_set gd okd hcd hi1 _
    have hrec := zipLoopAlias_eq f gd gs hsid hdims hcd hcs s k (i + 1)
      (setStore h1 dest.sid ((dest.base + dest.v.start).toNat + i) (f dx sx)) (by omega)
      (okd.sameShape (sameShape_setStore ..)) (oks.sameShape (sameShape_setStore ..))
    rw [rowMajorFrom_succ, foldIdx, hbody]
    rcases s with ⟨ssid, slo, sn⟩ | ⟨vs⟩
    · obtain ⟨rfl, rfl, rfl⟩ := inv
      rw [zipLoopAlias_succ_alias f hcelld hcells hi1]
      exact hrec ⟨rfl, rfl, rfl⟩
    · obtain ⟨x, hx1, hx2⟩ := inv i hi1
      rw [hgets] at hx2
      cases hx2
      rw [zipLoopAlias_succ_fresh f hcelld hx1]
      -- the writes go to another storage: the snapshot still holds the source elements
      refine hrec fun j hj => ?_
      obtain ⟨y, hy1, hy2⟩ := inv j hj
      refine ⟨y, hy1, ?_⟩
      rw [← hy2]
      have hjb : InBounds (unravel (j : Int) dest.v.dims) source.v.dims :=
        hdims ▸ unravel_inBounds _ dest.v.dims gd.pos_dims (Int.natCast_nonneg j) hj
      exact get_congr gs (oks.sameShape (sameShape_setStore ..)) gs oks hjb hjb
        (by rw [cell_setStore, if_neg fun hh => hsid hh.1.symm])

theorem set_flat {dest : Arr} (gd : Geo dest.v) (hcd : dest.v.contiguous = .ok true) (n : Int) {k : Nat}
    (hk : (k : Int) < product dest.v.dims) (h : Heap α) (x : α) :
    Nd.set h (cAliasArr dest [n]) (runLoc [0] 0 0 1 (k : Int)) x = Nd.set h dest (unravel (k : Int) dest.v.dims) x := by
  unfold Nd.set
  rw [contig_index gd hcd (Int.natCast_nonneg k) hk]
  show (do let i ← (rootView [n] dest.v.start).index [0 + (k : Int) * 1]; writeAt h (cAliasArr dest [n]) i x) = _
  rw [rootView_index [n] _ [0 + (k : Int) * 1] rfl, ravel_cons, Int.zero_add, Int.mul_one, product_nil, Int.mul_one]
  rfl

theorem sliceVals_alias_eq {h : Heap α} {sid : Nat} {lo n : Int} {st vals : List α} (hst : h[sid]? = some st)
    (hv : sliceVals h (.alias sid lo n) = .ok vals) :
    ∀ j, j < vals.length → cell h sid (lo.toNat + j) = vals[j]? := by
  simp only [sliceVals, storeOf, hst, bind, Except.bind, pure, Except.pure] at hv
  injection hv with hv
  subst hv
  intro j hj
  simp only [List.length_take, List.length_drop] at hj
  simp only [cell, hst, Option.bind_some, List.getElem?_take, List.getElem?_drop]
  rw [if_pos (by omega)]

/-- the write-back of the fast path (`ReshapeFast` to a flat view, then `Apply`) on a contiguous Go-backed array whose row-major
elements are already `vals`: the block copy through the flat view rewrites the values that are there -/
theorem storeBack_go {h1 : Heap α} {dest : Arr} (gd : Geo dest.v) (okd1 : ArrOK h1 dest)
    (hcd : dest.v.contiguous = .ok true) {vals : List α}
    (hsl : sliceVals h1 (.alias dest.sid (dest.base + dest.v.start) dest.v.size) = .ok vals)
    (hsz : product [(vals.length : Int)] = dest.v.size) :
    apply h1 (aliasArr dest [(vals.length : Int)]) [0] 0 1 vals = .ok h1 := by
  have hn1 : (1 : Int) ≤ (vals.length : Int) := by
    have := product_pos gd.pos_dims
    rw [product_cons, product_nil, Int.mul_one] at hsz
    rw [hsz]
    exact this
  have hpn : Pos [(vals.length : Int)] := by intro x hx; simp at hx; omega
  have gflat : Geo (aliasArr dest [(vals.length : Int)]).v := reach_geo (reach_root (by simp) hpn)
  have okflat := arrOK_alias gd okd1 hcd hsz
  have hok : SliceOK [(vals.length : Int)] [0] [(vals.length : Int)] [1] :=
    ⟨Int.le_refl 0, hn1, Int.le_refl 1, by omega, trivial⟩
  -- the flat view taken whole is contiguous: `Apply` is the block write into the window of `dest` …
  have hslc : (dstSlice (aliasArr dest [(vals.length : Int)]) [0] [(vals.length : Int)] (some [1])).v.contiguous = .ok true :=
    (contiguous_eq (sliceOK_dstSlice gflat (step := some [1]) hok).2.1).1 ⟨trivial, fun _ => ⟨rfl, rfl⟩⟩
  refine (apply_fast_ok (d := 0) gflat okflat rfl Nat.zero_lt_one hok hslc).trans (congrArg Except.ok ?_)
  -- … of the values that are there
  obtain ⟨st1, hst1, _⟩ := okd1.store
  have hstart : ((aliasArr dest [(vals.length : Int)]).base + addr (aliasArr dest [(vals.length : Int)]).v [0]).toNat =
      (dest.base + dest.v.start).toNat := by
    show (dest.base + dest.v.start + (0 + (0 * 1 + 0))).toNat = _
    rw [Int.zero_mul, Int.add_zero, Int.add_zero, Int.add_zero]
  rw [hstart]
  exact writeRun_self vals _ h1 (sliceVals_alias_eq hst1 hsl)

theorem bulk_zipWithInto (f : α → α → α) {h : Heap α} {dest source : Arr} (gd : Geo dest.v) (gs : Geo source.v)
    (okd : ArrOK h dest) (oks : ArrOK h source) (hdims : source.v.dims = dest.v.dims) (hsid : dest.sid ≠ source.sid)
    {dv sv : List α} (hdv : getAll h dest (rowMajor dest.v.dims) = .ok dv)
    (hsv : getAll h source (rowMajor dest.v.dims) = .ok sv) :
    BulkWrite h (zipWithInto f h dest source) dest (rowMajor dest.v.dims) (List.zipWith f dv sv) := by
  refine ⟨?_, rowMajor_inBounds gd.pos_dims, rowMajor_nodup gd.dims_ne, by
    rw [List.length_zipWith, getAll_length hdv, getAll_length hsv, Nat.min_self]⟩
  have hp := gd.pos_dims
  have hsv' : getAll h source (rowMajor source.v.dims) = .ok sv := hdims ▸ hsv
  -- the element loop is the reference
  have hseq := foldIdx_zipBody f gd gs hsid _ (rowMajor_nodup gd.dims_ne) (rowMajor_inBounds hp)
    (by rw [hdims]; exact rowMajor_inBounds hp) h okd oks dv sv hdv hsv
  have slow : dest.v.contiguous = .ok false ∨ (dest.v.contiguous = .ok true ∧ source.v.contiguous = .ok false) →
      zipWithInto f h dest source = setAll h dest (rowMajor dest.v.dims) (List.zipWith f dv sv) := fun hcase => by
    rw [zipWithInto_slow f h dest source hcase, ← hseq]
    exact forIdx_rowMajor hp _ h
  obtain ⟨cd, hcd⟩ := gd.contiguous_total
  obtain ⟨cs, hcs⟩ := gs.contiguous_total
  cases cd with
  | false => exact slow (.inl hcd)
  | true =>
  cases cs with
  | false => exact slow (.inr ⟨hcd, hcs⟩)
  | true =>
  obtain ⟨s, hus, hss, s1, _, s3⟩ := unroll_ok gs oks hsv'
  cases hC : dest.isC with
  | false =>
    -- Go-backed destination: the aliasing loop leaves the heap of the reference …
    have hud := unroll_contig gd okd hC hcd
    have hinv : SrcInv source dest.v.dims h s := by
      cases hCs : source.isC with
      | false => rw [s1 hCs hcs]; exact ⟨rfl, rfl, congrArg product hdims⟩
      | true =>
        rw [s3 hCs]
        intro j hj
        have := elems_getElem hsv' j (hdims ▸ hj)
        rwa [hdims] at this
    have hloop := zipLoopAlias_eq f gd gs hsid hdims hcd hcs s (product dest.v.dims).toNat 0 h (rowMajor_bound hp)
      okd oks hinv
    have hres := setAll_eq gd (rowMajor dest.v.dims) (List.zipWith f dv sv) h okd
      fun _ hw => rowMajor_inBounds hp _ (List.of_mem_zip hw).1
    have okd1 := okd.sameShape (sameShape_writeList dest.sid (seqWrites dest ((rowMajor dest.v.dims).zip (List.zipWith f dv sv))) h)
    generalize writeList h dest.sid _ = h1 at hres okd1
    have hz : zipLoopAlias f dest.sid (dest.base + dest.v.start).toNat s h 0 dest.v.size.toNat = .ok h1 := by
      rw [← hres, ← hseq]; exact hloop
    -- … and the write-back through the flat view rewrites the new destination values
    obtain ⟨vals, hvals, hlen⟩ := elems_ok gd okd1
    have hsl : sliceVals h1 (.alias dest.sid (dest.base + dest.v.start) dest.v.size) = .ok vals := by
      rw [sliceVals_alias_contig gd okd1 hcd, hvals]
    obtain ⟨hne, hsz, hrf⟩ := reshapeFast_flat gd okd1 hcd hlen
    rw [reshapedArr, hC, if_neg Bool.false_ne_true] at hrf
    rw [hres, ← storeBack_go gd okd1 hcd hsl hsz]
    unfold zipWithInto
    simp only [hcd, hcs, hud, hus, hz, hsl, hne, hrf, bind, Except.bind, pure, Except.pure, if_true, and_self,
      Bool.false_eq_true, if_false]
  | true =>
    -- C-backed destination: pure loop on the unrolled copy, then the write-back through the flat view
    have hud := unroll_fresh gd (.inl hC) hdv
    have hld := getAll_length hdv
    have hls := getAll_length hsv
    rw [rowMajor_length] at hld hls
    have hz := zipLoopFresh_eq f dv sv (by omega)
    have hlen : (List.zipWith f dv sv).length = (product dest.v.dims).toNat := by
      rw [List.length_zipWith, hld, hls, Nat.min_self]
    generalize List.zipWith f dv sv = vals at hz hlen ⊢
    obtain ⟨hne, hsz, hrf⟩ := reshapeFast_flat gd okd hcd hlen
    rw [reshapedArr, hC, if_pos rfl] at hrf
    have e : zipWithInto f h dest source = apply h (cAliasArr dest [(vals.length : Int)]) [0] 0 1 vals := by
      unfold zipWithInto
      simp only [hcd, hcs, hud, hus, hz, hss, hne, hrf, bind, Except.bind, pure, Except.pure, if_true, and_self,
        Bool.false_eq_true, if_false]
    rw [e, apply_c_spec (a := cAliasArr dest [(vals.length : Int)]) (start := 0) hC (Int.le_refl 0) Int.zero_lt_one rfl,
      hlen]
    rw [runIdxs_eq_map]
    exact setAll_map_congr _ _ _ _ h fun k hk h x => set_flat gd hcd _ (by
      have := (List.mem_range'_1.mp hk).2; have := product_pos hp; omega) h x

end
end OW.Nd
