import OW.Proofs.NdC03Rel
import OW.Proofs.NdZip
/-!
C03, each bulk operation of `OW/Nd/Array.lean` on a related pair. By the lemmas behind C02 (`unroll_ok`, `extremum_eq`,
`bulk_apply_req`, `bulk_applySlice`, `bulk_zipWithInto`) every bulk operation of EITHER back-end equals the same
element-wise definition (`getAll` / `setAll` over `rowMajor` or over a run), so on a related
pair the reads agree (`RelW.elems`) and the writes are paired (`RelW.bulk`). For `Reshape`, whose pair lemma needs normal
forms (`NdOff.reshape_pairN`, `NdOffsetProg.lean`), the two heap facts that need none: the contiguous blocks of a related pair
are cell-wise equal, two equal fresh copies are a related pair (the elements of its result on one array are in `NdUnroll.lean`,
`getAll_reshaped` / `getAll_freshCopy`).
-/
namespace OW.NdC03
open OW.Nd OW.NdC02

section
variable {α : Type}

theorem RelW.unroll {hg hc : Heap α} {g c : Arr} (r : RelW hg hc g c) :
    ∃ sg sc vals, Nd.unroll hg g = .ok sg ∧ Nd.unroll hc c = .ok sc ∧
      sliceVals hg sg = .ok vals ∧ sliceVals hc sc = .ok vals ∧
      NdC02.getAll hg g (rowMajor g.v.dims) = .ok vals ∧ NdC02.getAll hc c (rowMajor g.v.dims) = .ok vals ∧
      vals.length = g.v.size.toNat ∧
      (c.isC = true → sc = .fresh vals) ∧
      (g.isC = false → g.v.contiguous = .ok true → sg = .alias g.sid (g.base + g.v.start) g.v.size) ∧
      (g.isC = false → g.v.contiguous = .ok false → sg = .fresh vals) := by
  obtain ⟨vals, h1, h2, hlen⟩ := r.elems
  obtain ⟨sg, hug, hsg, ha, hf, _⟩ := unroll_ok r.geo r.okG h1
  obtain ⟨sc, huc, hsc, _, _, hcf⟩ := unroll_ok r.geoC r.okC h2
  exact ⟨sg, sc, vals, hug, huc, hsg, hsc, h1, r.view ▸ h2, by omega, hcf, ha, hf⟩

theorem RelW.extremum {hg hc : Heap α} {g c : Arr} (r : RelW hg hc g c) (better : α → α → Bool) :
    ∃ x, Nd.extremum better hg g = .ok x ∧ Nd.extremum better hc c = .ok x := by
  obtain ⟨vals, h1, h2, hlen⟩ := r.elems
  have : 0 < g.v.size := Nd.product_pos r.geo.pos_dims
  -- both are the same fold over the common, non-empty row-major element list
  cases vals with
  | nil => simp at hlen; omega
  | cons v0 rest => exact ⟨_, extremum_eq r.geo better h1, extremum_eq r.geoC better h2⟩

theorem RelW.applyOK {hg hc : Heap α} {g c : Arr} (r : RelW hg hc g c) {loc : Idx} {dim step : Int} {n : Nat}
    (hok : SliceOK g.v.dims loc (applyDims g dim n) (applySteps g dim step)) :
    SliceOK c.v.dims loc (applyDims c dim n) (applySteps c dim step) := by
  have e1 : applyDims c dim n = applyDims g dim n := by simp only [applyDims, r.view]
  have e2 : applySteps c dim step = applySteps g dim step := by simp only [applySteps, r.view]
  rw [e1, e2, ← r.view]
  exact hok

theorem RelW.apply {hg hc : Heap α} {g c : Arr} (r : RelW hg hc g c) {loc : Idx} {dim step : Int} {vals : List α}
    (h0 : 0 ≤ dim) (h1 : dim < g.v.dims.length)
    (hok : SliceOK g.v.dims loc (applyDims g dim vals.length) (applySteps g dim step)) :
    ∃ hg' hc', Nd.apply hg g loc dim step vals = .ok hg' ∧ Nd.apply hc c loc dim step vals = .ok hc' ∧
      Paired (winOf g c) hg hc hg' hc' := by
  have h1c : dim < c.v.dims.length := by rw [← r.view]; exact h1
  have hokc := r.applyOK hok
  obtain ⟨start, hl, bg⟩ := bulk_apply_req r.geo r.okG h0 h1 hok
  obtain ⟨start', hl', bc⟩ := bulk_apply_req r.geoC r.okC h0 h1c hokc
  obtain rfl := Option.some.inj (hl.symm.trans hl')
  exact r.bulk bg bc

theorem RelW.applySlice {hg hc : Heap α} {gd cd gs cs : Arr} (rd : RelW hg hc gd cd) (rs : RelW hg hc gs cs)
    (hsidG : gs.sid ≠ gd.sid) (hsidC : cs.sid ≠ cd.sid) {loc : Idx} {step : Option Idx}
    (okS : SliceOK gd.v.dims loc gs.v.dims (stepOr gd.v.dims.length step)) :
    ∃ hg' hc', Nd.applySlice hg gd loc step gs = .ok hg' ∧ Nd.applySlice hc cd loc step cs = .ok hc' ∧
      Paired (winOf gd cd) hg hc hg' hc' := by
  have okSc : SliceOK cd.v.dims loc cs.v.dims (stepOr cd.v.dims.length step) := by
    rw [← rd.view, ← rs.view]; exact okS
  obtain ⟨vals, e1, e2, _⟩ := rs.elems
  -- on either side `ApplySlice` is the sequential `Set` of the source's elements through the destination sub-array
  have bg := bulk_applySlice rd.geo rd.okG rs.geo rs.okG hsidG okS e1
  have bc := bulk_applySlice rd.geoC rd.okC rs.geoC rs.okC hsidC okSc e2
  simp only [dstSlice, ← rs.view, ← rd.view] at bc
  exact (rd.slice okS).2.2.bulk bg bc

theorem RelW.copyFrom {hg hc : Heap α} {gd cd gs cs : Arr} (rd : RelW hg hc gd cd) (rs : RelW hg hc gs cs)
    (hsidG : gs.sid ≠ gd.sid) (hsidC : cs.sid ≠ cd.sid) (hshape : gs.v.dims = gd.v.dims) :
    ∃ hg' hc', Nd.copyFrom hg gd gs = .ok hg' ∧ Nd.copyFrom hc cd cs = .ok hc' ∧
      Paired (winOf gd cd) hg hc hg' hc' := by
  obtain ⟨hg', hc', e1, e2, pw⟩ := RelW.applySlice rd rs hsidG hsidC (sliceOK_copyFrom rd.geo hshape)
  refine ⟨hg', hc', e1, ?_, pw⟩
  have : cd.v.newIndex 0 = gd.v.newIndex 0 := by rw [rd.view]
  unfold Nd.copyFrom
  rw [this]; exact e2

theorem RelW.zipWithInto {hg hc : Heap α} {gd cd gs cs : Arr} (rd : RelW hg hc gd cd) (rs : RelW hg hc gs cs)
    (f : α → α → α) (hsidG : gd.sid ≠ gs.sid) (hsidC : cd.sid ≠ cs.sid) (hdims : gs.v.dims = gd.v.dims) :
    ∃ hg' hc' dv sv, Nd.zipWithInto f hg gd gs = .ok hg' ∧ Nd.zipWithInto f hc cd cs = .ok hc' ∧
      NdC02.getAll hg gd (rowMajor gd.v.dims) = .ok dv ∧ NdC02.getAll hg gs (rowMajor gd.v.dims) = .ok sv ∧
      NdC02.setAll hg gd (rowMajor gd.v.dims) (List.zipWith f dv sv) = .ok hg' ∧
      NdC02.setAll hc cd (rowMajor gd.v.dims) (List.zipWith f dv sv) = .ok hc' ∧
      Paired (winOf gd cd) hg hc hg' hc' := by
  have hdimsC : cs.v.dims = cd.v.dims := by rw [← rs.view, ← rd.view]; exact hdims
  obtain ⟨dv, d1, d2, _⟩ := rd.elems
  obtain ⟨sv, s1, s2, _⟩ := rs.elems
  rw [hdims] at s1
  rw [hdimsC] at s2
  have bg := bulk_zipWithInto f rd.geo rs.geo rd.okG rs.okG hdims hsidG d1 s1
  have bc := bulk_zipWithInto f rd.geoC rs.geoC rd.okC rs.okC hdimsC hsidC d2 s2
  rw [← rd.view] at bc
  obtain ⟨hg', hc', w1, w2, pw⟩ := rd.bulk bg bc
  exact ⟨hg', hc', dv, sv, w1, w2, d1, s1, bg.eq ▸ w1, bc.eq ▸ w2, pw⟩

theorem relW_fresh (hg hc : Heap α) (vals : List α) {s : Idx} (hs : s ≠ []) (hp : Pos s)
    (hl : (vals.length : Int) = product s) :
    RelW (hg ++ [vals]) (hc ++ [vals]) (freshArr hg vals s) (freshArr hc vals s) := by
  refine ⟨rfl, reach_root hs hp, arrOK_fresh hg vals hl, arrOK_fresh hc vals hl, ?_⟩
  intro p _ _
  exact (cell_append_new hg vals _).trans (cell_append_new hc vals _).symm

theorem relHeaps_contig {hg hc : Heap α} {g c : Arr} (r : RelW hg hc g c) (hcg : g.v.contiguous = .ok true) :
    RelHeaps hg hc ⟨g.sid, g.base + g.v.start, c.sid, c.base + g.v.start⟩ (product g.v.dims) := by
  obtain ⟨w0, w1⟩ := contig_window r.geo hcg
  intro p p0 p1
  have := r.same (g.v.start + p) (by omega) (by omega)
  simp only [winOf] at this
  show cell hg g.sid (g.base + g.v.start + p).toNat = cell hc c.sid (c.base + g.v.start + p).toNat
  rw [Int.add_assoc, Int.add_assoc]
  exact this

end
end OW.NdC03
