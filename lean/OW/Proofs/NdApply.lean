import OW.Proofs.NdBulk
/-!
`Apply(loc, dim, step, vals)` — the 1-D run write — is the sequential `Set` of `vals` over the run of indices (`setAll` over
`runIdxs`), hence one list of storage writes, on all three paths (contiguous fast path and element loop of the Go back-end,
element loop of the C back-end). The hypothesis is the slice request the code itself builds: `SliceOK` with extents
`1, …, len, …, 1` and steps `1, …, step, …, 1`.
-/
namespace OW.NdC02
open OW.Nd

section
variable {α : Type}

/-- the indices `loc` with position `d` replaced by `start + i·step`, for `i = i0, i0+1, …` (`n` of them) -/
def runIdxs (loc : Idx) (d : Nat) (start step : Int) : Int → Nat → List Idx
  | _, 0 => []
  | i, n + 1 => loc.set d (start + i * step) :: runIdxs loc d start step (i + 1) n

/-- the slice `Apply` takes: extents all one except `vals.length` along `dim`, steps all one except `step` -/
def applyDims (a : Arr) (dim : Int) (n : Nat) : Idx := (uniform a.v.dims.length 1).set dim.toNat n
def applySteps (a : Arr) (dim step : Int) : Idx := (uniform a.v.dims.length 1).set dim.toNat step

end
end OW.NdC02

namespace OW.Nd
open OW.NdC02

section
variable {α : Type}

theorem runIdxs_length (loc : Idx) (d : Nat) (start step : Int) : ∀ (i : Int) (n : Nat),
    (runIdxs loc d start step i n).length = n
  | _, 0 => rfl
  | i, n + 1 => by simp [runIdxs, runIdxs_length loc d start step (i + 1) n]

def runLoc (loc : Idx) (d : Nat) (start step : Int) (k : Int) : Idx := loc.set d (start + k * step)

/-- the (index, value) pairs written by the loop of `Apply`, counting from `i` -/
def runPairs (loc : Idx) (d : Nat) (start step : Int) : Int → List α → List (Idx × α)
  | _, [] => []
  | i, x :: xs => (runLoc loc d start step i, x) :: runPairs loc d start step (i + 1) xs

/-- the element loop of `Apply` (the only path of the C back-end) -/
def applyLoop (h : Heap α) (a : Arr) (loc : Idx) (d : Nat) (step : Int) (vals : List α) : R (Heap α) :=
  match loc[d]? with
  | none => oob
  | some start => apply.go a loc step d start h 0 vals

theorem apply_def (h : Heap α) (a : Arr) (loc : Idx) {d : Nat} (hd : d < a.v.dims.length) (step : Int)
    (vals : List α) :
    apply h a loc (d : Int) step vals =
      if a.isC = true then applyLoop h a loc d step vals
      else (do
        let sl ← slice a loc ((uniform a.v.dims.length 1).set d vals.length)
          (some ((uniform a.v.dims.length 1).set d step))
        let c ← sl.v.contiguous
        if c = true then do
          let (sid, lo, _) ← subslice h sl sl.v.start (sl.v.start + vals.length)
          pure (writeRun h sid lo.toNat vals)
        else applyLoop h a loc d step vals) := by
  have c1 : ¬ ((d : Int) < 0 ∨ (d : Int) ≥ (a.v.ndims : Int)) := by
    simp only [View.ndims]; omega
  unfold apply
  simp only [c1, if_false, Int.toNat_natCast]
  rfl

theorem apply_go_eq (a : Arr) (loc : Idx) (step : Int) (d : Nat) (start : Int) :
    ∀ (xs : List α) (h : Heap α) (i : Int),
      apply.go a loc step d start h i xs = setAll h a (runIdxs loc d start step i xs.length) xs
  | [], _, _ => rfl
  | x :: xs, h, i => by
    simp only [apply.go, List.length_cons, runIdxs, setAll]
    exact bind_congr fun h' => apply_go_eq a loc step d start xs h' (i + 1)

theorem apply_slow (h : Heap α) {a : Arr} {loc : Idx} {d : Nat} (hd : d < a.v.dims.length) (step : Int) (vals : List α)
    {l : Int} (hl : loc[d]? = some l)
    (hcase : a.isC = true ∨ ∃ sl, slice a loc ((uniform a.v.dims.length 1).set d vals.length)
      (some ((uniform a.v.dims.length 1).set d step)) = .ok sl ∧ sl.v.contiguous = .ok false) :
    apply h a loc (d : Int) step vals = setAll h a (runIdxs loc d l step 0 vals.length) vals := by
  have hloop : applyLoop h a loc d step vals = setAll h a (runIdxs loc d l step 0 vals.length) vals := by
    rw [applyLoop, hl]
    exact apply_go_eq a loc step d l vals h 0
  rw [apply_def h a loc hd, ← hloop]
  rcases hcase with hC | ⟨sl, hsl, hc⟩
  · rw [if_pos hC]
  · split
    · rfl
    · rw [hsl]
      simp only [bind, Except.bind, hc]
      rfl

/-- stated without `Geo`, so that `vals` may be empty (`apply_nil`): `hwin` says that the first `len(vals)` cells of the slice
lie inside the storage -/
theorem apply_fast {h : Heap α} {a sl : Arr} {s : List α} (hs : h[a.sid]? = some s) (hgo : a.isC = false) {loc : Idx}
    {d : Nat} (hd : d < a.v.dims.length) {step : Int} {vals : List α}
    (hsl : slice a loc ((uniform a.v.dims.length 1).set d vals.length) (some ((uniform a.v.dims.length 1).set d step)) = .ok sl)
    (hc : sl.v.contiguous = .ok true)
    (hwin : 0 ≤ sl.v.start ∧ sl.v.start + vals.length ≤ (s.length : Int) - a.base) :
    apply h a loc (d : Int) step vals = .ok (writeRun h a.sid (a.base + sl.v.start).toNat vals) := by
  obtain ⟨w, _, rfl⟩ := slice_eq hsl
  rw [apply_def h a loc hd, if_neg (by rw [hgo]; exact Bool.false_ne_true), hsl]
  simp only [bind, Except.bind, hc, if_true]
  rw [subslice_ok (a := { a with v := w }) hs hwin.1 (by omega) hwin.2]
  rfl

theorem runPairs_eq_zip (loc : Idx) (d : Nat) (l step : Int) : ∀ (i : Int) (xs : List α),
    runPairs loc d l step i xs = (runIdxs loc d l step i xs.length).zip xs
  | _, [] => rfl
  | i, x :: xs => by
    rw [runPairs, List.length_cons, runIdxs, List.zip_cons_cons, runPairs_eq_zip loc d l step (i + 1) xs]
    rfl

theorem runLoc_inj {loc : Idx} {d : Nat} (hd : d < loc.length) {start step : Int} (hs : 1 ≤ step) {k k' : Int}
    (h : runLoc loc d start step k = runLoc loc d start step k') : k = k' := by
  have h1 : (runLoc loc d start step k)[d]? = some (start + k * step) := List.getElem?_set_self hd
  rw [h, runLoc, List.getElem?_set_self hd] at h1
  injection h1 with h1
  have : k' * step = k * step := by omega
  exact (Int.eq_of_mul_eq_mul_right (by omega) this).symm

theorem runIdxs_eq_map (loc : Idx) (d : Nat) (l step : Int) (n : Nat) :
    runIdxs loc d l step 0 n = (List.range' 0 n).map fun m : Nat => runLoc loc d l step (m : Int) := by
  have from_ : ∀ (n k : Nat),
      runIdxs loc d l step (k : Int) n = (List.range' k n).map fun m : Nat => runLoc loc d l step (m : Int) := by
    intro n
    induction n with
    | zero => intro k; rfl
    | succ n ih =>
      intro k
      have ih := ih (k + 1)
      rw [Nat.cast_add, Nat.cast_one] at ih
      rw [runIdxs, ih, List.range'_succ]
      rfl
  exact from_ n 0

theorem mem_zip_map_range {β : Type} (f : Nat → β) (xs : List α) (i : β) (x : α) :
    (i, x) ∈ ((List.range' 0 xs.length).map f).zip xs ↔ ∃ (k : Nat) (hk : k < xs.length), i = f k ∧ x = xs[k] := by
  simp only [List.mem_iff_getElem, List.getElem_zip, List.getElem_map, List.getElem_range', List.length_zip,
    List.length_map, List.length_range', Nat.min_self, Prod.mk.injEq, Nat.zero_add, Nat.one_mul]
  exact ⟨fun ⟨k, hk, e1, e2⟩ => ⟨k, hk, e1.symm, e2.symm⟩, fun ⟨k, hk, e1, e2⟩ => ⟨k, hk, e1.symm, e2.symm⟩⟩

theorem sliceOK_point : ∀ {loc dims : Idx}, InBounds loc dims →
    SliceOK dims loc (uniform dims.length 1) (uniform dims.length 1)
  | [], [], _ => by simp [uniform]
  | [], _ :: _, h => by simp [InBounds] at h
  | _ :: _, [], h => by simp [InBounds] at h
  | i :: is, D :: ds, h => by
    simp only [InBounds_cons] at h
    simp only [List.length_cons, uniform_succ, SliceOK_cons]
    exact ⟨h.1, by omega, by omega, by omega, sliceOK_point h.2.2⟩

theorem sliceOK_run : ∀ {loc dims : Idx} {d : Nat} {D l len step : Int}, InBounds loc dims →
    dims[d]? = some D → loc[d]? = some l → 1 ≤ len → 1 ≤ step → l + (len - 1) * step < D →
    SliceOK dims loc ((uniform dims.length 1).set d len) ((uniform dims.length 1).set d step)
  | [], [], _, _, _, _, _, _, hd, _, _, _, _ => by simp at hd
  | [], _ :: _, _, _, _, _, _, h, _, _, _, _, _ => by simp [InBounds] at h
  | _ :: _, [], _, _, _, _, _, h, _, _, _, _, _ => by simp [InBounds] at h
  | i :: is, D0 :: ds, 0, D, l, len, step, h, hd, hl, h1, h2, h3 => by
    simp only [InBounds_cons] at h
    simp only [List.getElem?_cons_zero, Option.some.injEq] at hd hl
    subst hd hl
    simp only [List.length_cons, uniform_succ, List.set_cons_zero, SliceOK_cons]
    exact ⟨h.1, h1, h2, h3, sliceOK_point h.2.2⟩
  | i :: is, D0 :: ds, d + 1, D, l, len, step, h, hd, hl, h1, h2, h3 => by
    simp only [InBounds_cons] at h
    simp only [List.getElem?_cons_succ] at hd hl
    simp only [List.length_cons, uniform_succ, List.set_cons_succ, SliceOK_cons]
    exact ⟨h.1, by omega, by omega, by omega, sliceOK_run h.2.2 hd hl h1 h2 h3⟩

theorem product_ones (n : Nat) : product (uniform n 1) = 1 :=
  product_eq_one (pos_ones n) fun _ hx => (List.eq_of_mem_replicate hx).le

theorem ravel_zeros_ones (n : Nat) : ravel (uniform n 0) (uniform n 1) = 0 := by
  simpa using ravel_zeros (uniform n 1)

theorem inBounds_zeros_ones (n : Nat) : InBounds (uniform n 0) (uniform n 1) := by
  simpa using inBounds_zeros (pos_ones n)

theorem product_run : ∀ (n d : Nat) (len : Int), d < n → product ((uniform n 1).set d len) = len
  | 0, _, _, h => by omega
  | n + 1, 0, len, _ => by simp [uniform_succ, product_ones n]
  | n + 1, d + 1, len, h => by
    simp [uniform_succ, product_run n d len (by omega)]

theorem ravel_run : ∀ (n d : Nat) (k len : Int), d < n →
    ravel ((uniform n 0).set d k) ((uniform n 1).set d len) = k
  | 0, _, _, _, h => by omega
  | n + 1, 0, k, len, _ => by simp [uniform_succ, ravel_cons, product_ones n, ravel_zeros_ones n]
  | n + 1, d + 1, k, len, h => by
    simp [uniform_succ, ravel_cons, ravel_run n d k len (by omega)]

theorem inBounds_run : ∀ (n d : Nat) (k len : Int), d < n → 0 ≤ k → k < len →
    InBounds ((uniform n 0).set d k) ((uniform n 1).set d len)
  | 0, _, _, _, h, _, _ => by omega
  | n + 1, 0, k, len, _, h0, h1 => by simp [uniform_succ, h0, h1, inBounds_zeros_ones n]
  | n + 1, d + 1, k, len, h, h0, h1 => by
    simp [uniform_succ, inBounds_run n d k len (by omega) h0 h1]

theorem affine_zeros_ones : ∀ (loc : Idx), affine loc (uniform loc.length 0) (uniform loc.length 1) = loc
  | [] => by simp [affine]
  | l :: ls => by simp [uniform_succ, affine_zeros_ones ls]

theorem affine_run : ∀ (loc : Idx) {n : Nat} (d : Nat) (l k step : Int), loc.length = n → loc[d]? = some l →
    affine loc ((uniform n 0).set d k) ((uniform n 1).set d step) = loc.set d (l + k * step)
  | [], _, _, _, _, _, _, h => by simp at h
  | l0 :: ls, _, 0, l, k, step, rfl, h => by
    simp only [List.getElem?_cons_zero, Option.some.injEq] at h
    subst h
    simp [uniform_succ, affine_zeros_ones ls]
  | l0 :: ls, _, d + 1, l, k, step, rfl, h => by
    simp only [List.getElem?_cons_succ] at h
    simp [uniform_succ, affine_run ls d l k step rfl h]

theorem runIdxs_inBounds {dims loc : Idx} {d : Nat} {step l : Int} {len : Nat} (hd : d < dims.length)
    (okS : SliceOK dims loc ((uniform dims.length 1).set d (len : Int)) ((uniform dims.length 1).set d step))
    (hl : loc[d]? = some l) : ∀ i ∈ runIdxs loc d l step 0 len, InBounds i dims := by
  intro i hi
  rw [runIdxs_eq_map] at hi
  obtain ⟨k, hk, rfl⟩ := List.mem_map.mp hi
  have hk' : k < len := by simpa using (List.mem_range'_1.mp hk).2
  have := okS.inBounds (inBounds_run dims.length d (k : Int) (len : Int) hd (by omega) (by omega))
  rwa [affine_run loc d l (k : Int) step okS.lengths.1 hl] at this

theorem run_addr {a : Arr} (g : Geo a.v) {loc : Idx} {d : Nat} {step l : Int} {len : Nat} (hd : d < a.v.dims.length)
    (okS : SliceOK a.v.dims loc ((uniform a.v.dims.length 1).set d (len : Int)) ((uniform a.v.dims.length 1).set d step))
    (hl : loc[d]? = some l)
    (hc : (dstSlice a loc ((uniform a.v.dims.length 1).set d (len : Int))
      (some ((uniform a.v.dims.length 1).set d step))).v.contiguous = .ok true) {k : Nat} (hk : k < len) :
    addr a.v (runLoc loc d l step k) = addr a.v loc + k := by
  obtain ⟨_, gS, haddr⟩ := sliceOK_dstSlice g (step := some ((uniform a.v.dims.length 1).set d step)) okS
  have e := haddr ((uniform a.v.dims.length 0).set d (k : Int)) (by simp)
  rw [contig_addr gS hc (inBounds_run a.v.dims.length d (k : Int) (len : Int) hd (by omega) (by omega))] at e
  simp only [stepOr, affine_run loc d l (k : Int) step okS.lengths.1 hl] at e
  rw [runLoc, ← e]
  show _ + ravel _ ((uniform a.v.dims.length 1).set d (len : Int)) = _
  rw [ravel_run _ _ _ _ hd]
  rfl

theorem apply_fast_ok {h : Heap α} {a : Arr} (g : Geo a.v) (ok : ArrOK h a) (hgo : a.isC = false) {loc : Idx} {d : Nat}
    {step : Int} {vals : List α} (hd : d < a.v.dims.length)
    (okS : SliceOK a.v.dims loc ((uniform a.v.dims.length 1).set d (vals.length : Int))
      ((uniform a.v.dims.length 1).set d step))
    (hc : (dstSlice a loc ((uniform a.v.dims.length 1).set d (vals.length : Int))
      (some ((uniform a.v.dims.length 1).set d step))).v.contiguous = .ok true) :
    apply h a loc (d : Int) step vals = .ok (writeRun h a.sid (a.base + addr a.v loc).toNat vals) := by
  obtain ⟨hsl, gS, _⟩ := sliceOK_dstSlice g (step := some ((uniform a.v.dims.length 1).set d step)) okS
  obtain ⟨s, hs, w0, w1⟩ := contig_store gS (arrOK_dstSlice ok _ _ _) hc
  rw [show (dstSlice a loc _ _).v.dims = (uniform a.v.dims.length 1).set d (vals.length : Int) from rfl,
    product_run _ _ _ hd] at w1
  exact apply_fast (a := a) hs hgo hd hsl hc ⟨w0, w1⟩

/-- the request `Apply` makes for an in-bounds run with `step ≥ 1` (the hypotheses of the C01 theorems) -/
theorem run_sliceOK {dims loc : Idx} {d : Nat} {D l step : Int} {vals : List α} (hloc : InBounds loc dims)
    (hD : dims[d]? = some D) (hl : loc[d]? = some l) (hne : vals ≠ []) (hstep : 1 ≤ step)
    (hlast : l + ((vals.length : Int) - 1) * step < D) :
    d < dims.length ∧ SliceOK dims loc ((uniform dims.length 1).set d (vals.length : Int))
      ((uniform dims.length 1).set d step) :=
  ⟨(List.getElem?_eq_some_iff.mp hD).1,
    sliceOK_run hloc hD hl (by have := List.length_pos_iff.mpr hne; omega) hstep hlast⟩

theorem bulk_apply {h : Heap α} {a : Arr} (g : Geo a.v) (ok : ArrOK h a) {loc : Idx} {d : Nat} {step l : Int}
    {vals : List α} (hd : d < a.v.dims.length)
    (okS : SliceOK a.v.dims loc ((uniform a.v.dims.length 1).set d (vals.length : Int))
      ((uniform a.v.dims.length 1).set d step))
    (hl : loc[d]? = some l) :
    BulkWrite h (apply h a loc (d : Int) step vals) a (runIdxs loc d l step 0 vals.length) vals := by
  refine ⟨?_, runIdxs_inBounds hd okS hl, ?_, (runIdxs_length ..).symm⟩
  · have hseq := setAll_eq g (runIdxs loc d l step 0 vals.length) vals h ok fun w hw =>
      runIdxs_inBounds hd okS hl _ (List.of_mem_zip hw).1
    obtain ⟨hsl, gS, _⟩ := sliceOK_dstSlice g (step := some ((uniform a.v.dims.length 1).set d step)) okS
    obtain ⟨c, hc⟩ := gS.contiguous_total
    cases hC : a.isC with
    | true => exact apply_slow h hd step vals hl (.inl hC)
    | false =>
    cases c with
    | false => exact apply_slow h hd step vals hl (.inr ⟨_, hsl, hc⟩)
    | true =>
      -- the window written by the block copy is the cells of the run, in order
      have hb := ok.base_nonneg
      have w0 : 0 ≤ addr a.v loc := (contig_window gS hc).1
      rw [apply_fast_ok g ok hC hd okS hc, hseq]
      have := writeRun_eq_seqWrites a (fun m : Nat => runLoc loc d l step (m : Int)) (a.base + addr a.v loc).toNat vals 0 h
        (fun k _ hk => by rw [run_addr g hd okS hl hc (k := k) (by omega)]; omega)
      rw [← runIdxs_eq_map] at this
      exact congrArg Except.ok this
  · have hstep : 1 ≤ step := okS.pos.2.2 step (by
      rw [List.mem_iff_getElem?]; exact ⟨d, List.getElem?_set_self (by simpa using hd)⟩)
    rw [runIdxs_eq_map]
    exact List.Pairwise.map _ (fun a b hab e => hab (Int.ofNat_inj.mp (runLoc_inj (okS.lengths.1 ▸ hd) hstep e)))
      List.nodup_range'

theorem apply_wrote {h : Heap α} {a : Arr} (g : Geo a.v) (ok : ArrOK h a) {loc : Idx} {d : Nat} {step l : Int}
    {vals : List α} (hd : d < a.v.dims.length)
    (okS : SliceOK a.v.dims loc ((uniform a.v.dims.length 1).set d (vals.length : Int))
      ((uniform a.v.dims.length 1).set d step))
    (hl : loc[d]? = some l) :
    ∃ h', apply h a loc (d : Int) step vals = .ok h' ∧
      Wrote h h' a (fun i x => ∃ (k : Nat) (hk : k < vals.length), i = loc.set d (l + k * step) ∧ x = vals[k]) := by
  obtain ⟨h', e, w⟩ := (bulk_apply g ok hd okS hl).wrote g ok
  refine ⟨h', e, w.congr fun i x => ?_⟩
  rw [runIdxs_eq_map]
  exact mem_zip_map_range (fun m : Nat => runLoc loc d l step (m : Int)) vals i x

theorem apply_nil {h : Heap α} {a : Arr} (g : Geo a.v) (ok : ArrOK h a) {loc : Idx} {d : Nat} (step : Int)
    (hloc : InBounds loc a.v.dims) (hd : d < a.v.dims.length) :
    apply h a loc (d : Int) step ([] : List α) = .ok h := by
  have hl := List.getElem?_eq_getElem (l := loc) (hloc.length ▸ hd)
  have hsl := slice_eq_dstSlice g loc ((uniform a.v.dims.length 1).set d (([] : List α).length : Int))
    (some ((uniform a.v.dims.length 1).set d step)) hloc.length (by simp [stepOr])
  -- the slice has a zero extent (it is not `Geo`), but its lists still have the rank of `a`
  obtain ⟨c, hc⟩ : ∃ c, (dstSlice a loc _ _).v.contiguous = .ok c :=
    ⟨_, (g.regular.slice loc (dims := (uniform a.v.dims.length 1).set d (([] : List α).length : Int))
      (step := some ((uniform a.v.dims.length 1).set d step)) (by simp) (by simp [stepOr])).contiguous_loopState⟩
  cases hC : a.isC with
  | true => exact apply_slow h hd step [] hl (.inl hC)
  | false =>
  cases c with
  | false => exact apply_slow h hd step [] hl (.inr ⟨_, hsl, hc⟩)
  | true =>
    obtain ⟨s, hs, hlen⟩ := ok.store
    have hf := ok.fits
    obtain ⟨p0, p1⟩ := addr_bounds g hloc
    exact apply_fast hs hC hd hsl hc ⟨p0, by show addr a.v loc + _ ≤ _; simp; omega⟩

theorem apply1Go_eq (a : Arr) (loc step : Int) : ∀ (xs : List α) (h : Heap α) (i : Int),
    apply1.go a loc step h i xs = setAll h a (runIdxs [loc] 0 loc step i xs.length) xs
  | [], _, _ => rfl
  | x :: xs, h, i => by
    simp only [apply1.go, List.length_cons, runIdxs, setAll, set1, List.set_cons_zero]
    exact bind_congr fun h' => apply1Go_eq a loc step xs h' (i + 1)

theorem apply1_eq_setAll (h : Heap α) (a : Arr) (loc step : Int) (vals : List α) :
    apply1 h a loc step vals = setAll h a (runIdxs [loc] 0 loc step 0 vals.length) vals :=
  apply1Go_eq a loc step vals h 0

theorem apply_c_spec {h : Heap α} {a : Arr} (hC : a.isC = true)
    {loc : Idx} {dim step start : Int} {vals : List α} (h0 : 0 ≤ dim) (h1 : dim < a.v.dims.length)
    (hl : loc[dim.toNat]? = some start) :
    apply h a loc dim step vals = setAll h a (runIdxs loc dim.toNat start step 0 vals.length) vals := by
  have e := apply_slow h (d := dim.toNat) (by omega) step vals hl (.inl hC)
  rwa [Int.toNat_of_nonneg h0] at e

/-- `bulk_apply` with the request as C02 states it (`dim : Int`, `applyDims` / `applySteps`) -/
theorem bulk_apply_req {h : Heap α} {a : Arr} (g : Geo a.v) (ok : ArrOK h a) {loc : Idx} {dim step : Int}
    {vals : List α} (h0 : 0 ≤ dim) (h1 : dim < a.v.dims.length)
    (hok : SliceOK a.v.dims loc (applyDims a dim vals.length) (applySteps a dim step)) :
    ∃ start, loc[dim.toNat]? = some start ∧
      BulkWrite h (apply h a loc dim step vals) a (runIdxs loc dim.toNat start step 0 vals.length) vals := by
  have hd : dim.toNat < a.v.dims.length := by omega
  have hdl : dim.toNat < loc.length := hok.lengths.1 ▸ hd
  have b := bulk_apply (h := h) g ok hd hok (List.getElem?_eq_getElem hdl)
  rw [Int.toNat_of_nonneg h0] at b
  exact ⟨_, List.getElem?_eq_getElem hdl, b⟩

end
end OW.Nd
