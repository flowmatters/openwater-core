import OW.Props.C04Nd
import OW.Proofs.C05Foot
/-!
Helper definitions and lemmas for `OW/Props/C05Addr.lean`: the goroutine of one cell of the VIEW-LEVEL wrapper model
(`OW.Sim.WrapperNd.cellStepNd`, on the n-d array model) as an atomic `Step` of the generic interleaving model
(`OW.Sim.Interleave`) over ADDRESSES `(storage id, position)`, with the footprint lists of `OW/Proofs/C05Foot.lean`.

Nothing here asserts a footprint: `frame` and `loc` of the step are PROVED from `C04Nd.wrapperNd_refines`.
-/
namespace OW.C05Addr
open OW OW.Nd OW.Sim OW.Sim.WrapperNd OW.WrapperNd OW.Sim.Interleave

section
variable {α : Type}

/-- what a successful step of cell `i` from `h` leaves in `h'`, in terms of the list-level result `(s', o')`: the conclusion
of `C04Nd.wrapperNd_refines`, its frame clause read over `writesA` -/
structure StepPost (c : Cfg) (i : Nat) (h h' : Heap α) (s' : List α) (o' : List (List α)) : Prop where
  shape : SameShape h h'
  st : ∀ s, s < c.nS → cell h' c.S.sid (c.sb + i * c.nS + s) = s'[s]?
  out : ∀ o t, o < c.nO → t < c.T' → cell h' c.O.sid (c.ob + (i * c.nO + o) * c.T' + t) = (o'[o]?).bind (·[t]?)
  frame : ∀ a : Addr, a ∉ writesA c i → cell h' a.1 a.2 = cell h a.1 a.2

theorem StepPost.agree {c : Cfg} {i : Nat} {h h' g g' : Heap α} {s' : List α} {o' : List (List α)}
    (p : StepPost c i h h' s' o') (q : StepPost c i g g' s' o') {a : Addr} (ha : a ∈ writesA c i) :
    cell h' a.1 a.2 = cell g' a.1 a.2 := by
  rcases mem_writesA.mp ha with ⟨hu, s, hs, hq⟩ | ⟨hu, o, t, ho, ht, hq⟩
  · rw [hu, hq, p.st s hs, q.st s hs]
  · rw [hu, hq, p.out o t ho ht, q.out o t ho ht]

variable [Num α]

/-- the list-level cell step (`OW.Sim.cellStep`, C04) on the row-major denotations of the four storages of `h` -/
def cellStepL (c : Cfg) (km : KModel α) (h : Heap α) (i : Nat) : Except String (List α × List (List α)) :=
  cellStep km (List.replicate c.nP none) ((List.range c.nP).map fun j => (j, 1))
    (mat (stor h c.P.sid) c.pb c.rows c.nSets) (cube (stor h c.I.sid) c.ib c.nIn c.nI c.T) i
    (rowAt (stor h c.S.sid) (c.sb + i * c.nS) c.nS) (mat (stor h c.O.sid) (c.ob + i * (c.nO * c.T')) c.nO c.T')

/-- `C04Nd.wrapperNd_refines` on any heap of the shape of `h0` -/
theorem step_spec {c : Cfg} {km : KModel α} {h0 : Heap α} (ok : c.OK km h0) {h : Heap α} (hs : SameShape h0 h)
    {i : Nat} (hi : i < c.N) :
    (∀ e, cellStepL c km h i = .error e →
        cellStepNd km.run c.nP c.nI h c.P c.I c.S c.O c.rd (i : Int) = .error e) ∧
    (∀ p, cellStepL c km h i = .ok p →
      ∃ h', cellStepNd km.run c.nP c.nI h c.P c.I c.S c.O c.rd (i : Int) = .ok h' ∧ StepPost c i h h' p.1 p.2) := by
  have rp := ok.rp.sameShape hs
  have ri := ok.ri.sameShape hs
  have rs := ok.rs.sameShape hs
  have ro := ok.ro.sameShape hs
  have := Props.C04Nd.wrapperNd_refines km rp ri rs ro ok.hpb ok.hib ok.hsb ok.hob (getElem?_stor rp.ok)
    (getElem?_stor ri.ok) (getElem?_stor rs.ok) (getElem?_stor ro.ok) ok.hso ok.hnP hi
    (Nat.lt_of_lt_of_le hi ok.hNM) ok.hT (rd := c.rd) (runDims_eq ri.view rs.view ro.view) ok.fits
  refine ⟨this.1, fun p hL => ?_⟩
  obtain ⟨h', hstep, hss, hS, hO, hF⟩ := this.2 p.1 p.2 hL
  exact ⟨h', hstep, hss, hS, hO, fun a ha =>
    hF a.1 a.2 (fun hh => ha (mem_writesA.mpr (Or.inl hh))) (fun hh => ha (mem_writesA.mpr (Or.inr hh)))⟩

theorem step_inv {c : Cfg} {km : KModel α} {h0 : Heap α} (ok : c.OK km h0) {h : Heap α} (hs : SameShape h0 h)
    {i : Nat} (hi : i < c.N) :
    (∀ e, cellStepNd km.run c.nP c.nI h c.P c.I c.S c.O c.rd (i : Int) = .error e → cellStepL c km h i = .error e) ∧
    (∀ h', cellStepNd km.run c.nP c.nI h c.P c.I c.S c.O c.rd (i : Int) = .ok h' →
      ∃ p, cellStepL c km h i = .ok p ∧ StepPost c i h h' p.1 p.2) :=
  forward_inv (step_spec ok hs hi).1 (step_spec ok hs hi).2

/-- the goroutine of cell `i` on an address-indexed memory: run `cellStepNd` on the heap the memory denotes; where the
resulting heap has a cell, that is the new value. A panic leaves the memory as it is (no result; the run as a whole is
then not `.ok` and the theorems say nothing). -/
def runA (c : Cfg) (km : KModel α) (h0 : Heap α) (i : Nat) (m : Mem Addr α) : Mem Addr α :=
  match cellStepNd km.run c.nP c.nI (rebuild h0 m) c.P c.I c.S c.O c.rd (i : Int) with
  | .ok h' => fun a => (cell h' a.1 a.2).getD (m a)
  | .error _ => m

theorem cellStepL_congr_heap {c : Cfg} {km : KModel α} {i : Nat} (h g : Heap α)
    (hag : ∀ a, a ∈ roA c ++ writesA c i → cell h a.1 a.2 = cell g a.1 a.2) :
    cellStepL c km h i = cellStepL c km g i := by
  have key : ∀ u q, (u, q) ∈ roA c ++ writesA c i → (stor h u)[q]? = (stor g u)[q]? := by
    intro u q hmem
    rw [stor_getElem?, stor_getElem?]
    exact hag (u, q) hmem
  unfold cellStepL
  rw [mat_congr (stor h c.P.sid) (stor g c.P.sid) c.pb c.rows c.nSets
      (fun q q0 q1 => key _ _ (List.mem_append_left _ (mem_roA.mpr (Or.inl ⟨rfl, q0, q1⟩)))),
    cube_congr (stor h c.I.sid) (stor g c.I.sid) c.ib c.nIn c.nI c.T
      (fun q q0 q1 => key _ _ (List.mem_append_left _ (mem_roA.mpr (Or.inr ⟨rfl, q0, q1⟩)))),
    rowAt_congr (stor h c.S.sid) (stor g c.S.sid) (c.sb + i * c.nS) c.nS
      (fun k hk => key _ _ (List.mem_append_right _ (mem_writesA.mpr (Or.inl ⟨rfl, k, hk, rfl⟩)))),
    mat_congr (stor h c.O.sid) (stor g c.O.sid) (c.ob + i * (c.nO * c.T')) c.nO c.T'
      (fun q q0 q1 => key _ _ (List.mem_append_right _ (mem_writesA_of_out_window q0 q1)))]

/-- from `step_spec`: what the step does is `cellStepL` of the row-major denotations, which look only at the cells of
`roA c ++ writesA c i` (`cellStepL_congr_heap`) -/
theorem cellFoot {c : Cfg} {km : KModel α} {h0 : Heap α} (ok : c.OK km h0) {i : Nat} (hi : i < c.N) :
    HeapFoot h0 (fun h => cellStepNd km.run c.nP c.nI h c.P c.I c.S c.O c.rd (i : Int)) (roA c) (writesA c i) where
  frame := fun hs hstep =>
    let ⟨_, _, post⟩ := (step_inv ok hs hi).2 _ hstep
    ⟨post.shape, post.frame⟩
  loc := fun {h g} hs hg hag => by
    have hLL : cellStepL c km h i = cellStepL c km g i := cellStepL_congr_heap h g hag
    refine ⟨fun e hstep => (step_spec ok hg hi).1 e (hLL ▸ (step_inv ok hs hi).1 e hstep), fun h' hstep => ?_⟩
    obtain ⟨p, hL, post⟩ := (step_inv ok hs hi).2 h' hstep
    obtain ⟨g', hstep', post'⟩ := (step_spec ok hg hi).2 p (hLL ▸ hL)
    exact ⟨g', hstep', fun a ha => post'.agree post ha⟩

omit [Num α] in
/-- `runA` is `liftHeap` (OW/Proofs/HeapStep.lean) of the cell's heap transformer, written out; what is used of `runA` below
are the lemmas on `liftHeap` at the footprint `cellFoot` -/
theorem runA_eq_liftHeap (c : Cfg) (km : KModel α) (h0 : Heap α) (i : Nat) :
    runA c km h0 i = liftHeap h0 fun h => cellStepNd km.run c.nP c.nI h c.P c.I c.S c.O c.rd (i : Int) := rfl

theorem runA_frame {c : Cfg} {km : KModel α} {h0 : Heap α} (ok : c.OK km h0) {i : Nat} (hi : i < c.N)
    (m : Mem Addr α) (a : Addr) (ha : a ∉ writesA c i) : runA c km h0 i m a = m a :=
  runA_eq_liftHeap c km h0 i ▸ liftHeap_frame (cellFoot ok hi) m a ha

theorem runA_loc {c : Cfg} {km : KModel α} {h0 : Heap α} (ok : c.OK km h0) {i : Nat} (hi : i < c.N)
    (m m' : Mem Addr α) (hag : ∀ a, a ∈ roA c ++ writesA c i → m a = m' a) (a : Addr) (ha : a ∈ writesA c i) :
    runA c km h0 i m a = runA c km h0 i m' a :=
  runA_eq_liftHeap c km h0 i ▸ liftHeap_loc (cellFoot ok hi) m m' hag a ha

/-- **the goroutine of cell `i` as an atomic step over addresses.** Its declared footprint: it writes `writesA c i` (state
row `i`, output rows `(i,·,·)`), it reads that and `roA c` (parameters, inputs). The two conditions that make the
declaration honest (`Step.frame`, `Step.loc`) are `runA_frame` and `runA_loc`; they are fields of the `Step`, which is why
the proof `ok` is an argument of this definition (and of `cellTasksA`). `readsA c i` is `roA c`, whatever `i`. For `i ≥ N`
(no such cell) the step is the identity. -/
def stepA (c : Cfg) (km : KModel α) (h0 : Heap α) (ok : c.OK km h0) (i : Nat) : Step Addr α where
  run := fun m => if i < c.N then runA c km h0 i m else m
  reads := readsA c i
  writes := writesA c i
  frame := by
    intro m a ha
    by_cases hi : i < c.N
    · simp only [hi, if_true]; exact runA_frame ok hi m a ha
    · simp only [hi, if_false]
  loc := by
    intro m m' hag a ha
    by_cases hi : i < c.N
    · simp only [hi, if_true]; exact runA_loc ok hi m m' hag a ha
    · simp only [hi, if_false]; exact hag a (List.mem_append_right _ ha)

theorem seq_runA {c : Cfg} {km : KModel α} {h0 : Heap α} (ok : c.OK km h0) :
    ∀ (n i0 : Nat) (m : Mem Addr α) (h' : Heap α), i0 + n = c.N →
      runCellsNd km.run c.nP c.nI c.P c.I c.S c.O c.rd n (i0 : Int) (rebuild h0 m) = .ok h' →
      rebuild h0 (runList ((List.range' i0 n).map (stepA c km h0 ok)) m) = h'
  | 0, i0, m, h', _, hr => by
    simp only [runCellsNd, Except.ok.injEq] at hr
    simpa using hr
  | n + 1, i0, m, h', hn, hr => by
    have hi : i0 < c.N := by omega
    obtain ⟨h1, hstep, hr⟩ := Except.bind_eq_ok.mp hr
    rw [List.range'_succ, List.map_cons, runList_cons,
      show (stepA c km h0 ok i0).run m = runA c km h0 i0 m from if_pos hi]
    apply seq_runA ok n (i0 + 1) _ h' (by omega)
    rw [runA_eq_liftHeap, rebuild_liftHeap (cellFoot ok hi) m hstep]
    push_cast
    exact hr

def cellTasksA (c : Cfg) (km : KModel α) (h0 : Heap α) (ok : c.OK km h0) : List (Task Addr α) :=
  (List.range c.N).map fun i => [stepA c km h0 ok i]

theorem seq_eq_runNd {c : Cfg} {km : KModel α} {h0 : Heap α} (ok : c.OK km h0) (m : Mem Addr α) (hm : rebuild h0 m = h0)
    {h' : Heap α} (hrun : runNd km.run c.nP c.nI h0 c.P c.I c.S c.O = .ok h') :
    rebuild h0 (runList ((List.range c.N).map (stepA c km h0 ok)) m) = h' := by
  have hrd : runDims c.I c.S c.O = .ok c.rd := runDims_eq ok.ri.view ok.rs.view ok.ro.view
  unfold runNd at hrun
  simp only [hrd, bind, Except.bind] at hrun
  have hN : c.rd.numCells.toNat = c.N := by simp [Cfg.rd]
  rw [hN] at hrun
  rw [List.range_eq_range']
  apply seq_runA ok c.N 0 m h' (by omega)
  rw [hm]
  simpa using hrun

end
end OW.C05Addr
