import OW.Kernels.StorageRouting
import OW.Proofs.FindRoot
import OW.Proofs.ExceptList
/-! The `StorageRouting` model over ℝ: the equations of `runRouting`, `solve`, `calcOutflow` (nothing is NaN), the seven returns of
`calcOutflow` and what each reports (`Ret`, `calcOutflow_ret`; the tag names the return: `calcOutflow_by_tag`), the water balance
of a context (`CtxOK`), the reported outflow against the index flow (`sq_index_flow`) and index flows that close the same balance
against each other (`two_index_flows`), the index storage, and the prologue `setup` (`SetupOK`). -/
namespace OW.Proofs.StorageRouting
open OW OW.Kernels.StorageRouting

attribute [-simp] OW.RealNum.ofNat_eq  -- as a simp lemma it loops with `Nat.cast_ofNat` on numerals ≥ 2 (see OW/Proofs/RealNum.lean, "literals")

theorem mbl_eq : (massBalanceLimit : ℝ) = 1 / 1000 := by unfold massBalanceLimit; norm_num
theorem mbl_pos : (0 : ℝ) < massBalanceLimit := by rw [mbl_eq]; norm_num
theorem conv_eq : (convergenceLimit : ℝ) = 0 := by unfold convergenceLimit; norm_num

/-- over ℝ nothing is NaN: `runRouting` never panics (by definition: `Num.isNaN` is `false` at `ℝ`) -/
theorem runRouting_real (c : Ctx ℝ) (q : ℝ) : runRouting c q = .ok (rr c q) := rfl

theorem massBalanceFn_real (c : Ctx ℝ) (q : ℝ) : massBalanceFn c q = (rr c q).massBalance := rfl

theorem nef_eq (c : Ctx ℝ) : netEvaporationFlux c = min c.initialFluxMax (c.area * c.netEvapRate) := rfl

theorem newStorage_eq (c : Ctx ℝ) :
    newStorage c = max (c.storage + (c.inflow + c.lateral - netEvaporationFlux c) * c.duration) 0 := by
  unfold newStorage
  rw [RealNum.gmax_eq, RealNum.sci_zero]

theorem newStorage_nonneg (c : Ctx ℝ) : 0 ≤ newStorage c := by
  rw [newStorage_eq]; exact le_max_right _ _

theorem rr_sIndex (c : Ctx ℝ) (q : ℝ) : (rr c q).sIndex = sIndex c q := rfl

theorem rr_outflow (c : Ctx ℝ) (q : ℝ) : (rr c q).outflow = max 0 (newStorage c - sIndex c q) / c.duration := by
  unfold rr
  simp only [RealNum.gmax_eq]
  rw [RealNum.lit0]

theorem rr_massBalance (c : Ctx ℝ) (q : ℝ) (hb : c.bias < 0.999) :
    (rr c q).massBalance =
      (q - c.bias * (c.inflow + c.lateral)) * c.duration / (1 - c.bias) + sIndex c q - newStorage c := by
  unfold rr
  simp only [if_pos hb, RealNum.sci_one]

theorem rr_outflow_nonneg (c : Ctx ℝ) (q : ℝ) (hd : 0 < c.duration) : 0 ≤ (rr c q).outflow := by
  rw [rr_outflow]; exact div_nonneg (le_max_left _ _) (le_of_lt hd)

theorem abs_sub_release_le {A S N : ℝ} (hA : 0 ≤ A) : |A - max 0 (N - S)| ≤ |A + S - N| := by
  rcases le_total S N with h | h
  · rw [max_eq_right (sub_nonneg.mpr h), show A - (N - S) = A + S - N by ring]
  · rw [max_eq_left (sub_nonpos.mpr h), sub_zero, abs_of_nonneg hA, abs_of_nonneg (by linarith)]
    linarith

theorem sindex_exit_balance (c : Ctx ℝ) (q : ℝ) (hd : 0 < c.duration) :
    sIndex c q + (rr c q).outflow * c.duration = max (newStorage c) (sIndex c q) := by
  rw [rr_outflow, div_mul_cancel₀ _ (ne_of_gt hd)]
  rcases le_total (newStorage c) (sIndex c q) with h | h
  · rw [max_eq_left (by linarith), max_eq_right h]; ring
  · rw [max_eq_right (by linarith), max_eq_left h]; ring


noncomputable def drainOutflow (c : Ctx ℝ) : ℝ := max 0 (c.initialFluxMax - netEvaporationFlux c + c.lateral)
noncomputable def drainStorage (c : Ctx ℝ) : ℝ :=
  max (c.storage + (c.inflow + c.lateral - netEvaporationFlux c - drainOutflow c) * c.duration) 0

theorem maxQI_eq (c : Ctx ℝ) (m : ℝ) : maxQI c m = m + (1 - c.bias) * drainOutflow c := by
  unfold maxQI drainOutflow
  simp only [RealNum.gmax_eq, RealNum.sci_zero, RealNum.sci_one]

theorem solve_real (c : Ctx ℝ) (prevQi minQI mx : ℝ) {qi : ℝ}
    (hqi : (if prevQi ≤ minQI ∨ mx ≤ prevQi then (minQI + mx) / 2 else prevQi) = qi) :
    solve c prevQi minQI mx =
      if (rr c mx).massBalance < massBalanceLimit then .ok ⟨mx, drainOutflow c, drainStorage c, "full-drain-at-maxqi"⟩
      else if |(rr c qi).massBalance| < massBalanceLimit then
        .ok ⟨qi, (rr c qi).outflow, (rr c qi).sIndex, if prevQi ≤ minQI ∨ mx ≤ prevQi then "mid-qi" else "prev-qi"⟩
      else (OW.Fn.findRoot (massBalanceFn c) (some (slopeOfMassBalance c)) minQI minQI mx massBalanceLimit
          convergenceLimit maxIterations).map fun fr => ⟨fr.x, (rr c fr.x).outflow, (rr c fr.x).sIndex, "root"⟩ := by
  subst hqi
  have half : ∀ a : ℝ, a * 0.5 = a / 2 := by intro a; norm_num; ring
  have hdec : (decide (prevQi ≤ minQI) || decide (mx ≤ prevQi)) = decide (prevQi ≤ minQI ∨ mx ≤ prevQi) :=
    (Bool.decide_or _ _).symm
  unfold solve
  simp only [runRouting_real, RealNum.abs_eq, RealNum.isNaN_eq, Bool.false_eq_true, if_false, hdec, half, decide_eq_true_eq]
  by_cases h1 : (rr c mx).massBalance < massBalanceLimit
  · simp only [if_pos h1, RealNum.gmax_eq, RealNum.sci_zero]; rfl
  · rw [if_neg h1, if_neg h1]
    split_ifs
    any_goals rfl
    all_goals
      -- left: the root branch; the callback never panics
      generalize OW.Fn.findRoot (massBalanceFn c) _ minQI minQI mx _ _ _ = e
      cases e with
      | error e => rfl
      | ok fr =>
        simp only [List.any_eq_true, Bool.false_eq_true, and_false, exists_false, if_false]
        rfl

theorem solve_cases (c : Ctx ℝ) (prevQi minQI mx : ℝ) (r : CO ℝ) (h : solve c prevQi minQI mx = .ok r) :
    (r = ⟨mx, drainOutflow c, drainStorage c, "full-drain-at-maxqi"⟩ ∧ (rr c mx).massBalance < massBalanceLimit) ∨
    (massBalanceLimit ≤ (rr c mx).massBalance ∧
      ((minQI < prevQi ∧ prevQi < mx ∧ |(rr c prevQi).massBalance| < massBalanceLimit ∧
          r = ⟨prevQi, (rr c prevQi).outflow, (rr c prevQi).sIndex, "prev-qi"⟩) ∨
       ((prevQi ≤ minQI ∨ mx ≤ prevQi) ∧ |(rr c ((minQI + mx) / 2)).massBalance| < massBalanceLimit ∧
          r = ⟨(minQI + mx) / 2, (rr c ((minQI + mx) / 2)).outflow, (rr c ((minQI + mx) / 2)).sIndex, "mid-qi"⟩) ∨
       (∃ fr, OW.Fn.findRoot (massBalanceFn c) (some (slopeOfMassBalance c)) minQI minQI mx massBalanceLimit
            convergenceLimit maxIterations = .ok fr ∧
          r = ⟨fr.x, (rr c fr.x).outflow, (rr c fr.x).sIndex, "root"⟩))) := by
  obtain ⟨qi, hqi⟩ : ∃ qi, (if prevQi ≤ minQI ∨ mx ≤ prevQi then (minQI + mx) / 2 else prevQi) = qi := ⟨_, rfl⟩
  rw [solve_real c prevQi minQI mx hqi] at h
  split_ifs at h with h1 h2 hreset
  · cases h; exact Or.inl ⟨rfl, h1⟩
  · cases h; rw [if_pos hreset] at hqi; subst hqi
    exact Or.inr ⟨not_lt.mp h1, Or.inr (Or.inl ⟨hreset, h2, rfl⟩)⟩
  · cases h; rw [if_neg hreset] at hqi; subst hqi
    exact Or.inr ⟨not_lt.mp h1, Or.inl ⟨not_le.mp fun a => hreset (Or.inl a), not_le.mp fun a => hreset (Or.inr a), h2, rfl⟩⟩
  · obtain ⟨fr, hfr, rfl⟩ := Except.map_eq_ok.mp h
    exact Or.inr ⟨not_lt.mp h1, Or.inr (Or.inr ⟨fr, hfr, rfl⟩)⟩

/-- the part of `calcOutflow` that can see the seed: every exit of `solve` other than the full drain reports the routing
result of ONE index flow, and on the `prev-qi` / `mid-qi` exits that index flow closes the balance within the tolerance -/
theorem solve_shape (c : Ctx ℝ) (prevQi minQI mx : ℝ) (r : CO ℝ) (h : solve c prevQi minQI mx = .ok r)
    (hroot : r.tag = "root" → |(rr c r.qi).massBalance| < massBalanceLimit) :
    (r.outflow = drainOutflow c ∧ r.storage = drainStorage c ∧ (rr c mx).massBalance < massBalanceLimit) ∨
    (massBalanceLimit ≤ (rr c mx).massBalance ∧ ∃ q, |(rr c q).massBalance| < massBalanceLimit ∧
      r.outflow = (rr c q).outflow ∧ r.storage = (rr c q).sIndex) := by
  rcases solve_cases c prevQi minQI mx r h with ⟨rfl, hlt⟩ | ⟨hge, hrest⟩
  · exact Or.inl ⟨rfl, rfl, hlt⟩
  · refine Or.inr ⟨hge, ?_⟩
    rcases hrest with ⟨_, _, hmb, rfl⟩ | ⟨_, hmb, rfl⟩ | ⟨fr, _, rfl⟩
    · exact ⟨_, hmb, rfl, rfl⟩
    · exact ⟨_, hmb, rfl, rfl⟩
    · exact ⟨_, hroot rfl, rfl, rfl⟩

theorem calcOutflow_real {inflow lateral bias prevQi po prevStorage ner area dead dur rp rc ql kl ko : ℝ} {c : Ctx ℝ}
    (hc : mkCtx inflow lateral bias prevStorage ner area dead dur rp rc ql kl ko = c) :
    calcOutflow inflow lateral bias prevQi po prevStorage ner area dead dur rp rc ql kl ko =
      if massBalanceLimit ≤ (rr c (bias * (inflow + lateral))).massBalance then
        .ok ⟨bias * (inflow + lateral), 0, newStorage c, "zero-at-minqi"⟩
      else if -massBalanceLimit ≤ (rr c (bias * (inflow + lateral))).massBalance then
        .ok ⟨bias * (inflow + lateral), (rr c (bias * (inflow + lateral))).outflow, (rr c (bias * (inflow + lateral))).sIndex,
          "balanced-at-minqi"⟩
      else if maxQI c (bias * (inflow + lateral)) ≤ bias * (inflow + lateral) then
        .ok ⟨bias * (inflow + lateral), 0, newStorage c, "zero-maxqi-le-minqi"⟩
      else solve c prevQi (bias * (inflow + lateral)) (maxQI c (bias * (inflow + lateral))) := by
  unfold calcOutflow
  simp only [hc, runRouting_real, RealNum.isNaN_eq, Bool.or_self, Bool.false_eq_true, if_false, RealNum.sci_zero]

/-- the four `return`s of `calcOutflow` that report the values of `runRouting` at the returned index flow -/
inductive SRet | balanced | prevQi | midQi | root

/-- the seven `return`s of `calcOutflow`; the model names them by a tag -/
inductive Ret | zeroAtMin | zeroMaxLe | fullDrain | sindex (k : SRet)

def Ret.tag : Ret → String
  | .zeroAtMin => "zero-at-minqi"
  | .zeroMaxLe => "zero-maxqi-le-minqi"
  | .fullDrain => "full-drain-at-maxqi"
  | .sindex .balanced => "balanced-at-minqi"
  | .sindex .prevQi => "prev-qi"
  | .sindex .midQi => "mid-qi"
  | .sindex .root => "root"

def Ret.ofTag (s : String) : Ret :=
  if s = "zero-at-minqi" then .zeroAtMin else if s = "zero-maxqi-le-minqi" then .zeroMaxLe
  else if s = "full-drain-at-maxqi" then .fullDrain else if s = "balanced-at-minqi" then .sindex .balanced
  else if s = "prev-qi" then .sindex .prevQi else if s = "mid-qi" then .sindex .midQi else .sindex .root

theorem Ret.ofTag_tag (e : Ret) : Ret.ofTag e.tag = e := by
  rcases e with _ | _ | _ | _ | _ | _ | _ <;> rfl

theorem Ret.tag_inj {e e' : Ret} (h : e.tag = e'.tag) : e = e' := by
  rw [← Ret.ofTag_tag e, h, Ret.ofTag_tag]

/-- what is known of the mass-balance residual at the returned index flow, on the exits that report `runRouting` there -/
@[reducible] def SRet.Resid (c : Ctx ℝ) (minQI mx : ℝ) (r : CO ℝ) : SRet → Prop
  | .balanced => r.qi = minQI ∧ -massBalanceLimit ≤ (rr c r.qi).massBalance ∧ (rr c r.qi).massBalance < massBalanceLimit
  | .prevQi | .midQi => |(rr c r.qi).massBalance| < massBalanceLimit
  | .root => ∃ fr, OW.Fn.findRoot (massBalanceFn c) (some (slopeOfMassBalance c)) minQI minQI mx massBalanceLimit
        convergenceLimit maxIterations = .ok fr ∧
      r.qi = fr.x ∧ fr.delta = (rr c fr.x).massBalance ∧ fr.exit ≠ .conv ∧
      (fr.exit = .tol → |(rr c fr.x).massBalance| < massBalanceLimit)

/-- the outflow `calcOutflow` reports on each exit, given the index flow `qi` it returns (used on the last four exits only): nothing
leaves; everything present leaves; the outflow of `runRouting` at `qi` -/
noncomputable def Ret.outflow (c : Ctx ℝ) (qi : ℝ) : Ret → ℝ
  | .zeroAtMin | .zeroMaxLe => 0
  | .fullDrain => drainOutflow c
  | .sindex _ => (rr c qi).outflow

/-- the storage reported with it: the water balance; what is left after the full drain; the index storage of `qi` -/
noncomputable def Ret.storage (c : Ctx ℝ) (qi : ℝ) : Ret → ℝ
  | .zeroAtMin | .zeroMaxLe => newStorage c
  | .fullDrain => drainStorage c
  | .sindex _ => sIndex c qi

/-- what `calcOutflow` returns on exit `e`. `qi`: the index flow returned and what is known of the residual there from the test that
selected the exit (`.zeroMaxLe` is selected by `maxQI ≤ minQI`, of which nothing is kept) -/
structure Ret.Spec (c : Ctx ℝ) (minQI : ℝ) (r : CO ℝ) (e : Ret) : Prop where
  outflow : r.outflow = e.outflow c r.qi
  storage : r.storage = e.storage c r.qi
  qi : match e with
    | .zeroAtMin => r.qi = minQI ∧ massBalanceLimit ≤ (rr c minQI).massBalance
    | .zeroMaxLe => r.qi = minQI
    | .fullDrain => r.qi = maxQI c minQI ∧ minQI < maxQI c minQI ∧ (rr c (maxQI c minQI)).massBalance < massBalanceLimit
    | .sindex k => minQI ≤ r.qi ∧ k.Resid c minQI (maxQI c minQI) r

section
variable {inflow lateral bias prevQi po prevStorage ner area dead dur rp rc ql kl ko : ℝ} {r : CO ℝ}

theorem calcOutflow_ret (h : calcOutflow inflow lateral bias prevQi po prevStorage ner area dead dur rp rc ql kl ko = .ok r) :
    ∃ e : Ret, r.tag = e.tag ∧
      e.Spec (mkCtx inflow lateral bias prevStorage ner area dead dur rp rc ql kl ko) (bias * (inflow + lateral)) r := by
  generalize hc : mkCtx inflow lateral bias prevStorage ner area dead dur rp rc ql kl ko = c
  rw [calcOutflow_real hc] at h
  split_ifs at h with h1 h2 h3
  · cases h; exact ⟨.zeroAtMin, rfl, rfl, rfl, rfl, h1⟩
  · cases h; exact ⟨.sindex .balanced, rfl, rfl, rfl, le_refl _, rfl, h2, not_le.mp h1⟩
  · cases h; exact ⟨.zeroMaxLe, rfl, rfl, rfl, rfl⟩
  · have hlt := not_le.mp h3
    rcases solve_cases c prevQi _ _ r h with ⟨rfl, hmx⟩ | ⟨hpos, ⟨hq, _, habs, rfl⟩ | ⟨_, habs, rfl⟩ | ⟨fr, hfr, rfl⟩⟩
    · exact ⟨.fullDrain, rfl, rfl, rfl, rfl, hlt, hmx⟩
    · exact ⟨.sindex .prevQi, rfl, rfl, rfl, le_of_lt hq, habs⟩
    · exact ⟨.sindex .midQi, rfl, rfl, rfl, by show _ ≤ (_ + _) / 2; linarith, habs⟩
    · -- FindRoot's contract at the residual function, on the bracket under which it is called
      have p := OW.Proofs.FindRoot.findRoot_spec (f := massBalanceFn c) (le_of_lt hlt)
        (le_trans (le_of_lt (not_le.mp h2)) (neg_nonpos.mpr (le_of_lt mbl_pos))) (le_trans (le_of_lt mbl_pos) hpos) hfr
      have hval : fr.delta = (rr c fr.x).massBalance := p.val rfl
      exact ⟨.sindex .root, rfl, rfl, rfl, (p.mem (Or.inr ⟨le_refl _, le_of_lt hlt⟩)).1, fr, hfr, rfl, hval,
        p.noconv (le_of_eq conv_eq), fun he => hval ▸ p.tol he⟩

theorem calcOutflow_by_tag (h : calcOutflow inflow lateral bias prevQi po prevStorage ner area dead dur rp rc ql kl ko = .ok r)
    (e : Ret) (ht : r.tag = e.tag) :
    e.Spec (mkCtx inflow lateral bias prevStorage ner area dead dur rp rc ql kl ko) (bias * (inflow + lateral)) r := by
  obtain ⟨e', he', hs⟩ := calcOutflow_ret h
  rwa [Ret.tag_inj (he'.symm.trans ht)] at hs

end

/-- the water present at the end of the step before any outflow -/
noncomputable def avail (c : Ctx ℝ) : ℝ := c.storage + (c.inflow + c.lateral - netEvaporationFlux c) * c.duration

/-- balance error of a reported (outflow, storage) pair: `storage' − (prevStorage + (inflow + lateral − netEvap − outflow)·Δt)` -/
noncomputable def balanceErr (c : Ctx ℝ) (r : CO ℝ) : ℝ := r.storage - (avail c - r.outflow * c.duration)

theorem balanceErr_eq (c : Ctx ℝ) (r : CO ℝ) :
    balanceErr c r = r.storage - (c.storage + (c.inflow + c.lateral - netEvaporationFlux c - r.outflow) * c.duration) := by
  unfold balanceErr avail; ring

theorem one_sub_pos_of_lt {b : ℝ} (hb : b < 0.999) : 0 < 1 - b := by
  have : (0.999 : ℝ) < 1 := by norm_num
  linarith

/-- what the balance theorems need of a context: `Δt > 0`, `lateral ≥ 0`, and `initialFluxMax` is the flow that empties the
previous storage within the step plus the inflow — which is how `calcOutflow` builds it (`mkCtx`) from a previous storage `≥ 0` -/
structure CtxOK (c : Ctx ℝ) : Prop where
  dur : 0 < c.duration
  lat : 0 ≤ c.lateral
  ifm : c.initialFluxMax = c.storage / c.duration + c.inflow

theorem mkCtx_ok {inflow lateral bias prevStorage ner area dead dur rp rc ql kl ko : ℝ}
    (hd : 0 < dur) (hp : 0 ≤ prevStorage) (hl : 0 ≤ lateral) :
    CtxOK (mkCtx inflow lateral bias prevStorage ner area dead dur rp rc ql kl ko) := by
  refine ⟨hd, hl, ?_⟩
  unfold mkCtx
  simp only [RealNum.gmax_eq, RealNum.sci_zero, max_eq_right hp]

section ctx
variable {c : Ctx ℝ} (h : CtxOK c)
include h

theorem flux_eq_avail : (c.initialFluxMax - netEvaporationFlux c + c.lateral) * c.duration = avail c := by
  unfold avail
  rw [h.ifm]
  linear_combination div_mul_cancel₀ c.storage h.dur.ne'

/-- the evaporation taken never exceeds what is present, so the water present is non-negative (it is at least the
lateral inflow volume) and `newStorage` is not clipped -/
theorem avail_nonneg :
    0 ≤ avail c ∧ newStorage c = avail c ∧ 0 ≤ c.initialFluxMax - netEvaporationFlux c + c.lateral := by
  have hnef : netEvaporationFlux c ≤ c.initialFluxMax := by rw [nef_eq]; exact min_le_left _ _
  have h0 : 0 ≤ c.initialFluxMax - netEvaporationFlux c + c.lateral := add_nonneg (sub_nonneg.mpr hnef) h.lat
  have ha : 0 ≤ avail c := by
    rw [← flux_eq_avail h]; exact mul_nonneg h0 (le_of_lt h.dur)
  refine ⟨ha, ?_, h0⟩
  rw [newStorage_eq]
  exact max_eq_left ha

theorem drain_facts : drainOutflow c * c.duration = avail c ∧ 0 ≤ drainOutflow c ∧ drainStorage c = 0 := by
  have h0 := (avail_nonneg h).2.2
  have hdo : drainOutflow c = c.initialFluxMax - netEvaporationFlux c + c.lateral := max_eq_right h0
  have hvol : drainOutflow c * c.duration = avail c := by rw [hdo]; exact flux_eq_avail h
  refine ⟨hvol, by rw [hdo]; exact h0, ?_⟩
  unfold drainStorage
  rw [show c.storage + (c.inflow + c.lateral - netEvaporationFlux c - drainOutflow c) * c.duration =
    avail c - drainOutflow c * c.duration by unfold avail; ring, hvol, sub_self]
  exact max_self 0

theorem zero_exit_err {r : CO ℝ} (ho : r.outflow = 0) (hs : r.storage = newStorage c) : balanceErr c r = 0 := by
  unfold balanceErr
  rw [ho, hs, (avail_nonneg h).2.1, zero_mul, sub_zero, sub_self]

theorem drain_exit_err {r : CO ℝ} (ho : r.outflow = drainOutflow c) (hs : r.storage = drainStorage c) : balanceErr c r = 0 := by
  unfold balanceErr
  rw [ho, hs, (drain_facts h).2.2, (drain_facts h).1, sub_self, sub_self]

theorem sindex_exit_err (q : ℝ) (r : CO ℝ) (hb : c.bias < 0.999) (hq : c.bias * (c.inflow + c.lateral) ≤ q)
    (ho : r.outflow = (rr c q).outflow) (hs : r.storage = sIndex c q) :
    balanceErr c r = max 0 (sIndex c q - avail c) ∧ balanceErr c r ≤ max 0 (rr c q).massBalance := by
  have hns := (avail_nonneg h).2.1
  have herr : balanceErr c r = max 0 (sIndex c q - avail c) := by
    unfold balanceErr
    rw [ho, hs, sub_sub_eq_add_sub, sindex_exit_balance c q h.dur, hns, ← max_sub_sub_right, sub_self]
  refine ⟨herr, ?_⟩
  rw [herr, rr_massBalance c q hb, hns, add_sub_assoc]
  exact max_le_max (le_refl _) (le_add_of_nonneg_left
    (div_nonneg (mul_nonneg (sub_nonneg.mpr hq) (le_of_lt h.dur)) (le_of_lt (one_sub_pos_of_lt hb))))

end ctx

/-- the index flow is `q = bias·(inflow+lateral) + (1−bias)·outflow`; solved for the outflow and compared with the outflow that
`runRouting` reports at `q ≥ minQI`, the difference as a volume is at most the mass-balance residual at `q` -/
theorem sq_index_flow (c : Ctx ℝ) (q : ℝ) (hd : 0 < c.duration) (hb : c.bias < 0.999)
    (hq : c.bias * (c.inflow + c.lateral) ≤ q) :
    |(q - c.bias * (c.inflow + c.lateral)) / (1 - c.bias) - (rr c q).outflow| * c.duration ≤ |(rr c q).massBalance| := by
  have hA : 0 ≤ (q - c.bias * (c.inflow + c.lateral)) * c.duration / (1 - c.bias) :=
    div_nonneg (mul_nonneg (sub_nonneg.mpr hq) (le_of_lt hd)) (le_of_lt (one_sub_pos_of_lt hb))
  have e : |(q - c.bias * (c.inflow + c.lateral)) / (1 - c.bias) - (rr c q).outflow| * c.duration =
      |(q - c.bias * (c.inflow + c.lateral)) * c.duration / (1 - c.bias) - max 0 (newStorage c - sIndex c q)| := by
    rw [show (q - c.bias * (c.inflow + c.lateral)) * c.duration / (1 - c.bias) - max 0 (newStorage c - sIndex c q) =
        ((q - c.bias * (c.inflow + c.lateral)) / (1 - c.bias) - (rr c q).outflow) * c.duration by
      rw [rr_outflow, sub_mul (_ / (1 - c.bias)), div_mul_cancel₀ _ (ne_of_gt hd), div_mul_eq_mul_div], abs_mul, abs_of_pos hd]
  rw [e, rr_massBalance c q hb]
  exact abs_sub_release_le hA

/-- two index flows that both close the mass balance of the SAME `calcOutflow` call within the tolerance give index storages
within 2·tolerance and outflows within 2·tolerance/Δt of each other (the residual is index-flow term + index storage − water
present; the first is increasing in the index flow for bias < 1 and Δt > 0, the second is assumed non-decreasing).
`bias < 0.999` is the guard in `rr` (`runRouting`): at or above it the reported mass balance is the constant 0.0 and bounds nothing. -/
theorem two_index_flows (c : Ctx ℝ) (q q' : ℝ) (hb : c.bias < 0.999) (hd : 0 < c.duration)
    (hmono : ∀ a b : ℝ, a ≤ b → sIndex c a ≤ sIndex c b)
    (h : |(rr c q).massBalance| < massBalanceLimit) (h' : |(rr c q').massBalance| < massBalanceLimit) :
    |(rr c q).sIndex - (rr c q').sIndex| < 2 * massBalanceLimit ∧
    |(rr c q).outflow - (rr c q').outflow| < 2 * massBalanceLimit / c.duration := by
  rw [rr_massBalance c q hb, abs_lt] at h
  rw [rr_massBalance c q' hb, abs_lt] at h'
  simp only [rr_sIndex, rr_outflow]
  have hb1 : (0:ℝ) < 1 - c.bias := one_sub_pos_of_lt hb
  -- the index-flow term of the residual is non-decreasing in the index flow
  have hA : ∀ a b : ℝ, a ≤ b → (a - c.bias * (c.inflow + c.lateral)) * c.duration / (1 - c.bias) ≤
      (b - c.bias * (c.inflow + c.lateral)) * c.duration / (1 - c.bias) := fun a b hab =>
    div_le_div_of_nonneg_right (mul_le_mul_of_nonneg_right (sub_le_sub_right hab _) hd.le) hb1.le
  have hs : |sIndex c q - sIndex c q'| < 2 * massBalanceLimit := by
    rw [abs_lt]
    rcases le_total q q' with hq | hq <;>
    · have m1 := hmono _ _ hq
      have m2 := hA _ _ hq
      constructor <;> linarith only [h.1, h.2, h'.1, h'.2, m1, m2, mbl_pos]
  refine ⟨hs, ?_⟩
  rw [← sub_div, abs_div, abs_of_pos hd]
  apply div_lt_div_of_pos_right _ hd
  refine lt_of_le_of_lt ?_ hs
  rw [max_comm 0, max_comm 0]
  refine (abs_max_sub_max_le_abs _ _ _).trans_eq ?_
  rw [sub_sub_sub_cancel_left, abs_sub_comm]



theorem sIndex_eq (c : Ctx ℝ) (q : ℝ) :
    sIndex c q = if q ≤ 0 then c.deadStorage
      else if (c.routingPower ≤ 1 ∧ q < c.qlimit) ∨ (1 < c.routingPower ∧ c.qlimit < q) then c.klimit * q + c.deadStorage
      else c.routingConstant * q ^ c.routingPower - c.koffset + c.deadStorage := by
  unfold sIndex linearZone
  simp only [RealNum.sci_zero, RealNum.sci_one, RealNum.pow_eq]

/-- with `Qlimit = 0`, `Koffset = 0` (zero inflow bias) and `m ≤ 1` the index storage is the plain power law -/
theorem sIndex_power_law (c : Ctx ℝ) (hq : c.qlimit = 0) (hko : c.koffset = 0) (hm1 : c.routingPower ≤ 1) (q : ℝ) :
    sIndex c q = if q ≤ 0 then c.deadStorage else c.routingConstant * q ^ c.routingPower + c.deadStorage := by
  rw [sIndex_eq, hq, hko, sub_zero]
  by_cases h0 : q ≤ 0
  · rw [if_pos h0, if_pos h0]
  · rw [if_neg h0, if_neg h0, if_neg]
    rintro (⟨_, h⟩ | ⟨h, _⟩)
    · exact h0 (le_of_lt h)
    · exact not_lt.mpr hm1 h

/-- the residual function is non-decreasing for zero inflow bias (`qlimit = 0`, `koffset = 0` as set by the prologue) -/
theorem massBalanceFn_mono_zero_bias (c : Ctx ℝ) (hb : c.bias = 0) (hq : c.qlimit = 0) (hko : c.koffset = 0)
    (hk : 0 ≤ c.routingConstant) (hm0 : 0 ≤ c.routingPower) (hm1 : c.routingPower ≤ 1) (hd : 0 ≤ c.duration) :
    Monotone (massBalanceFn c) := by
  have hcb : c.bias < 0.999 := by rw [hb]; norm_num
  intro a b hab
  rw [massBalanceFn_real, massBalanceFn_real, rr_massBalance c a hcb, rr_massBalance c b hcb,
    sIndex_power_law c hq hko hm1 a, sIndex_power_law c hq hko hm1 b, hb, zero_mul, sub_zero, sub_zero, sub_zero, div_one, div_one]
  have hlin : a * c.duration ≤ b * c.duration := mul_le_mul_of_nonneg_right hab hd
  have hSab : (if a ≤ 0 then c.deadStorage else c.routingConstant * a ^ c.routingPower + c.deadStorage)
      ≤ (if b ≤ 0 then c.deadStorage else c.routingConstant * b ^ c.routingPower + c.deadStorage) := by
    by_cases ha : a ≤ 0
    · rw [if_pos ha]
      split_ifs with hb0
      · exact le_refl _
      · exact le_add_of_nonneg_left (mul_nonneg hk (Real.rpow_nonneg (le_of_lt (not_le.mp hb0)) _))
    · rw [if_neg ha, if_neg fun h => ha (le_trans hab h)]
      exact add_le_add (mul_le_mul_of_nonneg_left (Real.rpow_le_rpow (le_of_lt (not_le.mp ha)) hab hm0) hk) (le_refl _)
  exact sub_le_sub_right (add_le_add hlin hSab) _

/-- the quantities of the context `c` of a call with zero inflow bias, no lateral inflow and no evaporation (`area = 0`), `m ≤ 1`, in
closed form (what the concrete calls evaluated in OW.Props.C11, StorageRoutingStall and HotStartStorageRouting have in common) -/
structure Dry (c : Ctx ℝ) (inflow S dead dur rp rc : ℝ) : Prop where
  newStorage_eq : newStorage c = S + inflow * dur
  maxQI_eq : maxQI c (0 * (inflow + 0)) = S / dur + inflow
  drainOutflow_eq : drainOutflow c = S / dur + inflow
  sIndex_eq : ∀ q, sIndex c q = if q ≤ 0 then dead else rc * q ^ rp + dead
  massBalance_eq : ∀ q, (rr c q).massBalance = q * dur + sIndex c q - (S + inflow * dur)
  outflow_eq : ∀ q, (rr c q).outflow = max 0 (S + inflow * dur - sIndex c q) / dur

theorem dry_ctx (inflow S dead dur rp rc : ℝ) (hS : 0 ≤ S) (hd : 0 < dur) (hin : 0 ≤ inflow) (hrp : rp ≤ 1) :
    Dry (mkCtx inflow 0 0 S 0 0 dead dur rp rc 0 rc 0) inflow S dead dur rp rc := by
  set c := mkCtx inflow 0 0 S 0 0 dead dur rp rc 0 rc 0
  have hflux : 0 ≤ S / dur + inflow := add_nonneg (div_nonneg hS hd.le) hin
  have hifm : c.initialFluxMax = S / dur + inflow := (mkCtx_ok hd hS (le_refl _)).ifm
  have hnef : netEvaporationFlux c = 0 := by
    rw [nef_eq, hifm]
    show min (S / dur + inflow) (0 * 0) = 0
    rw [mul_zero]; exact min_eq_right hflux
  have hN : newStorage c = S + inflow * dur := by
    rw [newStorage_eq, hnef]
    show max (S + (inflow + 0 - 0) * dur) 0 = _
    rw [add_zero, sub_zero]; exact max_eq_left (add_nonneg hS (mul_nonneg hin hd.le))
  have hdO : drainOutflow c = S / dur + inflow := by
    unfold drainOutflow
    rw [hifm, hnef]
    show max 0 (S / dur + inflow - 0 + 0) = _
    rw [sub_zero, add_zero]; exact max_eq_right hflux
  refine ⟨hN, ?_, hdO, fun q => sIndex_power_law c rfl rfl hrp q, fun q => ?_, fun q => ?_⟩
  · rw [maxQI_eq, hdO]
    show 0 * (inflow + 0) + (1 - 0) * (S / dur + inflow) = _
    ring
  · rw [rr_massBalance c q (by show (0:ℝ) < 0.999; norm_num), hN]
    show (q - 0 * (inflow + 0)) * dur / (1 - 0) + sIndex c q - _ = _
    ring
  · rw [rr_outflow, hN]; rfl

/-- `hko1`, `hko2`: the offset of the power branch does not exceed the power-law storage at the switch-over flow `Qlimit`
(for `m > 1` `setup` leaves `koffset = 0`) -/
theorem sIndex_nonneg (c : Ctx ℝ) (hdead : 0 ≤ c.deadStorage) (hkl : 0 ≤ c.klimit) (hrc : 0 ≤ c.routingConstant)
    (hql : 0 ≤ c.qlimit) (hrp : 0 ≤ c.routingPower)
    (hko1 : c.routingPower ≤ 1 → c.koffset ≤ c.routingConstant * c.qlimit ^ c.routingPower)
    (hko2 : 1 < c.routingPower → c.koffset ≤ 0) (q : ℝ) : 0 ≤ sIndex c q := by
  refine le_trans hdead ?_
  rw [sIndex_eq]
  split_ifs with h1 h2
  · exact le_refl _
  · have hq : 0 < q := not_le.mp h1
    have := mul_nonneg hkl (le_of_lt hq)
    linarith
  · have hq : 0 < q := not_le.mp h1
    have hpow : 0 ≤ q ^ c.routingPower := Real.rpow_nonneg (le_of_lt hq) _
    rcases le_or_gt c.routingPower 1 with hle | hgt
    · -- power zone for m ≤ 1 is q ≥ Qlimit
      have hqq : c.qlimit ≤ q := by
        by_contra hcon
        exact h2 (Or.inl ⟨hle, not_le.mp hcon⟩)
      have hmono : c.qlimit ^ c.routingPower ≤ q ^ c.routingPower := Real.rpow_le_rpow hql hqq hrp
      have := hko1 hle
      have := mul_le_mul_of_nonneg_left hmono hrc
      linarith
    · have := hko2 hgt
      have := mul_nonneg hrc hpow
      linarith


/-- the offset that makes the linear extension meet the power law at `Q = Qlimit = (Klimit/(m·k))^(1/(m−1))` does not exceed
the power-law storage there: `k·Q^m = Klimit·Q/m`, and the offset is `(1 − m)` times that -/
theorem koffset_le {kl x k : ℝ} (hkl : 0 < kl) (hx0 : 0 < x) (hx1 : x < 1) (hk : 0 < k) :
    (kl / (x * k)) ^ (1 / (x - 1)) * kl * (1 - x) / x ≤ k * ((kl / (x * k)) ^ (1 / (x - 1))) ^ x := by
  have ha : 0 < kl / (x * k) := div_pos hkl (mul_pos hx0 hk)
  have hQpos : 0 < (kl / (x * k)) ^ (1 / (x - 1)) := Real.rpow_pos_of_pos ha _
  have hQx1 : ((kl / (x * k)) ^ (1 / (x - 1))) ^ (x - 1) = kl / (x * k) := by
    rw [← Real.rpow_mul ha.le, one_div, inv_mul_cancel₀ (by linarith), Real.rpow_one]
  generalize (kl / (x * k)) ^ (1 / (x - 1)) = Q at hQpos hQx1 ⊢
  have hQx : Q ^ x = kl / (x * k) * Q := by
    rw [← hQx1, ← Real.rpow_add_one hQpos.ne' (x - 1), sub_add_cancel]
  rw [hQx]
  have e1 : k * (kl / (x * k) * Q) = Q * kl / x := by field_simp
  have e2 : Q * kl * (1 - x) / x = Q * kl / x * (1 - x) := by ring
  rw [e1, e2]
  exact mul_le_of_le_one_right (div_nonneg (mul_nonneg hQpos.le hkl.le) hx0.le) (by linarith)

theorem setup_zero_bias (bias k x dt : ℝ) (hb : |bias| < 0.001) (hx : x ≤ 1) : setup bias k x dt = ⟨0, x, k, 0, 0⟩ := by
  unfold setup
  simp only [RealNum.abs_eq, if_pos hb, RealNum.sci_zero, RealNum.sci_one, if_neg (not_lt.mpr hx)]

theorem setup_linear (bias k x dt : ℝ) (hA : ¬ |bias| < 0.001) (hB : |x - 1| < 0.001) : setup bias k x dt = ⟨bias, 1, k, 0, 0⟩ := by
  unfold setup
  simp only [RealNum.abs_eq, if_neg hA, RealNum.sci_one, RealNum.sci_zero, if_pos hB]

theorem setup_general (bias k x dt : ℝ) (hA : ¬ |bias| < 0.001) (hB : ¬ |x - 1| < 0.001) (hx : x < 1) :
    setup bias k x dt = ⟨bias, x, dt / bias, (dt / bias / (x * k)) ^ (1 / (x - 1)),
      (dt / bias / (x * k)) ^ (1 / (x - 1)) * (dt / bias) * (1 - x) / x⟩ := by
  unfold setup
  simp only [RealNum.abs_eq, if_neg hA, RealNum.sci_one, RealNum.sci_zero, if_neg hB, if_pos hx, RealNum.pow_eq]

/-- what the run-level theorems need of the prologue's outputs: of `Klimit`, `Qlimit`, `Koffset` the hypotheses of `sIndex_nonneg` for
`m ≤ 1`; of the inflow bias it passes on (zero or the parameter) the guard `< 0.999` of `runRouting`, which `calcOutflow_balance` assumes -/
structure SetupOK (su : Setup ℝ) (k : ℝ) : Prop where
  klimit : 0 ≤ su.klimit
  qlimit : 0 ≤ su.qlimit
  x_nonneg : 0 ≤ su.x
  x_le : su.x ≤ 1
  koffset : su.koffset ≤ k * su.qlimit ^ su.x
  bias : su.bias < 0.999

/-- the prologue of `storageRouting` for parameters of the region `0 ≤ bias < 0.999`, `k > 0`, `0 < m ≤ 1`, `Δt > 0` (the offset is the
one that makes the linear extension meet the power law at `Qlimit`: `k·Qlimit^m = Klimit·Qlimit/m ≥ Koffset`) -/
theorem setup_facts (bias k x dt : ℝ) (hb : 0 ≤ bias) (hb1 : bias < 0.999) (hk : 0 < k) (hx0 : 0 < x) (hx1 : x ≤ 1) (hdt : 0 < dt) :
    SetupOK (setup bias k x dt) k := by
  have e001 : (0.001 : ℝ) = 1 / 1000 := by norm_num
  by_cases hA : |bias| < 0.001
  · rw [setup_zero_bias bias k x dt hA hx1]
    refine ⟨le_of_lt hk, le_refl _, le_of_lt hx0, hx1, ?_, by norm_num⟩
    simp only [Real.zero_rpow (ne_of_gt hx0), mul_zero, le_refl]
  · by_cases hB : |x - 1| < 0.001
    · rw [setup_linear bias k x dt hA hB]
      refine ⟨le_of_lt hk, le_refl _, by norm_num, le_refl _, ?_, hb1⟩
      simp only [Real.rpow_one, mul_zero, le_refl]
    · -- `x < 1` strictly (`|x − 1| ≥ 0.001`, `x ≤ 1`), `bias ≥ 0.001 > 0`
      have hbpos : 0 < bias := by
        rw [abs_of_nonneg hb, e001] at hA
        linarith [not_lt.mp hA]
      have hxlt : x < 1 := by
        refine lt_of_le_of_ne hx1 fun h => hB ?_
        rw [h, sub_self, abs_zero]; norm_num
      have hkl : 0 < dt / bias := div_pos hdt hbpos
      rw [setup_general bias k x dt hA hB hxlt]
      exact ⟨le_of_lt hkl, le_of_lt (Real.rpow_pos_of_pos (div_pos hkl (mul_pos hx0 hk)) _), le_of_lt hx0, hx1,
        koffset_le hkl hx0 hxlt hk, hb1⟩



/-- over ℝ `calcOutflow` never panics: FindRoot is only entered with a bracketed root -/
theorem solve_ok (c : Ctx ℝ) (prevQi minQI mx : ℝ) (hmin : (rr c minQI).massBalance ≤ 0) :
    ∃ r, solve c prevQi minQI mx = .ok r := by
  rw [solve_real c prevQi minQI mx rfl]
  by_cases h1 : (rr c mx).massBalance < massBalanceLimit
  · rw [if_pos h1]; exact ⟨_, rfl⟩
  · rw [if_neg h1, OW.Proofs.FindRoot.findRoot_eq (f := massBalanceFn c) hmin (le_trans (le_of_lt mbl_pos) (not_lt.mp h1))]
    split_ifs <;> exact ⟨_, rfl⟩

theorem calcOutflow_ok (inflow lateral bias prevQi po prevStorage ner area dead dur rp rc ql kl ko : ℝ) :
    ∃ r, calcOutflow inflow lateral bias prevQi po prevStorage ner area dead dur rp rc ql kl ko = .ok r := by
  rw [calcOutflow_real rfl]
  split_ifs with h1 h2 h3
  · exact ⟨_, rfl⟩
  · exact ⟨_, rfl⟩
  · exact ⟨_, rfl⟩
  · exact solve_ok _ _ _ _ (le_trans (le_of_lt (not_le.mp h2)) (neg_nonpos.mpr (le_of_lt mbl_pos)))


end OW.Proofs.StorageRouting
