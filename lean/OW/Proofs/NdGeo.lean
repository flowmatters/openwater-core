import OW.Nd.WF
import OW.Proofs.NdDot
import OW.Proofs.ListLemmas
import Mathlib.Tactic.Ring
/-!
Geometry of n-d array views (C01 / C02). Every reachable view satisfies a structural invariant `Geo` (`reach_geo`): its
strides are the row-major strides of the allocated shape and its elements form a stepped box inside that shape. Under
`Geo`, `SliceInto` and `Index` do not panic and have closed forms in the total list operations `dot`, `mulL`; an address
is the row-major rank (`ravel`) of a root multi-index, which is why `Index` is injective on in-bounds indices and stays
inside `[0, Π OriginalDims)`. A slice re-indexes its parent affinely (`Regular.addr_sliceView`).
-/
namespace OW.Nd

@[simp] theorem uniform_length (n : Nat) (x : Int) : (uniform n x).length = n := by simp [uniform]
theorem uniform_succ (n : Nat) (x : Int) : uniform (n + 1) x = x :: uniform n x := by
  simp [uniform, List.replicate_succ]

theorem mulL_ones_left : ∀ (l : Idx), mulL (uniform l.length 1) l = l
  | [] => by simp [uniform]
  | x :: xs => by simp [uniform_succ, mulL_ones_left xs]

theorem dot_mulL : ∀ (a s o : Idx), dot a (mulL s o) = dot (mulL a s) o
  | [], _, _ => by simp
  | _ :: _, [], _ => by simp
  | _ :: _, _ :: _, [] => by simp
  | a :: as, s :: ss, o :: os => by simp [dot_mulL as ss os, Int.mul_assoc]

theorem mulL_assoc : ∀ (a s o : Idx), mulL a (mulL s o) = mulL (mulL a s) o
  | [], _, _ => by simp
  | _ :: _, [], _ => by simp
  | _ :: _, _ :: _, [] => by simp
  | a :: as, s :: ss, o :: os => by simp [mulL_assoc as ss os, Int.mul_assoc]

theorem mulL_comm : ∀ (a b : Idx), mulL a b = mulL b a
  | [], b => by simp
  | _ :: _, [] => by simp
  | a :: as, b :: bs => by simp [mulL_comm as bs, Int.mul_comm]

theorem mulL_ones_right (l : Idx) : mulL l (uniform l.length 1) = l :=
  (mulL_comm _ _).trans (mulL_ones_left l)

theorem offsetsT_cons : ∀ (d : Int) (ds : Idx), offsetsT (d :: ds) = product ds :: offsetsT ds
  | _, [] => by simp [offsetsT, product]
  | d, d2 :: rest => by
    have ih := offsetsT_cons d2 rest
    simp only [offsetsT] at ih ⊢
    rw [ih]
    simp [product, Int.mul_comm]

theorem offsetsT_length : ∀ (ds : Idx), (offsetsT ds).length = ds.length
  | [] => by simp [offsetsT]
  | d :: ds => by simp [offsetsT_cons, offsetsT_length ds]

theorem mulL_ones_offsetsT (dims : Idx) : mulL (uniform dims.length 1) (offsetsT dims) = offsetsT dims := by
  rw [← offsetsT_length dims]
  exact mulL_ones_left _

theorem dot_offsetsT_ravel : ∀ (x D : Idx), x.length = D.length → dot x (offsetsT D) = ravel x D
  | [], [], _ => by simp [ravel]
  | [], _ :: _, h => nomatch h
  | _ :: _, [], h => nomatch h
  | x :: xs, d :: ds, h => by
    simp [offsetsT_cons, ravel, dot_offsetsT_ravel xs ds (by simpa using h)]

theorem Pos.head {x : Int} {xs : Idx} (h : Pos (x :: xs)) : 1 ≤ x := h x List.mem_cons_self
theorem Pos.tail {x : Int} {xs : Idx} (h : Pos (x :: xs)) : Pos xs := fun y hy => h y (List.mem_cons_of_mem _ hy)
theorem Pos.cons {x : Int} {xs : Idx} (hx : 1 ≤ x) (h : Pos xs) : Pos (x :: xs) := List.forall_mem_cons.mpr ⟨hx, h⟩
theorem pos_ones (n : Nat) : Pos (uniform n 1) := fun _ hx => (List.eq_of_mem_replicate hx).ge

@[simp] theorem SliceOK_nil : SliceOK [] [] [] [] = True := by simp [SliceOK]
@[simp] theorem SliceOK_cons (P l d s : Int) (ps ls ds ss : Idx) :
    SliceOK (P :: ps) (l :: ls) (d :: ds) (s :: ss) =
      (0 ≤ l ∧ 1 ≤ d ∧ 1 ≤ s ∧ l + (d - 1) * s < P ∧ SliceOK ps ls ds ss) := by simp [SliceOK]
@[simp] theorem InBounds_nil : InBounds [] [] = True := by simp [InBounds]
@[simp] theorem InBounds_cons (i d : Int) (is ds : Idx) :
    InBounds (i :: is) (d :: ds) = (0 ≤ i ∧ i < d ∧ InBounds is ds) := by simp [InBounds]
@[simp] theorem affine_cons (l i s : Int) (ls is ss : Idx) :
    affine (l :: ls) (i :: is) (s :: ss) = (l + i * s) :: affine ls is ss := rfl

theorem SliceOK.lengths {P l d s : Idx} (h : SliceOK P l d s) :
    l.length = P.length ∧ d.length = P.length ∧ s.length = P.length :=
  match P, l, d, s, h with
  | [], [], [], [], _ => ⟨rfl, rfl, rfl⟩
  | _ :: _, _ :: _, _ :: _, _ :: _, ⟨_, _, _, _, h⟩ => by
    obtain ⟨a, b, c⟩ := SliceOK.lengths h
    simp only [List.length_cons, a, b, c, and_self]

theorem InBounds.length {i d : Idx} (h : InBounds i d) : i.length = d.length :=
  match i, d, h with
  | [], [], _ => rfl
  | _ :: _, _ :: _, ⟨_, _, h⟩ => by rw [List.length_cons, List.length_cons, InBounds.length h]

theorem SliceOK.pos {P l d s : Idx} (h : SliceOK P l d s) :
    Pos P ∧ Pos d ∧ Pos s :=
  match P, l, d, s, h with
  | [], [], [], [], _ => by simp [Pos]
  | P :: _, l :: _, d :: _, s :: _, ⟨h0, hd, hs, hlt, h⟩ => by
    obtain ⟨a, b, c⟩ := SliceOK.pos h
    have : 0 ≤ (d - 1) * s := Int.mul_nonneg (by omega) (by omega)
    exact ⟨Pos.cons (by omega) a, Pos.cons hd b, Pos.cons hs c⟩

theorem SliceOK.comp {D b P S l d s : Idx} (hb : SliceOK D b P S) (hs : SliceOK P l d s) :
    SliceOK D (affine b l S) d (mulL S s) :=
  match D, b, P, S, hb, l, d, s, hs with
  | [], [], [], [], _, [], [], [], _ => trivial
  | D0 :: _, b0 :: _, P0 :: _, S0 :: _, ⟨h0, hP, hS, hlt, hb⟩, l0 :: _, d0 :: _, s0 :: _, ⟨g0, gd, gs, glt, grest⟩ => by
    refine ⟨?_, gd, ?_, ?_, hb.comp grest⟩
    · have := Int.mul_nonneg g0 (by omega : (0:Int) ≤ S0); omega
    · have := Int.mul_pos (by omega : (0:Int) < S0) (by omega : (0:Int) < s0); omega
    · have h1 : (l0 + (d0 - 1) * s0) * S0 ≤ (P0 - 1) * S0 :=
        Int.mul_le_mul_of_nonneg_right (by omega) (by omega)
      have h2 : b0 + l0 * S0 + (d0 - 1) * (S0 * s0) = b0 + (l0 + (d0 - 1) * s0) * S0 := by ring
      omega

theorem SliceOK.inBounds {D b d S i : Idx} (hb : SliceOK D b d S) (hi : InBounds i d) :
    InBounds (affine b i S) D :=
  match D, b, d, S, hb, i, hi with
  | [], [], [], [], _, [], _ => trivial
  | _ :: _, _ :: _, d0 :: _, S0 :: _, ⟨h0, hd, hS, hlt, hb⟩, i0 :: _, ⟨g0, glt, grest⟩ => by
    refine ⟨?_, ?_, hb.inBounds grest⟩
    · have := Int.mul_nonneg g0 (by omega : (0:Int) ≤ S0); omega
    · have h1 : i0 * S0 ≤ (d0 - 1) * S0 := Int.mul_le_mul_of_nonneg_right (by omega) (by omega)
      omega

theorem SliceOK.affine_inj {D b d S i j : Idx} (hb : SliceOK D b d S)
    (hi : i.length = d.length) (hj : j.length = d.length) (h : affine b i S = affine b j S) : i = j :=
  match D, b, d, S, hb, i, j, hi, hj, h with
  | [], [], [], [], _, [], [], _, _, _ => rfl
  | _ :: _, b0 :: _, _ :: _, S0 :: _, ⟨_, _, hS, _, hb⟩, i0 :: is, j0 :: js, hi, hj, h => by
    simp only [affine_cons, List.cons.injEq] at h
    have e : i0 = j0 := Int.eq_of_mul_eq_mul_right (by omega) (by omega : i0 * S0 = j0 * S0)
    rw [e, hb.affine_inj (by simpa using hi) (by simpa using hj) h.2]

theorem affine_length : ∀ (b i s : Idx), i.length = b.length → s.length = b.length →
    (affine b i s).length = b.length
  | [], _, _, _, _ => by simp [affine]
  | _ :: _, [], _, h, _ => nomatch h
  | _ :: _, _ :: _, [], _, h => nomatch h
  | b :: bs, i :: is, s :: ss, h1, h2 => by
    simp [affine_length bs is ss (by simpa using h1) (by simpa using h2)]

theorem dot_affine : ∀ (b l s o : Idx), l.length = b.length → s.length = b.length → o.length = b.length →
    dot (affine b l s) o = dot b o + dot l (mulL s o)
  | [], l, s, o, h1, h2, h3 => by
    simp at h1 h2 h3; subst h1 h2 h3; simp [affine]
  | _ :: _, [], _, _, h, _, _ => nomatch h
  | _ :: _, _ :: _, [], _, _, h, _ => nomatch h
  | _ :: _, _ :: _, _ :: _, [], _, _, h => nomatch h
  | b :: bs, l :: ls, s :: ss, o :: os, h1, h2, h3 => by
    simp only [affine_cons, dot_cons, mulL_cons,
      dot_affine bs ls ss os (by simpa using h1) (by simpa using h2) (by simpa using h3)]
    ring

theorem affine_affine : ∀ (b l S i s : Idx), l.length = b.length → S.length = b.length → i.length = b.length →
    s.length = b.length → affine (affine b l S) i (mulL S s) = affine b (affine l i s) S
  | [], _, _, _, _, _, _, _, _ => by simp [affine]
  | _ :: _, [], _, _, _, h, _, _, _ => nomatch h
  | _ :: _, _ :: _, [], _, _, _, h, _, _ => nomatch h
  | _ :: _, _ :: _, _ :: _, [], _, _, _, h, _ => nomatch h
  | _ :: _, _ :: _, _ :: _, _ :: _, [], _, _, _, h => nomatch h
  | b :: bs, l :: ls, S :: Ss, i :: is, s :: ss, h1, h2, h3, h4 => by
    simp only [affine_cons, mulL_cons, List.cons.injEq]
    refine ⟨by ring, affine_affine bs ls Ss is ss (by simpa using h1) (by simpa using h2) (by simpa using h3)
      (by simpa using h4)⟩

/-- What `SliceInto`, `Index` and `Contiguous()` need of a view in order not to panic (extents are not looked at): its lists
have the view's rank and `OffsetStep = Step ⊙ Offset`. Part of `Geo`, and — unlike `Geo` — kept by a slice whose extents are arbitrary. -/
structure Regular (v : View) : Prop where
  rank_orig : v.orig.length = v.dims.length
  rank_step : v.step.length = v.dims.length
  rank_offset : v.offset.length = v.dims.length
  offStep_eq : v.offStep = mulL v.step v.offset

theorem Regular.rank_offStep {v : View} (r : Regular v) : v.offStep.length = v.dims.length := by
  rw [r.offStep_eq, mulL_length _ _ (by rw [r.rank_step, r.rank_offset]), r.rank_step]

theorem Regular.step_ones {v : View} (r : Regular v) : mulL v.step (uniform v.dims.length 1) = v.step := by
  rw [← r.rank_step]
  exact mulL_ones_right v.step

/-- Structural invariant of a view: strides are the row-major strides of the allocated shape, `OffsetStep = Step ⊙ Offset`,
and there is a lower corner `b` (in root coordinates) with `Start = Σ bᵢ·Offsetᵢ` such that the box
`bᵢ + [0, dimsᵢ)·stepᵢ` lies inside the allocated shape (this also gives: all lists have the same length,
extents ≥ 1, steps ≥ 1, allocated extents ≥ 1). -/
structure Geo (v : View) : Prop where
  ne : v.orig ≠ []
  offset_eq : v.offset = offsetsT v.orig
  offStep_eq : v.offStep = mulL v.step v.offset
  box : ∃ b, SliceOK v.orig b v.dims v.step ∧ v.start = dot b v.offset

namespace Geo
variable {v : View}

theorem rank_orig (g : Geo v) : v.orig.length = v.dims.length := by
  obtain ⟨b, hb, _⟩ := g.box; exact hb.lengths.2.1.symm
theorem rank_step (g : Geo v) : v.step.length = v.dims.length := by
  obtain ⟨b, hb, _⟩ := g.box; rw [hb.lengths.2.2, hb.lengths.2.1]
theorem rank_offset (g : Geo v) : v.offset.length = v.dims.length := by
  rw [g.offset_eq, offsetsT_length, g.rank_orig]
theorem regular (g : Geo v) : Regular v := ⟨g.rank_orig, g.rank_step, g.rank_offset, g.offStep_eq⟩
theorem pos_dims (g : Geo v) : Pos v.dims := by obtain ⟨b, hb, _⟩ := g.box; exact hb.pos.2.1
theorem pos_step (g : Geo v) : Pos v.step := by obtain ⟨b, hb, _⟩ := g.box; exact hb.pos.2.2
theorem pos_orig (g : Geo v) : Pos v.orig := by obtain ⟨b, hb, _⟩ := g.box; exact hb.pos.1
theorem dims_ne (g : Geo v) : v.dims ≠ [] := by
  intro h; have := g.rank_orig; rw [h] at this; exact g.ne (List.length_eq_zero_iff.mp this)

end Geo

/-- the metadata `View.root` builds -/
def rootView (dims : Idx) (st : Int) : View :=
  ⟨dims, dims, st, offsetsT dims, uniform dims.length 1, offsetsT dims⟩

/-- the metadata `SliceInto` builds (on a view whose lists all have the view's rank) -/
def sliceView (v : View) (loc dims : Idx) (step : Option Idx) : View :=
  ⟨v.orig, dims, v.start + dot loc v.offStep, v.offset, mulL v.step (stepOr v.dims.length step),
    mulL (mulL v.step (stepOr v.dims.length step)) v.offset⟩

theorem offsets_ok {ds : Idx} (h : ds ≠ []) : offsets ds = .ok (offsetsT ds) := by
  cases ds with
  | nil => exact absurd rfl h
  | cons d ds => rfl

theorem root_eq (dims : Idx) (st : Int) (hne : dims ≠ []) :
    View.root dims st = .ok (rootView dims st) := by
  have h1 := offsets_ok hne
  have h2 : multiply (uniform dims.length 1) (offsetsT dims) = .ok (offsetsT dims) := by
    rw [multiply_ok _ _ (by simp [offsetsT_length]), mulL_ones_offsetsT]
  simp [View.root, rootView, h1, h2, bind, Except.bind, pure, Except.pure]

theorem rootView_regular (dims : Idx) (st : Int) : Regular (rootView dims st) :=
  ⟨rfl, List.length_replicate, offsetsT_length dims, (mulL_ones_offsetsT dims).symm⟩

theorem reach_root {dims : Idx} (hne : dims ≠ []) (hpos : Pos dims) : Reach (rootView dims 0) :=
  .root hne hpos (root_eq dims 0 hne)

theorem sliceOK_zero_ones : ∀ (dims : Idx), Pos dims →
    SliceOK dims (uniform dims.length 0) dims (uniform dims.length 1)
  | [], _ => by simp [uniform]
  | d :: ds, h => by
    have h1 := h.head
    simp only [List.length_cons, uniform_succ, SliceOK_cons]
    exact ⟨by omega, h1, by omega, by omega, sliceOK_zero_ones ds h.tail⟩

theorem dot_zeros : ∀ (n : Nat) (o : Idx), dot (uniform n 0) o = 0
  | 0, _ => by simp [uniform]
  | n + 1, [] => by simp
  | n + 1, o :: os => by simp [uniform_succ, dot_zeros n os]

theorem geo_root {dims : Idx} {v : View} (hne : dims ≠ []) (hpos : Pos dims) (h : View.root dims = .ok v) :
    Geo v := by
  rw [root_eq dims 0 hne] at h
  injection h with h
  subst h
  exact ⟨hne, rfl, (mulL_ones_offsetsT dims).symm, uniform dims.length 0, sliceOK_zero_ones dims hpos,
    by simp [rootView, dot_zeros]⟩

theorem Regular.sliceInto_eq {v : View} (g : Regular v) (loc dims : Idx) (step : Option Idx)
    (hloc : loc.length = v.dims.length) (hstep : (stepOr v.dims.length step).length = v.dims.length) :
    v.sliceInto loc dims step = .ok (sliceView v loc dims step) := by
  have h1 : dotProduct loc v.offStep = .ok (dot loc v.offStep) :=
    dotProduct_ok _ _ (by rw [g.rank_offStep, hloc])
  cases step with
  | none =>
    have e : mulL v.step (stepOr v.dims.length none) = v.step := g.step_ones
    have h2 : multiply v.step v.offset = .ok (mulL v.step v.offset) :=
      multiply_ok _ _ (by rw [g.rank_step, g.rank_offset])
    simp [View.sliceInto, sliceView, e, h1, h2, bind, Except.bind, pure, Except.pure]
  | some s =>
    have hs : s.length = v.dims.length := hstep
    have h2 : multiply v.step s = .ok (mulL v.step s) :=
      multiply_ok _ _ (by rw [g.rank_step, hs])
    have h3 : multiply (mulL v.step s) v.offset = .ok (mulL (mulL v.step s) v.offset) :=
      multiply_ok _ _ (by rw [mulL_length _ _ (by rw [g.rank_step, hs]), g.rank_step, g.rank_offset])
    simp [View.sliceInto, sliceView, stepOr, h1, h2, h3, bind, Except.bind, pure, Except.pure]

theorem Regular.slice {v : View} (r : Regular v) (loc : Idx) {dims : Idx} {step : Option Idx}
    (hd : dims.length = v.dims.length) (hs : (stepOr v.dims.length step).length = v.dims.length) :
    Regular (sliceView v loc dims step) :=
  ⟨r.rank_orig.trans hd.symm, (mulL_length _ _ (by rw [r.rank_step, hs])).trans (r.rank_step.trans hd.symm),
    r.rank_offset.trans hd.symm, rfl⟩

theorem geo_slice {v w : View} {loc dims : Idx} {step : Option Idx} (g : Geo v)
    (ok : SliceOK v.dims loc dims (stepOr v.dims.length step))
    (h : v.sliceInto loc dims step = .ok w) : Geo w := by
  obtain ⟨hl, hd, hs⟩ := ok.lengths
  rw [g.regular.sliceInto_eq loc dims step hl hs] at h
  injection h with h
  subst h
  obtain ⟨b, hb, hst⟩ := g.box
  refine ⟨g.ne, g.offset_eq, rfl, affine b loc v.step, hb.comp ok, ?_⟩
  show v.start + dot loc v.offStep = dot (affine b loc v.step) v.offset
  rw [dot_affine b loc v.step v.offset (by rw [hl, hb.lengths.1, g.rank_orig])
    (by rw [g.rank_step, hb.lengths.1, g.rank_orig]) (by rw [g.rank_offset, hb.lengths.1, g.rank_orig]),
    hst, g.offStep_eq]

theorem reach_geo {v : View} (h : Reach v) : Geo v := by
  induction h with
  | root hne hpos h => exact geo_root hne hpos h
  | slice _ ok h ih => exact geo_slice ih ok h

/-- the address `Index` computes, as a total function -/
def addr (v : View) (loc : Idx) : Int := v.start + dot loc v.offStep

/-- `loc` may be shorter than the rank: Go's `Index` loops over `len(loc)` -/
theorem Regular.index_addr {v : View} (r : Regular v) (loc : Idx) (hloc : loc.length ≤ v.dims.length) :
    v.index loc = .ok (addr v loc) := by
  unfold View.index
  rw [indexAux_ok _ _ (by rw [r.rank_offStep]; exact hloc)]
  rfl

theorem index_addr {v : View} (g : Geo v) (loc : Idx) (hloc : loc.length ≤ v.dims.length) :
    v.index loc = .ok (addr v loc) :=
  g.regular.index_addr loc hloc

theorem index_ok {v : View} (h : Reach v) (loc : Idx) (hloc : loc.length = v.dims.length) :
    ∃ p, v.index loc = .ok p :=
  ⟨_, index_addr (reach_geo h) loc (Nat.le_of_eq hloc)⟩

theorem product_pos : ∀ {D : Idx}, Pos D → 0 < product D
  | [], _ => by simp [product]
  | d :: ds, h => by
    have h1 := h.head
    have h2 : 0 < product ds := product_pos h.tail
    simp only [product]
    exact Int.mul_pos (by omega) h2

theorem ravel_cons (i d : Int) (is ds : Idx) : ravel (i :: is) (d :: ds) = i * product ds + ravel is ds := rfl

theorem ravel_bounds {i D : Idx} (h : InBounds i D) : 0 ≤ ravel i D ∧ ravel i D < product D :=
  match i, D, h with
  | [], [], _ => by simp [ravel, product]
  | _ :: _, _ :: _, ⟨h0, hlt, ok⟩ =>
    have ih := ravel_bounds ok
    ⟨row_nonneg h0 ih.1 ih.2, row_lt hlt ih.1 ih.2⟩

theorem unravel_ravel : ∀ {i D : Idx}, InBounds i D → unravel (ravel i D) D = i
  | [], [], _ => rfl
  | i :: is, _ :: ds, ⟨_, _, ok⟩ => by
    have ⟨b0, b1⟩ := ravel_bounds ok
    rw [ravel_cons, unravel, row_ediv b0 b1, row_emod b0 b1, unravel_ravel ok]

theorem ravel_inj {i j D : Idx} (hi : InBounds i D) (hj : InBounds j D) (h : ravel i D = ravel j D) : i = j := by
  rw [← unravel_ravel hi, h, unravel_ravel hj]

theorem unravel_length : ∀ (k : Int) (D : Idx), (unravel k D).length = D.length
  | _, [] => by simp [unravel]
  | k, _ :: ds => by simp [unravel, unravel_length _ ds]

theorem ravel_unravel_cons : ∀ (k d : Int) (ds : Idx), ravel (unravel k (d :: ds)) (d :: ds) = k
  | k, d, [] => by simp [unravel, ravel, product]
  | k, d, d2 :: ds => by
    have ih := ravel_unravel_cons (k % product (d2 :: ds)) d2 ds
    simp only [unravel, ravel_cons] at ih ⊢
    rw [ih]
    exact Int.ediv_mul_add_emod k _

/-- for every `k`, in range or not (the leading digit of `unravel` takes what is left over); the empty shape has `k = 0` only -/
theorem ravel_unravel (k : Int) (D : Idx) (h : D = [] → k = 0) : ravel (unravel k D) D = k := by
  cases D with
  | nil => exact (h rfl).symm
  | cons d ds => exact ravel_unravel_cons k d ds

theorem unravel_inBounds : ∀ (k : Int) (D : Idx), Pos D → 0 ≤ k → k < product D → InBounds (unravel k D) D
  | _, [], _, _, _ => by simp [unravel]
  | k, d :: ds, hpos, h0, hlt => by
    have hp : 0 < product ds := product_pos hpos.tail
    simp only [unravel, InBounds_cons]
    refine ⟨Int.ediv_nonneg h0 (by omega), Int.ediv_lt_of_lt_mul hp (by simpa [product] using hlt), ?_⟩
    exact unravel_inBounds _ ds hpos.tail (Int.emod_nonneg _ (by omega))
      (Int.emod_lt_of_pos _ hp)

theorem Regular.addr_sliceView {v : View} (r : Regular v) {loc : Idx} (dims : Idx) {step : Option Idx}
    (hl : loc.length = v.dims.length) (hs : (stepOr v.dims.length step).length = v.dims.length) {i : Idx}
    (hi : i.length = v.dims.length) :
    addr (sliceView v loc dims step) i = addr v (affine loc i (stepOr v.dims.length step)) := by
  show v.start + dot loc v.offStep + dot i (mulL (mulL v.step (stepOr v.dims.length step)) v.offset) =
    v.start + dot (affine loc i (stepOr v.dims.length step)) v.offStep
  rw [dot_affine loc i _ _ (hi.trans hl.symm) (hs.trans hl.symm) (r.rank_offStep.trans hl.symm), r.offStep_eq,
    mulL_assoc, mulL_comm (stepOr v.dims.length step), Int.add_assoc]

theorem Regular.sliceView_index {v : View} (r : Regular v) {loc dims : Idx} {step : Option Idx}
    (hl : loc.length = v.dims.length) (hd : dims.length = v.dims.length)
    (hs : (stepOr v.dims.length step).length = v.dims.length) (i : Idx) (hi : i.length = dims.length) :
    (sliceView v loc dims step).index i = v.index (affine loc i (stepOr v.dims.length step)) := by
  rw [(r.slice loc hd hs).index_addr i (Nat.le_of_eq hi), r.addr_sliceView dims hl hs (hi.trans hd),
    r.index_addr _ (by rw [affine_length loc i _ (by rw [hi, hd, hl]) (hs.trans hl.symm), hl])]

theorem addr_ravel {v : View} (g : Geo v) :
    ∃ b, SliceOK v.orig b v.dims v.step ∧
      ∀ loc : Idx, loc.length = v.dims.length → addr v loc = ravel (affine b loc v.step) v.orig := by
  obtain ⟨b, hb, hst⟩ := g.box
  refine ⟨b, hb, fun loc hloc => ?_⟩
  have lb : b.length = v.dims.length := by rw [hb.lengths.1, g.rank_orig]
  rw [addr, g.offStep_eq, hst,
    ← dot_affine b loc v.step v.offset (by omega) (by rw [g.rank_step, lb]) (by rw [g.rank_offset, lb]),
    g.offset_eq, dot_offsetsT_ravel _ _ (by
      rw [affine_length b loc v.step (by omega) (by rw [g.rank_step, lb]), lb, g.rank_orig])]

theorem addr_bounds {v : View} (g : Geo v) {i : Idx} (hi : InBounds i v.dims) :
    0 ≤ addr v i ∧ addr v i < product v.orig := by
  obtain ⟨b, hb, haddr⟩ := addr_ravel g
  rw [haddr i hi.length]
  exact ravel_bounds (hb.inBounds hi)

theorem addr_inj {v : View} (g : Geo v) {i j : Idx} (hi : InBounds i v.dims) (hj : InBounds j v.dims)
    (h : addr v i = addr v j) : i = j := by
  obtain ⟨b, hb, haddr⟩ := addr_ravel g
  rw [haddr i hi.length, haddr j hj.length] at h
  exact hb.affine_inj hi.length hj.length (ravel_inj (hb.inBounds hi) (hb.inBounds hj) h)

theorem index_inbounds {v : View} (g : Geo v) {i : Idx} (hi : InBounds i v.dims) :
    ∃ p, v.index i = .ok p ∧ 0 ≤ p ∧ p < product v.orig :=
  ⟨_, index_addr g i (Nat.le_of_eq hi.length), addr_bounds g hi⟩

theorem index_inj {v : View} (g : Geo v) {i j : Idx} (hi : InBounds i v.dims) (hj : InBounds j v.dims)
    (h : v.index i = v.index j) : i = j := by
  rw [index_addr g i (Nat.le_of_eq hi.length), index_addr g j (Nat.le_of_eq hj.length)] at h
  exact addr_inj g hi hj (Except.ok.inj h)

theorem addr_rootView (s : Idx) (st : Int) (idx : Idx) (hl : idx.length = s.length) :
    addr (rootView s st) idx = st + ravel idx s :=
  congrArg (st + ·) (dot_offsetsT_ravel idx s hl)

theorem rootView_index (s : Idx) (st : Int) (idx : Idx) (hl : idx.length = s.length) :
    (rootView s st).index idx = .ok (st + ravel idx s) := by
  rw [(rootView_regular s st).index_addr idx (Nat.le_of_eq hl), addr_rootView s st idx hl]

theorem root_index {dims : Idx} {v : View} (hne : dims ≠ []) (h : View.root dims = .ok v)
    (idx : Idx) (hidx : idx.length = dims.length) : v.index idx = .ok (ravel idx dims) := by
  rw [root_eq dims 0 hne] at h
  injection h with h
  rw [← h, rootView_index dims 0 idx hidx, Int.zero_add]

end OW.Nd
