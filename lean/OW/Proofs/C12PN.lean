import OW.Proofs.C12Mix
import OW.Kernels.InstreamParticulateNutrient
import Mathlib.Tactic.LinearCombination
/-!
C12 helpers: `instreamParticulateNutrient` over ℝ.
-/
namespace OW.C12
open OW OW.Kernels
open InstreamParticulateNutrient (In)

theorem pn_forDeposition_bounds (s u l ls : ℝ) :
    0 ≤ InstreamParticulateNutrient.forDeposition s u l ls ∧
    (0 ≤ s → 0 ≤ u → 0 ≤ l → InstreamParticulateNutrient.forDeposition s u l ls ≤ s + u + l) := by
  simp only [InstreamParticulateNutrient.forDeposition, realnum, RealNum.sci_zero]
  -- the sum before the floor at 0: with or without the lateral mass
  have hb : 0 ≤ l → (if 0 < ls then s + u + l else s + u) ≤ s + u + l := fun hl => by split_ifs <;> linarith only [hl]
  generalize (if 0 < ls then s + u + l else s + u) = b at hb ⊢
  split_ifs with h
  · exact ⟨le_rfl, fun hs hu hl => add_nonneg (add_nonneg hs hu) hl⟩
  · exact ⟨not_lt.mp h, fun _ _ hl => hb hl⟩

/-- the bed-exchange block: `be = (exchanged mass, new channel store)` -/
theorem pn_bedExchange_facts {sig fd fp cs : ℝ} {be : ℝ × ℝ}
    (h : be = InstreamParticulateNutrient.bedExchange sig fd fp cs) :
    be.2 = cs + be.1 ∧ (0 ≤ fd → fp ≤ fd → be.1 ≤ fd - fp) := by
  subst h
  unfold InstreamParticulateNutrient.bedExchange
  simp only []
  split_ifs with h
  · simp only [realnum]
    exact ⟨trivial, fun _ _ => min_le_right _ _⟩
  · simp only [realnum] at h ⊢
    refine ⟨by ring, fun a b => ?_⟩
    have hs : sig < 0 := not_le.mp h
    have : sig * fd ≤ 0 := mul_nonpos_of_nonpos_of_nonneg (le_of_lt hs) a
    linarith

theorem pn_step_eq (pnc spf dt s cs up lat vol q sbe ls fdf cdf : ℝ) :
    ∃ fd fpf be r, fd = InstreamParticulateNutrient.forDeposition s (up * dt) (lat * dt) ls +
        sbe * pnc * dt * (spf / 100) ∧
      fpf = min (max fdf 0) 1 ∧ be = InstreamParticulateNutrient.bedExchange cdf fd (fpf * fd) cs ∧
      r = mix (q * dt + vol < 0.01) (s + up * dt + lat * dt + sbe * pnc * dt - (fpf * fd + be.1)) (q * dt + vol) q vol ∧
      InstreamParticulateNutrient.step pnc spf dt (s, cs) ⟨up, lat, vol, q, sbe, ls, fdf, cdf⟩ =
        ((r.1, be.2), ⟨if q * dt + vol < 0.01 then 0 else be.1, sbe * pnc, r.2.1, fpf * fd / dt, be.1, r.2.2⟩) := by
  refine ⟨_, _, _, _, rfl, rfl, rfl, rfl, ?_⟩
  simp only [InstreamParticulateNutrient.step, LumpedConstituent.minimumVolume, realnum, RealNum.sci_zero,
    RealNum.sci_one, mix]
  split_ifs <;> rfl

/-- What one step does, from the stores `st = (in-stream, channel)` on the input `i` with result `r`. `mass`: over the two
stores together the step is a `MassStep` for `dt ≠ 0`, the divisor of `loadToFloodplain = deposited/Δt` that the budget
cancels (the concentration divisor is ≥ 0.01 on the branch that divides, `soilPercentFine/100` divides by a literal). The
guard is on the whole `MassStep` although only `budget` needs it: `store` and `dry` serve a theorem without `dt ≠ 0` and
stay outside. `store`, `dry`: the channel store moves by the (ghost) bed exchange, and on a dry step the code `continue`s
before writing `loadDeposited`. -/
structure PNStep (pnc spf dt : ℝ) (st : ℝ × ℝ) (i : In ℝ) (r : (ℝ × ℝ) × InstreamParticulateNutrient.Out ℝ) : Prop where
  mass : dt ≠ 0 → MassStep (stor := fun s => s.1 + s.2)
    (inn := fun i => i.incomingMassUpstream * dt + i.incomingMassLateral * dt + i.streamBankErosion * pnc * dt)
    (out := fun o => o.loadDownstream * dt + o.loadToFloodplain * dt + o.flushed)
    (R := fun i o => (o.flushed ≠ 0 → i.outflow * dt + i.reachVolume < 0.01) ∧
      (¬ i.outflow * dt + i.reachVolume < 0.01 → o.loadDeposited = o.bedExchange) ∧
      o.loadFromStreambank = i.streamBankErosion * pnc)
    (H := 0 < dt ∧ 0 ≤ pnc ∧ 0 ≤ spf ∧ spf ≤ 100) (Inv := fun s => 0 ≤ s.1)
    (Ok := fun i => 0 ≤ i.incomingMassUpstream ∧ 0 ≤ i.incomingMassLateral ∧ 0 ≤ i.streamBankErosion ∧ 0 ≤ i.outflow ∧
      0 ≤ i.reachVolume)
    (P := fun o => 0 ≤ o.loadDownstream ∧ 0 ≤ o.loadToFloodplain ∧ 0 ≤ o.loadFromStreambank ∧ 0 ≤ o.flushed) st i r
  store : r.1.2 = st.2 + r.2.bedExchange
  dry : i.outflow * dt + i.reachVolume < 0.01 →
    r.2.loadDeposited = 0 ∧ r.2.loadDownstream = 0 ∧ r.1 = (0, st.2 + r.2.bedExchange)

theorem pn_step (pnc spf dt : ℝ) (st : ℝ × ℝ) (i : In ℝ) :
    PNStep pnc spf dt st i (InstreamParticulateNutrient.step pnc spf dt st i) := by
  obtain ⟨s, cs⟩ := st
  obtain ⟨up, lat, vol, q, sbe, ls, fdf, cdf⟩ := i
  obtain ⟨fd, fpf, be, m, hfd, hfpf, hbe, hr, e⟩ := pn_step_eq pnc spf dt s cs up lat vol q sbe ls fdf cdf
  obtain ⟨fd0nn, fd0le⟩ := pn_forDeposition_bounds s (up * dt) (lat * dt) ls
  obtain ⟨be2, bele⟩ := pn_bedExchange_facts hbe
  obtain ⟨mb, mf, mn⟩ := mix_facts hr pos_of_not_lt_min rfl
  rw [e]
  have hfpf0 : 0 ≤ fpf := by rw [hfpf]; exact le_min (le_max_right _ _) zero_le_one
  have hfpf1 : fpf ≤ 1 := by rw [hfpf]; exact min_le_right _ _
  refine ⟨fun hdt => ⟨by linear_combination mb - div_mul_cancel₀ (fpf * fd) hdt - be2, ⟨mf, fun hn => if_neg hn, rfl⟩, ?_⟩,
    be2, fun hl => ⟨if_pos hl, by rw [hr, mix_dry _ _ _ _ hl], by rw [hr, mix_dry _ _ _ _ hl, be2]⟩⟩
  intro ⟨a, b, c, d⟩ e ⟨f, g, h, hq, hvol⟩
  have hsb : 0 ≤ sbe * pnc := mul_nonneg h b
  have hsbdt : 0 ≤ sbe * pnc * dt := mul_nonneg hsb a.le
  have hfrac0 : 0 ≤ spf / 100 := div_nonneg c (by norm_num)
  have hfrac1 : spf / 100 ≤ 1 := (div_le_one (by norm_num)).mpr d
  have hfdnn : 0 ≤ fd := by rw [hfd]; exact add_nonneg fd0nn (mul_nonneg hsbdt hfrac0)
  have hfdle : fd ≤ s + up * dt + lat * dt + sbe * pnc * dt := by
    rw [hfd]
    have := fd0le e (mul_nonneg f a.le) (mul_nonneg g a.le)
    have := mul_le_of_le_one_right hsbdt hfrac1
    linarith
  have := bele hfdnn (mul_le_of_le_one_left hfdnn hfpf1)
  -- what is mixed is non-negative: floodplain deposition + bed exchange ≤ `fd` ≤ the mass present
  obtain ⟨n1, n2, n3⟩ := mn (by linarith) hq hvol
  exact ⟨n1, n2, div_nonneg (mul_nonneg hfpf0 hfdnn) a.le, hsb, n3⟩

end OW.C12
