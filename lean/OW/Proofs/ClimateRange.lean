import OW.Proofs.Climate
/-!
Verified numerics for C20 on the property's input range (dry bulb ≤ 55 °C, elevation ≤ 10000 m): an upper bound of the
Goff-Gratch saturation pressure at 55 °C and a lower bound of the barometric pressure up to 10 km, far enough apart
(18.04 kPa vs 22.4 kPa; true values 15.75 and 27.08) that crude rational enclosures suffice:
  log₁₀(373.16/328.16) ≤ 3/50,   10^(−3/4) ≤ 18.04/101.325 (0.1778… vs 0.17804…),   (228/293)^5.26 ≥ (228/293)^6.
-/
namespace OW.Proofs.Climate
open OW OW.Kernels.Climate

set_option exponentiation.threshold 2000 in
/-- true value 0.05581… -/
theorem logb_z55_upper : Real.logb 10 (373.16 / (55 + 273.16)) ≤ (3:ℝ) / 50 :=
  logb_le_of_le_zpow (by norm_num) 3 50 (by norm_num) (by norm_num)
    (by rw [show (373.16:ℝ) / (55 + 273.16) = 9329 / 8204 by norm_num, div_pow, div_le_iff₀ (by positivity)]; norm_num)

/-- the exponent is at most −3/4, and `10^(−3) ≤ (18.04 / 101.325)^4` -/
theorem vp_55_upper : vaporPressure (55:ℝ) ≤ 18.04 := by
  rw [vp_water 55 (by norm_num), ← le_div_iff₀' (by norm_num)]
  exact rpow_ten_le_of_zpow_le (by norm_num) (-3) 4 (by norm_num)
    ((expWater_upper _ _ (by norm_num) logb_z55_upper).trans (by norm_num)) (by norm_num)

theorem barometricPressure_eq (e : ℝ) :
    barometricPressure e = 101.3 * ((293 - 0.0065 * e) / 293) ^ (5.26:ℝ) := by
  unfold barometricPressure
  simp only [RealNum.pow_eq, RealNum.ofNat_lit 293]

theorem baro_base_range (e : ℝ) (h0 : 0 ≤ e) (h1 : e ≤ 10000) :
    (228:ℝ) / 293 ≤ (293 - 0.0065 * e) / 293 ∧ (293 - 0.0065 * e) / 293 ≤ 1 := by
  constructor
  · rw [div_le_div_iff_of_pos_right (by norm_num)]; linarith
  · rw [div_le_one (by norm_num)]; linarith

theorem rpow_baro_range {b x : ℝ} (hb : 0 < b) (hbx : b ≤ x) (hx : x ≤ 1) :
    b ^ (6:ℕ) ≤ x ^ (5.26:ℝ) ∧ x ^ (5.26:ℝ) ≤ 1 := by
  refine ⟨?_, Real.rpow_le_one (hb.le.trans hbx) hx (by norm_num)⟩
  calc b ^ (6:ℕ) = b ^ ((6:ℕ):ℝ) := (Real.rpow_natCast b 6).symm
    _ ≤ b ^ (5.26:ℝ) := Real.rpow_le_rpow_of_exponent_ge hb (hbx.trans hx) (by norm_num)
    _ ≤ x ^ (5.26:ℝ) := Real.rpow_le_rpow hb.le hbx (by norm_num)

theorem barometricPressure_range (e : ℝ) (h0 : 0 ≤ e) (h1 : e ≤ 10000) :
    22.4 ≤ barometricPressure e ∧ barometricPressure e ≤ 101.3 := by
  rw [barometricPressure_eq]
  obtain ⟨hb0, hb1⟩ := baro_base_range e h0 h1
  obtain ⟨hlo, hhi⟩ := rpow_baro_range (by norm_num) hb0 hb1
  have h6 : (22.4:ℝ) ≤ 101.3 * ((228:ℝ) / 293) ^ (6:ℕ) := by norm_num
  exact ⟨h6.trans (mul_le_mul_of_nonneg_left hlo (by norm_num)), mul_le_of_le_one_right (by norm_num) hhi⟩

end OW.Proofs.Climate
