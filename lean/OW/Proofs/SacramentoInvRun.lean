import OW.Proofs.SacramentoInvStep
import OW.Proofs.ScanBudget
/-!
C10 for Sacramento — from one step to whole runs: under the invariant the water held is non-negative and is the oracle's
storage term plus the water in transit, so that `step_spec` has the shape `RR.StepBudget` wants (`budget`); the state a
call starts from satisfies the invariant when its row does (`stateOfRow_inv`) and holds no water in transit.
Second half: the parameter sets `pA`, `pB` of the two counter-examples of OW/Props/C10Sacramento.lean and what the step
computes on them.
-/
namespace OW.RR.Sac
open OW OW.Kernels

theorem uhStor_nonneg (p : Sacramento.Params ℝ) (hp : ParamsOk p) (st : Sacramento.State ℝ) (hs : SacInv p st) :
    0 ≤ uhStor st.qq (Sacramento.consts p).dro := by
  obtain ⟨a, q1, q2, q3, q4, hqq, hq1, hq2, hq3, hq4⟩ := hs.qq
  obtain ⟨d0, d1, d2, d3, d4, hdro, hd0, hd1, hd2, hd3, hd4, -⟩ := dro_spec p hp
  rw [hqq, hdro]
  simp only [uhStor]
  have := mul_nonneg hq1 (by linarith : 0 ≤ d1 + d2 + d3 + d4)
  have := mul_nonneg hq2 (by linarith : 0 ≤ d2 + d3 + d4)
  have := mul_nonneg hq3 (by linarith : 0 ≤ d3 + d4)
  have := mul_nonneg hq4 hd4
  linarith

theorem stor_nonneg (p : Sacramento.Params ℝ) (hp : ParamsOk p) (st : Sacramento.State ℝ) (hs : SacInv p st) :
    0 ≤ stor p st := by
  unfold stor wSt
  have hf : 0 ≤ 1 - p.pctim - p.adimp := by linarith [hp.area]
  have h1 := mul_nonneg hf (by linarith [hs.tw0, hs.fw0, hs.lt0, hs.s0, hs.p0] :
    0 ≤ st.uztwc + st.uzfwc + st.lztwc + st.alzfsc + st.alzfpc)
  have h2 := mul_nonneg hp.adimp0 hs.a0
  have h3 := uhStor_nonneg p hp st hs
  linarith

/-- water held = the oracle's storage term + the water in transit in the unit-hydrograph buffer (which the code drops
at the end of a call and which is zero at its start) -/
theorem stor_eq_held (p : Sacramento.Params ℝ) (st : Sacramento.State ℝ) (hs : SacInv p st) :
    stor p st = held p st + uhStor st.qq (Sacramento.consts p).dro := by
  unfold stor held wSt
  rw [add_mul, hs.cp, hs.cs]
  ring

theorem budget (p : Sacramento.Params ℝ) (hp : ParamsOk p) :
    RR.StepBudget (Sacramento.step p (Sacramento.consts p)) (SacInv p) (InOk p) (stor p) (fun x => x.1)
      (fun o => o.runoff + o.actualET) OutOk where
  step_ok s x hs hx :=
    have h := step_spec p hp s x hs hx.1 hx.2.1 hx.2.2
    ⟨h.inv, h.budget, h.out⟩
  stor_nonneg := stor_nonneg p hp

theorem zeros5 : (zeros 5 : List ℝ) = [0, 0, 0, 0, 0] := rfl

theorem stateOfRow_inv (p : Sacramento.Params ℝ) (hp : ParamsOk p) (s0 s1 s2 s3 s4 s5 : ℝ)
    (h : RowInv p s0 s1 s2 s3 s4 s5) : SacInv p (stateOfRow p s0 s1 s2 s3 s4 s5) := by
  have hside := hp.side_pos.le
  obtain ⟨cs, cp⟩ := stateOfRow_scaled p s0 s1 s2 s3 s4 s5
  exact ⟨h.tw0, h.tw1, h.fw0, h.fw1, h.lt0, h.lt1, (mul_nonneg h.s0' hside).trans_eq cs,
    cs.symm.trans_le (mul_le_mul_of_nonneg_right h.s1' hside), (mul_nonneg h.p0 hside).trans_eq cp,
    cp.symm.trans_le (mul_le_mul_of_nonneg_right h.p1 hside), cs, cp, h.a0, h.a1, h.u,
    ⟨0, 0, 0, 0, 0, zeros5, le_refl _, le_refl _, le_refl _, le_refl _⟩⟩

theorem stateOfRow_stor (p : Sacramento.Params ℝ) (hp : ParamsOk p) (s0 s1 s2 s3 s4 s5 : ℝ)
    (h : RowInv p s0 s1 s2 s3 s4 s5) :
    stor p (stateOfRow p s0 s1 s2 s3 s4 s5) = held p (stateOfRow p s0 s1 s2 s3 s4 s5) := by
  rw [stor_eq_held p _ (stateOfRow_inv p hp s0 s1 s2 s3 s4 s5 h)]
  obtain ⟨d0, d1, d2, d3, d4, hdro, -⟩ := dro_spec p hp
  have : (stateOfRow p s0 s1 s2 s3 s4 s5).qq = [0, 0, 0, 0, 0] := zeros5
  rw [this, hdro]
  simp only [uhStor]
  ring

theorem zeroRow_inv (p : Sacramento.Params ℝ) (hp : ParamsOk p) : RowInv p 0 0 0 0 0 0 := by
  have := hp.lztwm_pos
  refine ⟨le_refl _, hp.uztwm.le, le_refl _, hp.uzfwm.le, le_refl _, this.le, le_refl _, hp.lzfpm.le, le_refl _,
    hp.lzfsm.le, le_refl _, by linarith, by simp⟩

theorem zeroRow_held (p : Sacramento.Params ℝ) : held p (stateOfRow p 0 0 0 0 0 0) = 0 := by
  unfold held stateOfRow
  simp

/-!
Parameter sets and evaluation lemmas for the two counter-examples of OW/Props/C10Sacramento.lean
(there the part of the step before the loop is evaluated on numerals in one go: `simp only` with the zone definitions,
then `norm_num`).
`pA`: a parameter set within `ParamsOk` for which a PET above `lztwm·(uztwm+uzfwm)/uzfwm` makes e5 negative.
`pB`: `lztwm = 0.1 mm` (below the 5 mm of `ParamsOk`), for which one rain increment drives the ADIMP store negative.
-/

noncomputable def pA : Sacramento.Params ℝ :=
  ⟨0, 0, 0, 20, 60, 10, 25, 60, 0.06, 1, 40, 0, 0, 0, 0.96, 0, 0.3, 1, 0, 0, 0, 0⟩

theorem channel_e4_zero (p : Sacramento.Params ℝ) (c : Sacramento.Consts ℝ) (qq : List ℝ) (E : ℝ)
    (v2 : Sacramento.Inner ℝ) (h : p.sarva = 0) : (Sacramento.channel p c qq E v2).e4 = 0 := by
  simp only [Sacramento.channel, realnum, RealNum.sci_zero, RealNum.sci_one]
  rw [h, mul_zero]
  exact min_eq_left (le_max_left _ _)

theorem uzOf_fst_of_empty (p : Sacramento.Params ℝ) (c : Sacramento.Consts ℝ) (dinc duz dlzp dlzs hpl : ℝ)
    (v : Sacramento.Inner ℝ) (h : ¬ 0 < v.uzfwc) : (uzOf p c dinc duz dlzp dlzs hpl v).1 = v.uzfwc := by
  have h' : ¬ @LT.lt ℝ Num.toLT (0.0 : ℝ) v.uzfwc := by simpa only [realnum, RealNum.sci_zero] using h
  unfold uzOf uzPart
  rw [if_neg h']

noncomputable def pB : Sacramento.Params ℝ :=
  ⟨0, 0, 0, 1, 40, 1 / 10, 25, 60, 0, 1, 0, 0, 0, 0, 1 / 2, 0, 0, 1, 0, 0, 0, 0⟩

theorem B_adj : adjOf (4 : ℝ) = 1 := by simp only [adjOf, realnum, RealNum.sci_one]; norm_num
theorem B_ninc : nincOf (1 : ℝ) 4 0 = 1 := by
  rw [nincOf_eq]; norm_num
theorem B_addro : addroOf pB 1 4 (9 / 8) 0 = 25 / 4 := by
  simp only [addroOf, ratioOf, pavIOf, pB, realnum, RealNum.sci_zero, RealNum.sci_one]
  norm_num

theorem loopsOf_adimc_one (p : Sacramento.Params ℝ) (c : Sacramento.Consts ℝ) (u3 pav : ℝ) (v0 : Sacramento.Inner ℝ)
    (hpav : pav ≤ 5.08) (hn : nincOf (adjOf pav) pav v0.uzfwc = 1) (hu : ¬ 0 < v0.uzfwc) :
    (loopsOf p c u3 pav v0).adimc = v0.adimc + pav - addroOf p u3 pav v0.adimc v0.uzfwc := by
  simp only [loopsOf, realnum, if_pos hpav]
  rw [iiBody_eq, hn]
  show (Sacramento.incBody p c u3 _ _ _ _ _ _ (iiTags (adjOf pav) 1 v0)).adimc = _
  rw [incBody_eq]
  simp only []
  rw [uzOf_fst_of_empty _ _ _ _ _ _ _ (iiTags (adjOf pav) 1 v0) hu]
  simp only [realnum, RealNum.sci_one, RealNum.ofInt_eq, Int.cast_one, div_one, mul_one]
  rfl

end OW.RR.Sac
