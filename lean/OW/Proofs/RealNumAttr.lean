import Lean.Meta.Tactic.Simp.RegisterCommand
/-- The `Num ℝ` operations, literals and helper functions of a kernel unfolded at `ℝ`, rewritten to the standard real ones
(lemmas in OW/Proofs/RealNum.lean). Terminating in one pass: use as `simp only [realnum]`. -/
register_simp_attr realnum
