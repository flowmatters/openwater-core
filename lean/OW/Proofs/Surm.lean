import OW.Proofs.RealNum
import OW.Proofs.ScanBudget
import Mathlib.Tactic.Ring
import OW.Kernels.Surm
import Mathlib.Tactic.NormNum
import Mathlib.Analysis.SpecialFunctions.Exp
/-!
C10 for SURM: the one-step theorem (state invariant, components, non-negativity, water budget), given as an `RR.StepBudget`
(OW/Proofs/ScanBudget.lean), whose `run` and `take` lift it to runs. The loop body's `let`s become local definitions; each gets
its bounds, and the budget is one `ring` identity.
-/
namespace OW.RR

/-! ### store arithmetic shared by SURM and SIMHYD (Simhyd.lean imports this file for it) -/

/-- A store filled to `a` and clipped at its capacity `c`; `p` is whatever form of the test `c < a` the kernel has. -/
theorem clip_spec {a c : ℝ} (ha : 0 ≤ a) (hc : 0 ≤ c) {p : Prop} [Decidable p] (hp : p ↔ c < a) :
    0 ≤ (if p then c else a) ∧ (if p then c else a) ≤ c ∧ (if p then c else a) ≤ a ∧
    max (a - c) 0 = a - (if p then c else a) := by
  split_ifs with h
  · exact ⟨hc, le_rfl, (hp.1 h).le, max_eq_left (sub_nonneg.2 (hp.1 h).le)⟩
  · have hac : a ≤ c := not_lt.1 (mt hp.2 h)
    exact ⟨ha, hac, le_rfl, by rw [sub_self, max_eq_right (sub_nonpos.2 hac)]⟩

theorem clip_handover {a c : ℝ} {p : Prop} [Decidable p] (g : ℝ) :
    (if p then g + (a - c) else g) = g + (a - (if p then c else a)) := by
  split_ifs
  · rfl
  · rw [sub_self, add_zero]

theorem excess_bounds {a d : ℝ} (ha : 0 ≤ a) (hd : 0 ≤ d) : 0 ≤ max (a - d) 0 ∧ max (a - d) 0 ≤ a :=
  ⟨le_max_right _ _, max_le (sub_le_self _ hd) ha⟩

end OW.RR

namespace OW.RR.Surm
open OW OW.Kernels.Surm

/-- physically meaningful parameter ranges (fractions in [0,1], capacities in mm). `smax ≥ 10` is needed:
the ET term `min(10·sms/smax, pet)` exceeds the store when `smax < 10`. -/
structure ParamsOk (p : Params ℝ) : Prop where
  bfac0 : 0 ≤ p.bfac
  bfac1 : p.bfac ≤ 1
  coeff0 : 0 ≤ p.coeff
  dseep0 : 0 ≤ p.dseep
  dseep1 : p.dseep ≤ 1
  fc0 : 0 ≤ p.fcFrac
  fimp0 : 0 ≤ p.fimp
  fimp1 : p.fimp ≤ 1
  rfac0 : 0 ≤ p.rfac
  rfac1 : p.rfac ≤ 1
  smax10 : 10 ≤ p.smax
  thres0 : 0 ≤ p.thres

def Inv (p : Params ℝ) (s : State ℝ) : Prop := 0 ≤ s.sms ∧ s.sms ≤ p.smax ∧ 0 ≤ s.gw

/-- water held per unit catchment area (the stores belong to the pervious fraction) -/
def stor (p : Params ℝ) (s : State ℝ) : ℝ := (1 - p.fimp) * (s.sms + s.gw)

def OutOk (o : Out ℝ) : Prop :=
  o.runoff = o.quickflow + o.baseflow ∧ 0 ≤ o.runoff ∧ 0 ≤ o.quickflow ∧ 0 ≤ o.baseflow ∧ 0 ≤ o.store

/-- the only divisor of the loop body -/
theorem divisors_pos (p : Params ℝ) (hp : ParamsOk p) : 0 < p.smax := by linarith [hp.smax10]

theorem ten_mul_div_le {s m : ℝ} (hs : 0 ≤ s) (hm : 10 ≤ m) : 10 * s / m ≤ s :=
  div_le_of_le_mul₀ (le_trans (by norm_num) hm) hs ((mul_comm 10 s).trans_le (mul_le_mul_of_nonneg_left hm hs))

/-- One step, for non-negative rain and ANY potential evapotranspiration (`et` is clamped at zero). -/
theorem step_spec (p : Params ℝ) (hp : ParamsOk p) (s : State ℝ) (x : ℝ × ℝ) (hs : Inv p s) (hr : 0 ≤ x.1) :
    Inv p (step p s x).1 ∧
    (step p s x).2.runoff + stor p (step p s x).1 ≤ x.1 + stor p s ∧
    OutOk (step p s x).2 := by
  obtain ⟨hs0, hs1, hg0⟩ := hs
  have hsmax : 0 < p.smax := divisors_pos p hp
  unfold step
  rw [RealNum.sci_zero, RealNum.lit1, RealNum.ofNat_lit 10]
  extract_lets fperv fc rain pet imp q0 maxInf inf infx sms1 satx sms2 pq q et sms3 rch gw1 sms4 seep gw2 bf0 gw3 bf
    runoff total
  have hfperv : 0 ≤ fperv := sub_nonneg.2 hp.fimp1
  -- impervious area: `imp · fimp` runs off, `(rain − imp) · fimp` is lost
  obtain ⟨himp0, himp1⟩ := excess_bounds hr hp.thres0
  have hq0 : q0 = imp * p.fimp := zero_add _
  have hq00 : 0 ≤ imp * p.fimp := mul_nonneg himp0 hp.fimp0
  have hq01 : 0 ≤ (rain - imp) * p.fimp := mul_nonneg (sub_nonneg.2 himp1) hp.fimp0
  have hinf0 : 0 ≤ inf := le_min (mul_nonneg hp.coeff0 (Real.exp_pos _).le) hr
  have hinf1 : inf ≤ rain := min_le_right _ _
  have hinfx : 0 ≤ infx := mul_nonneg hfperv (sub_nonneg.2 hinf1)
  -- saturation excess is what the clip at `smax` removes
  obtain ⟨hsms20, hsms21, hsms22, hspill⟩ := clip_spec (add_nonneg hs0 hinf0) hsmax.le (Iff.refl (p.smax < sms1))
  have hsatx : satx = (sms1 - sms2) * fperv := congrArg (· * fperv) hspill
  have hsatx0 : 0 ≤ (sms1 - sms2) * fperv := mul_nonneg (sub_nonneg.2 hsms22) hfperv
  -- evapotranspiration: at most the store, since `10 / smax ≤ 1`
  have het0 : 0 ≤ et := le_max_right _ _
  have het1 : et ≤ sms2 :=
    max_le ((min_le_left _ _).trans (ten_mul_div_le hsms20 hp.smax10)) hsms20
  -- recharge: a fraction of the store above field capacity
  obtain ⟨hm0, hm1⟩ := excess_bounds (a := sms3) (sub_nonneg.2 het1) (mul_nonneg hp.fc0 hsmax.le)
  have hrch0 : 0 ≤ rch := mul_nonneg hp.rfac0 hm0
  have hrch1 : rch ≤ sms3 := (mul_le_of_le_one_left hm0 hp.rfac1).trans hm1
  -- groundwater: seepage is lost, baseflow is a fraction of what is left
  obtain ⟨hgw20, hgw21⟩ := excess_bounds (add_nonneg hg0 hrch0) (mul_nonneg hp.dseep0 (add_nonneg hg0 hrch0))
  have hbf00 : 0 ≤ bf0 := mul_nonneg hp.bfac0 hgw20
  have hgw3 : gw3 = gw2 - bf0 := max_eq_left (sub_nonneg.2 (mul_le_of_le_one_left hgw20 hp.bfac1))
  have hbf : 0 ≤ bf := mul_nonneg hbf00 hfperv
  have hloss : 0 ≤ fperv * (et + (gw1 - gw2)) := mul_nonneg hfperv (add_nonneg het0 (sub_nonneg.2 hgw21))
  have key : runoff + fperv * (sms4 + gw3) =
      rain + fperv * (s.sms + s.gw) - (rain - imp) * p.fimp - fperv * (et + (gw1 - gw2)) := by
    simp only [runoff, q, pq, bf, sms4, sms3, gw1, sms1, infx, fperv, hq0, hsatx, hgw3]
    ring
  have hsms4 : 0 ≤ sms4 := sub_nonneg.2 hrch1
  have hsms41 : sms4 ≤ p.smax := (sub_le_self _ hrch0).trans ((sub_le_self _ het0).trans hsms21)
  have hgw30 : 0 ≤ gw3 := le_max_right _ _
  have hq : 0 ≤ q := add_nonneg (hq0 ▸ hq00) (add_nonneg hinfx (hsatx ▸ hsatx0))
  have budget : runoff + fperv * (sms4 + gw3) ≤ rain + fperv * (s.sms + s.gw) := by linarith
  exact ⟨⟨hsms4, hsms41, hgw30⟩, budget, rfl, add_nonneg hq hbf, hq, hbf, add_nonneg hsms4 hgw30⟩

theorem budget (p : Params ℝ) (hp : ParamsOk p) :
    StepBudget (step p) (Inv p) (fun x => 0 ≤ x.1) (stor p) (·.1) (·.runoff) OutOk :=
  ⟨step_spec p hp, fun _ hs => mul_nonneg (sub_nonneg.2 hp.fimp1) (add_nonneg hs.1 hs.2.2)⟩

end OW.RR.Surm
