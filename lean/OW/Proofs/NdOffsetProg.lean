import OW.Proofs.NdOffsetBulk
import OW.Proofs.NdC03Bulk
import OW.Proofs.NdC03Prog
/-!
Offset roots, continued: whole programs. The lock-step simulation in its three-place form — a Go-side state `sg`, a
C-side state `sc`, and a NORMAL FORM `scN` of `sc` (same heap; every live array replaced by its normal form `Norm`:
offset-root arrays by their `unshift`) with `World sg scN` and `NormSt sc scN`. `step_simN` does every operation of the
fragment: the pair lemma of `NdC03Rel` / `NdC03Bulk` on the normal form, then the transfer lemma of the operation
(`NdOffsetRoot` / `NdOffsetBulk`); the reshapes by `reshape_pairN`, for every `Start`. `run_simA` is the whole-program
form. It serves two domains (`Keeps` says how): the narrow `OpOK`, where a C-side state that is its own normal form
(`scN = sc`) stays so and the result is `World` again, for any back-ends; and the widened `OpOK'` — WITHOUT the exclusion of
successful reshapes of contiguous views with `Start > 0` —, where the Go-side arrays have to be Go-backed and the result is
`WorldO`: some normal form of the C-side state is in lock step with the Go-side state.
-/
namespace OW.NdOff
open OW.Nd OW.NdC02 OW.NdC03

section
variable {α : Type}

/-- the domain of the full fragment: `OpOK` of `NdC03Prog`, with the reshape requests widened to EVERY request of the
right size (non-empty shape, extents ≥ 1), contiguous with `Start > 0` included -/
def OpOK' (arrs : List Arr) : Op α → Prop
  | .reshape i shape => ∃ a, arrs[i]? = some a ∧
      (product shape ≠ a.v.size ∨ (product shape = a.v.size ∧ shape ≠ [] ∧ Pos shape))
  | .reshapeFast i shape => ∃ a, arrs[i]? = some a ∧
      (a.v.contiguous = .ok false ∨ product shape ≠ a.v.size ∨ (product shape = a.v.size ∧ shape ≠ [] ∧ Pos shape))
  | op => OpOK arrs op

def ProgOK' : St α → List (Op α) → Prop
  | _, [] => True
  | s, op :: ops => OpOK' s.arrs op ∧ ∀ s' o, stepOp s op = .ok (s', o) → ProgOK' s' ops

theorem opOK_toOK' {arrs : List Arr} {op : Op α} (h : OpOK arrs op) : OpOK' arrs op := by
  -- the reshape requests: drop the last conjunct of the last disjunct
  cases op with
  | reshape i shape => exact h.imp fun _ => And.imp_right (Or.imp_right fun ⟨h1, h2, h3, _⟩ => ⟨h1, h2, h3⟩)
  | reshapeFast i shape =>
    exact h.imp fun _ => And.imp_right (Or.imp_right (Or.imp_right fun ⟨h1, h2, h3, _⟩ => ⟨h1, h2, h3⟩))
  | _ => exact h

/-- `scN` is a normal form of the state `sc`: the same heap, each live array replaced by a normal form of it (`Norm`) -/
structure NormSt (sc scN : St α) : Prop where
  heap : scN.heap = sc.heap
  len : sc.arrs.length = scN.arrs.length
  norm : ∀ (i : Nat) (c c' : Arr), sc.arrs[i]? = some c → scN.arrs[i]? = some c' → Norm c c'

theorem NormSt.refl (s : St α) : NormSt s s :=
  ⟨rfl, rfl, fun _ _ _ h1 h2 => by rw [h1] at h2; injection h2 with h2; subst h2; exact Norm.refl _⟩

theorem NormSt.push {sc scN : St α} (ns : NormSt sc scN) {c c' : Arr} (n : Norm c c') (h' : Heap α) :
    NormSt ⟨h', sc.arrs ++ [c]⟩ ⟨h', scN.arrs ++ [c']⟩ := by
  refine ⟨rfl, by simp [ns.len], fun i a b h1 h2 => ?_⟩
  rcases append_pair_cases ns.len h1 h2 with ⟨e1, e2⟩ | ⟨_, rfl, rfl⟩
  · exact ns.norm i a b e1 e2
  · exact n

/-- lock step up to normal forms: the Go-side arrays are Go-backed, and some normal form of the C-side state is in lock step
(`World`) with the Go-side state -/
structure WorldO (sg sc : St α) : Prop where
  goSide : ∀ (i : Nat) (g : Arr), sg.arrs[i]? = some g → g.isC = false
  nf : ∃ scN : St α, World sg scN ∧ NormSt sc scN

/-- the normal form of the array `Reshape` returns for a contiguous view, of either back-end -/
def aliasN (c' : Arr) (s : Idx) : Arr :=
  { v := rootView s 0, sid := c'.sid, base := c'.base + c'.v.start,
    len := if c'.isC = true then c'.len - c'.v.start else c'.v.size, isC := c'.isC }

theorem aliasN_c {c' : Arr} (hC : c'.isC = true) (s : Idx) : aliasN c' s = unshift c'.v.start (cAliasArr c' s) := by
  rw [unshift_cAlias, aliasN, if_pos hC]

theorem aliasN_go {a : Arr} (hC : a.isC = false) (s : Idx) : aliasN a s = aliasArr a s := by
  simp [aliasN, aliasArr, hC]

theorem arrOK_aliasN {h : Heap α} {c' : Arr} (g : Geo c'.v) (ok : ArrOK h c') (hc : c'.v.contiguous = .ok true)
    {s : Idx} (hsz : product s = c'.v.size) : ArrOK h (aliasN c' s) := by
  by_cases hC : c'.isC = true
  · -- the `unshift` of `cAliasArr`: the block `Start + [0, Π s)` lies inside the allocated shape
    obtain ⟨w0, w1⟩ := contig_window g hc
    have hf := ok.fits
    have hcf := ok.cfits hC
    have hsz' : product s = product c'.v.dims := hsz
    rw [aliasN_c hC]
    exact arrOK_unshift ok.store ok.base_nonneg w0 (show c'.v.start + product s ≤ c'.len by omega)
      (show c'.v.start + product s ≤ 1073741824 by omega)
  · rw [aliasN_go (by simpa using hC)]
    exact arrOK_alias g ok hc hsz

theorem norm_aliasN {h : Heap α} {c c' : Arr} (n : Norm c c') (g : Geo c'.v) (ok : ArrOK h c')
    (hc : c'.v.contiguous = .ok true) {s : Idx} (hsz : product s = c'.v.size) :
    Norm (reshapedArr c s) (aliasN c' s) := by
  obtain ⟨w0, w1⟩ := contig_window g hc
  have hsz' : product s = product c'.v.dims := hsz
  by_cases hC : c'.isC = true
  · have hCc : c.isC = true := n.isC.trans hC
    have hcf := ok.cfits hC
    rw [reshapedArr, if_pos hCc, aliasN_c hC]
    rcases n with rfl | ⟨st, sh⟩
    · exact Or.inr ⟨_, cAlias_sh hC w0 (by omega)⟩
    · obtain ⟨b0, b1, _⟩ := sh.block_bounds w0 (hsz' ▸ w1)
      rw [← sh.unshift_cAlias]
      exact Or.inr ⟨_, cAlias_sh hCc b0 b1⟩
  · have hgo : c'.isC = false := by simpa using hC
    have e : c' = c := n.eq_of_go (by rw [n.isC]; exact hgo)
    subst e
    rw [reshapedArr, if_neg hC, aliasN_go hgo]
    exact Norm.refl _

theorem aliasN_eq_reshaped {a : Arr} (s : Idx) (h : a.isC = false ∨ a.v.start = 0) : aliasN a s = reshapedArr a s := by
  cases hC : a.isC with
  | false => rw [aliasN_go hC, reshapedArr, if_neg (by simp [hC])]
  | true =>
    obtain h0 : a.v.start = 0 := h.resolve_left (by simp [hC])
    simp [aliasN, reshapedArr, cAliasArr, h0, hC]

/-- the pair lemma of `Reshape`, for ANY `Start` on the C side. `hN`: the Go-side operand is Go-backed or starts at 0, so
that the Go-side result is a `Reach` array. -/
theorem reshape_pairN {hg hc : Heap α} {g c c' : Arr} (r : RelW hg hc g c') (n : Norm c c') {s : Idx}
    (hsz : product s = g.v.size) (hs : s ≠ []) (hp : Pos s)
    (hN : g.v.contiguous = .ok true → g.isC = false ∨ g.v.start = 0) :
    (g.v.contiguous = .ok true ∧ Nd.reshape hg g s = .ok (hg, .inr (reshapedArr g s)) ∧
      Nd.reshape hc c s = .ok (hc, .inr (reshapedArr c s)) ∧ Norm (reshapedArr c s) (aliasN c' s) ∧
      RelW hg hc (reshapedArr g s) (aliasN c' s) ∧
      winOf (reshapedArr g s) (aliasN c' s) = ⟨g.sid, g.base + g.v.start, c'.sid, c'.base + g.v.start⟩) ∨
    (g.v.contiguous = .ok false ∧ ∃ vals, NdC02.getAll hg g (rowMajor g.v.dims) = .ok vals ∧
      Nd.reshape hg g s = .ok (hg ++ [vals], .inr (freshArr hg vals s)) ∧
      Nd.reshape hc c s = .ok (hc ++ [vals], .inr (freshArr hc vals s)) ∧
      RelW (hg ++ [vals]) (hc ++ [vals]) (freshArr hg vals s) (freshArr hc vals s)) := by
  have gg := r.geo
  have gc := r.geoC
  have hszc : product s = c'.v.size := by rw [← r.view]; exact hsz
  obtain ⟨b, hb, hbc⟩ := r.contiguous
  cases b with
  | true =>
    -- the Go-side result is its own normal form
    rw [← aliasN_eq_reshaped (a := g) s (hN hb)]
    have hwin : winOf (aliasN g s) (aliasN c' s) = ⟨g.sid, g.base + g.v.start, c'.sid, c'.base + g.v.start⟩ := by
      simp only [winOf, aliasN, r.view]
    refine Or.inl ⟨hb, aliasN_eq_reshaped (a := g) s (hN hb) ▸ reshape_contig r.geo r.okG hs hsz hb, ?_,
      norm_aliasN n gc r.okC hbc hszc,
      ⟨rfl, reach_root hs hp, arrOK_aliasN gg r.okG hb hsz, arrOK_aliasN gc r.okC hbc hszc, ?_⟩, hwin⟩
    · -- the C-side operand may be an offset root: `Reshape` through its normal form
      rcases n with rfl | ⟨st, sh⟩
      · exact reshape_contig r.geoC r.okC hs hszc hbc
      · rw [reshapedArr, if_pos sh.isC]
        exact reshape_c_alias_norm hc (Or.inr ⟨st, sh⟩) gc hs hszc hbc sh.isC'
    · rw [hwin]
      exact hsz ▸ relHeaps_contig r hb
  | false =>
    obtain ⟨vals, v1, v2, hlen⟩ := r.elems
    have e2N := reshape_copy (h := hc) gc hs hszc hbc v2
    refine Or.inr ⟨hb, vals, v1, reshape_copy gg hs hsz hb v1, ?_, relW_fresh hg hc vals hs hp (hlen.trans hsz.symm)⟩
    rcases n with rfl | ⟨st, sh⟩
    · exact e2N
    · rw [reshape_sh hc sh gc, e2N]; rfl

/-- `reshape_pairN` when the C-side operand is its own normal form and a contiguous view starts at 0: the two results are a
`RelW` pair themselves. (`step_simR` does not go through it: it takes both domains from `reshape_pairN`.) -/
theorem _root_.OW.NdC03.RelW.reshape {hg hc : Heap α} {g c : Arr} (r : RelW hg hc g c) {s : Idx} (hsz : product s = g.v.size)
    (hs : s ≠ []) (hp : Pos s) (hdom : g.v.contiguous = .ok false ∨ g.v.start = 0) :
    ∃ hg' hc' bg bc, Nd.reshape hg g s = .ok (hg', .inr bg) ∧ Nd.reshape hc c s = .ok (hc', .inr bc) ∧
      RelW hg' hc' bg bc ∧
      ((hg' = hg ∧ hc' = hc ∧ winOf bg bc = winOf g c) ∨
       (∃ vals, hg' = hg ++ [vals] ∧ hc' = hc ++ [vals] ∧ bg.sid = hg.length ∧ bc.sid = hc.length)) := by
  have h0 : g.v.contiguous = .ok true → g.v.start = 0 := fun hb => hdom.resolve_left (by rw [hb]; simp)
  rcases reshape_pairN r (Norm.refl c) hsz hs hp (fun hb => Or.inr (h0 hb)) with
    ⟨hb, e1, e2, _, r', hw⟩ | ⟨_, vals, _, e1, e2, r'⟩
  · -- `Start = 0`: the C-side result is its own normal form too
    rw [aliasN_eq_reshaped s (Or.inr (r.view ▸ h0 hb))] at r' hw
    rw [h0 hb] at hw
    exact ⟨_, _, _, _, e1, e2, r', Or.inl ⟨rfl, rfl, by rw [hw]; simp [winOf]⟩⟩
  · exact ⟨_, _, _, _, e1, e2, r', Or.inr ⟨vals, rfl, rfl, rfl, rfl⟩⟩

theorem reshape_contig_pair {hg hc : Heap α} {g c c' : Arr} (r : RelW hg hc g c') (n : Norm c c') (hgo : g.isC = false)
    {s : Idx} (hsz : product s = g.v.size) (hs : s ≠ []) (hp : Pos s) (hcg : g.v.contiguous = .ok true) :
    Nd.reshape hg g s = .ok (hg, .inr (aliasArr g s)) ∧
    Nd.reshape hc c s = .ok (hc, .inr (reshapedArr c s)) ∧
    Norm (reshapedArr c s) (aliasN c' s) ∧
    RelW hg hc (aliasArr g s) (aliasN c' s) ∧
    winOf (aliasArr g s) (aliasN c' s) = ⟨g.sid, g.base + g.v.start, c'.sid, c'.base + g.v.start⟩ := by
  have e : reshapedArr g s = aliasArr g s := if_neg (by simp [hgo])
  rcases reshape_pairN r n hsz hs hp (fun _ => Or.inl hgo) with h | ⟨hb, _⟩
  · exact e ▸ h.2
  · rw [hcg] at hb; cases hb

theorem partnerN {sg sc scN : St α} (w : World sg scN) (ns : NormSt sc scN) {i : Nat} {g : Arr}
    (hg : sg.arrs[i]? = some g) :
    ∃ c' c, scN.arrs[i]? = some c' ∧ sc.arrs[i]? = some c ∧ RelW sg.heap scN.heap g c' ∧ Norm c c' := by
  obtain ⟨c', hc', r⟩ := w.partner hg
  have hi : i < sc.arrs.length := by rw [ns.len]; exact (List.getElem?_eq_some_iff.mp hc').1
  exact ⟨c', sc.arrs[i], hc', List.getElem?_eq_getElem hi, r, ns.norm i _ _ (List.getElem?_eq_getElem hi) hc'⟩

/-- What one step keeps, in the three-place form: `sg'` in lock step with a normal form `scN'` of `sc'`, and one clause for
each of the two domains. Narrow (`narrow` is `OpOK` of the request, `ProgOK` of a program): a C-side state that is its own
normal form stays so, which turns `World sg' scN'` into `World sg' sc'`. Widened: a Go side of Go-backed arrays stays so.
The hypothesis `hN` of `step_simR` / `step_simN` / `run_simA` is the same alternative; either gives what `reshape_pairN`
needs: a contiguous Go-side operand is Go-backed or starts at 0. -/
def Keeps (narrow : Prop) (sg sc scN sg' sc' : St α) : Prop :=
  ∃ scN', World sg' scN' ∧ NormSt sc' scN' ∧ (narrow → sc.arrs = scN.arrs → sc'.arrs = scN'.arrs) ∧
    ((∀ (i : Nat) (g : Arr), sg.arrs[i]? = some g → g.isC = false) →
      ∀ (i : Nat) (g : Arr), sg'.arrs[i]? = some g → g.isC = false)

theorem Keeps.same {narrow : Prop} {sg sc scN : St α} (w : World sg scN) (ns : NormSt sc scN) :
    Keeps narrow sg sc scN sg sc := ⟨scN, w, ns, fun _ => id, id⟩

theorem Keeps.write {narrow : Prop} {sg sc scN : St α} (w : World sg scN) (ns : NormSt sc scN) {i : Nat} {g c' : Arr}
    (hg : sg.arrs[i]? = some g) (hc' : scN.arrs[i]? = some c') {hg' hcN : Heap α}
    (pw : Paired (winOf g c') sg.heap scN.heap hg' hcN) :
    Keeps narrow sg sc scN { sg with heap := hg' } { sc with heap := hcN } :=
  ⟨_, w.update hg hc' pw, ⟨rfl, ns.len, ns.norm⟩, fun _ => id, id⟩

theorem Keeps.push {narrow : Prop} {sg sc scN : St α} (ns : NormSt sc scN) {hg' h' : Heap α} {bg bc bN : Arr}
    (w' : World ⟨hg', sg.arrs ++ [bg]⟩ ⟨h', scN.arrs ++ [bN]⟩) (n : Norm bc bN)
    (hown : narrow → sc.arrs = scN.arrs → bc = bN)
    (hgo : (∀ (i : Nat) (g : Arr), sg.arrs[i]? = some g → g.isC = false) → bg.isC = false) :
    Keeps narrow sg sc scN ⟨hg', sg.arrs ++ [bg]⟩ ⟨h', sc.arrs ++ [bc]⟩ :=
  ⟨_, w', ns.push n h', fun p e => by rw [e, hown p e], fun h i g e => by
    rcases append_pair_cases rfl e e with ⟨e', _⟩ | ⟨_, rfl, _⟩
    · exact h i g e'
    · exact hgo h⟩

/-- `h0`: inside the narrow domain a contiguous operand starts at 0, so that both results are their own normal forms;
outside it (`hN`) the Go-side operand is Go-backed, and so is its result -/
theorem step_simR {narrow : Prop} {sg sc scN : St α} (w : World sg scN) (ns : NormSt sc scN) {i : Nat} {shape : Idx}
    {g : Arr} (hg : sg.arrs[i]? = some g)
    (hdom : product shape ≠ g.v.size ∨ (product shape = g.v.size ∧ shape ≠ [] ∧ Pos shape))
    (hN : narrow ∨ ∀ (i : Nat) (g : Arr), sg.arrs[i]? = some g → g.isC = false)
    (h0 : narrow → product shape = g.v.size → g.v.contiguous = .ok true → g.v.start = 0) :
    ∃ sg' sc' o, stepOp sg (.reshape i shape) = .ok (sg', o) ∧ stepOp sc (.reshape i shape) = .ok (sc', o) ∧
      Keeps narrow sg sc scN sg' sc' := by
  obtain ⟨c', c, hc', hc, r, n⟩ := partnerN w ns hg
  obtain ⟨hC, arrsC⟩ := sc
  obtain ⟨h, arrsN⟩ := scN
  obtain rfl : h = hC := ns.heap
  rcases hdom with hne | ⟨hsz, hs, hp⟩
  · have e1 := reshape_mismatch sg.heap g shape hne
    have e2 := reshape_mismatch h c shape (by rw [n.size, ← r.view]; exact hne)
    exact ⟨sg, _, .err "size-mismatch", by simp only [step_eval, hg, e1], by simp only [step_eval, hc, e2], .same w ns⟩
  · rcases reshape_pairN r n hsz hs hp (fun hb => hN.symm.imp (· i g hg) (h0 · hsz hb)) with
      ⟨hb, e1, e2, nb, r', hw⟩ | ⟨_, vals, _, e1, e2, r'⟩
    · refine ⟨_, _, .unit, by simp only [step_eval, hg, e1], by simp only [step_eval, hc, e2],
        .push ns (w.pushD hg hc' r' g.v.start hw) nb (fun ok e => ?_) (fun hgo => ?_)⟩
      · -- own normal form: `c' = c`, and `Start = 0` inside the narrow domain
        subst e
        obtain rfl := Option.some.inj (hc'.symm.trans hc)
        rw [aliasN_eq_reshaped shape (Or.inr (r.view ▸ h0 ok hsz hb))]
      · rw [reshapedArr, if_neg (by simp [hgo i g hg])]; rfl
    · exact ⟨_, _, .unit, by simp only [step_eval, hg, e1], by simp only [step_eval, hc, e2],
        .push ns (w.alloc r' rfl rfl) (Norm.refl _) (fun _ _ => rfl) (fun _ => rfl)⟩

theorem opOK_reshape_start {arrs : List Arr} {i : Nat} {shape : Idx} {g : Arr} (hg : arrs[i]? = some g)
    (hsz : product shape = g.v.size) (hb : g.v.contiguous = .ok true) :
    (OpOK arrs (.reshape i shape : Op α) → g.v.start = 0) ∧ (OpOK arrs (.reshapeFast i shape : Op α) → g.v.start = 0) := by
  constructor <;> rintro ⟨a, ha, hd⟩ <;> obtain rfl := Option.some.inj (ha.symm.trans hg)
  · rcases hd with h | ⟨_, _, _, h | h⟩
    · exact absurd hsz h
    · rw [hb] at h; cases h
    · exact h
  · rcases hd with h | h | ⟨_, _, _, h⟩
    · rw [hb] at h; cases h
    · exact absurd hsz h
    · exact h

theorem step_simN {sg sc scN : St α} (w : World sg scN) (ns : NormSt sc scN) {op : Op α} (ok : OpOK' sg.arrs op)
    (hN : OpOK sg.arrs op ∨ ∀ (i : Nat) (g : Arr), sg.arrs[i]? = some g → g.isC = false) :
    ∃ sg' sc' o, stepOp sg op = .ok (sg', o) ∧ stepOp sc op = .ok (sc', o) ∧
      Keeps (OpOK sg.arrs op) sg sc scN sg' sc' := by
  obtain ⟨hC, arrsC⟩ := sc
  obtain ⟨h, arrsN⟩ := scN
  obtain rfl : h = hC := ns.heap
  cases op with
  | slice i loc dims step =>
    obtain ⟨g, hg, hok⟩ := ok
    obtain ⟨c', c, hc', hc, r, n⟩ := partnerN w ns hg
    obtain ⟨h1, h2, r'⟩ := r.slice hok
    obtain ⟨cs, h3, ncs⟩ := slice_norm n h2
    refine ⟨_, _, .unit, by simp only [step_eval, hg, h1], by simp only [step_eval, hc, h3],
      .push ns (w.pushD hg hc' r' 0 (by simp [winOf])) ncs (fun _ e => ?_) (fun hgo => hgo i g hg)⟩
    -- the state is its own normal form: `c = c'`, so the two slices are one
    subst e
    obtain rfl := Option.some.inj (hc.symm.trans hc')
    exact Except.ok.inj (h3.symm.trans h2)
  | get i loc =>
    obtain ⟨g, hg, hib⟩ := ok
    obtain ⟨c', c, hc', hc, r, n⟩ := partnerN w ns hg
    obtain ⟨x, h1, h2⟩ := r.get hib
    have e := (get_norm h n r.geoC (r.view ▸ hib)).trans h2
    exact ⟨sg, _, .val x, by simp only [step_eval, hg, h1], by simp only [step_eval, hc, e], .same w ns⟩
  | set i loc x =>
    obtain ⟨g, hg, hib⟩ := ok
    obtain ⟨c', c, hc', hc, r, n⟩ := partnerN w ns hg
    obtain ⟨hg', hcN, e1, e2, pw⟩ := r.set hib x
    have e := (set_norm h n r.geoC (r.view ▸ hib) x).trans e2
    exact ⟨_, _, .unit, by simp only [step_eval, hg, e1], by simp only [step_eval, hc, e], .write w ns hg hc' pw⟩
  | apply i loc dim step vals =>
    obtain ⟨g, hg, h0, h1, hok⟩ := ok
    obtain ⟨c', c, hc', hc, r, n⟩ := partnerN w ns hg
    obtain ⟨hg', hcN, e1, e2, pw⟩ := r.apply h0 h1 hok
    have e := (apply_norm h n r.geoC h0 (r.view ▸ h1) (r.applyOK hok)).trans e2
    exact ⟨_, _, .unit, by simp only [step_eval, hg, e1], by simp only [step_eval, hc, e], .write w ns hg hc' pw⟩
  | applySlice i j loc step =>
    obtain ⟨gd, gs, hgd, hgs, hne, hok⟩ := ok
    obtain ⟨cd', cd, hcd', hcd, rd, nd⟩ := partnerN w ns hgd
    obtain ⟨cs', cs, hcs', hcs, rs, nsr⟩ := partnerN w ns hgs
    obtain ⟨hg', hcN, e1, e2, pw⟩ := RelW.applySlice rd rs hne (w.sid_ne hgd hcd' hgs hcs' hne) hok
    have e := (applySlice_norm h nd nsr rd.geoC rs.geoC
      (by rw [← rd.view, ← rs.view]; exact hok)).trans e2
    exact ⟨_, _, .unit, by simp only [step_eval, hgd, hgs, e1], by simp only [step_eval, hcd, hcs, e],
      .write w ns hgd hcd' pw⟩
  | copyFrom i j =>
    obtain ⟨gd, gs, hgd, hgs, hne, hsh⟩ := ok
    obtain ⟨cd', cd, hcd', hcd, rd, nd⟩ := partnerN w ns hgd
    obtain ⟨cs', cs, hcs', hcs, rs, nsr⟩ := partnerN w ns hgs
    obtain ⟨hg', hcN, e1, e2, pw⟩ := RelW.copyFrom rd rs hne (w.sid_ne hgd hcd' hgs hcs' hne) hsh
    have e := (copyFrom_norm h nd nsr rd.geoC rs.geoC
      (by rw [← rd.view, ← rs.view]; exact hsh)).trans e2
    exact ⟨_, _, .unit, by simp only [step_eval, hgd, hgs, e1], by simp only [step_eval, hcd, hcs, e],
      .write w ns hgd hcd' pw⟩
  | unroll i =>
    obtain ⟨g, hg⟩ := ok
    obtain ⟨c', c, hc', hc, r, n⟩ := partnerN w ns hg
    obtain ⟨slg, slc, vals, h1, h2, h3, h4, _⟩ := r.unroll
    have e := (unroll_norm h n r.geoC).trans h2
    exact ⟨sg, _, .vals vals, by simp only [step_eval, hg, h1, h3], by simp only [step_eval, hc, e, h4], .same w ns⟩
  | contiguous i =>
    obtain ⟨g, hg⟩ := ok
    obtain ⟨c', c, hc', hc, r, n⟩ := partnerN w ns hg
    obtain ⟨b, hb, hbc'⟩ := r.contiguous
    have hbc := n.contiguous.trans hbc'
    exact ⟨sg, _, .flag b, by simp only [step_eval, hg, hb], by simp only [step_eval, hc, hbc], .same w ns⟩
  | extremum better i =>
    obtain ⟨g, hg⟩ := ok
    obtain ⟨c', c, hc', hc, r, n⟩ := partnerN w ns hg
    obtain ⟨x, h1, h2⟩ := r.extremum better
    have e := (extremum_norm better h n r.geoC).trans h2
    exact ⟨sg, _, .val x, by simp only [step_eval, hg, h1], by simp only [step_eval, hc, e], .same w ns⟩
  | zipWithInto f i j =>
    obtain ⟨gd, gs, hgd, hgs, hne, hsh⟩ := ok
    obtain ⟨cd', cd, hcd', hcd, rd, nd⟩ := partnerN w ns hgd
    obtain ⟨cs', cs, hcs', hcs, rs, nsr⟩ := partnerN w ns hgs
    have hneC := w.sid_ne hgd hcd' hgs hcs' hne
    obtain ⟨hg', hcN, _, _, e1, e2, _, _, _, _, pw⟩ :=
      RelW.zipWithInto rd rs f (fun e => hne e.symm) (fun e => hneC e.symm) hsh
    have e := (zipWithInto_norm f h nd nsr rd.geoC rs.geoC
      (by rw [← rd.view, ← rs.view]; exact hsh)).trans e2
    exact ⟨_, _, .unit, by simp only [step_eval, hgd, hgs, e1], by simp only [step_eval, hcd, hcs, e],
      .write w ns hgd hcd' pw⟩
  | reshape i shape =>
    obtain ⟨g, hg, hdom⟩ := ok
    exact step_simR w ns hg hdom hN (fun ok hsz hb => (opOK_reshape_start hg hsz hb).1 ok)
  | reshapeFast i shape =>
    obtain ⟨g, hg, hdom⟩ := ok
    obtain ⟨c', c, hc', hc, r, n⟩ := partnerN w ns hg
    obtain ⟨b, hb, hbc'⟩ := r.contiguous
    have hbc := n.contiguous.trans hbc'
    cases b with
    | false =>
      exact ⟨sg, _, .err "not-contiguous", by simp only [step_eval, hg, reshapeFast_noncontig (h := sg.heap) shape hb],
        by simp only [step_eval, hc, reshapeFast_noncontig (h := h) shape hbc], .same w ns⟩
    | true =>
      -- `ReshapeFast` of a contiguous view is `Reshape`
      obtain ⟨sg', sc', o, h1, h2, k⟩ := step_simR w ns hg (hdom.resolve_left (by rw [hb]; simp)) hN
        (fun ok hsz hb => (opOK_reshape_start hg hsz hb).2 ok)
      refine ⟨sg', sc', o, ?_, ?_, k⟩
      · rw [← h1]; simp only [step_eval, hg, reshapeFast_contig (h := sg.heap) shape hb]
      · rw [← h2]; simp only [step_eval, hc, reshapeFast_contig (h := h) shape hbc]

/-- `Props.C03.observational_equivalence_partial` is the instance `scN = sc`, narrow domain;
`Props.C03.observational_equivalence` the instance "Go side Go-backed" -/
theorem run_simA : ∀ (prog : List (Op α)) {sg sc scN : St α}, World sg scN → NormSt sc scN → ProgOK' sg prog →
    (ProgOK sg prog ∨ ∀ (i : Nat) (g : Arr), sg.arrs[i]? = some g → g.isC = false) →
    ∃ sg' sc' obs, run sg prog = .ok (sg', obs) ∧ run sc prog = .ok (sc', obs) ∧
      Keeps (ProgOK sg prog) sg sc scN sg' sc'
  | [], sg, sc, scN, w, ns, _, _ => ⟨sg, sc, [], rfl, rfl, scN, w, ns, fun _ => id, fun h => h⟩
  | op :: ops, sg, sc, scN, w, ns, ok, hN => by
    obtain ⟨sg1, sc1, o, h1, h2, scN1, w1, ns1, he1, hgo1⟩ := step_simN w ns ok.1 (hN.imp (·.1) id)
    obtain ⟨sg', sc', obs, r1, r2, scN', w', ns', he', hgo'⟩ :=
      run_simA ops w1 ns1 (ok.2 sg1 o h1) (hN.imp (·.2 sg1 o h1) hgo1)
    exact ⟨sg', sc', o :: obs, by simp only [run, h1, r1, bind, Except.bind, pure, Except.pure],
      by simp only [run, h2, r2, bind, Except.bind, pure, Except.pure], scN', w', ns',
      fun p e => he' (p.2 sg1 o h1) (he1 p.1 e), fun h => hgo' (hgo1 h)⟩

end
end OW.NdOff
