import OW.Proofs.StorageScanM
/-!
Hot-start lemmas for the Storage (reservoir water balance) kernel, C06. The kernel threads the list of branch tags through
its loops; `*_tags` show that the tags never influence a number (for the kernel as the model runs it, `keep = false`: with
`keep` the ghost trace records the accepted sub-steps, tags included). The loop itself (`Storage.loop`, `restartable_Storage`)
is in OW/Proofs/StoragePrefix.lean; `eR`, the erasure for a run's result, has no user. (`Loop` here is `Kernels.Storage.Loop`, the state of the sub-step loop of one timestep.)
-/
namespace OW.Proofs.StorageHot
open OW OW.Kernels.Storage
variable {α : Type} [Num α]

def eA (a : Accepted α) : Accepted α := { a with tags := [] }
def eL (s : Loop α) : Loop α := { s with tags := [] }

theorem trial_tags (t : Tables α) (inflow demand netFlux volume estOutflow area : α) :
    ∀ (fuel : Nat) (sub : α) (tags tags' : List String),
      (trial t inflow demand netFlux volume estOutflow area fuel sub tags).map eA =
      (trial t inflow demand netFlux volume estOutflow area fuel sub tags').map eA := by
  intro fuel
  induction fuel with
  | zero => intro sub tags tags'; rfl
  | succ n ih =>
    intro sub tags tags'
    simp only [trial]
    split
    · split
      · rfl
      · exact ih _ _ _
    · apply Except.map_bind_congr; intro avgArea
      apply Except.map_bind_congr; intro estOutflowAfter
      split
      · split
        · rfl
        · split
          · rfl
          · exact ih _ _ _
      · split
        · rfl
        · exact ih _ _ _

theorem outerBody_tags (t : Tables α) (fi : Nat) (inflow demand rps pps netFlux : α) (s s' : Loop α) (h : eL s = eL s') :
    (outerBody t false fi inflow demand rps pps netFlux s).map eL =
    (outerBody t false fi inflow demand rps pps netFlux s').map eL := by
  obtain ⟨tr, sub, vol, ov, rv, ev, tg, trc⟩ := s
  obtain ⟨tr', sub', vol', ov', rv', ev', tg', trc'⟩ := s'
  simp only [eL, Loop.mk.injEq] at h
  obtain ⟨rfl, rfl, rfl, rfl, rfl, rfl, _, rfl⟩ := h
  simp only [outerBody]
  apply Except.map_bind_congr; intro estOutflow
  apply Except.map_bind_congr; intro area
  apply Except.map_bind_congr2 _ _ _ _ eL eA (trial_tags t inflow demand netFlux vol estOutflow area fi _ tg tg')
  intro a a' haa
  obtain ⟨a1, a2, a3, a4, a5, a6, a7, a8⟩ := a
  obtain ⟨b1, b2, b3, b4, b5, b6, b7, b8⟩ := a'
  simp only [eA, Accepted.mk.injEq] at haa
  obtain ⟨rfl, rfl, rfl, rfl, rfl, rfl, rfl, _⟩ := haa
  simp only
  split
  · rfl
  · simp [Except.map, pure, Except.pure, eL]

theorem outer_tags (t : Tables α) (fi : Nat) (inflow demand rps pps netFlux : α) :
    ∀ (fo : Nat) (s s' : Loop α), eL s = eL s' →
      (outer t false fi inflow demand rps pps netFlux fo s).map eL =
      (outer t false fi inflow demand rps pps netFlux fo s').map eL := by
  intro fo
  induction fo with
  | zero => intro s s' _; rfl
  | succ n ih =>
    intro s s' h
    have htr : s.timeRemaining = s'.timeRemaining := by
      have := congrArg Loop.timeRemaining h; simpa [eL] using this
    rw [outer_succ, outer_succ, htr]
    split
    · exact Except.map_bind_congr2 _ _ _ _ eL eL (outerBody_tags t fi inflow demand rps pps netFlux s s' h) ih
    · exact congrArg Except.ok h

def eS {β : Type} (r : α × List String × β) : α × β := (r.1, r.2.2)

theorem step_tags (t : Tables α) (fo fi : Nat) (deltaT volume : α) (tags tags' : List String) (i : StepIn α) :
    (step t false fo fi deltaT volume tags i).map eS = (step t false fo fi deltaT volume tags' i).map eS := by
  obtain ⟨rainfall, pet, inflow, demand⟩ := i
  simp only [step]
  apply Except.map_bind_congr2 _ _ _ _ eS eL
  · apply outer_tags; rfl
  · intro b b' hbb
    obtain ⟨b1, b2, b3, b4, b5, b6, b7, b8⟩ := b
    obtain ⟨c1, c2, c3, c4, c5, c6, c7, c8⟩ := b'
    simp only [eL, Loop.mk.injEq] at hbb
    obtain ⟨rfl, rfl, rfl, rfl, rfl, rfl, _, rfl⟩ := hbb
    rfl

theorem steps_tags (t : Tables α) (fo fi : Nat) (deltaT : α) :
    ∀ (xs : List (StepIn α)) (volume : α) (tags tags' : List String),
      (steps t false fo fi deltaT volume tags xs).map eS = (steps t false fo fi deltaT volume tags' xs).map eS := by
  intro xs
  induction xs with
  | nil => intro v tg tg'; rfl
  | cons x xs ih =>
    intro v tg tg'
    simp only [steps]
    apply Except.map_bind_congr2 _ _ _ _ eS eS (step_tags t fo fi deltaT v tg tg' x)
    intro b b' hbb
    obtain ⟨v1, tg1, o1⟩ := b
    obtain ⟨v2, tg2, o2⟩ := b'
    simp only [eS, Prod.mk.injEq] at hbb
    obtain ⟨rfl, rfl⟩ := hbb
    simp only
    apply Except.map_bind_congr2 _ _ _ _ eS eS (ih v1 tg1 tg2)
    intro c c' hcc
    obtain ⟨w1, th1, p1⟩ := c
    obtain ⟨w2, th2, p2⟩ := c'
    simp only [eS, Prod.mk.injEq] at hcc
    obtain ⟨rfl, rfl⟩ := hcc
    rfl

def eR (r : RunOut α) : RunOut α := { r with tags := [] }

end OW.Proofs.StorageHot
