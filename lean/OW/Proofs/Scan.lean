import OW.Kernels.Basic
import Batteries.Data.List.Basic
/-!
Runs of the forward loop `scan`. One induction (`scan_run`) carries a state invariant along a run and proves a statement
`M s xs s' os` about (start state, inputs, final state, outputs) from its two closure properties: it holds of the empty run,
and it is kept when one admissible step is put in front. Everything else about runs is an instance (`scan_run'`, `scan_io'`:
without invariant). With them list facts that are not about `scan`: `forall₂_map`, `forall₂_replicate`, which the users of the
instances need, and `RR.zip_mem_left/right`, which nothing uses. `C12.preStates` (the state before each step) has the namespace of the C12 statements
that mention it. Core Lean and `List.Forall₂` of Batteries; no Mathlib.
-/
namespace OW

variable {σ ι ο : Type} {step : σ → ι → σ × ο}

theorem scan_run {Inv : σ → Prop} {Ok : ι → Prop} {M : σ → List ι → σ → List ο → Prop}
    (inv : ∀ s x, Inv s → Ok x → Inv (step s x).1)
    (nil : ∀ s, M s [] s [])
    (cons : ∀ s x xs s' os, Inv s → Ok x → M (step s x).1 xs s' os → M s (x :: xs) s' ((step s x).2 :: os)) :
    ∀ (xs : List ι) (s : σ), Inv s → (∀ x ∈ xs, Ok x) →
      Inv (scan step s xs).1 ∧ M s xs (scan step s xs).1 (scan step s xs).2
  | [], s, hs, _ => ⟨hs, nil s⟩
  | x :: xs, s, hs, hok =>
    have hx := hok x List.mem_cons_self
    have ih := scan_run inv nil cons xs (step s x).1 (inv s x hs hx) fun y hy => hok y (List.mem_cons_of_mem _ hy)
    ⟨ih.1, cons s x xs _ _ hs hx ih.2⟩

theorem scan_run' {M : σ → List ι → σ → List ο → Prop} (nil : ∀ s, M s [] s [])
    (cons : ∀ s x xs s' os, M (step s x).1 xs s' os → M s (x :: xs) s' ((step s x).2 :: os))
    (xs : List ι) (s : σ) : M s xs (scan step s xs).1 (scan step s xs).2 :=
  (scan_run (Inv := fun _ => True) (Ok := fun _ => True) (fun _ _ _ _ => trivial) nil
    (fun s x xs s' os _ _ => cons s x xs s' os) xs s trivial fun _ _ => trivial).2

def C12.preStates {σ ι ο : Type} (step : σ → ι → σ × ο) : σ → List ι → List σ
  | _, [] => []
  | s, x :: xs => s :: preStates step (step s x).1 xs

open C12 (preStates)

theorem scan_rel {Inv : σ → Prop} {Ok : ι → Prop} {R : σ × ι → ο → Prop}
    (h : ∀ s x, Inv s → Ok x → Inv (step s x).1 ∧ R (s, x) (step s x).2)
    {xs : List ι} {s : σ} (hs : Inv s) (hok : ∀ x ∈ xs, Ok x) :
    Inv (scan step s xs).1 ∧ List.Forall₂ R ((preStates step s xs).zip xs) (scan step s xs).2 :=
  scan_run (M := fun s xs _ os => List.Forall₂ R ((preStates step s xs).zip xs) os)
    (fun s x hs hx => (h s x hs hx).1) (fun _ => .nil)
    (fun s x _ _ _ hs hx ih => .cons (h s x hs hx).2 ih) xs s hs hok

theorem scan_io {Inv : σ → Prop} {Ok : ι → Prop} {R : ι → ο → Prop}
    (h : ∀ s x, Inv s → Ok x → Inv (step s x).1 ∧ R x (step s x).2)
    {xs : List ι} {s : σ} (hs : Inv s) (hok : ∀ x ∈ xs, Ok x) :
    Inv (scan step s xs).1 ∧ List.Forall₂ R xs (scan step s xs).2 :=
  scan_run (M := fun _ xs _ os => List.Forall₂ R xs os) (fun s x hs hx => (h s x hs hx).1) (fun _ => .nil)
    (fun s x _ _ _ hs hx ih => .cons (h s x hs hx).2 ih) xs s hs hok

theorem scan_io' {R : ι → ο → Prop} (h : ∀ s x, R x (step s x).2) {xs : List ι} {s : σ} :
    List.Forall₂ R xs (scan step s xs).2 :=
  (scan_io (Inv := fun _ => True) (Ok := fun _ => True) (fun s x _ _ => ⟨trivial, h s x⟩) trivial fun _ _ => trivial).2

theorem scan_inv {Inv : σ → Prop} {Ok : ι → Prop} {P : ο → Prop}
    (h : ∀ s x, Inv s → Ok x → Inv (step s x).1 ∧ P (step s x).2)
    {xs : List ι} {s : σ} (hs : Inv s) (hok : ∀ x ∈ xs, Ok x) :
    Inv (scan step s xs).1 ∧ ∀ o ∈ (scan step s xs).2, P o :=
  scan_run (M := fun _ _ _ os => ∀ o ∈ os, P o) (fun s x hs hx => (h s x hs hx).1)
    (fun _ _ ho => absurd ho List.not_mem_nil)
    (fun s x _ _ _ hs hx ih => List.forall_mem_cons.2 ⟨(h s x hs hx).2, ih⟩) xs s hs hok

/-- a stateless kernel `out[t] = f(in[t])` is modelled as `map` -/
theorem forall₂_map {ι ο : Type} (f : ι → ο) (P : ι → ο → Prop) (h : ∀ x, P x (f x)) (xs : List ι) :
    List.Forall₂ P xs (xs.map f) := by
  induction xs with
  | nil => exact .nil
  | cons x xs ih => exact .cons (h x) ih

/-- for the untouched (constant) output series of an early return -/
theorem forall₂_replicate {ι ο : Type} {c : ο} {P : ι → ο → Prop} (h : ∀ x, P x c) {xs : List ι} {n : Nat}
    (hn : n = xs.length) : List.Forall₂ P xs (List.replicate n c) := by
  rw [hn, ← List.map_const']
  exact forall₂_map _ P h xs

theorem scan_out {P : ο → Prop} (h : ∀ s x, P (step s x).2) {xs : List ι} {s : σ} : ∀ o ∈ (scan step s xs).2, P o :=
  (scan_inv (Inv := fun _ => True) (Ok := fun _ => True) (fun s x _ _ => ⟨trivial, h s x⟩) trivial fun _ _ => trivial).2

theorem scan_bisim {τ π : Type} {g : τ → ι → τ × π} {ψ : ο → π} {S : σ → τ → Prop}
    (h : ∀ s t x, S s t → S (step s x).1 (g t x).1 ∧ ψ (step s x).2 = (g t x).2)
    (xs : List ι) {s : σ} {t : τ} (hs : S s t) :
    S (scan step s xs).1 (scan g t xs).1 ∧ (scan step s xs).2.map ψ = (scan g t xs).2 :=
  scan_run' (M := fun s xs s' os => ∀ t, S s t → S s' (scan g t xs).1 ∧ os.map ψ = (scan g t xs).2)
    (fun _ _ hs => ⟨hs, rfl⟩)
    (fun s x _ _ _ ih t hs => by
      obtain ⟨i1, i2⟩ := ih _ (h s t x hs).1
      exact ⟨i1, by simp only [scan, List.map_cons, (h s t x hs).2, i2]⟩) xs s t hs

theorem scan_sim {τ π : Type} {g : τ → ι → τ × π} {φ : σ → τ} {ψ : ο → π} {R : σ → Prop}
    (h : ∀ s x, R s → R (step s x).1 ∧ g (φ s) x = (φ (step s x).1, ψ (step s x).2))
    (xs : List ι) {s : σ} (hs : R s) :
    R (scan step s xs).1 ∧ scan g (φ s) xs = (φ (scan step s xs).1, (scan step s xs).2.map ψ) :=
  scan_run (Ok := fun _ => True) (M := fun s xs s' os => scan g (φ s) xs = (φ s', os.map ψ))
    (fun s x hs _ => (h s x hs).1) (fun _ => rfl)
    (fun s x _ _ _ hs _ ih => by simp only [scan, (h s x hs).2, ih, List.map_cons]) xs s hs fun _ _ => trivial

theorem scan_congr {f g : σ → ι → σ × ο} {xs : List ι} (h : ∀ s, ∀ x ∈ xs, f s x = g s x) (s : σ) :
    scan f s xs = scan g s xs :=
  (scan_run (step := f) (Inv := fun _ => True) (Ok := fun x => ∀ s, f s x = g s x)
    (M := fun s xs s' os => scan g s xs = (s', os)) (fun _ _ _ _ => trivial) (fun _ => rfl)
    (fun s x xs s' os _ hx ih => by simp only [scan, ← hx s, ih]) xs s trivial fun x hx s => h s x hx).2.symm

theorem scan_take (step : σ → ι → σ × ο) (s : σ) (xs : List ι) (n : Nat) :
    (scan step s (xs.take n)).2 = (scan step s xs).2.take n :=
  scan_run' (M := fun s xs _ os => ∀ n, (scan step s (xs.take n)).2 = os.take n) (fun _ _ => by simp [scan])
    (fun s x xs s' os ih n => by cases n <;> simp [scan, ih]) xs s n

namespace RR

theorem zip_mem_left {α β : Type} {P : α → Prop} {as : List α} {bs : List β} (h : ∀ a ∈ as, P a) :
    ∀ x ∈ as.zip bs, P x.1 := fun _ hx => h _ (List.of_mem_zip hx).1

theorem zip_mem_right {α β : Type} {P : β → Prop} {as : List α} {bs : List β} (h : ∀ b ∈ bs, P b) :
    ∀ x ∈ as.zip bs, P x.2 := fun _ hx => h _ (List.of_mem_zip hx).2

end RR

end OW
