import OW.Kernels.Climate
import OW.Proofs.RealNum
import Mathlib.Analysis.Complex.ExponentialBounds
/-!
Helper lemmas for C20: the two Goff-Gratch branches of `vaporPressure` at `α := ℝ` in closed form (`vp_ice`, `vp_water`, the
values at 0 and 100 °C), the elementary inequalities used for their monotonicity, bounds of the water exponent from bounds of its
three transcendental terms (`expWater_lower`, `expWater_upper`), and the order facts about the Magnus inversion, the humidity
ratio and the enthalpy as functions of real variables (the constants of the code are put in by C20). At the end the method of
the numeric files ClimateFreezing / ClimateDewCounter / ClimateRange: a rational bound of `log₁₀ x` or `10^y` from one comparison
of integer powers.
-/
namespace OW.Proofs.Climate
open OW OW.Kernels.Climate

theorem log10_eq (x : ℝ) : Num.log10 x = Real.logb 10 x := by
  show Real.logb (@OfNat.ofNat ℝ 10 (Num.instOfNat 10)) x = _
  rw [RealNum.ofNat_lit 10]

/-- exponent of the ice branch as a function of `z = 273.16 / (T + 273.16)` -/
noncomputable def expIce (z : ℝ) : ℝ :=
  -9.09718 * (z - 1) + -3.56654 * Real.logb 10 z + 0.876793 * (1 - 1 / z) + Real.logb 10 0.0060273

/-- exponent of the water branch as a function of `z = 373.16 / (T + 273.16)` -/
noncomputable def expWater (z : ℝ) : ℝ :=
  (z - 1) * -7.90298 + Real.logb 10 z * 5.02808 + ((10:ℝ) ^ ((1 - 1 / z) * 11.344) - 1) * -0.00000013816
    + ((10:ℝ) ^ (-3.49149 * (z - 1)) - 1) * 0.0081328

theorem vp_ice (t : ℝ) (h : ¬ 0 < t) :
    vaporPressure t = 101.325 * (10:ℝ) ^ expIce (273.16 / (t + 273.16)) := by
  unfold vaporPressure expIce
  simp only [RealNum.pow_eq, log10_eq, RealNum.lit0, RealNum.lit1, RealNum.ofNat_lit 10]
  rw [if_neg h]

theorem vp_water (t : ℝ) (h : 0 < t) :
    vaporPressure t = 101.325 * (10:ℝ) ^ expWater (373.16 / (t + 273.16)) := by
  unfold vaporPressure expWater
  simp only [RealNum.pow_eq, log10_eq, RealNum.lit0, RealNum.lit1, RealNum.ofNat_lit 10]
  rw [if_pos h]

theorem one_lt_log_ten : 1 < Real.log 10 := by
  rw [Real.lt_log_iff_exp_lt (by norm_num)]
  have := Real.exp_one_lt_three
  linarith

theorem logb_sub_le {a b : ℝ} (hb : 1 ≤ b) (hab : b ≤ a) : Real.logb 10 a - Real.logb 10 b ≤ a - b := by
  have hbpos : 0 < b := by linarith
  have hapos : 0 < a := by linarith
  have h1 : Real.logb 10 a - Real.logb 10 b = Real.log (a / b) / Real.log 10 := by
    unfold Real.logb
    rw [Real.log_div (ne_of_gt hapos) (ne_of_gt hbpos)]
    ring
  have h2 : Real.log (a / b) ≤ a / b - 1 := Real.log_le_sub_one_of_pos (by positivity)
  have h3 : a / b - 1 ≤ a - b := by
    rw [div_sub_one (ne_of_gt hbpos), div_le_iff₀ hbpos]
    nlinarith
  have h4 : 0 ≤ Real.log (a / b) := Real.log_nonneg (by rw [le_div_iff₀ hbpos]; linarith)
  have hl := one_lt_log_ten
  rw [h1]
  calc Real.log (a / b) / Real.log 10 ≤ Real.log (a / b) / 1 :=
        div_le_div_of_nonneg_left h4 (by norm_num) hl.le
    _ = Real.log (a / b) := by ring
    _ ≤ a - b := le_trans h2 h3

theorem expIce_strictAnti {z1 z2 : ℝ} (h2 : 1 ≤ z2) (h : z2 < z1) : expIce z1 < expIce z2 := by
  unfold expIce
  have hz2 : 0 < z2 := by linarith
  have hz1 : 0 < z1 := by linarith
  have hl : Real.logb 10 z2 < Real.logb 10 z1 := Real.logb_lt_logb (by norm_num) hz2 h
  have hinv : 1 / z2 - 1 / z1 ≤ z1 - z2 := by
    rw [div_sub_div _ _ (ne_of_gt hz2) (ne_of_gt hz1), div_le_iff₀ (by positivity)]
    have : 1 ≤ z2 * z1 := by nlinarith
    nlinarith
  -- the only increasing term, `0.876793·(1 − 1/z)`, grows by at most `0.876793·(z1 − z2)` on `z ≥ 1` (`hinv`);
  -- the linear term falls by `9.09718·(z1 − z2)`, and `0.876793 < 9.09718`
  linarith

/-- the Goff-Gratch water exponent with `log₁₀ z` and its two powers of ten as variables -/
theorem gg_le {a1 a2 a3 a5 z l l' P P' Q Q' : ℝ} (h2 : 0 ≤ a2) (h3 : a3 ≤ 0) (h5 : 0 ≤ a5) (hl : l ≤ l') (hP : P' ≤ P)
    (hQ : Q ≤ Q') :
    (z - 1) * a1 + l * a2 + (P - 1) * a3 + (Q - 1) * a5 ≤ (z - 1) * a1 + l' * a2 + (P' - 1) * a3 + (Q' - 1) * a5 :=
  add_le_add (add_le_add (add_le_add le_rfl (mul_le_mul_of_nonneg_right hl h2))
    (mul_le_mul_of_nonpos_right (sub_le_sub_right hP 1) h3)) (mul_le_mul_of_nonneg_right (sub_le_sub_right hQ 1) h5)

theorem expWater_lower (z l P Q : ℝ) (hl : l ≤ Real.logb 10 z) (hP : (10:ℝ) ^ ((1 - 1 / z) * 11.344) ≤ P)
    (hQ : Q ≤ (10:ℝ) ^ (-3.49149 * (z - 1))) :
    (z - 1) * -7.90298 + l * 5.02808 + (P - 1) * -0.00000013816 + (Q - 1) * 0.0081328 ≤ expWater z :=
  gg_le (by norm_num) (by norm_num) (by norm_num) hl hP hQ

/-- the two power terms are ≤ 0 for `z ≥ 1` -/
theorem expWater_upper (z l : ℝ) (hz : 1 ≤ z) (hl : Real.logb 10 z ≤ l) :
    expWater z ≤ (z - 1) * -7.90298 + l * 5.02808 := by
  unfold expWater
  have hz0 : 0 < z := by linarith
  have hP : 1 ≤ (10:ℝ) ^ ((1 - 1 / z) * 11.344) :=
    Real.one_le_rpow (by norm_num) (mul_nonneg (sub_nonneg.mpr ((div_le_one hz0).mpr hz)) (by norm_num))
  have hQ : (10:ℝ) ^ (-3.49149 * (z - 1)) ≤ 1 :=
    Real.rpow_le_one_of_one_le_of_nonpos (by norm_num) (mul_nonpos_of_nonpos_of_nonneg (by norm_num) (sub_nonneg.mpr hz))
  have := gg_le (z := z) (a1 := -7.90298) (by norm_num : (0:ℝ) ≤ 5.02808) (by norm_num : (-0.00000013816:ℝ) ≤ 0)
    (by norm_num : (0:ℝ) ≤ 0.0081328) hl hP hQ
  simpa only [sub_self, zero_mul, add_zero] using this

theorem expWater_strictAnti {z1 z2 : ℝ} (h2 : 1 ≤ z2) (h : z2 < z1) : expWater z1 < expWater z2 := by
  unfold expWater
  have hz2 : 0 < z2 := by linarith
  have hl : Real.logb 10 z1 - Real.logb 10 z2 ≤ z1 - z2 := logb_sub_le h2 h.le
  have hinv : 1 / z1 ≤ 1 / z2 := one_div_le_one_div_of_le hz2 h.le
  have hP : (10:ℝ) ^ ((1 - 1 / z2) * 11.344) ≤ (10:ℝ) ^ ((1 - 1 / z1) * 11.344) :=
    Real.rpow_le_rpow_of_exponent_le (by norm_num) (by linarith)
  have hQ : (10:ℝ) ^ (-3.49149 * (z1 - 1)) ≤ (10:ℝ) ^ (-3.49149 * (z2 - 1)) :=
    Real.rpow_le_rpow_of_exponent_le (by norm_num) (by linarith)
  -- the only increasing term left, `5.02808·log₁₀ z`, grows by at most `5.02808·(z1 − z2)` on `z ≥ 1` (`hl`);
  -- the linear term falls by `7.90298·(z1 − z2)`, and `5.02808 < 7.90298`; `hP`, `hQ` have the helping sign
  linarith

/-- Both Goff-Gratch branches have the form `k · 10^(e (c / (T + T₀)))` with `e` strictly decreasing on `z ≥ 1`. -/
theorem branch_strictMono (e : ℝ → ℝ) (k c T0 : ℝ) (hk : 0 < k) (hc : 0 < c)
    (he : ∀ {z1 z2 : ℝ}, 1 ≤ z2 → z2 < z1 → e z1 < e z2) {t1 t2 : ℝ}
    (h0 : -T0 < t1) (h12 : t1 < t2) (h2 : t2 + T0 ≤ c) :
    k * (10:ℝ) ^ e (c / (t1 + T0)) < k * (10:ℝ) ^ e (c / (t2 + T0)) := by
  have ha1 : 0 < t1 + T0 := neg_lt_iff_pos_add.mp h0
  have ha2 : 0 < t2 + T0 := ha1.trans (add_lt_add_left h12 _)
  have hz2 : 1 ≤ c / (t2 + T0) := (one_le_div ha2).mpr h2
  have hz : c / (t2 + T0) < c / (t1 + T0) := div_lt_div_of_pos_left hc ha1 (add_lt_add_left h12 _)
  exact mul_lt_mul_of_pos_left (Real.rpow_lt_rpow_of_exponent_lt (by norm_num) (he hz2 hz)) hk

theorem expIce_one : expIce 1 = Real.logb 10 0.0060273 := by
  unfold expIce; rw [Real.logb_one]; norm_num

theorem expWater_one : expWater 1 = 0 := by
  unfold expWater; rw [Real.logb_one]; norm_num

theorem vp_zero : vaporPressure (0:ℝ) = 101.325 * (10:ℝ) ^ expIce 1 := by
  rw [vp_ice 0 (lt_irrefl _), zero_add, div_self (by norm_num)]

theorem vp_zero_val : vaporPressure (0:ℝ) = 101.325 * 0.0060273 := by
  rw [vp_zero, expIce_one, Real.rpow_logb (by norm_num) (by norm_num) (by norm_num)]

theorem vp_hundred : vaporPressure (100:ℝ) = 101.325 := by
  have z : (373.16:ℝ) / (100 + 273.16) = 1 := by norm_num
  rw [vp_water 100 (by norm_num), z, expWater_one, Real.rpow_zero, mul_one]

/-! ### `F ↦ b·F / (a − F)`, increasing on `F < a`: the Magnus inversion of `calcDewPoint` (`F = ln(ea / 0.6108)`, `a = 17.27`,
`b = 237.3`) and the humidity ratio of `calcHumidityRatio` (`F = vp`, `a = pa`, `b = 0.62198`) -/

theorem mul_div_sub_lt {a b F1 F2 : ℝ} (ha : 0 < a) (hb : 0 < b) (h12 : F1 < F2) (h2 : F2 < a) :
    b * F1 / (a - F1) < b * F2 / (a - F2) := by
  rw [div_lt_div_iff₀ (by linarith) (by linarith)]
  have := mul_lt_mul_of_pos_left h12 (mul_pos hb ha)
  linarith

theorem magnusInv_le_iff {a b F t : ℝ} (hF : F < a) (ht : -b < t) :
    b * F / (a - F) ≤ t ↔ F ≤ a * t / (t + b) := by
  rw [div_le_iff₀ (by linarith), le_div_iff₀ (by linarith)]
  constructor <;> intro h <;> linarith

theorem magnus_exponent_lt {a b t : ℝ} (ha : 0 < a) (hb : 0 < b) (ht : -b < t) : a * t / (t + b) < a := by
  rw [div_lt_iff₀ (by linarith)]
  have := mul_pos ha hb
  linarith

theorem log_div_le_iff {ea x : ℝ} (h : 0 < ea) : Real.log (ea / 0.6108) ≤ x ↔ ea ≤ 0.6108 * Real.exp x := by
  rw [Real.log_le_iff_le_exp (by positivity), div_le_iff₀' (by norm_num)]

/-- `ea ≤ 101.325 kPa` keeps the Magnus denominator positive: `101.325 / 0.6108 < 2¹⁷ ≤ e^17 ≤ e^17.27` -/
theorem log_div_lt_of_le {ea : ℝ} (h0 : 0 < ea) (h : ea ≤ 101.325) : Real.log (ea / 0.6108) < 17.27 := by
  rw [Real.log_lt_iff_lt_exp (by positivity)]
  have h2 : (2:ℝ) ≤ Real.exp 1 := by have := Real.exp_one_gt_d9; linarith
  have h17 : (2:ℝ) ^ 17 ≤ Real.exp 17.27 :=
    calc (2:ℝ) ^ 17 ≤ Real.exp 1 ^ 17 := pow_le_pow_left₀ (by norm_num) h2 17
      _ = Real.exp 17 := by rw [← Real.exp_nat_mul]; norm_num
      _ ≤ Real.exp 17.27 := Real.exp_le_exp.mpr (by norm_num)
  have : ea / 0.6108 < 2 ^ 17 := by rw [div_lt_iff₀ (by norm_num)]; linarith
  linarith

theorem enthalpy_lt {c1 c2 c3 x1 x2 w1 w2 : ℝ} (h1 : 0 < c1) (h2 : 0 ≤ c2) (h3 : 0 ≤ c3) (h0 : 0 < x1)
    (hx : x1 < x2) (hw0 : 0 ≤ w1) (hw : w1 < w2) :
    c1 * x1 + (c2 * x1 + c3) * w1 < c1 * x2 + (c2 * x2 + c3) * w2 := by
  have ha : c2 * x1 + c3 ≤ c2 * x2 + c3 := add_le_add (mul_le_mul_of_nonneg_left hx.le h2) le_rfl
  have hb : 0 ≤ c2 * x1 + c3 := add_nonneg (mul_nonneg h2 h0.le) h3
  exact add_lt_add_of_lt_of_le (mul_lt_mul_of_pos_left hx h1) (mul_le_mul ha hw.le hw0 (hb.trans ha))

/-! ### rational enclosures of `log₁₀ x` and `10^y` by one comparison of integer powers: `10^p ≤ x^q ⇒ p/q ≤ log₁₀ x` -/

theorem le_logb_of_zpow_le {x r : ℝ} (p : ℤ) (q : ℕ) (hq : 0 < q) (hr : r ≤ p / q)
    (h : (10:ℝ) ^ p ≤ x ^ q) : r ≤ Real.logb 10 x := by
  have h1 := Real.logb_le_logb_of_le (b := 10) (by norm_num) (zpow_pos (by norm_num) p) h
  rw [← Real.rpow_intCast, Real.logb_rpow (by norm_num) (by norm_num), Real.logb_pow] at h1
  exact hr.trans ((div_le_iff₀' (Nat.cast_pos.mpr hq)).mpr h1)

theorem logb_le_of_le_zpow {x r : ℝ} (hx : 0 < x) (p : ℤ) (q : ℕ) (hq : 0 < q) (hr : p / q ≤ r)
    (h : x ^ q ≤ (10:ℝ) ^ p) : Real.logb 10 x ≤ r := by
  have h1 := Real.logb_le_logb_of_le (b := 10) (by norm_num) (pow_pos hx q) h
  rw [← Real.rpow_intCast, Real.logb_rpow (by norm_num) (by norm_num), Real.logb_pow] at h1
  exact ((le_div_iff₀' (Nat.cast_pos.mpr hq)).mpr h1).trans hr

theorem rpow_ten_le_of_zpow_le {x y : ℝ} (hx : 0 < x) (p : ℤ) (q : ℕ) (hq : 0 < q) (hy : y ≤ p / q)
    (h : (10:ℝ) ^ p ≤ x ^ q) : (10:ℝ) ^ y ≤ x :=
  (Real.le_logb_iff_rpow_le (by norm_num) hx).mp (le_logb_of_zpow_le p q hq hy h)

theorem le_rpow_ten_of_le_zpow {x y : ℝ} (hx : 0 < x) (p : ℤ) (q : ℕ) (hq : 0 < q) (hy : p / q ≤ y)
    (h : x ^ q ≤ (10:ℝ) ^ p) : x ≤ (10:ℝ) ^ y :=
  (Real.logb_le_iff_le_rpow (by norm_num) hx).mp (logb_le_of_le_zpow hx p q hq hy h)

end OW.Proofs.Climate
