import OW.Sim.WrapperNd
import OW.Sim.Wrapper
import OW.Proofs.NdUnroll
/-!
The template's view algebra on root arrays (`RootOn`), from the C01/C02 theorems about the n-d array model: a dense slice
followed by `MustReshape` is the window at the row-major rank of the slice's position vector (`RootOn.slice_reshape`), so every
per-cell view of the template is a flat window `flat sid base n` of the caller's storage, read and written cell by cell.
What such windows hold is said on the storage as a list: its row-major denotations `rowAt` / `mat` / `cube`, at the end.
The lemmas are in `OW.WrapperNd`; `OW.Sim.WrapperNd` is the namespace of the model (`OW/Sim/WrapperNd.lean`, `WrapperNdTables.lean`).
-/
namespace OW.WrapperNd
open OW OW.Nd OW.Sim.WrapperNd
open OW.Sim (chunks)

section
variable {α : Type}

/-- `a` is a Go-backed ROOT array of shape `D` (non-empty, extents ≥ 1) whose `Impl` window lies inside an existing
storage and holds `Π D` elements — what `arrayFromSlice` / `NewArray` return (`rootOn_rootArr`, `rootOn_newArray`), and what
`MustReshape` of a contiguous Go-backed view returns. -/
structure RootOn (h : Heap α) (a : Arr) (D : Idx) : Prop where
  view : a.v = rootView D 0
  go : a.isC = false
  ok : ArrOK h a
  pos : Pos D
  ne : D ≠ []

theorem RootOn.reach {h : Heap α} {a : Arr} {D : Idx} (r : RootOn h a D) : Reach a.v := by
  rw [r.view]; exact Nd.reach_root r.ne r.pos

theorem RootOn.sameShape {h h' : Heap α} {a : Arr} {D : Idx} (r : RootOn h a D) (s : SameShape h h') :
    RootOn h' a D := ⟨r.view, r.go, r.ok.sameShape s, r.pos, r.ne⟩

/-- the array value `arrayFromSlice(data, D)` returns on storage `sid`, as a term -/
def rootArr (sid : Nat) (D : Idx) (len : Nat) : Arr := ⟨rootView D 0, sid, 0, len, false⟩

theorem rootOn_rootArr {h : Heap α} {sid : Nat} {st : List α} {D : Idx} (hne : D ≠ []) (hpos : Pos D)
    (hs : h[sid]? = some st) (hf : product D ≤ st.length) :
    fromStore h sid D = .ok (rootArr sid D st.length) ∧ RootOn h (rootArr sid D st.length) D := by
  refine ⟨?_, ⟨rfl, rfl, ?_, hpos, hne⟩⟩
  · simp [fromStore, rootArr, storeOf, hs, root_eq D 0 hne, bind, Except.bind, pure, Except.pure]
  · exact ⟨⟨st, hs, by simp [rootArr]⟩, by simp [rootArr], hf, by simp [rootArr]⟩

theorem rootOn_newArray (zero : α) (h : Heap α) {D : Idx} (hne : D ≠ []) (hpos : Pos D) :
    ∃ a, newArray zero h D = .ok (h ++ [List.replicate (product D).toNat zero], a) ∧
      RootOn (h ++ [List.replicate (product D).toNat zero]) a D ∧ a.sid = h.length ∧ a.base = 0 := by
  have hp := product_pos hpos
  obtain ⟨ha, r⟩ := rootOn_rootArr (h := h ++ [List.replicate (product D).toNat zero])
    (sid := h.length) (st := List.replicate (product D).toNat zero) hne hpos (by simp) (by simp)
  refine ⟨_, ?_, r, rfl, rfl⟩
  unfold newArray
  simp only [alloc, bind, Except.bind, pure, Except.pure]
  rw [if_neg (by omega), ha]

theorem dense_slice {a : Arr} (hr : Reach a.v) {loc dims : Idx} {step : Option Idx}
    (okS : SliceOK a.v.dims loc dims (stepOr a.v.dims.length step))
    (hD : Nd.Dense dims a.v.orig (mulL a.v.step (stepOr a.v.dims.length step))) :
    slice a loc dims step = .ok { a with v := sliceView a.v loc dims step } ∧
      Reach (sliceView a.v loc dims step) ∧ (sliceView a.v loc dims step).contiguous = .ok true := by
  obtain ⟨hl, _, hst⟩ := okS.lengths
  have hrb : Reach (sliceView a.v loc dims step) := .slice hr okS ((reach_geo hr).regular.sliceInto_eq loc dims step hl hst)
  exact ⟨slice_eq_dstSlice (reach_geo hr) loc dims step hl hst, hrb, (Nd.contiguous_eq (reach_geo hrb)).1 hD⟩

/-- the 1-D Go-backed root view on the window `[base, base+n)` of storage `sid`: `Impl = storage[base : base+n]` -/
def flat (sid : Nat) (base n : Int) : Arr := ⟨rootView [n] 0, sid, base, n, false⟩

theorem flat_index (sid : Nat) (base n t : Int) : (flat sid base n).v.index [t] = .ok t := by
  simp [flat, View.index, View.indexAux, rootView, offsetsT, bind, Except.bind, pure, Except.pure]

theorem rootOn_flat {h : Heap α} {sid : Nat} {base n : Int} {st : List α} (hs : h[sid]? = some st) (hb : 0 ≤ base)
    (hn : 1 ≤ n) (hf : base + n ≤ st.length) : RootOn h (flat sid base n) [n] :=
  ⟨rfl, rfl, ⟨⟨st, hs, hf⟩, hb, by simp [flat, rootView, product], by simp [flat]⟩, by simp [Pos]; exact hn, by simp⟩

theorem flat_get_oob {h : Heap α} {sid : Nat} {base n : Int} {st : List α} (hs : h[sid]? = some st)
    {t : Int} (ht : t < 0 ∨ n ≤ t) : get1 h (flat sid base n) t = .error "index-out-of-range" := by
  have : ¬ (0 ≤ t ∧ t < n) := by omega
  unfold get1
  rw [if_pos (by simp [flat, rootView])]
  unfold Nd.get
  rw [flat_index]
  simp [flat, readAt, storeOf, hs, this, bind, Except.bind, oob]

theorem flat_set1 {h : Heap α} {sid : Nat} {base n : Int} {st : List α} (hs : h[sid]? = some st)
    {t : Int} (h0 : 0 ≤ t) (hlt : t < n) (x : α) :
    set1 h (flat sid base n) t x = .ok (setStore h sid (base + t).toNat x) := by
  unfold set1 Nd.set
  rw [flat_index]
  simp [flat, writeAt, storeOf, hs, h0, hlt, bind, Except.bind, pure, Except.pure]

/-- the re-based `Impl` has length `n`: a kernel cannot write past the view -/
theorem flat_set1_oob {h : Heap α} {sid : Nat} {base n : Int} {st : List α} (hs : h[sid]? = some st)
    {t : Int} (ht : t < 0 ∨ n ≤ t) (x : α) : set1 h (flat sid base n) t x = .error "index-out-of-range" := by
  have : ¬ (0 ≤ t ∧ t < n) := by omega
  unfold set1 Nd.set
  rw [flat_index]
  simp [flat, writeAt, storeOf, hs, this, bind, Except.bind, oob]

theorem RootOn.get {h : Heap α} {a : Arr} {D : Idx} (r : RootOn h a D) {idx : Idx} (hi : InBounds idx D) :
    ∃ x, cell h a.sid (a.base + ravel idx D).toNat = some x ∧ Nd.get h a idx = .ok x ∧
      0 ≤ ravel idx D ∧ ravel idx D < product D := by
  have hi' : InBounds idx a.v.dims := by rw [r.view]; exact hi
  obtain ⟨x, hc, hg⟩ := get_addr (reach_geo r.reach) r.ok hi'
  rw [r.view, addr_rootView D 0 idx hi.length, Int.zero_add] at hc
  exact ⟨x, hc, hg, ravel_bounds hi⟩

/-- the 2-D Go-backed root view on the window `[base, base + r·c)` of storage `sid` -/
def flat2 (sid : Nat) (base r c : Int) : Arr := ⟨rootView [r, c] 0, sid, base, r * c, false⟩

theorem ravel2 (a b A B : Int) : ravel [a, b] [A, B] = a * B + b := by simp [ravel, product]
theorem ravel3 (a b c A B C : Int) : ravel [a, b, c] [A, B, C] = (a * B + b) * C + c := by simp [ravel, product]; ring

theorem emod_range (i : Int) {n : Int} (hn : 1 ≤ n) : 0 ≤ i % n ∧ i % n < n :=
  ⟨Int.emod_nonneg _ (by omega), Int.emod_lt_of_pos _ (by omega)⟩

theorem pos2 {a b : Int} (h : Pos [a, b]) : 1 ≤ a ∧ 1 ≤ b := ⟨h a (by simp), h b (by simp)⟩
theorem pos3 {a b c : Int} (h : Pos [a, b, c]) : 1 ≤ a ∧ 1 ≤ b ∧ 1 ≤ c := ⟨h a (by simp), h b (by simp), h c (by simp)⟩

/-- the Go-backed root of shape `s` on the `Π s` storage positions from `a.base + p`: what `MustReshape(s)` returns on a dense
slice of the root `a` that starts at row-major rank `p` -/
def win (a : Arr) (p : Int) (s : Idx) : Arr := ⟨rootView s 0, a.sid, a.base + p, product s, false⟩

theorem RootOn.slice_reshape {h : Heap α} {a : Arr} {D : Idx} (r : RootOn h a D) {loc dims s : Idx} {step : Option Idx}
    (okS : SliceOK D loc dims (stepOr D.length step)) (hD : Nd.Dense dims D (mulL (uniform D.length 1) (stepOr D.length step)))
    (hs : s ≠ []) (hp : Pos s) (hsz : product s = product dims) :
    (do let v ← slice a loc dims step; mustReshape h v s) = .ok (h, win a (ravel loc D) s) ∧
      (sliceView a.v loc dims step).contiguous = .ok true ∧ RootOn h (win a (ravel loc D) s) s := by
  have hdims : a.v.dims = D := by rw [r.view]; rfl
  obtain ⟨h1, hrb, h3⟩ := dense_slice (a := a) (loc := loc) (dims := dims) (step := step) r.reach (by rw [hdims]; exact okS)
    (by rw [r.view]; exact hD)
  have hsz' : product s = (sliceView a.v loc dims step).size := by simpa [View.size, sliceView] using hsz
  -- contiguous, so `Reshape` re-bases the `Impl` window (`Nd.reshape_go_alias`) instead of copying
  have h4 := Nd.reshape_go_alias (h := h) (a := { a with v := sliceView a.v loc dims step }) (reach_geo hrb)
    (r.ok.slice h1) hs hsz' h3 r.go
  have h5 := Nd.arrOK_alias (reach_geo hrb) (r.ok.slice h1) h3 hsz'
  have e : NdC02.aliasArr { a with v := sliceView a.v loc dims step } s = win a (ravel loc D) s := by
    simp only [NdC02.aliasArr, win, sliceView, View.size, r.view, rootView, Int.zero_add, hsz,
      dot_offsetsT_ravel loc D okS.lengths.1]
  rw [e] at h4 h5
  exact ⟨by simp only [h1, mustReshape, h4, bind, Except.bind, pure, Except.pure], h3, ⟨rfl, rfl, h5, hp, hs⟩⟩

theorem win_flat (a : Arr) (p n : Int) : win a p [n] = flat a.sid (a.base + p) n := by simp [win, flat, product]

theorem win_flat2 (a : Arr) (p r c : Int) : win a p [r, c] = flat2 a.sid (a.base + p) r c := by simp [win, flat2, product]

/-- Row `i` of a `[N, nS]` root as a flat view. `inputOf` (row `k` of a cell's `[nI, T]` input block) has the body of `stateView`,
and so has `paramView _ _ row 1 [nSets]` (the row of a scalar parameter) once it has read `nSets`: this is also their equation, and
`inputView_eq`, `paramView_scalar_eq` and the contiguity clauses of C04NdViews apply it to them as it stands. -/
theorem stateView_eq {h : Heap α} {states : Arr} {N nS i : Int} (r : RootOn h states [N, nS])
    (hi0 : 0 ≤ i) (hi : i < N) :
    stateView h states i nS = .ok (h, flat states.sid (states.base + i * nS) nS) ∧
      (sliceView states.v [i, 0] [1, nS] none).contiguous = .ok true ∧
      RootOn h (flat states.sid (states.base + i * nS) nS) [nS] := by
  obtain ⟨_, hnS⟩ := pos2 r.pos
  have := r.slice_reshape (loc := [i, 0]) (dims := [1, nS]) (s := [nS]) (step := none)
    (by simp [stepOr, uniform]; omega) (by simp [stepOr, uniform, Nd.Dense]) (by simp) (by simp [Pos]; exact hnS)
    (by simp [product])
  rwa [win_flat, ravel2, Int.add_zero] at this

theorem goMod_eq {i n : Int} (hi : 0 ≤ i) (hn : 1 ≤ n) : goMod i n = .ok (i % n) := by
  unfold goMod
  rw [if_neg (by omega), Int.tmod_eq_emod_of_nonneg hi]

theorem cellInputs_eq {h : Heap α} {inputs : Arr} {nIn nI T i : Int} (r : RootOn h inputs [nIn, nI, T])
    (hi0 : 0 ≤ i) :
    cellInputs h inputs i nIn nI T = .ok (h, flat2 inputs.sid (inputs.base + (i % nIn) * (nI * T)) nI T) ∧
      (sliceView inputs.v [i % nIn, 0, 0] [1, nI, T] none).contiguous = .ok true ∧
      RootOn h (flat2 inputs.sid (inputs.base + (i % nIn) * (nI * T)) nI T) [nI, T] := by
  obtain ⟨hnIn, hnI, hT⟩ := pos3 r.pos
  obtain ⟨hc0, hc1⟩ := emod_range i hnIn
  have := r.slice_reshape (loc := [i % nIn, 0, 0]) (dims := [1, nI, T]) (s := [nI, T]) (step := none)
    (by simp [stepOr, uniform]; omega) (by simp [stepOr, uniform, Nd.Dense]) (by simp) (by simp [Pos]; exact ⟨hnI, hT⟩)
    (by simp [product])
  rw [win_flat2, ravel3, Int.add_zero, Int.add_zero, Int.mul_assoc] at this
  refine ⟨?_, this.2⟩
  unfold cellInputs
  simp only [goMod_eq hi0 hnIn, bind, Except.bind]
  exact this.1

theorem inputView_eq {h : Heap α} {inputs : Arr} {nIn nI T i k : Int} (r : RootOn h inputs [nIn, nI, T])
    (hi0 : 0 ≤ i) (hk0 : 0 ≤ k) (hk : k < nI) :
    inputView h inputs i k nIn nI T = .ok (h, flat inputs.sid (inputs.base + ((i % nIn) * nI + k) * T) T) ∧
      RootOn h (flat inputs.sid (inputs.base + ((i % nIn) * nI + k) * T) T) [T] := by
  obtain ⟨h1, _, h3⟩ := cellInputs_eq r hi0
  obtain ⟨h4, _, h5⟩ := stateView_eq h3 hk0 hk
  have e : flat (flat2 inputs.sid (inputs.base + (i % nIn) * (nI * T)) nI T).sid
      ((flat2 inputs.sid (inputs.base + (i % nIn) * (nI * T)) nI T).base + k * T) T =
      flat inputs.sid (inputs.base + ((i % nIn) * nI + k) * T) T := by
    simp [flat2, flat]
    ring
  rw [e] at h4 h5
  refine ⟨?_, h5⟩
  unfold inputView
  simp only [h1, bind, Except.bind]
  exact h4

/-- `T ≤ T'` (an oversized outputs array): the slice is the first `T` elements of one row, still contiguous -/
theorem outputView_eq {h : Heap α} {outputs : Arr} {M nO T' T i o : Int} (r : RootOn h outputs [M, nO, T'])
    (hi0 : 0 ≤ i) (hi : i < M) (ho0 : 0 ≤ o) (ho : o < nO) (hT0 : 1 ≤ T) (hT : T ≤ T') :
    outputView h outputs i o T = .ok (h, flat outputs.sid (outputs.base + (i * nO + o) * T') T) ∧
      (sliceView outputs.v [i, o, 0] [1, 1, T] (some [1, 1, 1])).contiguous = .ok true ∧
      RootOn h (flat outputs.sid (outputs.base + (i * nO + o) * T') T) [T] := by
  have := r.slice_reshape (loc := [i, o, 0]) (dims := [1, 1, T]) (s := [T]) (step := some [1, 1, 1])
    (by simp [stepOr]; omega) (by simp [stepOr, uniform, Nd.Dense]) (by simp) (by simp [Pos]; exact hT0)
    (by simp [product])
  rwa [win_flat, ravel3, Int.add_zero] at this

theorem RootOn.flat_store {h : Heap α} {sid : Nat} {base n : Int} (r : RootOn h (flat sid base n) [n]) :
    ∃ st, h[sid]? = some st ∧ 0 ≤ base := by
  obtain ⟨st, hs, _⟩ := r.ok.store
  exact ⟨st, hs, r.ok.base_nonneg⟩

theorem RootOn.flat_get {h : Heap α} {sid : Nat} {base n : Int} (r : RootOn h (flat sid base n) [n])
    {t : Int} (h0 : 0 ≤ t) (hlt : t < n) :
    ∃ x, cell h sid (base + t).toNat = some x ∧ Nd.get h (flat sid base n) [t] = .ok x ∧
      get1 h (flat sid base n) t = .ok x := by
  obtain ⟨x, hx, hg, _⟩ := r.get (idx := [t]) (by simp; omega)
  rw [show ravel [t] [n] = t by simp [ravel, product]] at hx
  refine ⟨x, hx, hg, ?_⟩
  unfold get1
  rw [if_pos (by simp [flat, rootView])]
  exact hg

theorem RootOn.flat_set1 {h : Heap α} {sid : Nat} {base n : Int} (r : RootOn h (flat sid base n) [n])
    {t : Int} (h0 : 0 ≤ t) (hlt : t < n) (x : α) :
    set1 h (flat sid base n) t x = .ok (setStore h sid (base + t).toNat x) ∧
      cell (setStore h sid (base + t).toNat x) sid (base + t).toNat = some x ∧
      (∀ u q : Nat, (u ≠ sid ∨ q ≠ (base + t).toNat) → cell (setStore h sid (base + t).toNat x) u q = cell h u q) ∧
      SameShape h (setStore h sid (base + t).toNat x) := by
  obtain ⟨st, hs, _⟩ := r.flat_store
  obtain ⟨y, hy, _, _⟩ := r.flat_get h0 hlt
  refine ⟨OW.WrapperNd.flat_set1 hs h0 hlt x, ?_, ?_, sameShape_setStore _ _ _ _⟩
  · rw [cell_setStore, if_pos ⟨rfl, rfl⟩, hy]; rfl
  · intro u q hne
    rw [cell_setStore, if_neg (by intro ⟨e1, e2⟩; rcases hne with e | e <;> contradiction)]

theorem RootOn.window_get {h : Heap α} {a : Arr} {D : Idx} (r : RootOn h a D) {p n : Int}
    (rv : RootOn h (flat a.sid (a.base + p) n) [n]) {idx : Idx} (hi : InBounds idx D) {t : Int} (t0 : 0 ≤ t)
    (t1 : t < n) (hrav : ravel idx D = p + t) :
    ∃ x, cell h a.sid (a.base + (p + t)).toNat = some x ∧ get1 h (flat a.sid (a.base + p) n) t = .ok x ∧
      Nd.get h a idx = .ok x := by
  obtain ⟨x, hx, _, hg1⟩ := rv.flat_get t0 t1
  obtain ⟨y, hy, hgy, _⟩ := r.get hi
  rw [hrav, ← Int.add_assoc, hx] at hy
  exact ⟨x, by rw [← Int.add_assoc]; exact hx, hg1, Option.some.inj hy ▸ hgy⟩

theorem RootOn.window_set {h : Heap α} {a : Arr} {D : Idx} (r : RootOn h a D) {p n : Int}
    (rv : RootOn h (flat a.sid (a.base + p) n) [n]) {idx : Idx} (hi : InBounds idx D) {t : Int} (t0 : 0 ≤ t)
    (t1 : t < n) (hrav : ravel idx D = p + t) (v : α) :
    ∃ h', set1 h (flat a.sid (a.base + p) n) t v = .ok h' ∧ h' = setStore h a.sid (a.base + (p + t)).toNat v ∧
      cell h' a.sid (a.base + (p + t)).toNat = some v ∧
      (∀ u q : Nat, (u ≠ a.sid ∨ q ≠ (a.base + (p + t)).toNat) → cell h' u q = cell h u q) ∧
      Nd.get h' a idx = .ok v ∧ RootOn h' a D := by
  obtain ⟨hset, hcell, hframe, hss⟩ := rv.flat_set1 t0 t1 v
  have r' := r.sameShape hss
  obtain ⟨y, hy, hgy, _⟩ := r'.get hi
  rw [hrav, ← Int.add_assoc, hcell] at hy
  rw [Int.add_assoc] at hset hcell hframe hgy r'
  exact ⟨_, hset, rfl, hcell, hframe, Option.some.inj hy ▸ hgy, r'⟩

theorem len_rootView {a : Arr} {D : Idx} (hv : a.v = rootView D 0) {k : Nat} {d : Int} (hd : D[k]? = some d) :
    a.v.len k = .ok d := by simp [View.len, hv, rootView, hd]

theorem paramView_scalar_eq {h : Heap α} {parameters : Arr} {rows nSets row : Int}
    (r : RootOn h parameters [rows, nSets]) (h0 : 0 ≤ row) (h1 : row < rows) :
    paramView h parameters row 1 [nSets] =
        .ok (h, flat parameters.sid (parameters.base + row * nSets) nSets) ∧
      (sliceView parameters.v [row, 0] [1, nSets] none).contiguous = .ok true ∧
      RootOn h (flat parameters.sid (parameters.base + row * nSets) nSets) [nSets] := by
  obtain ⟨e, hc, hr⟩ := stateView_eq r h0 h1
  refine ⟨?_, hc, hr⟩
  unfold paramView
  simp only [len_rootView r.view (k := 1) (d := nSets) rfl, bind, Except.bind]
  exact e

theorem paramView_table_eq {h : Heap α} {parameters : Arr} {rows nSets row maxLen : Int}
    (r : RootOn h parameters [rows, nSets]) (h0 : 0 ≤ row) (hm : 1 ≤ maxLen) (h1 : row + maxLen ≤ rows) :
    paramView h parameters row (1 * maxLen) [maxLen, nSets] =
        .ok (h, flat2 parameters.sid (parameters.base + row * nSets) maxLen nSets) ∧
      (sliceView parameters.v [row, 0] [1 * maxLen, nSets] none).contiguous = .ok true ∧
      RootOn h (flat2 parameters.sid (parameters.base + row * nSets) maxLen nSets) [maxLen, nSets] := by
  obtain ⟨_, hnS⟩ := pos2 r.pos
  have := r.slice_reshape (loc := [row, 0]) (dims := [1 * maxLen, nSets]) (s := [maxLen, nSets]) (step := none)
    (by simp [stepOr, uniform]; omega) (by simp [stepOr, uniform, Nd.Dense]) (by simp) (by simp [Pos]; exact ⟨hm, hnS⟩)
    (by simp [product])
  rw [win_flat2, ravel2, Int.add_zero] at this
  refine ⟨?_, this.2⟩
  unfold paramView
  simp only [len_rootView r.view (k := 1) (d := nSets) rfl, bind, Except.bind]
  exact this.1

/-- the view `m.X.Slice([]int{0, c}, []int{ownLen}, nil)` of a table parameter: rank-1 extents on a rank-2 array.
`Step`, `Offset`, `OffsetStep` keep rank 2; `Index` loops over `len(loc) = 1`, so `[r] ↦ c + r·nSets`: column `c`. -/
def tableArr (sid : Nat) (base maxLen nSets ownLen c : Int) : Arr :=
  ⟨⟨[maxLen, nSets], [ownLen], c, [nSets, 1], [1, 1], [nSets, 1]⟩, sid, base, maxLen * nSets, false⟩

theorem slice_table (sid : Nat) (base maxLen nSets ownLen c : Int) :
    slice (flat2 sid base maxLen nSets) [0, c] [ownLen] none = .ok (tableArr sid base maxLen nSets ownLen c) := by
  simp [slice, View.sliceInto, flat2, tableArr, rootView, offsetsT, uniform, dotProduct, multiply, bind, Except.bind,
    pure, Except.pure]

theorem tableArr_index (sid : Nat) (base maxLen nSets ownLen c r : Int) :
    (tableArr sid base maxLen nSets ownLen c).v.index [r] = .ok (c + r * nSets) := by
  simp [View.index, View.indexAux, tableArr, bind, Except.bind, pure, Except.pure]

theorem tableParam_eq {h : Heap α} {parameters : Arr} {rows nSets row maxLen ownLen i : Int}
    (r : RootOn h parameters [rows, nSets]) (h0 : 0 ≤ row) (hm : 1 ≤ maxLen) (h1 : row + maxLen ≤ rows)
    (hi0 : 0 ≤ i) :
    tableParam h parameters row maxLen ownLen i =
      .ok (h, tableArr parameters.sid (parameters.base + row * nSets) maxLen nSets ownLen (i % nSets)) := by
  obtain ⟨_, hnS⟩ := pos2 r.pos
  obtain ⟨e1, _, _⟩ := paramView_table_eq r h0 hm h1
  unfold tableParam
  simp only [len_rootView r.view (k := 1) (d := nSets) rfl, e1, bind, Except.bind]
  have : lastOf (flat2 parameters.sid (parameters.base + row * nSets) maxLen nSets).v.dims = .ok nSets := by
    simp [lastOf, flat2, rootView]
  simp only [this, goMod_eq hi0 hnS, slice_table, pure, Except.pure]

theorem tableArr_get {h : Heap α} {sid : Nat} {base maxLen nSets ownLen c : Int}
    (rt : RootOn h (flat2 sid base maxLen nSets) [maxLen, nSets]) {r : Int} (hc0 : 0 ≤ c) (hc : c < nSets)
    (hr0 : 0 ≤ r) (hr : r < maxLen) :
    ∃ x, cell h sid (base + (c + r * nSets)).toNat = some x ∧
      Nd.get h (tableArr sid base maxLen nSets ownLen c) [r] = .ok x ∧
      get1 h (tableArr sid base maxLen nSets ownLen c) r = .ok x := by
  -- the table view has the storage window and the allocated shape of the `ApplyParameters` view it was sliced from
  have ok : ArrOK h (tableArr sid base maxLen nSets ownLen c) :=
    ⟨rt.ok.store, rt.ok.base_nonneg, rt.ok.fits, fun e => nomatch e⟩
  obtain ⟨x, hx, hrd⟩ := readAt_eq ok (p := c + r * nSets) (Int.add_comm _ _ ▸ row_nonneg hr0 hc0 hc)
    (by have := row_lt hr hc0 hc; simpa [tableArr, product, Int.add_comm] using this)
  have hg : Nd.get h (tableArr sid base maxLen nSets ownLen c) [r] = .ok x := by
    unfold Nd.get
    rw [tableArr_index]
    exact hrd
  refine ⟨x, hx, hg, ?_⟩
  unfold get1
  rw [if_pos (by simp [tableArr])]
  exact hg

theorem scalarParam_eq {h : Heap α} {parameters : Arr} {rows nSets row i : Int}
    (r : RootOn h parameters [rows, nSets]) (h0 : 0 ≤ row) (h1 : row < rows) (hi0 : 0 ≤ i) :
    ∃ x, scalarParam h parameters row i = .ok x ∧
      cell h parameters.sid (parameters.base + (row * nSets + i % nSets)).toNat = some x := by
  obtain ⟨_, hnS⟩ := pos2 r.pos
  obtain ⟨hc0, hc1⟩ := emod_range i hnS
  obtain ⟨e, _, rv⟩ := paramView_scalar_eq r h0 h1
  obtain ⟨x, hx, _, hg1⟩ := rv.flat_get hc0 hc1
  refine ⟨x, ?_, by rw [← Int.add_assoc]; exact hx⟩
  unfold scalarParam
  simp only [len_rootView r.view (k := 1) (d := nSets) rfl, e, bind, Except.bind]
  simp only [len_rootView rv.view (k := 0) (d := nSets) rfl, goMod_eq hi0 hnS]
  exact hg1

theorem rootOn_replicate {h : Heap α} {sid n : Nat} {z : α} {D : Idx} (hs : h[sid]? = some (List.replicate n z))
    (hne : D ≠ []) (hpos : Pos D) (hf : product D ≤ n) : RootOn h (rootArr sid D n) D := by
  have := (rootOn_rootArr hne hpos hs (by rw [List.length_replicate]; exact hf)).2
  rwa [List.length_replicate] at this

/-- The preamble of `Run`. `inputLen = T` is taken from the INPUTS, also for the output views (`outputSizeSlice = [1,1,T]`, whatever
`T'` is). -/
theorem runDims_eq {inputs states outputs : Arr} {nIn nI T N nS M nO T' : Int}
    (hi : inputs.v = rootView [nIn, nI, T] 0) (hs : states.v = rootView [N, nS] 0)
    (ho : outputs.v = rootView [M, nO, T'] 0) :
    runDims inputs states outputs = .ok
      { numCells := N, numStates := nS, numInputSequences := nIn, inputLen := T, cellInputsShape := [nI, T],
        outputStepSlice := [1, 1, 1], outputSizeSlice := [1, 1, T], statesSizeSlice := [1, nS],
        inputsSizeSlice := [1, nI, T] } := by
  simp [runDims, View.len, hi, hs, ho, rootView, setAt, View.newIndex, View.ndims, uniform, bind, Except.bind, pure,
    Except.pure]

theorem toNat_add_inj {b x y : Int} (hb : 0 ≤ b) (hx : 0 ≤ x) (hy : 0 ≤ y) (e : (b + x).toNat = (b + y).toNat) :
    x = y := by
  omega

theorem flat_get1_frame {h : Heap α} {sid : Nat} {base n : Int} (rv : RootOn h (flat sid base n) [n]) {t : Int}
    (t0 : 0 ≤ t) (t1 : t < n) (u q : Nat) (v : α) (hne : ¬ (u = sid ∧ q = (base + t).toNat)) :
    get1 (setStore h u q v) (flat sid base n) t = get1 h (flat sid base n) t := by
  obtain ⟨x, hx, _, hg⟩ := rv.flat_get t0 t1
  obtain ⟨x', hx', _, hg'⟩ := (rv.sameShape (sameShape_setStore h u q v)).flat_get t0 t1
  rw [cell_setStore, if_neg (fun c => hne ⟨c.1.symm, c.2.symm⟩), hx] at hx'
  injection hx' with hx'
  rw [hg, hg', hx']

def rowAt (st : List α) (pos len : Nat) : List α := (st.drop pos).take len

/-- a `[R, C]` array held row-major from position `base`: `R` rows of `C` elements -/
def mat (st : List α) (base R C : Nat) : List (List α) := (List.range R).map fun r => rowAt st (base + r * C) C

/-- a `[B, R, C]` array held row-major from position `base`: `B` blocks of `R` rows of `C` elements -/
def cube (st : List α) (base B R C : Nat) : List (List (List α)) :=
  (List.range B).map fun b => mat st (base + b * (R * C)) R C

theorem rowAt_length {st : List α} {pos len : Nat} (h : pos + len ≤ st.length) : (rowAt st pos len).length = len := by
  simp [rowAt]; omega

theorem rowAt_getElem? (st : List α) (pos len k : Nat) (hk : k < len) : (rowAt st pos len)[k]? = st[pos + k]? := by
  simp [rowAt, hk]

theorem mat_length (st : List α) (base R C : Nat) : (mat st base R C).length = R := by simp [mat]

theorem mat_getElem? (st : List α) (base R C r : Nat) (hr : r < R) :
    (mat st base R C)[r]? = some (rowAt st (base + r * C) C) := by
  simp [mat, List.getElem?_map, List.getElem?_range hr]

theorem cube_length (st : List α) (base B R C : Nat) : (cube st base B R C).length = B := by simp [cube]

theorem cube_getElem? (st : List α) (base B R C b : Nat) (hb : b < B) :
    (cube st base B R C)[b]? = some (mat st (base + b * (R * C)) R C) := by
  simp [cube, List.getElem?_map, List.getElem?_range hb]

theorem mat_mem_length {st : List α} {base R C : Nat} (hf : base + R * C ≤ st.length) :
    ∀ s ∈ mat st base R C, s.length = C := by
  intro s hs
  simp only [mat, List.mem_map, List.mem_range] at hs
  obtain ⟨r, hr, rfl⟩ := hs
  apply rowAt_length
  have := nat_row_le hr C
  omega

theorem mat_succ (st : List α) (base R C : Nat) :
    mat st base (R + 1) C = rowAt st base C :: mat st (base + C) R C := by
  simp only [mat, List.range_succ_eq_map, List.map_cons, List.map_map, Nat.zero_mul, Nat.add_zero]
  refine congrArg _ (List.map_congr_left fun r _ => ?_)
  simp only [Function.comp, Nat.succ_mul]
  rw [Nat.add_comm (r * C) C, Nat.add_assoc]

/-- the one tie between the two row-major vocabularies: `chunks` of the list level and the C entry, `mat` of the view level -/
theorem mat_eq_chunks (st : List α) (C : Nat) : ∀ (R base : Nat), mat st base R C = chunks C R (st.drop base)
  | 0, _ => by simp [mat, chunks]
  | R + 1, base => by
    rw [mat_succ, mat_eq_chunks st C R (base + C)]
    simp only [chunks, List.drop_drop, rowAt]

theorem cube_succ (st : List α) (base B R C : Nat) :
    cube st base (B + 1) R C = mat st base R C :: cube st (base + R * C) B R C := by
  simp only [cube, List.range_succ_eq_map, List.map_cons, List.map_map, Nat.zero_mul, Nat.add_zero]
  refine congrArg _ (List.map_congr_left fun b _ => ?_)
  simp only [Function.comp, Nat.succ_mul]
  rw [Nat.add_comm (b * (R * C)) (R * C), Nat.add_assoc]

theorem rowAt_congr (a b : List α) (pos len : Nat) (h : ∀ k, k < len → a[pos + k]? = b[pos + k]?) :
    rowAt a pos len = rowAt b pos len := by
  apply List.ext_getElem?
  intro k
  by_cases hk : k < len
  · rw [rowAt_getElem? _ _ _ _ hk, rowAt_getElem? _ _ _ _ hk, h k hk]
  · simp [rowAt, hk]

theorem mat_congr (a b : List α) (base R C : Nat) (h : ∀ q, base ≤ q → q < base + R * C → a[q]? = b[q]?) :
    mat a base R C = mat b base R C := by
  unfold mat
  apply List.map_congr_left
  intro r hr
  have hr' := List.mem_range.mp hr
  apply rowAt_congr
  intro k hk
  have := nat_row_lt (n := C) (s := k) hr' hk
  exact h _ (by omega) (by omega)

theorem cube_congr (a b : List α) (base B R C : Nat) (h : ∀ q, base ≤ q → q < base + B * (R * C) → a[q]? = b[q]?) :
    cube a base B R C = cube b base B R C := by
  unfold cube
  apply List.map_congr_left
  intro k hk
  have := nat_row_le (List.mem_range.mp hk) (R * C)
  exact mat_congr _ _ _ _ _ fun q q0 q1 => h q (by omega) (by omega)

theorem RootOn.window_fits {h : Heap α} {a : Arr} {D : Idx} {b : Nat} {st : List α} (r : RootOn h a D)
    (hb : a.base = (b : Int)) (hs : h[a.sid]? = some st) {n w p : Nat} (hD : product D = ((n * w : Nat) : Int)) (hp : p < n) :
    b + p * w + w ≤ st.length := by
  obtain ⟨st', hs', hl⟩ := r.ok.store
  rw [hs] at hs'; injection hs' with hs'; subst hs'
  have hf : product D ≤ a.len := by have := r.ok.fits; rwa [r.view] at this
  have := nat_row_le hp w
  omega

theorem RootOn.row_fits {h : Heap α} {a : Arr} {R C b : Nat} {st : List α} (r : RootOn h a [(R : Int), (C : Int)])
    (hb : a.base = (b : Int)) (hs : h[a.sid]? = some st) {j : Nat} (hj : j < R) : b + j * C + C ≤ st.length :=
  r.window_fits hb hs (by push_cast [product]; ring) hj

end
end OW.WrapperNd
