import OW.Proofs.StorageRouting
import OW.Proofs.FindRootStall
import Mathlib.Tactic.IntervalCases
/-!
A concrete member of the StorageRouting family on which the root search of `calcOutflow` does not converge in its 20 iterations
(exact arithmetic): zero inflow bias, routing constant k = 10⁶, routing power m = 0.05, no evaporation, no dead storage,
Δt = 86400 s; 1000 m³ in the reach, no inflow.

Residual function on (0, ∞): `f q = 86400·q + 10⁶·q^0.05 − 1000`, `f 0 = −1000`; bracket `[0, 1000/86400]`; the root is
`q* ≈ 10⁻⁶⁰`. Certificate for `OW.Proofs.FindRoot.stalled_findRoot`: `δ n = (9/10)^(20·j n)` with
`j = 3, 7, 10, 13, 16, 19, 22, 25, 28, 30, 32, 34, 36, 38, 40, 42, 44, 46, 47, 48, 49` (so `δ n ^ 0.05 = (9/10)^(j n)` is rational).
-/
namespace OW.Proofs.StorageRouting
open OW OW.Kernels.StorageRouting OW.Fn OW.Proofs.FindRoot

attribute [-simp] OW.RealNum.ofNat_eq  -- as a simp lemma it loops with `Nat.cast_ofNat` on numerals ≥ 2 (see OW/Proofs/RealNum.lean, "literals")

/-- the `Ctx` of the call `calcOutflow 0 0 0 _ _ 1000 0 0 0 86400 0.05 10⁶ 0 10⁶ 0` -/
noncomputable def cStall : Ctx ℝ :=
  ⟨0, 0, 1000 / 86400, 1000, 0, 0, 0, 86400, 0, 0.05, 1000000, 0, 1000000, 0⟩

theorem mkCtx_stall : mkCtx (0:ℝ) 0 0 1000 0 0 0 86400 0.05 1000000 0 1000000 0 = cStall := by
  unfold mkCtx cStall
  simp only [RealNum.gmax_eq, RealNum.sci_zero]
  congr 1
  rw [max_eq_right (by norm_num : (0:ℝ) ≤ 1000)]
  norm_num

theorem stall_dry : Dry cStall 0 1000 0 86400 0.05 1000000 :=
  mkCtx_stall ▸ dry_ctx 0 1000 0 86400 0.05 1000000 (by norm_num) (by norm_num) (le_refl _) (by norm_num)

theorem sIndex_stall_pos (q : ℝ) (hq : 0 < q) : sIndex cStall q = 1000000 * q ^ (0.05 : ℝ) := by
  rw [stall_dry.sIndex_eq, if_neg (not_le.mpr hq), add_zero]

theorem sIndex_stall_zero : sIndex cStall 0 = 0 := by
  rw [stall_dry.sIndex_eq, if_pos (le_refl _)]

theorem fStall_pos (q : ℝ) (hq : 0 < q) : massBalanceFn cStall q = 86400 * q + 1000000 * q ^ (0.05 : ℝ) - 1000 := by
  rw [massBalanceFn_real, stall_dry.massBalance_eq, sIndex_stall_pos q hq]
  ring

theorem fStall_zero : massBalanceFn cStall 0 = -1000 := by
  rw [massBalanceFn_real, stall_dry.massBalance_eq, sIndex_stall_zero]
  ring

theorem slope_stall_zero : slopeOfMassBalance cStall 0 = 86400 := by
  unfold slopeOfMassBalance linearZone
  simp only [RealNum.sci_one, RealNum.lit0]
  show (if ((0.05:ℝ) ≤ 1 ∧ (0:ℝ) < 0) ∨ (1 < (0.05:ℝ) ∧ (0:ℝ) < 0) then (86400:ℝ) / (1 - 0) + 1000000
    else if (0:ℝ) < 0 then _ else (86400:ℝ) / (1 - 0)) = 86400
  rw [if_neg, if_neg (lt_irrefl _)]
  · norm_num
  · rintro (⟨_, h⟩ | ⟨_, h⟩) <;> exact lt_irrefl _ h

def jStall : Nat → Nat := fun n =>
  [3, 7, 10, 13, 16, 19, 22, 25, 28, 30, 32, 34, 36, 38, 40, 42, 44, 46, 47, 48, 49].getD n 49

noncomputable def δStall (n : Nat) : ℝ := ((9:ℝ) / 10) ^ (20 * jStall n)

theorem grid_rpow (r : ℝ) (hr : 0 ≤ r) (j : Nat) : (r ^ (20 * j)) ^ (0.05 : ℝ) = r ^ j := by
  rw [← Real.rpow_natCast r (20 * j), ← Real.rpow_mul hr, ← Real.rpow_natCast r j]
  congr 1
  push_cast
  ring

theorem rpow_small_bounds {a t : ℝ} (ha : 0 < a) (hat : a ≤ t) :
    a ^ (0.05 : ℝ) ≤ t ^ (0.05 : ℝ) ∧ t ^ (0.05 : ℝ) ≤ a ^ (0.05 : ℝ) * (t / a) := by
  constructor
  · exact Real.rpow_le_rpow ha.le hat (by norm_num)
  · have h1 : 1 ≤ t / a := by rw [le_div_iff₀ ha]; linarith
    have h2 : (t / a) ^ (0.05 : ℝ) ≤ (t / a) ^ (1 : ℝ) :=
      Real.rpow_le_rpow_of_exponent_le h1 (by norm_num)
    rw [Real.rpow_one] at h2
    have h3 : t = a * (t / a) := by field_simp
    calc t ^ (0.05 : ℝ) = (a * (t / a)) ^ (0.05 : ℝ) := by rw [← h3]
      _ = a ^ (0.05 : ℝ) * (t / a) ^ (0.05 : ℝ) := Real.mul_rpow ha.le (by positivity)
      _ ≤ a ^ (0.05 : ℝ) * (t / a) := mul_le_mul_of_nonneg_left h2 (Real.rpow_nonneg ha.le _)

/-- one step of the certificate, from a point `a` with `a ^ 0.05 = ap` to `δ'`, reduced to an inequality between these numbers
(rational ones on the grid): `δ'·(86400 t + 10⁶ t^0.05) ≤ δ'·t·(86400 + 10⁶ ap / a) ≤ 1000 t` for `t ≥ a` -/
theorem stall_shrink {a ap δ' : ℝ} (ha : 0 < a) (hδ : 0 ≤ δ') (hap : a ^ (0.05 : ℝ) = ap)
    (h2 : δ' * (86400 + 1000000 * ap / a) ≤ 1000) (t : ℝ) (ht : a ≤ t) :
    δ' ≤ t * 1000 / (massBalanceFn cStall t + 1000) := by
  have htpos : 0 < t := lt_of_lt_of_le ha ht
  obtain ⟨_, hub⟩ := rpow_small_bounds ha ht
  rw [hap, show ap * (t / a) = t * (ap / a) by ring] at hub
  rw [fStall_pos t htpos, sub_add_cancel,
    le_div_iff₀ (add_pos (mul_pos (by norm_num) htpos) (mul_pos (by norm_num) (Real.rpow_pos_of_pos htpos _)))]
  calc δ' * (86400 * t + 1000000 * t ^ (0.05 : ℝ))
      ≤ δ' * (t * (86400 + 1000000 * ap / a)) :=
        mul_le_mul_of_nonneg_left (by rw [show t * (86400 + 1000000 * ap / a) = 86400 * t + 1000000 * (t * (ap / a)) by ring]; linarith) hδ
    _ = t * (δ' * (86400 + 1000000 * ap / a)) := by ring
    _ ≤ t * 1000 := mul_le_mul_of_nonneg_left h2 htpos.le

theorem stall_big (j : Nat) (hj : j ≤ 49) (t : ℝ) (ht : ((9:ℝ) / 10) ^ (20 * j) ≤ t) :
    (1000:ℝ) ≤ massBalanceFn cStall t := by
  have ha : (0:ℝ) < ((9:ℝ) / 10) ^ (20 * j) := by positivity
  have htpos : 0 < t := lt_of_lt_of_le ha ht
  obtain ⟨hlb, _⟩ := rpow_small_bounds ha ht
  rw [grid_rpow _ (by norm_num) j] at hlb
  rw [fStall_pos t htpos]
  have h49 : ((9:ℝ) / 10) ^ 49 ≤ ((9:ℝ) / 10) ^ j :=
    pow_le_pow_of_le_one (by norm_num) (by norm_num) hj
  have h002 : (0.002:ℝ) ≤ ((9:ℝ) / 10) ^ 49 := by norm_num
  have := mul_le_mul_of_nonneg_left (le_trans (le_trans h002 h49) hlb) (by norm_num : (0:ℝ) ≤ 1000000)
  have := mul_pos (by norm_num : (0:ℝ) < 86400) htpos
  linarith

set_option exponentiation.threshold 2000 in
theorem stall_cert :
    Cert (massBalanceFn cStall) (slopeOfMassBalance cStall) massBalanceLimit convergenceLimit 1000 (1000 / 86400)
      maxIterations δStall where
  tol_pos := mbl_pos
  tol_le := by rw [mbl_eq]; norm_num
  conv := le_of_eq conv_eq
  pos := fun n _ => by unfold δStall; positivity
  shrink := by
    intro n hn t ht _
    unfold maxIterations at hn
    unfold δStall at ht ⊢
    apply stall_shrink (by positivity) (by positivity) (grid_rpow _ (by norm_num) (jStall n)) _ t ht
    interval_cases n <;> (simp only [jStall, List.getD_cons_succ, List.getD_cons_zero]; norm_num)
  big := by
    intro n hn t ht _
    unfold δStall at ht
    -- the last exponent of the table is the largest
    have hj : ∀ n, n ≤ maxIterations → jStall n ≤ 49 := by decide
    exact stall_big (jStall n) (hj n hn) t ht
  newton := by
    right
    rw [slope_stall_zero]

theorem δStall_zero_le : δStall 0 ≤ 1000 / 86400 := by
  unfold δStall jStall
  simp only [List.getD_cons_zero]
  norm_num

theorem findRoot_stall :
    ∃ fr, findRoot (massBalanceFn cStall) (some (slopeOfMassBalance cStall)) 0 0 (1000 / 86400) massBalanceLimit
        convergenceLimit maxIterations = .ok fr ∧ fr.exit = .fuel ∧ fr.x = 0 ∧ fr.delta = -1000 :=
  stalled_findRoot stall_cert fStall_zero δStall_zero_le

theorem fStall_ge_of_ge (t : ℝ) (ht : (1:ℝ) / 500 ≤ t) : (1000:ℝ) ≤ massBalanceFn cStall t := by
  apply stall_big 3 (by norm_num) t
  refine le_trans ?_ ht
  norm_num

/-- `solve` on the call: neither end of `[0, 1000/86400]` nor its midpoint is accepted, FindRoot stalls, and the step reports
the values of the LOWER END `q = 0`: the whole 1000 m³ leaves the reach (outflow 1000/86400 m³/s, storage 0) -/
theorem solve_stall : solve cStall 0 0 (1000 / 86400) = .ok ⟨0, 1000 / 86400, 0, "root"⟩ := by
  obtain ⟨fr, hfr, _, hx, _⟩ := findRoot_stall
  have hmx : (1000:ℝ) ≤ (rr cStall (1000 / 86400)).massBalance :=
    fStall_ge_of_ge _ (by norm_num)
  have hmid : (1000:ℝ) ≤ (rr cStall ((0 + 1000 / 86400) / 2)).massBalance :=
    fStall_ge_of_ge _ (by norm_num)
  have hlim : (massBalanceLimit : ℝ) < 1000 := by rw [mbl_eq]; norm_num
  have ho : (rr cStall 0).outflow = 1000 / 86400 := by
    rw [stall_dry.outflow_eq, sIndex_stall_zero, zero_mul, add_zero, sub_zero, max_eq_right (by norm_num)]
  rw [solve_real _ _ _ _ (if_pos (Or.inl (le_refl _))), if_neg (not_lt.mpr (le_trans hlim.le hmx))]
  rw [if_neg (not_lt.mpr (le_trans hlim.le (le_trans hmid (le_abs_self _)))), hfr]
  show Except.ok (⟨fr.x, (rr cStall fr.x).outflow, (rr cStall fr.x).sIndex, "root"⟩ : CO ℝ) = _
  rw [hx, ho, rr_sIndex, sIndex_stall_zero]

/-- the whole call `calcOutflow` (first timestep of a run: carried index flow 0) -/
theorem calcOutflow_stall (po : ℝ) :
    calcOutflow (0:ℝ) 0 0 0 po 1000 0 0 0 86400 0.05 1000000 0 1000000 0 = .ok ⟨0, 1000 / 86400, 0, "root"⟩ := by
  have hmin : (rr cStall 0).massBalance = -1000 := fStall_zero
  rw [calcOutflow_real mkCtx_stall, stall_dry.maxQI_eq, show (0:ℝ) * (0 + 0) = 0 by ring, hmin, add_zero, mbl_eq,
    if_neg (by norm_num), if_neg (by norm_num), if_neg (by norm_num)]
  exact solve_stall

end OW.Proofs.StorageRouting
