import OW.Proofs.NdCells
import OW.Sim.Interleave
/-!
A heap (`OW.Nd.Heap`: a list of storages) as a shared memory addressed by `(storage id, position)`, and the passage from a
heap transformer WITH A FOOTPRINT (`HeapFoot`: keeps the shape, changes only the cells in `W`; whether it fails, and what
it leaves in `W`, depends only on the cells in `R ++ W`) to the run function of an atomic `Step` of `OW.Sim.Interleave`
(`liftHeap`), whose `frame` and `loc` laws are then `liftHeap_frame`, `liftHeap_loc`, and which denotes the heap the
transformer returns (`rebuild_liftHeap`). A failing transformer leaves the memory as it is. The `Step` itself is not built
here: `OW.C05Addr.stepA` (OW/Proofs/C05Addr.lean) writes `liftHeap` out for the cell's transformer (`runA`, `runA_eq_liftHeap`)
and takes its two laws from here. Nothing in this file knows the wrapper (the namespace is that of its one user).
-/
namespace OW.C05Addr
open OW OW.Nd OW.Sim.Interleave

/-- an address: (storage id, position in that storage) -/
abbrev Addr := Nat × Nat

section
variable {α : Type}

def stor (h : Heap α) (u : Nat) : List α := (h[u]?).getD []

theorem stor_of_some {h : Heap α} {u : Nat} {st : List α} (e : h[u]? = some st) : stor h u = st := by simp [stor, e]

theorem getElem?_stor {h : Heap α} {a : Arr} (ok : ArrOK h a) : h[a.sid]? = some (stor h a.sid) :=
  let ⟨_, e, _⟩ := ok.store
  (stor_of_some e).symm ▸ e

theorem stor_getElem? (h : Heap α) (u q : Nat) : (stor h u)[q]? = cell h u q := by
  unfold stor cell
  cases h[u]? <;> simp

/-- the heap of the shape of `h0` whose cell `(u, q)` holds `m (u, q)` -/
def rebuild (h0 : Heap α) (m : Mem Addr α) : Heap α :=
  (List.range h0.length).map fun u => (List.range (stor h0 u).length).map fun q => m (u, q)

theorem rebuild_getElem? (h0 : Heap α) (m : Mem Addr α) (u : Nat) :
    (rebuild h0 m)[u]? = (h0[u]?).map fun st => (List.range st.length).map fun q => m (u, q) := by
  unfold rebuild
  rw [List.getElem?_map]
  by_cases hu : u < h0.length
  · rw [List.getElem?_range hu]
    simp [stor, List.getElem?_eq_getElem hu]
  · rw [List.getElem?_eq_none (by simpa using hu), List.getElem?_eq_none (by omega)]
    rfl

theorem sameShape_rebuild (h0 : Heap α) (m : Mem Addr α) : SameShape h0 (rebuild h0 m) := by
  refine ⟨by simp [rebuild], fun t => ?_⟩
  rw [rebuild_getElem?]
  cases h0[t]? <;> simp

theorem cell_rebuild (h0 : Heap α) (m : Mem Addr α) (u q : Nat) :
    cell (rebuild h0 m) u q = (cell h0 u q).map fun _ => m (u, q) := by
  unfold cell
  rw [rebuild_getElem?]
  cases h0[u]? with
  | none => rfl
  | some st =>
    simp only [Option.map_some, Option.bind_some]
    by_cases hq : q < st.length
    · simp [List.getElem?_map, List.getElem?_range hq, List.getElem?_eq_getElem hq]
    · simp [hq]

theorem rebuild_shape_congr {h0 h1 : Heap α} (ss : SameShape h0 h1) (m : Mem Addr α) : rebuild h0 m = rebuild h1 m := by
  apply List.ext_getElem?
  intro u
  rw [rebuild_getElem?, rebuild_getElem?]
  have hl := ss.2 u
  cases e0 : h0[u]? <;> cases e1 : h1[u]? <;> rw [e0, e1] at hl <;> simp at hl ⊢
  rw [hl]

theorem rebuild_self {h : Heap α} {m : Mem Addr α} (hm : ∀ u q x, cell h u q = some x → m (u, q) = x) :
    rebuild h m = h := by
  apply List.ext_getElem?
  intro u
  rw [rebuild_getElem?]
  cases e : h[u]? with
  | none => rfl
  | some st =>
    refine congrArg some (List.ext_getElem (by simp) fun q hq hq' => ?_)
    rw [List.getElem_map, List.getElem_range]
    exact hm u q st[q] (by simp [cell, e])

def memOfHeap (d : α) (h : Heap α) : Mem Addr α := fun a => (cell h a.1 a.2).getD d

theorem rebuild_memOfHeap (d : α) (h : Heap α) : rebuild h (memOfHeap d h) = h := by
  apply rebuild_self
  intro u q x hx
  simp [memOfHeap, hx]

structure HeapFoot (h0 : Heap α) (F : Heap α → Except String (Heap α)) (R W : List Addr) : Prop where
  frame : ∀ {h h' : Heap α}, SameShape h0 h → F h = .ok h' →
    SameShape h h' ∧ ∀ a : Addr, a ∉ W → cell h' a.1 a.2 = cell h a.1 a.2
  loc : ∀ {h g : Heap α}, SameShape h0 h → SameShape h0 g → (∀ a : Addr, a ∈ R ++ W → cell h a.1 a.2 = cell g a.1 a.2) →
    (∀ e, F h = .error e → F g = .error e) ∧
    (∀ h', F h = .ok h' → ∃ g', F g = .ok g' ∧ ∀ a : Addr, a ∈ W → cell g' a.1 a.2 = cell h' a.1 a.2)

def liftHeap (h0 : Heap α) (F : Heap α → Except String (Heap α)) (m : Mem Addr α) : Mem Addr α :=
  match F (rebuild h0 m) with
  | .ok h' => fun a => (cell h' a.1 a.2).getD (m a)
  | .error _ => m

variable {h0 : Heap α} {F : Heap α → Except String (Heap α)} {R W : List Addr}

theorem liftHeap_frame (hf : HeapFoot h0 F R W) (m : Mem Addr α) (a : Addr) (ha : a ∉ W) : liftHeap h0 F m a = m a := by
  unfold liftHeap
  cases hF : F (rebuild h0 m) with
  | error e => rfl
  | ok h' =>
    show (cell h' a.1 a.2).getD (m a) = m a
    rw [(hf.frame (sameShape_rebuild h0 m) hF).2 a ha, cell_rebuild]
    cases cell h0 a.1 a.2 <;> rfl

theorem liftHeap_loc (hf : HeapFoot h0 F R W) (m m' : Mem Addr α) (hag : ∀ a, a ∈ R ++ W → m a = m' a) (a : Addr)
    (ha : a ∈ W) : liftHeap h0 F m a = liftHeap h0 F m' a := by
  have hma : m a = m' a := hag a (List.mem_append_right _ ha)
  obtain ⟨he, ho⟩ := hf.loc (sameShape_rebuild h0 m) (sameShape_rebuild h0 m')
    (fun a ha => by rw [cell_rebuild, cell_rebuild, hag a ha])
  unfold liftHeap
  cases hF : F (rebuild h0 m) with
  | error e => rw [he e hF]; exact hma
  | ok h' =>
    obtain ⟨g', hg, hc⟩ := ho h' hF
    rw [hg]
    show (cell h' a.1 a.2).getD (m a) = (cell g' a.1 a.2).getD (m' a)
    rw [hc a ha, hma]

theorem rebuild_liftHeap (hf : HeapFoot h0 F R W) (m : Mem Addr α) {h1 : Heap α} (hF : F (rebuild h0 m) = .ok h1) :
    rebuild h0 (liftHeap h0 F m) = h1 := by
  unfold liftHeap
  rw [hF]
  rw [rebuild_shape_congr ((sameShape_rebuild h0 m).trans (hf.frame (sameShape_rebuild h0 m) hF).1)]
  apply rebuild_self
  intro u q x hx
  show (cell h1 u q).getD (m (u, q)) = x
  rw [hx]; rfl

end
end OW.C05Addr
