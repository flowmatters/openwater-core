import OW.Proofs.HotStart
/-!
N-way splits for hot-start continuity (C06): from the two-way statements `HotStart` / `HotStartWhen` to a run cut into
any number ≥ 1 of consecutive blocks, by induction on the list of blocks. Core Lean only, any `Num α`.

A split period is a NON-EMPTY list of blocks `b :: bs`; each block is a list of input series (the same number of series in
every block, all series of a block equally long — different blocks may have different lengths, also 0).
-/
namespace OW

def catBlocks {β} : List (List β) → List (List (List β)) → List (List β)
  | b, [] => b
  | b, b' :: bs => catSeries b (catBlocks b' bs)

def BlocksOk {β} (k : Nat) : List Nat → List (List (List β)) → Prop
  | [], [] => True
  | n :: ns, b :: bs => b.length = k ∧ AllLen n b ∧ BlocksOk k ns bs
  | _, _ => False

/-- the split run over the blocks `b :: bs`: one call per block, each starting from the state row the previous call returned;
outputs concatenated series by series, final states those of the last call (branch tags appended) -/
def runBlocks {α} (km : KModel α) (p : List α) : List (List α) → List (List (List α)) → List α → KRes α
  | b, [], st => km.run p b st
  | b, b' :: bs, st =>
    match km.run p b st with
    | .error e => .error e
    | .ok o₁ =>
      match runBlocks km p b' bs o₁.states with
      | .error e => .error e
      | .ok o₂ => .ok { outputs := catSeries o₁.outputs o₂.outputs, states := o₂.states, tags := o₁.tags ++ o₂.tags }

/-- the side condition `C` holds at every cut of the split run over `b :: bs` from `st`: for each block but the last, if its
call succeeds then `C p (state row the call started from) (state row it returns)`, and so on from the returned row -/
def CutsOk {α} (km : KModel α) (C : List α → List α → List α → Prop) (p : List α) :
    List (List α) → List (List (List α)) → List α → Prop
  | _, [], _ => True
  | b, b' :: bs, st => ∀ o₁, km.run p b st = .ok o₁ → C p st o₁.states ∧ CutsOk km C p b' bs o₁.states

/-- **N-way hot-start continuity**: if the split run over any non-empty list of blocks succeeds, the one-call run over the
concatenated blocks succeeds, with the same (concatenated) outputs and the same final state row. -/
def HotStartN {α} (km : KModel α) : Prop :=
  ∀ (p : List α) (b : List (List α)) (bs : List (List (List α))) (st : List α) (k : Nat) (ns : List Nat) (o : KOut α),
    BlocksOk k ns (b :: bs) → runBlocks km p b bs st = .ok o →
    ∃ o', km.run p (catBlocks b bs) st = .ok o' ∧ o'.outputs = o.outputs ∧ o'.states = o.states

/-- `HotStartN` for splits whose every cut satisfies the side condition `C` (`CutsOk`) -/
def HotStartWhenN {α} (km : KModel α) (C : List α → List α → List α → Prop) : Prop :=
  ∀ (p : List α) (b : List (List α)) (bs : List (List (List α))) (st : List α) (k : Nat) (ns : List Nat) (o : KOut α),
    BlocksOk k ns (b :: bs) → CutsOk km C p b bs st → runBlocks km p b bs st = .ok o →
    ∃ o', km.run p (catBlocks b bs) st = .ok o' ∧ o'.outputs = o.outputs ∧ o'.states = o.states

theorem BlocksOk.induction {β} {k : Nat} {motive : ∀ ns b bs, BlocksOk (β := β) k ns (b :: bs) → Prop}
    (single : ∀ n b (hk : b.length = k) (hn : AllLen n b), motive [n] b [] ⟨hk, hn, trivial⟩)
    (cons : ∀ n ns b b' bs (hk : b.length = k) (hn : AllLen n b) (h : BlocksOk k ns (b' :: bs)),
      motive ns b' bs h → motive (n :: ns) b (b' :: bs) ⟨hk, hn, h⟩) :
    ∀ ns b bs h, motive ns b bs h
  | [n], b, [], ⟨hk, hn, _⟩ => single n b hk hn
  | n :: n' :: ns, b, b' :: bs, ⟨hk, hn, h⟩ =>
    cons n (n' :: ns) b b' bs hk hn h (BlocksOk.induction single cons (n' :: ns) b' bs h)
  | [_], _, _ :: _, ⟨_, _, h⟩ => h.elim
  | _ :: _ :: _, _, [], ⟨_, _, h⟩ => h.elim

theorem catBlocks_shape {β} (k : Nat) (ns : List Nat) (b : List (List β)) (bs : List (List (List β)))
    (h : BlocksOk k ns (b :: bs)) : (catBlocks b bs).length = k ∧ AllLen ns.sum (catBlocks b bs) := by
  induction ns, b, bs, h using BlocksOk.induction with
  | single n b hk hn => exact ⟨hk, by simpa [catBlocks] using hn⟩
  | cons n ns b b' bs hk hn _ ih =>
    exact ⟨(catSeries_length b _ (hk.trans ih.1.symm)).trans hk, by rw [List.sum_cons]; exact catSeries_allLen hn ih.2⟩

theorem catSeries_getD {β} (b c : List (List β)) (hlen : b.length = c.length) (i : Nat) :
    (catSeries b c).getD i [] = b.getD i [] ++ c.getD i [] := by
  simp only [catSeries, List.getD_eq_getElem?_getD, List.getElem?_zipWith]
  by_cases hi : i < b.length
  · rw [List.getElem?_eq_getElem hi, List.getElem?_eq_getElem (hlen ▸ hi)]
    rfl
  · rw [List.getElem?_eq_none (Nat.le_of_not_lt hi), List.getElem?_eq_none (hlen ▸ Nat.le_of_not_lt hi)]
    rfl

theorem catBlocks_getD {β} (k : Nat) (ns : List Nat) (b : List (List β)) (bs : List (List (List β)))
    (h : BlocksOk k ns (b :: bs)) (i : Nat) :
    (catBlocks b bs).getD i [] = ((b :: bs).map (fun blk => blk.getD i [])).flatten := by
  induction ns, b, bs, h using BlocksOk.induction with
  | single => simp [catBlocks]
  | cons n ns b b' bs hk _ hrest ih =>
    show (catSeries b (catBlocks b' bs)).getD i [] = _
    rw [List.map_cons, List.flatten_cons, ← ih]
    exact catSeries_getD b (catBlocks b' bs) (hk.trans (catBlocks_shape k ns b' bs hrest).1.symm) i

theorem HotStartWhen.toN {α} {km : KModel α} {C : List α → List α → List α → Prop} (h : HotStartWhen km C) :
    HotStartWhenN km C := by
  intro p b bs st k ns o hok
  induction ns, b, bs, hok using BlocksOk.induction generalizing st o with
  | single => exact fun _ hr => ⟨o, hr, rfl, rfl⟩
  | cons n ns b b' bs hk hn hrest ih =>
    intro hcut hr
    simp only [runBlocks] at hr
    cases h₁ : km.run p b st with
    | error e => rw [h₁] at hr; simp at hr
    | ok o₁ =>
      rw [h₁] at hr
      simp only at hr
      obtain ⟨hc, hcut'⟩ := hcut o₁ h₁
      cases hrest' : runBlocks km p b' bs o₁.states with
      | error e => rw [hrest'] at hr; simp at hr
      | ok o₂ =>
        rw [hrest'] at hr
        simp only [Except.ok.injEq] at hr
        subst hr
        obtain ⟨o₂', hrun₂, hout₂, hst₂⟩ := ih o₁.states o₂ hcut' hrest'
        obtain ⟨hk', hn'⟩ := catBlocks_shape k ns b' bs hrest
        obtain ⟨o', hrun, hout, hst⟩ := h p b (catBlocks b' bs) st n ns.sum o₁ o₂' (hk.trans hk'.symm) hn hn' h₁ hrun₂ hc
        exact ⟨o', hrun, by rw [hout, hout₂], by rw [hst, hst₂]⟩

theorem cutsOk_of_param {α} (km : KModel α) {C : List α → List α → List α → Prop} (p : List α)
    (hC : ∀ st s, C p st s) (b : List (List α)) (bs : List (List (List α))) (st : List α) : CutsOk km C p b bs st := by
  induction bs generalizing b st with
  | nil => trivial
  | cons b' bs ih => exact fun o₁ _ => ⟨hC _ _, ih b' o₁.states⟩

theorem HotStart.toN {α} {km : KModel α} (h : HotStart km) : HotStartN km := by
  intro p b bs st k ns o hok hr
  exact ((hotStart_iff_when km).mp h).toN p b bs st k ns o hok (cutsOk_of_param km p (fun _ _ => trivial) b bs st) hr

theorem HotStartN.two {α} {km : KModel α} (h : HotStartN km) : HotStart km := by
  intro p a b st n₁ n₂ o₁ o₂ hl ha hb h₁ h₂
  have hr : runBlocks km p a [b] st =
      .ok { outputs := catSeries o₁.outputs o₂.outputs, states := o₂.states, tags := o₁.tags ++ o₂.tags } := by
    simp only [runBlocks, h₁, h₂]
  obtain ⟨o', hrun, hout, hst⟩ := h p a [b] st a.length [n₁, n₂] _ ⟨rfl, ha, hl.symm, hb, trivial⟩ hr
  exact ⟨o', hrun, hout, hst⟩

end OW
