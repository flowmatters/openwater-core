import OW.Proofs.GR4JPieces
import OW.Proofs.ScanBudget
/-!
C10 for GR4J: the unit-hydrograph stores as water in transit (one day of one store: `uh_day`), the exchange term added
to a store and clipped at zero (`Gain`, `exchange_gain`), and one day of the model with its water account store by store
(`DayAccount`, `day_account`), whose sums are the one-step budgets and balances that lift to runs. The bounds of the
scalar fluxes are in GR4JPieces.lean.
-/
namespace OW.RR.GR4J
open OW OW.Kernels.GR4J

theorem addUH_sum (pr f : ℝ) : ∀ (q uh : List ℝ), q.length = uh.length →
    (addUH pr f q uh).sum = q.sum + pr * f * uh.sum
  | [], [], _ => by simp [addUH]
  | [], _ :: _, h => by simp at h
  | _ :: _, [], h => by simp at h
  | a :: q, u :: uh, h => by
    have ih := addUH_sum pr f q uh (by simpa using h)
    simp only [addUH, List.zipWith_cons_cons, List.sum_cons] at ih ⊢
    rw [ih]; ring

theorem addUH_nonneg (pr f : ℝ) (hpf : 0 ≤ pr * f) (q uh : List ℝ) (hq : ∀ x ∈ q, 0 ≤ x) (hu : ∀ x ∈ uh, 0 ≤ x) :
    ∀ x ∈ addUH pr f q uh, 0 ≤ x := by
  intro x hx
  rw [addUH, ← List.map_uncurry_zip_eq_zipWith] at hx
  obtain ⟨⟨qi, u⟩, hm, rfl⟩ := List.mem_map.1 hx
  exact add_nonneg (hq qi (List.of_mem_zip hm).1) (mul_nonneg hpf (hu u (List.of_mem_zip hm).2))

theorem head_add_shift_sum (a : List ℝ) : head0 a + (shift a).sum = a.sum := by
  cases a <;> simp [head0, shift, RealNum.sci_zero]

theorem shift_nonneg (a : List ℝ) (ha : ∀ x ∈ a, 0 ≤ x) : ∀ x ∈ shift a, 0 ≤ x := by
  intro x hx
  simp only [shift, List.mem_append, List.mem_singleton] at hx
  rcases hx with hx | hx
  · exact ha x (List.mem_of_mem_tail hx)
  · rw [hx, RealNum.sci_zero]

theorem head0_nonneg (a : List ℝ) (ha : ∀ x ∈ a, 0 ≤ x) : 0 ≤ head0 a := by
  cases a with
  | nil => simp [head0, RealNum.sci_zero]
  | cons x xs => simpa [head0] using ha x (List.mem_cons_self ..)

theorem uh_day {q uh : List ℝ} (pr f : ℝ) (hl : q.length = uh.length) (hu : uh.sum = 1 ∧ ∀ x ∈ uh, 0 ≤ x)
    (hq0 : ∀ x ∈ q, 0 ≤ x) (hpf : 0 ≤ pr * f) (a : List ℝ) (ha : addUH pr f q uh = a) :
    0 ≤ head0 a ∧ head0 a + (shift a).sum = q.sum + pr * f ∧ ∀ x ∈ shift a, 0 ≤ x := by
  subst ha
  have hnn := addUH_nonneg pr f hpf q uh hq0 hu.2
  exact ⟨head0_nonneg _ hnn, by rw [head_add_shift_sum, addUH_sum pr f q uh hl, hu.1, mul_one], shift_nonneg _ hnn⟩

/-- documented parameter ranges used by the C10 theorems: capacities and time base positive (the divisors) -/
structure ParamsOk (x1 x3 x4 : ℝ) : Prop where
  x1pos : 0 < x1
  x3pos : 0 < x3
  x4pos : 0 < x4

def Inv (x1 x3 x4 : ℝ) (st : State ℝ) : Prop :=
  0 ≤ st.S ∧ st.S ≤ x1 ∧ 0 ≤ st.R ∧ st.R ≤ x3 ∧ (∀ q ∈ st.q1, 0 ≤ q) ∧ (∀ q ∈ st.q9, 0 ≤ q) ∧ Shaped x4 st

/-- water held: production store + routing store + water in transit in the two unit hydrographs -/
def stor (st : State ℝ) : ℝ := st.S + st.R + st.q1.sum + st.q9.sum

theorem shares_nonneg : (0 : ℝ) ≤ 0.9 ∧ (0 : ℝ) ≤ 0.1 := by norm_num

/-- what an exchange `e` adds to a store that is clipped at zero: all of a gain; of a loss (`e < 0`) some part, between `e` and 0 -/
def Gain (e g : ℝ) : Prop := e ≤ g ∧ g ≤ max 0 e

theorem Gain.of_nonneg {e g : ℝ} (h : Gain e g) (he : 0 ≤ e) : g = e := (h.2.trans_eq (max_eq_right he)).antisymm h.1

/-- `m` is a store `y ≥ 0` after the exchange `e` is added and the sum clipped at zero; the kernel spells the clip in two ways,
and `hm` is where the caller says that its spelling is `max 0 (y + e)` -/
theorem exchange_gain {y e : ℝ} (hy : 0 ≤ y) (m : ℝ) (hm : m = max 0 (y + e)) : 0 ≤ m ∧ e ≤ m ∧ Gain e (m - y) := by
  subst hm
  refine ⟨le_max_left _ _, (le_add_of_nonneg_left hy).trans (le_max_right _ _), le_sub_iff_add_le'.2 (le_max_right _ _), ?_⟩
  have h1 : (0 : ℝ) ≤ max 0 e := le_max_left _ _
  have h2 : e ≤ max 0 e := le_max_right _ _
  exact sub_le_iff_le_add.2 (max_le (by linarith) (by linarith))

def OutOk (o : Out ℝ) : Prop := 0 ≤ o.runoff ∧ o.runoff = o.qr + o.qd ∧ 0 ≤ o.qr ∧ 0 ≤ o.qd

/-- The water account of one day `st —pe→ r`, store by store. The production store takes in the rain, loses to evaporation
(nothing for zero PET) and passes `pr` on; the routing store with its unit hydrograph receives `0.9·pr` and releases `qr`; the
direct branch with its unit hydrograph receives `0.1·pr` and releases `qd`. The exchange term `ech = x2·(R/x3)^3.5` is added to
each of the last two and the sum clipped at zero (`Gain`), and it reaches the outlet the same day through the direct branch
(`ech ≤ qd ≤ runoff`). The shares `0.9·pr` and `0.1·pr` add up to `pr` when `routed` and `direct` are summed (`out_le`,
`eq_gaining`). -/
structure DayAccount (x1 x3 x4 : ℝ) (st : State ℝ) (pe : ℝ × ℝ) (r : State ℝ × Out ℝ) : Prop where
  inv : Inv x1 x3 x4 r.1
  out_ok : OutOk r.2
  ech_le : r.2.ech ≤ r.2.runoff
  prod_le : r.1.S + r.2.pr ≤ st.S + pe.1
  prod_eq : pe.2 = 0 → r.1.S + r.2.pr = st.S + pe.1
  routed : Gain r.2.ech (r.1.R + r.1.q9.sum + r.2.qr - (st.R + st.q9.sum + r.2.pr * 0.9))
  direct : Gain r.2.ech (r.1.q1.sum + r.2.qd - (st.q1.sum + r.2.pr * 0.1))

namespace DayAccount
variable {x1 x3 x4 : ℝ} {st : State ℝ} {pe : ℝ × ℝ} {r : State ℝ × Out ℝ} (h : DayAccount x1 x3 x4 st pe r)
include h

/-- at most `2·max(0, ech)` is imported -/
theorem out_le : r.2.runoff - 2 * max 0 r.2.ech + stor r.1 ≤ pe.1 + stor st := by
  unfold stor
  linear_combination h.out_ok.2.1 + h.prod_le + h.routed.2 + h.direct.2

/-- a losing catchment imports nothing -/
theorem le_losing (he : r.2.ech ≤ 0) : r.2.runoff + stor r.1 ≤ pe.1 + stor st := by
  linarith only [h.out_le, max_eq_left he]

/-- zero PET: evapotranspiration is not in the account, so only then does it close exactly; the imported water `2·ech` counts
as an input -/
theorem eq_gaining (he : 0 ≤ r.2.ech) (hE : pe.2 = 0) : r.2.runoff - 2 * r.2.ech + stor r.1 = pe.1 + stor st := by
  unfold stor
  linear_combination h.out_ok.2.1 + h.prod_eq hE + h.routed.of_nonneg he + h.direct.of_nonneg he

end DayAccount

theorem day_account (x1 x2 x3 x4 : ℝ) (hp : ParamsOk x1 x3 x4) (st : State ℝ) (hst : Inv x1 x3 x4 st)
    (pe : ℝ × ℝ) (hpe : 0 ≤ pe.1 ∧ 0 ≤ pe.2) :
    DayAccount x1 x3 x4 st pe (step x1 x2 x3 (uh1 x4 ⌈x4⌉₊) (uh2 x4 ⌈2 * x4⌉₊) st pe) := by
  obtain ⟨hS0, hS1, hR0, hR1, hq1, hq9, hsh9, hsh1⟩ := hst
  have hx4 := hp.x4pos
  have hlen := OW.Proofs.GR4JHot.step_len x1 x2 x3 x4 _ _ (uh_lengths_pos hx4).1 (uh_lengths_pos hx4).2 st pe
    hsh1 hsh9
  unfold step
  rw [RealNum.sci_zero, RealNum.lit0]
  extract_lets rain pet prod ps es pr0 s1 perc s2 pr q9a q1a Q9 Q1 ech r1 r2 qr r3 tp qd qtot
  obtain ⟨p3, p4, p5, p6, p7⟩ := production_bounds x1 st.S rain pet hp.x1pos hS0 hS1 hpe.1 hpe.2 ps es pr0 rfl
  obtain ⟨c1, c2⟩ := percolation_bounds x1 s1 hp.x1pos p4
  have hpr : 0 ≤ pr := add_nonneg c1 p3
  have hprod : s2 + pr = st.S + (ps + pr0 - es) := by
    show st.S - es + ps - perc + (perc + pr0) = _
    ring
  -- unit hydrographs: `pr` is split 0.9 / 0.1 over ordinates that sum to 1; the heads leave, the rest is shifted
  obtain ⟨hQ9, hhs9, hnn9⟩ := uh_day pr 0.9 (hsh9.trans (OW.Proofs.GR4JHot.uh1_length x4 _).symm) (uh1_spec x4 hx4).2 hq9
    (mul_nonneg hpr shares_nonneg.1) q9a rfl
  obtain ⟨hQ1, hhs1, hnn1⟩ := uh_day pr 0.1 (hsh1.trans (OW.Proofs.GR4JHot.uh2_length x4 _).symm) (uh2_spec x4 hx4).2 hq1
    (mul_nonneg hpr shares_nonneg.2) q1a rfl
  -- routing store and direct branch: both add `ech` and clip at zero
  obtain ⟨hr20, _, b⟩ := exchange_gain (e := ech) (add_nonneg hR0 hQ9) r2 (max_clip _).symm
  obtain ⟨hqd0, hechqd, d⟩ := exchange_gain (e := ech) hQ1 qd ((pos_eq_clip _).trans (max_clip _).symm)
  obtain ⟨g1, g2, g3⟩ := routing_bounds x3 r2 hp.x3pos hr20
  have e9 : r3 + (shift q9a).sum + qr - (st.R + st.q9.sum + pr * 0.9) = r2 - (st.R + Q9) := by
    show r2 - qr + _ + qr - _ = _
    linarith only [hhs9]
  have e1 : (shift q1a).sum + qd - (st.q1.sum + pr * 0.1) = qd - Q1 := by linarith only [hhs1]
  exact {
    inv := ⟨sub_nonneg.2 c2, (sub_le_self _ c1).trans p5, sub_nonneg.2 g2, g3, hnn1, hnn9, hlen.2, hlen.1⟩
    out_ok := ⟨add_nonneg g1 hqd0, rfl, g1, hqd0⟩
    ech_le := hechqd.trans (le_add_of_nonneg_left g1)
    prod_le := hprod.trans_le ((add_le_add_iff_left _).2 p6)
    prod_eq := fun hE => hprod.trans (congrArg _ (p7 hE))
    routed := e9 ▸ b
    direct := e1 ▸ d }

theorem stor_nonneg (x1 x3 x4 : ℝ) (st : State ℝ) (h : Inv x1 x3 x4 st) : 0 ≤ stor st :=
  have ⟨hS, _, hR, _, h1, h9, _⟩ := h
  add_nonneg (add_nonneg (add_nonneg hS hR) (List.sum_nonneg h1)) (List.sum_nonneg h9)

/-- so the exchange term `ech = x2·(R/x3)^3.5` has the sign of `x2` -/
theorem exchange_pow_nonneg {x1 x3 x4 : ℝ} (hp : ParamsOk x1 x3 x4) {st : State ℝ} (hst : Inv x1 x3 x4 st) :
    0 ≤ (st.R / x3) ^ (3.5 : ℝ) :=
  have ⟨_, _, hR, _⟩ := hst
  Real.rpow_nonneg (div_nonneg hR hp.x3pos.le) _

theorem budget (x1 x2 x3 x4 : ℝ) (hp : ParamsOk x1 x3 x4) (hx2 : x2 ≤ 0) :
    StepBudget (step x1 x2 x3 (uh1 x4 ⌈x4⌉₊) (uh2 x4 ⌈2 * x4⌉₊)) (Inv x1 x3 x4) (fun pe => 0 ≤ pe.1 ∧ 0 ≤ pe.2) stor
      (·.1) (·.runoff) OutOk :=
  ⟨fun st pe hst hpe =>
    have h := day_account x1 x2 x3 x4 hp st hst pe hpe
    ⟨h.inv, h.le_losing (mul_nonpos_of_nonpos_of_nonneg hx2 (exchange_pow_nonneg hp hst)), h.out_ok⟩, stor_nonneg x1 x3 x4⟩

/-- any exchange coefficient: the water imported by a positive groundwater exchange is counted against the runoff -/
theorem budget_exchange (x1 x2 x3 x4 : ℝ) (hp : ParamsOk x1 x3 x4) :
    StepBudget (step x1 x2 x3 (uh1 x4 ⌈x4⌉₊) (uh2 x4 ⌈2 * x4⌉₊)) (Inv x1 x3 x4) (fun pe => 0 ≤ pe.1 ∧ 0 ≤ pe.2) stor
      (·.1) (fun o => o.runoff - 2 * max 0 o.ech) (fun o => OutOk o ∧ o.ech ≤ o.runoff) :=
  ⟨fun st pe hst hpe =>
    have h := day_account x1 x2 x3 x4 hp st hst pe hpe
    ⟨h.inv, h.out_le, h.out_ok, h.ech_le⟩, stor_nonneg x1 x3 x4⟩

theorem balance_exchange (x1 x2 x3 x4 : ℝ) (hp : ParamsOk x1 x3 x4) (hx2 : 0 ≤ x2) :
    StepBalance (step x1 x2 x3 (uh1 x4 ⌈x4⌉₊) (uh2 x4 ⌈2 * x4⌉₊)) (Inv x1 x3 x4) (fun pe => 0 ≤ pe.1 ∧ pe.2 = 0) stor
      (·.1) (fun o => o.runoff - 2 * o.ech) :=
  ⟨fun st pe hst hpe =>
    have h := day_account x1 x2 x3 x4 hp st hst pe ⟨hpe.1, hpe.2.ge⟩
    ⟨h.inv, h.eq_gaining (mul_nonneg hx2 (exchange_pow_nonneg hp hst)) hpe.2⟩⟩

/-- zero exchange coefficient: `ech = 0` -/
theorem balance_closed (x1 x3 x4 : ℝ) (hp : ParamsOk x1 x3 x4) :
    StepBalance (step x1 0 x3 (uh1 x4 ⌈x4⌉₊) (uh2 x4 ⌈2 * x4⌉₊)) (Inv x1 x3 x4) (fun pe => 0 ≤ pe.1 ∧ pe.2 = 0) stor
      (·.1) (·.runoff) :=
  ⟨fun st pe hst hpe => by
    have h := (balance_exchange x1 0 x3 x4 hp le_rfl).step_ok st pe hst hpe
    have he : (step x1 0 x3 (uh1 x4 ⌈x4⌉₊) (uh2 x4 ⌈2 * x4⌉₊) st pe).2.ech = 0 := zero_mul _
    simpa only [he, mul_zero, sub_zero] using h⟩

theorem init_inv (x1 x3 x4 : ℝ) (hp : ParamsOk x1 x3 x4) :
    Inv x1 x3 x4 (initState x4).1 ∧ stor (initState x4).1 = 0 := by
  have hz : ∀ n : ℕ, ∀ q ∈ (zeros n : List ℝ), 0 ≤ q := fun n q hq => (List.mem_replicate.mp hq).2.ge
  have hs : ∀ n : ℕ, (zeros n : List ℝ).sum = 0 := fun n => List.sum_eq_zero fun q hq => (List.mem_replicate.mp hq).2
  refine ⟨⟨RealNum.sci_zero.ge, RealNum.sci_zero.trans_le hp.x1pos.le, RealNum.sci_zero.ge, RealNum.sci_zero.trans_le hp.x3pos.le,
    hz _, hz _, init_shaped x4⟩, ?_⟩
  show (0.0 : ℝ) + (0.0 : ℝ) + (zeros _ : List ℝ).sum + (zeros _ : List ℝ).sum = 0
  rw [hs, hs, RealNum.sci_zero, add_zero, add_zero, add_zero]

end OW.RR.GR4J
