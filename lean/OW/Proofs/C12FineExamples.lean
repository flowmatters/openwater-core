import OW.Proofs.C12Fine
/-!
C12 helpers: concrete one-step runs of `instreamFineSediment` (main path) that take the branches `fine:remob`
(uncapped remobilisation from the channel store) and `fine:flood` (over-bank flow with floodplain deposition).
The parameters make every power of the transport-capacity formula equal to 1 (`outflow = slope = width = n = 1`), so
`stc(v) = 0.1/v·86400` and every number below is exact; they satisfy `FineRange`.
-/
namespace OW.C12
open OW OW.Kernels

/-- bank-full flow 2 m³/s (no flood at outflow 1), deposition capacity `stc(86400) = 0.1 t/d`, remobilisation capacity
`stc(8640) = 1 t/d`, channel-store capacity 1000 kg, Δt = 10 s -/
def fineRemobParams : InstreamFineSediment.Params ℝ := ⟨2, 0, 0, 1, 1, 1, 1, 1, 1, 1, 86400, 8640, 10⟩

/-- bank-full flow 0.5 m³/s (outflow 1 is over bank), `fineSedSettVelocityFlood·floodPlainArea = 0.5 = Qf`, otherwise as
`fineRemobParams` -/
def fineFloodParams : InstreamFineSediment.Params ℝ := ⟨0.5, 0.5, 1, 1, 1, 1, 1, 1, 1, 1, 86400, 8640, 10⟩

theorem fineRemobParams_range : FineRange fineRemobParams := by
  constructor <;> simp only [InstreamFineSediment.maxStorage, fineRemobParams, realnum] <;> norm_num

theorem fineFloodParams_range : FineRange fineFloodParams := by
  constructor <;> simp only [InstreamFineSediment.maxStorage, fineFloodParams, realnum] <;> norm_num

/-- `fine:noflood` + `fine:remob`: 50 kg in the water (0.05 t < 1 t/d), 1000 kg in the channel store, 100 m³ of water of
which 10 m³ leave. The step remobilises (1 − 0.05)·1000 = 950 kg ≤ 1000 kg (uncapped), the channel store drops to 50 kg,
the 1000 kg then in the water leave at 10 kg/m³: 10 kg/s downstream, 900 kg stay. -/
theorem fine_example_remob :
    InstreamFineSediment.classify fineRemobParams (InstreamFineSediment.start fineRemobParams (1000, 50))
      (0, 0, 0, 90, 1) = ["fine:noflood", "fine:remob"] ∧
    (InstreamFineSediment.run fineRemobParams (1000, 50) [(0, 0, 0, 90, 1)]).1 = (50, 900) ∧
    (InstreamFineSediment.run fineRemobParams (1000, 50) [(0, 0, 0, 90, 1)]).2.map
      (fun o => (o.loadDownstream, o.loadToFloodplain, o.loadToChannelDeposition, o.flushed)) = [(10, 0, -950, 0)] := by
  have hm : ¬ fineRemobParams.bankFullFlow ≤ 1e-8 := by simp only [fineRemobParams]; norm_num
  obtain ⟨hstep, hstart⟩ := fine_step_main fineRemobParams hm
  unfold InstreamFineSediment.run
  rw [hstep, hstart]
  simp only [scan, InstreamFineSediment.stepMain, InstreamFineSediment.classify, InstreamFineSediment.initStore,
    InstreamFineSediment.floodPlainDepositionEmperical, InstreamFineSediment.inChannelStorage, InstreamFineSediment.stc,
    InstreamFineSediment.maxStorage, fineRemobParams, realnum]
  norm_num [Real.one_rpow]

/-- `fine:flood` + `fine:deposit`: 1000 kg in the water, empty channel store, outflow 1 > bank-full 0.5. Floodplain
deposition `1000·(Qf/Q)·(1 − e^(−v·A/Qf)) = 500·(1 − e⁻¹)` kg (> 0, reported as a rate: /Δt); of the rest, everything
above the 0.1 t/d capacity settles in the channel (`400 + 500·e⁻¹` kg ≤ capacity 1000 kg, uncapped), exactly 100 kg stay
in the water: 1 kg/s downstream, 90 kg stored. -/
theorem fine_example_flood :
    InstreamFineSediment.classify fineFloodParams (InstreamFineSediment.start fineFloodParams (0, 1000))
      (0, 0, 0, 90, 1) = ["fine:flood", "fine:deposit"] ∧
    (InstreamFineSediment.run fineFloodParams (0, 1000) [(0, 0, 0, 90, 1)]).1 = (400 + 500 * Real.exp (-1), 90) ∧
    (InstreamFineSediment.run fineFloodParams (0, 1000) [(0, 0, 0, 90, 1)]).2.map
      (fun o => (o.loadDownstream, o.loadToFloodplain, o.loadToChannelDeposition, o.flushed)) =
        [(1, 50 * (1 - Real.exp (-1)), 400 + 500 * Real.exp (-1), 0)] ∧
    0 < 50 * (1 - Real.exp (-1)) := by
  have hm : ¬ fineFloodParams.bankFullFlow ≤ 1e-8 := by simp only [fineFloodParams]; norm_num
  obtain ⟨hstep, hstart⟩ := fine_step_main fineFloodParams hm
  unfold InstreamFineSediment.run
  rw [hstep, hstart]
  simp only [scan, InstreamFineSediment.stepMain, InstreamFineSediment.classify, InstreamFineSediment.initStore,
    InstreamFineSediment.floodPlainDepositionEmperical, InstreamFineSediment.inChannelStorage, InstreamFineSediment.stc,
    InstreamFineSediment.maxStorage, fineFloodParams, realnum]
  have he0 : 0 < Real.exp (-1) := Real.exp_pos _
  have he1 : Real.exp (-1) < 1 := by rw [Real.exp_lt_one_iff]; norm_num
  norm_num [Real.one_rpow]
  generalize Real.exp (-1) = e at *
  have h1 : ¬ (1000 < 500 * (1 - e)) := by linarith only [he0]
  simp only [if_neg h1]
  have h2 : 1 / 10 < (1000 - 500 * (1 - e)) * (1 / 1000) := by linarith only [he0]
  have h3 : (1000 - 500 * (1 - e)) * (1 / 1000) ≤ 11 / 10 := by linarith only [he1]
  have h4 : min (((1000 - 500 * (1 - e)) * (1 / 1000) - 1 / 10) * 1000) 1000 =
      ((1000 - 500 * (1 - e)) * (1 / 1000) - 1 / 10) * 1000 := min_eq_left (by linarith only [he1])
  simp only [if_pos h2, if_pos h3, h4]
  exact ⟨trivial, ⟨by ring, by ring⟩, by ring, by ring, by ring⟩

end OW.C12
