import OW.Proofs.Surm
import OW.Kernels.Simhyd
/-!
C10 for SIMHYD: one-step theorem (state invariant, components, non-negativity, exact water balance with the ghost
evapotranspiration term, hence the "no water created" inequality), given as an `RR.StepBalance` and an `RR.StepBudget`
(OW/Proofs/ScanBudget.lean), which lift it to runs.
-/
namespace OW.RR.Simhyd
open OW OW.Kernels.Simhyd

/-- physically meaningful parameter ranges: coefficients are fractions, capacities/thresholds in mm -/
structure ParamsOk (p : Params ℝ) : Prop where
  bfc0 : 0 ≤ p.baseflowCoefficient
  bfc1 : p.baseflowCoefficient ≤ 1
  imp0 : 0 ≤ p.imperviousThreshold
  inf0 : 0 ≤ p.infiltrationCoefficient
  int0 : 0 ≤ p.interflowCoefficient
  int1 : p.interflowCoefficient ≤ 1
  pf0 : 0 ≤ p.perviousFraction
  pf1 : p.perviousFraction ≤ 1
  risc0 : 0 ≤ p.risc
  rch0 : 0 ≤ p.rechargeCoefficient
  rch1 : p.rechargeCoefficient ≤ 1
  smsc0 : 0 < p.smsc

def Inv (p : Params ℝ) (s : State ℝ) : Prop := 0 ≤ s.sms ∧ s.sms ≤ p.smsc ∧ 0 ≤ s.gw

/-- water held per unit catchment area (the stores belong to the pervious fraction) -/
def stor (p : Params ℝ) (s : State ℝ) : ℝ := p.perviousFraction * (s.sms + s.gw)

def OutOk (p : Params ℝ) (o : Out ℝ) : Prop :=
  o.runoff = o.quickflow + o.baseflow ∧ 0 ≤ o.runoff ∧ 0 ≤ o.quickflow ∧ 0 ≤ o.baseflow ∧
  0 ≤ o.store ∧ o.store ≤ p.smsc ∧ 0 ≤ o.aet

/-- the only divisor of the loop body -/
theorem divisors_pos (p : Params ℝ) (hp : ParamsOk p) : p.smsc ≠ 0 := hp.smsc0.ne'

theorem sci_ten : (10.0 : ℝ) = 10 := by norm_num

theorem step_spec (p : Params ℝ) (hp : ParamsOk p) (s : State ℝ) (x : ℝ × ℝ) (hs : Inv p s)
    (hx : 0 ≤ x.1 ∧ 0 ≤ x.2) :
    Inv p (step p s x).1 ∧
    (step p s x).2.runoff + (step p s x).2.aet + stor p (step p s x).1 = x.1 + stor p s ∧
    OutOk p (step p s x).2 := by
  obtain ⟨hs0, hs1, hg0⟩ := hs
  have hc := hp.smsc0
  have hpf := hp.pf0
  have hpf1 : 0 ≤ 1 - p.perviousFraction := sub_nonneg.2 hp.pf1
  unfold step soilEtConst
  rw [RealNum.lit1, sci_ten]
  extract_lets rain pet inc iEt iRun iet thr smf cap inf infx intf iai rch soilIn sms1 smf1 gw1 gw2 sms2 smf2 bf gw3
    sEt sms3 total event runoff
  have hr : 0 ≤ inc := hx.1
  have hpet : 0 ≤ pet := hx.2
  have hiEt : 0 ≤ iEt := le_min hp.imp0 hr
  have hiRun : 0 ≤ iRun := sub_nonneg.2 (min_le_right _ _)
  have hiet0 : 0 ≤ iet := le_min hr (le_min hpet hp.risc0)
  have hiet1 : iet ≤ pet := (min_le_right _ _).trans (min_le_left _ _)
  have hthr : 0 ≤ thr := sub_nonneg.2 (min_le_left _ _)
  -- infiltration; interflow and recharge take the fractions `k · smf ≤ 1` of it, `smf ∈ [0, 1]`
  have hsmf0 : 0 ≤ smf := div_nonneg hs0 hc.le
  have hsmf1 : smf ≤ 1 := (div_le_one hc).2 hs1
  have hinf : 0 ≤ inf := le_min hthr (mul_nonneg hp.inf0 (Real.exp_pos _).le)
  have hinfx : 0 ≤ infx := sub_nonneg.2 (min_le_left _ _)
  have hintf : 0 ≤ intf := mul_nonneg (mul_nonneg hp.int0 hsmf0) hinf
  have hiai : 0 ≤ iai := sub_nonneg.2 (mul_le_of_le_one_left hinf (mul_le_one₀ hp.int1 hsmf0 hsmf1))
  have hrch : 0 ≤ rch := mul_nonneg (mul_nonneg hp.rch0 hsmf0) hiai
  have hsoil : 0 ≤ soilIn := sub_nonneg.2 (mul_le_of_le_one_left hiai (mul_le_one₀ hp.rch1 hsmf0 hsmf1))
  have hsms1 : 0 ≤ sms1 := add_nonneg hs0 hsoil
  have hgw1 : 0 ≤ gw1 := add_nonneg hg0 hrch
  -- what the soil store cannot hold spills into groundwater; the code tests `1 < sms1 / smsc`
  obtain ⟨hsms20, hsms21, hsms22, _⟩ := clip_spec hsms1 hc.le (one_lt_div hc (a := sms1))
  have hgw2 : gw2 = gw1 + (sms1 - sms2) := clip_handover gw1
  have hsmf2 : 0 ≤ smf2 := (clip_spec (div_nonneg hsms1 hc.le) zero_le_one Iff.rfl).1
  have hgw20 : 0 ≤ gw2 := hgw2 ▸ add_nonneg hgw1 (sub_nonneg.2 hsms22)
  have hbf : 0 ≤ bf := mul_nonneg hp.bfc0 hgw20
  have hgw3 : 0 ≤ gw3 := sub_nonneg.2 (mul_le_of_le_one_left hgw20 hp.bfc1)
  have hsEt : 0 ≤ sEt := le_min hsms20 (le_min (sub_nonneg.2 hiet1) (mul_nonneg hsmf2 (by norm_num)))
  have hsms30 : 0 ≤ sms3 := sub_nonneg.2 (min_le_left _ _)
  have hsms31 : sms3 ≤ p.smsc := (sub_le_self _ hsEt).trans hsms21
  have hevent : 0 ≤ event :=
    add_nonneg (mul_nonneg hpf1 hiRun) (mul_nonneg hpf (add_nonneg hinfx hintf))
  have balance : runoff + ((1 - p.perviousFraction) * iEt + p.perviousFraction * (iet + sEt)) +
      p.perviousFraction * (sms3 + gw3) = inc + p.perviousFraction * (s.sms + s.gw) := by
    simp only [runoff, event, iRun, infx, thr, sms3, gw3, hgw2, gw1, sms1, soilIn, iai]
    ring
  exact ⟨⟨hsms30, hsms31, hgw3⟩, balance,
    ⟨congrArg (event + ·) (mul_comm _ _), add_nonneg hevent (mul_nonneg hpf hbf), hevent, mul_nonneg hbf hpf,
      hsms30, hsms31,
      add_nonneg (mul_nonneg hpf1 hiEt) (mul_nonneg hpf (add_nonneg hiet0 hsEt))⟩⟩

theorem balance (p : Params ℝ) (hp : ParamsOk p) :
    StepBalance (step p) (Inv p) (fun x => 0 ≤ x.1 ∧ 0 ≤ x.2) (stor p) (·.1) (fun o => o.runoff + o.aet) :=
  ⟨fun s x hs hx => ⟨(step_spec p hp s x hs hx).1, (step_spec p hp s x hs hx).2.1⟩⟩

/-- the exact balance read as a budget: runoff and evapotranspiration together are what leaves -/
theorem budget (p : Params ℝ) (hp : ParamsOk p) :
    StepBudget (step p) (Inv p) (fun x => 0 ≤ x.1 ∧ 0 ≤ x.2) (stor p) (·.1) (fun o => o.runoff + o.aet) (OutOk p) :=
  ⟨fun s x hs hx => have h := step_spec p hp s x hs hx; ⟨h.1, h.2.1.le, h.2.2⟩,
    fun _ hs => mul_nonneg hp.pf0 (add_nonneg hs.1 hs.2.2)⟩

end OW.RR.Simhyd
