import OW.Proofs.NdOffsetRoot
import OW.Proofs.NdZip
import OW.Proofs.NdSlice
/-!
Offset roots, continued: the two-array operations and `Reshape` on an array and on its normal form
(`ApplySlice`, `CopyFrom`, `zipWithInto`, `Reshape`, `ReshapeFast`).
-/
namespace OW.NdOff
open OW.Nd OW.NdC02

section
variable {α : Type}

theorem copyLoop_norm (h : Heap α) {d d' s s' : Arr} (nd : Norm d d') (ns : Norm s s') (gd : Geo d'.v) (gs : Geo s'.v)
    {shape : Idx} (hd : d'.v.dims = shape) (hs : s'.v.dims = shape) :
    copyLoop h d s shape = copyLoop h d' s' shape := by
  have hp : Pos shape := by rw [← hd]; exact gd.pos_dims
  have e1 : d.v.newIndex 0 = uniform shape.length 0 := by
    rw [nd.newIndex]; unfold View.newIndex View.ndims; rw [hd]
  have e2 : d'.v.newIndex 0 = uniform shape.length 0 := by
    unfold View.newIndex View.ndims; rw [hd]
  unfold copyLoop
  rw [e1, e2, forIdx_rowMajor hp, forIdx_rowMajor hp]
  apply foldIdx_congr (P := fun i => InBounds i shape)
  · intro hh i hi
    show (do let x ← Nd.get hh s i; Nd.set hh d i x) = (do let x ← Nd.get hh s' i; Nd.set hh d' i x)
    rw [get_norm hh ns gs (by rw [hs]; exact hi)]
    exact bind_congr (fun x => set_norm hh nd gd (by rw [hd]; exact hi) x)
  · exact rowMajor_inBounds hp

theorem applySlice_norm (h : Heap α) {a a' v v' : Arr} (na : Norm a a') (nv : Norm v v') (ga : Geo a'.v) (gv : Geo v'.v)
    {loc : Idx} {step : Option Idx} (okS : SliceOK a'.v.dims loc v'.v.dims (stepOr a'.v.dims.length step)) :
    Nd.applySlice h a loc step v = Nd.applySlice h a' loc step v' := by
  obtain ⟨hsl', gsl, _⟩ := sliceOK_dstSlice ga okS
  obtain ⟨sl, hsl, nsl⟩ := slice_norm na hsl'
  unfold Nd.applySlice
  rw [nv.dims]
  simp only [hsl, hsl', bind, Except.bind]
  rw [na.isC]
  by_cases hC : a'.isC = true
  · rw [if_pos hC, if_pos hC]
    exact copyLoop_norm (shape := v'.v.dims) h nsl nv gsl gv rfl rfl
  · rw [if_neg hC, if_neg hC]
    obtain rfl : dstSlice a' loc v'.v.dims step = sl := nsl.eq_of_go (by rw [nsl.isC]; simpa [dstSlice] using hC)
    rw [unroll_norm h nv gv, copyLoop_norm (shape := v'.v.dims) h (Norm.refl _) nv gsl gv rfl rfl]

theorem copyFrom_norm (h : Heap α) {a a' v v' : Arr} (na : Norm a a') (nv : Norm v v') (ga : Geo a'.v) (gv : Geo v'.v)
    (hshape : v'.v.dims = a'.v.dims) : Nd.copyFrom h a v = Nd.copyFrom h a' v' := by
  unfold Nd.copyFrom
  rw [na.newIndex]
  exact applySlice_norm h na nv ga gv (sliceOK_copyFrom ga hshape)

/-- undo `unshift` on the C-backed results of `Reshape` (the aliases); its Go-backed result (the copy of a non-contiguous
view) is the same on an array and on its normal form -/
def reshift (st : Int) (a : Arr) : Arr :=
  if a.isC = true then { v := shiftV a.v st, sid := a.sid, base := a.base - st, len := a.len + st, isC := true } else a

theorem reshift_unshift (st : Int) {c : Arr} (hC : c.isC = true) : reshift st (unshift st c) = c := by
  obtain ⟨v, sid, base, len, isC⟩ := c
  simp only at hC
  subst hC
  simp [reshift, unshift, shiftV_neg_cancel]

theorem unshift_reshift (st : Int) {c : Arr} (hC : c.isC = true) : unshift st (reshift st c) = c := by
  obtain ⟨v, sid, base, len, isC⟩ := c
  simp only at hC
  subst hC
  simp [reshift, unshift, shiftV_shiftV, shiftV_zero]

/-- the result of `Reshape` on the normal form, translated back -/
def reshiftRes (st : Int) (p : Heap α × (String ⊕ Arr)) : Heap α × (String ⊕ Arr) := (p.1, p.2.map id (reshift st))

theorem reshape_sh (h : Heap α) {st : Int} {c c' : Arr} (s : Sh st c c') (g : Geo c'.v) (shape : Idx) :
    Nd.reshape h c shape = (Nd.reshape h c' shape).map (reshiftRes st) := by
  have hC := s.isC
  have hC' := s.isC'
  have hug := unrollGather_norm h (Or.inr ⟨st, s⟩) g
  have hc : c = reshift st c' := by rw [s.eq, reshift_unshift st hC]
  unfold Nd.reshape
  simp only [s.view, shiftV_size, shiftV_dims, shiftV_contiguous, hC, hC', shiftV_start, shiftV_step, shiftV_offset,
    shiftV_orig, hug]
  by_cases hsz : product shape ≠ c'.v.size
  · simp only [if_pos hsz]
    rfl
  · simp only [if_neg hsz]
    -- the "reshape to series" test and `Contiguous()` are the same computations on both sides
    refine Except.bind_eq_map_bind (fun rts => Except.bind_eq_map_bind (fun b => ?_))
    cases b with
    | false =>
      cases rts with
      | false =>
        simp only [Bool.false_eq_true, not_false_eq_true, and_self, if_true]
        exact Except.bind_eq_map_bind (fun vs => Except.bind_eq_map_bind (fun v => rfl))
      | true =>
        simp only [Bool.false_eq_true, not_false_eq_true, not_true_eq_false, and_false, if_false, or_self]
        refine Except.bind_eq_map_bind (fun sd => ?_)
        split
        · simp only [Except.map, reshiftRes, Sum.map_inr, pure, Except.pure]
          rw [hc]
          simp [reshift, hC', shiftV]
        · rfl
    | true =>
      simp only [not_true_eq_false, false_and, and_false, if_false, true_or, if_true]
      rw [shiftV_root shape c'.v.start st]
      cases View.root shape c'.v.start with
      | error e => rfl
      | ok v =>
        simp only [Except.map, reshiftRes, Sum.map_inr, bind, Except.bind, pure, Except.pure]
        rw [hc]
        simp [reshift, hC']

theorem reshape_c_alias_norm (h : Heap α) {c c' : Arr} (n : Norm c c') (g : Geo c'.v) {s : Idx} (hs : s ≠ [])
    (hsz : product s = c'.v.size) (hc : c'.v.contiguous = .ok true) (hC : c'.isC = true) :
    Nd.reshape h c s = .ok (h, .inr (cAliasArr c s)) := by
  rcases n with rfl | ⟨st, sh⟩
  · exact reshape_c_alias g hs hsz hc hC
  · -- `cAliasArr` commutes with `unshift` (by `rfl`)
    have e : reshift st (cAliasArr c' s) = cAliasArr c s := by
      rw [sh.eq]; exact reshift_unshift st (c := cAliasArr c s) sh.isC
    rw [reshape_sh h sh g, reshape_c_alias g hs hsz hc hC]
    simp only [Except.map, reshiftRes, Sum.map_inr, e]

theorem reshapeFast_norm (h : Heap α) {c c' : Arr} (n : Norm c c') (shape : Idx) :
    Nd.reshapeFast h c shape =
      (match c'.v.contiguous with
        | .error e => .error e
        | .ok b => if ¬ b then .ok (h, .inl "not-contiguous") else Nd.reshape h c shape) := by
  unfold Nd.reshapeFast
  rw [n.contiguous]
  cases c'.v.contiguous <;> rfl

/-- the write-back `storeUnrolledArrayType(dest, vals)` of `zipWithInto` (data/arrayops.go; `Nd.zipWithInto` has it inline):
`ReshapeFast` to a flat view, then `Apply` -/
def storeUnrolled (h : Heap α) (dest : Arr) (vals : List α) : R (Heap α) :=
  if vals.isEmpty then pure h
  else do
    let (h2, r) ← reshapeFast h dest [(vals.length : Int)]
    match r with
    | .inl e => .error e
    | .inr flat => Nd.apply h2 flat [0] 0 1 vals

/-- `zipWithInto`, with the write-back named -/
theorem zipWithInto_unfold (f : α → α → α) (h : Heap α) (dest source : Arr) :
    Nd.zipWithInto f h dest source = (do
      let cd ← dest.v.contiguous
      let cs ← (if cd then source.v.contiguous else pure false : R Bool)
      if cd ∧ cs then
        let d ← Nd.unroll h dest
        let s ← Nd.unroll h source
        let (h1, vals) ← (match d with
          | .alias dsid dlo dn => do
            let h1 ← zipLoopAlias f dsid dlo.toNat s h 0 dn.toNat
            let vs ← sliceVals h1 (.alias dsid dlo dn)
            pure (h1, vs)
          | .fresh dv => do
            let sv ← sliceVals h s
            let vs ← zipLoopFresh f dv sv
            pure (h, vs) : R (Heap α × List α))
        storeUnrolled h1 dest vals
      else
        forIdx dest.v.dims (zipBody f dest source) (product dest.v.dims).toNat (dest.v.newIndex 0) h) := by
  unfold Nd.zipWithInto storeUnrolled
  rfl

theorem unshift_cAlias (c : Arr) (s : Idx) :
    unshift c.v.start (cAliasArr c s) = ⟨rootView s 0, c.sid, c.base + c.v.start, c.len - c.v.start, c.isC⟩ := by
  simp only [unshift, cAliasArr, shiftV_rootView, Int.add_right_neg]

theorem cAlias_sh {c : Arr} {s : Idx} (hC : c.isC = true) (h0 : 0 ≤ c.v.start)
    (hb : c.v.start + product s ≤ 1073741824) : Sh c.v.start (cAliasArr c s) (unshift c.v.start (cAliasArr c s)) :=
  ⟨hC, h0, rfl, hb⟩

theorem Sh.unshift_cAlias {st : Int} {c c' : Arr} (sh : Sh st c c') (s : Idx) :
    unshift c.v.start (cAliasArr c s) = unshift c'.v.start (cAliasArr c' s) := by
  rw [NdOff.unshift_cAlias, NdOff.unshift_cAlias, sh.eq]
  simp only [unshift, shiftV_start]
  congr 1 <;> omega

theorem apply_flat_norm (h : Heap α) {a : Arr} (hC : a.isC = true) (h0 : 0 ≤ a.v.start) {vals : List α}
    (hne : vals ≠ []) (hb : a.v.start + vals.length ≤ 1073741824) :
    Nd.apply h (cAliasArr a [(vals.length : Int)]) [0] 0 1 vals =
      Nd.apply h (unshift a.v.start (cAliasArr a [(vals.length : Int)])) [0] 0 1 vals := by
  have hn1 : (1 : Int) ≤ vals.length := by
    have := List.length_pos_iff.mpr hne
    omega
  have sh := cAlias_sh (s := [(vals.length : Int)]) hC h0 (by simpa [product] using hb)
  refine apply_norm h (Or.inr ⟨_, sh⟩) ?_ (Int.le_refl 0) ?_ ?_
  · rw [unshift_cAlias]
    exact reach_geo (reach_root (by simp) (by intro x hx; simp at hx; omega))
  · rw [unshift_cAlias]; exact Int.zero_lt_one
  · rw [unshift_cAlias]
    simp only [rootView, applyDims, applySteps, List.length_cons, List.length_nil, uniform, List.replicate,
      Int.toNat_zero, List.set_cons_zero, SliceOK_cons, SliceOK_nil]
    exact ⟨by omega, hn1, by omega, by omega, trivial⟩

theorem storeUnrolled_norm (h : Heap α) {c c' : Arr} (n : Norm c c') (g : Geo c'.v) (hc : c'.v.contiguous = .ok true)
    (vals : List α) : storeUnrolled h c vals = storeUnrolled h c' vals := by
  rcases n with rfl | ⟨st, s⟩
  · rfl
  · have hC' := s.isC'
    have n : Norm c c' := Or.inr ⟨st, s⟩
    unfold storeUnrolled
    cases hv : vals.isEmpty with
    | true => rfl
    | false =>
      have hne : vals ≠ [] := by intro e; rw [e] at hv; simp at hv
      simp only [Bool.false_eq_true, if_false]
      rw [reshapeFast_contig _ (by rw [n.contiguous]; exact hc), reshapeFast_contig _ hc]
      by_cases hsz : product [(vals.length : Int)] = c'.v.size
      · have hs : [(vals.length : Int)] ≠ [] := by simp
        rw [reshape_c_alias_norm h n g hs hsz hc hC', reshape_c_alias g hs hsz hc hC']
        obtain ⟨w0, w1⟩ := contig_window g hc
        have hn : (vals.length : Int) = product c'.v.dims := by simpa [product, View.size] using hsz
        obtain ⟨b0, b1, b2⟩ := s.block_bounds w0 (hn ▸ w1)
        exact (apply_flat_norm h s.isC b0 hne b1).trans
          (s.unshift_cAlias _ ▸ (apply_flat_norm h hC' w0 hne b2).symm)
      · rw [reshape_mismatch h c _ (by rw [n.size]; exact hsz), reshape_mismatch h c' _ hsz]

theorem zipWithInto_norm (f : α → α → α) (h : Heap α) {d d' s s' : Arr} (nd : Norm d d') (ns : Norm s s')
    (gd : Geo d'.v) (gs : Geo s'.v) (hdims : s'.v.dims = d'.v.dims) :
    Nd.zipWithInto f h d s = Nd.zipWithInto f h d' s' := by
  rw [zipWithInto_unfold, zipWithInto_unfold, nd.contiguous, ns.contiguous, nd.dims, nd.newIndex,
    unroll_norm h nd gd, unroll_norm h ns gs]
  obtain ⟨bd, hbd⟩ := gd.contiguous_total
  have hp := gd.pos_dims
  have hslow : forIdx d'.v.dims (zipBody f d s) (product d'.v.dims).toNat (d'.v.newIndex 0) h =
      forIdx d'.v.dims (zipBody f d' s') (product d'.v.dims).toNat (d'.v.newIndex 0) h := by
    have e2 : d'.v.newIndex 0 = uniform d'.v.dims.length 0 := rfl
    rw [e2, forIdx_rowMajor hp, forIdx_rowMajor hp]
    apply foldIdx_congr (P := fun i => InBounds i d'.v.dims)
    · intro hh i hi
      simp only [zipBody]
      rw [get_norm hh nd gd hi, get_norm hh ns gs (by rw [hdims]; exact hi)]
      exact bind_congr (fun dx => bind_congr (fun sx => set_norm hh nd gd hi _))
    · exact rowMajor_inBounds hp
  rw [hslow, hbd]
  cases bd with
  | false => simp only [bind, Except.bind, pure, Except.pure, Bool.false_eq_true, if_false, false_and]
  | true => simp only [storeUnrolled_norm _ nd gd hbd]

end
end OW.NdOff
