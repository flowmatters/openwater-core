import OW.Proofs.NdOffsetProg
/-!
A checked interpreter for the program fragment of `NdC03Prog`: `checked D s prog` runs `prog` on `s` like `run`, testing
every request against the domain `D` (`OpOK`, or the widened `NdOff.OpOK'`) on the state in which it is issued.
One evaluation of it on a concrete program gives both the domain hypothesis of the whole-program theorems (`ProgOK`)
and the observations of the run (`checked_sound`).
-/
namespace OW.NdC03
open OW.Nd

-- decision procedures for the request domains; scoped, for the evaluation of concrete programs only
namespace Check

scoped instance decInBounds : ∀ (i d : Idx), Decidable (InBounds i d)
  | [], [] => isTrue trivial
  | [], _ :: _ => isFalse id
  | _ :: _, [] => isFalse id
  | i :: is, d :: ds =>
    have := decInBounds is ds
    inferInstanceAs (Decidable (0 ≤ i ∧ i < d ∧ InBounds is ds))

scoped instance decSliceOK : ∀ (p l d s : Idx), Decidable (SliceOK p l d s)
  | [], [], [], [] => isTrue trivial
  | P :: ps, l :: ls, d :: ds, s :: ss =>
    have := decSliceOK ps ls ds ss
    inferInstanceAs (Decidable (0 ≤ l ∧ 1 ≤ d ∧ 1 ≤ s ∧ l + (d - 1) * s < P ∧ SliceOK ps ls ds ss))
  | [], _ :: _, _, _ => isFalse id
  | [], [], _ :: _, _ => isFalse id
  | [], [], [], _ :: _ => isFalse id
  | _ :: _, [], _, _ => isFalse id
  | _ :: _, _ :: _, [], _ => isFalse id
  | _ :: _, _ :: _, _ :: _, [] => isFalse id

scoped instance (l : Idx) : Decidable (Pos l) := inferInstanceAs (Decidable (∀ x ∈ l, 1 ≤ x))

scoped instance decSome {β : Type} : ∀ (o : Option β), Decidable (∃ a, o = some a)
  | none => isFalse (fun ⟨_, h⟩ => nomatch h)
  | some b => isTrue ⟨b, rfl⟩

scoped instance decSomeAnd {β : Type} (P : β → Prop) [∀ a, Decidable (P a)] :
    ∀ (o : Option β), Decidable (∃ a, o = some a ∧ P a)
  | none => isFalse (fun ⟨_, h, _⟩ => nomatch h)
  | some b => decidable_of_iff (P b) ⟨fun h => ⟨b, rfl, h⟩, fun ⟨_, h, hp⟩ => by cases h; exact hp⟩

scoped instance decSomeAnd₂ {β : Type} (P : β → β → Prop) [∀ a b, Decidable (P a b)] :
    ∀ (o o' : Option β), Decidable (∃ a b, o = some a ∧ o' = some b ∧ P a b)
  | some a, some b =>
    decidable_of_iff (P a b) ⟨fun h => ⟨a, b, rfl, rfl, h⟩, fun ⟨_, _, h, h', hp⟩ => by cases h; cases h'; exact hp⟩
  | none, _ => isFalse (fun ⟨_, _, h, _⟩ => nomatch h)
  | some _, none => isFalse (fun ⟨_, _, _, h, _⟩ => nomatch h)

scoped instance decOpOK {α : Type} (arrs : List Arr) (op : Op α) : Decidable (OpOK arrs op) := by
  cases op <;> (dsimp only [OpOK]; infer_instance)

scoped instance decOpOK' {α : Type} (arrs : List Arr) (op : Op α) : Decidable (NdOff.OpOK' arrs op) := by
  cases op <;> (dsimp only [NdOff.OpOK', OpOK]; infer_instance)

end Check

section
variable {α : Type}

def checked (D : List Arr → Op α → Prop) [∀ arrs op, Decidable (D arrs op)] : St α → List (Op α) → Option (List (Obs α))
  | _, [] => some []
  | s, op :: ops =>
    if D s.arrs op then
      match stepOp s op with
      | .ok r => (checked D r.1 ops).map (r.2 :: ·)
      | .error _ => none
    else none

/-- `P` is `ProgOK` or `NdOff.ProgOK'`, given by its two equations -/
theorem checked_sound {D : List Arr → Op α → Prop} [∀ arrs op, Decidable (D arrs op)] {P : St α → List (Op α) → Prop}
    (hnil : ∀ s, P s [])
    (hcons : ∀ s op ops, D s.arrs op → (∀ s' o, stepOp s op = .ok (s', o) → P s' ops) → P s (op :: ops)) :
    ∀ (prog : List (Op α)) (s : St α) (obs : List (Obs α)), checked D s prog = some obs →
      P s prog ∧ ∃ s', run s prog = .ok (s', obs)
  | [], s, obs, h => by
    obtain rfl := Option.some.inj h
    exact ⟨hnil s, s, rfl⟩
  | op :: ops, s, obs, h => by
    unfold checked at h
    by_cases hD : D s.arrs op
    · rw [if_pos hD] at h
      cases hr : stepOp s op with
      | error e => rw [hr] at h; cases h
      | ok r =>
        rw [hr] at h
        obtain ⟨obs', hc, rfl⟩ := Option.map_eq_some_iff.mp h
        obtain ⟨ih1, s', ih2⟩ := checked_sound hnil hcons ops r.1 obs' hc
        exact ⟨hcons s op ops hD fun s'' o e => by obtain rfl := Except.ok.inj (hr.symm.trans e); exact ih1,
          s', by simp only [run, hr, ih2, bind, Except.bind, pure, Except.pure]⟩
    · rw [if_neg hD] at h; cases h

open Check in
theorem checked_progOK {s : St α} {prog : List (Op α)} {obs : List (Obs α)}
    (h : checked OpOK s prog = some obs) : ProgOK s prog ∧ ∃ s', run s prog = .ok (s', obs) :=
  checked_sound (fun _ => trivial) (fun _ _ _ h1 h2 => ⟨h1, h2⟩) prog s obs h

open Check in
theorem checked_progOK' {s : St α} {prog : List (Op α)} {obs : List (Obs α)}
    (h : checked NdOff.OpOK' s prog = some obs) : NdOff.ProgOK' s prog ∧ ∃ s', run s prog = .ok (s', obs) :=
  checked_sound (fun _ => trivial) (fun _ _ _ h1 h2 => ⟨h1, h2⟩) prog s obs h

end
end OW.NdC03
