import OW.Proofs.C12Mix
import OW.Kernels.ConstituentDecay
import OW.Kernels.InstreamCoarseSediment
import OW.Kernels.StorageTrapAll
import Mathlib.Tactic.LinearCombination
/-!
C12 helpers: one step of `constituentDecay` and of `instreamCoarseSediment` over ℝ; `storageTrapAll`.
-/
namespace OW.C12
open OW OW.Kernels

/-- The half-life block `d = (decayed, rate, remaining)`. `Δt ≠ 0` is the divisor of `decayedAmount/deltaT`; `halflife > 0`
holds on the branch that divides by it. -/
theorem decay_facts {hl dt s : ℝ} {d : ℝ × ℝ × ℝ} (h : d = ConstituentDecay.decay hl dt s) (hdt : dt ≠ 0) :
    d.1 + d.2.2 = s ∧ d.2.1 * dt = d.1 ∧ (0 ≤ dt → 0 ≤ s → 0 ≤ d.1 ∧ 0 ≤ d.2.1 ∧ 0 ≤ d.2.2) := by
  subst h
  unfold ConstituentDecay.decay
  split_ifs with h
  · simp only [realnum, RealNum.sci_two] at h ⊢
    generalize hf : (2:ℝ) ^ (-dt / hl) = f
    refine ⟨by ring, div_mul_cancel₀ _ hdt, fun a b => ?_⟩
    have hfpos : 0 < f := by rw [← hf]; exact Real.rpow_pos_of_pos (by norm_num) _
    have hfle : f ≤ 1 := by
      rw [← hf]
      apply Real.rpow_le_one_of_one_le_of_nonpos (by norm_num)
      apply div_nonpos_of_nonpos_of_nonneg (by linarith) (le_of_lt h)
    have h1 : 0 ≤ (1 - f) * s := mul_nonneg (by linarith) b
    exact ⟨h1, div_nonneg h1 a, mul_nonneg b (le_of_lt hfpos)⟩
  · simp only [realnum, RealNum.sci_zero]
    exact ⟨by ring, by ring, fun _ b => ⟨le_refl _, le_refl _, b⟩⟩

/-- The code keeps `workingMass - outflowLoad * deltaT`, which is the concentration times the storage (`mix_split`). -/
theorem decay_step_eq (hl dt s il ll qi q v : ℝ) :
    ∃ d m, d = ConstituentDecay.decay hl dt s ∧
      m = mix (q * dt + v < 0.01) (d.2.2 + il * dt + ll * dt) (q * dt + v) q v ∧
      ConstituentDecay.step hl dt s (il, ll, qi, q, v) = (m.1, ⟨d.2.1, m.2.1, d.1, m.2.2⟩) := by
  refine ⟨_, _, rfl, rfl, ?_⟩
  unfold mix
  by_cases h : q * dt + v < 0.01
  · simp only [if_pos h, ← RealNum.sci_zero]; exact if_pos h
  · simp only [if_neg h]
    rw [← sub_eq_of_eq_add (mix_split _ (pos_of_not_lt_min h) rfl).symm]
    exact if_neg h

theorem decay_step (hl dt : ℝ) (hdt : dt ≠ 0) (s : ℝ) (x : ℝ × ℝ × ℝ × ℝ × ℝ) :
    MassStep (stor := fun s => s) (inn := fun x => x.1 * dt + x.2.1 * dt)
      (out := fun o => o.outflowLoad * dt + o.decayedLoad * dt + o.flushed)
      (R := fun x o => o.flushed ≠ 0 → x.2.2.2.1 * dt + x.2.2.2.2 < 0.01)
      (H := 0 ≤ dt) (Inv := (0 ≤ ·)) (Ok := fun x => 0 ≤ x.1 ∧ 0 ≤ x.2.1 ∧ 0 ≤ x.2.2.2.1 ∧ 0 ≤ x.2.2.2.2)
      (P := fun o => 0 ≤ o.outflowLoad ∧ 0 ≤ o.decayedLoad ∧ 0 ≤ o.flushed) s x (ConstituentDecay.step hl dt s x) := by
  obtain ⟨il, ll, qi, q, v⟩ := x
  obtain ⟨d, m, hd, hm, e⟩ := decay_step_eq hl dt s il ll qi q v
  obtain ⟨d1, d2, d3⟩ := decay_facts hd hdt
  obtain ⟨b, f, n⟩ := mix_facts hm pos_of_not_lt_min rfl
  rw [e]
  refine ⟨by linear_combination b - d1 - d2, f, fun a hs ⟨c, e, hq, hv⟩ => ?_⟩
  obtain ⟨n1, n2, n3⟩ := n (add_nonneg (add_nonneg (d3 a hs).2.2 (mul_nonneg c a)) (mul_nonneg e a)) hq hv
  exact ⟨n1, n2, (d3 a hs).2.1, n3⟩

theorem coarse_step_eq (dt cs sm a b c : ℝ) :
    InstreamCoarseSediment.step dt (cs, sm) (a, b, c) =
      ((cs + (sm + (a + b + c) * dt), 0.0), ⟨0.0, sm + (a + b + c) * dt⟩) :=
  rfl

theorem coarse_step (dt : ℝ) (st : ℝ × ℝ) (x : ℝ × ℝ × ℝ) :
    MassStep (stor := fun s => s.1 + s.2) (inn := fun x => (x.1 + x.2.1 + x.2.2) * dt)
      (out := fun o => o.loadDownstream * dt) (R := fun _ o => o.loadDownstream = 0)
      (H := 0 ≤ dt) (Inv := fun s => 0 ≤ s.1 ∧ 0 ≤ s.2) (Ok := fun x => 0 ≤ x.1 ∧ 0 ≤ x.2.1 ∧ 0 ≤ x.2.2)
      (P := fun o => 0 ≤ o.loadDownstream ∧ 0 ≤ o.deposited) st x (InstreamCoarseSediment.step dt st x) := by
  obtain ⟨cs, sm⟩ := st
  obtain ⟨a, b, c⟩ := x
  rw [coarse_step_eq]
  refine ⟨?_, RealNum.sci_zero, fun h1 ⟨h2, h3⟩ ⟨h4, h5, h6⟩ => ?_⟩
  · simp only [RealNum.sci_zero]
    ring
  · have hdep := add_nonneg h3 (mul_nonneg (add_nonneg (add_nonneg h4 h5) h6) h1)
    exact ⟨⟨add_nonneg h2 hdep, RealNum.sci_zero.ge⟩, RealNum.sci_zero.ge, hdep⟩

theorem trapAll_some {α} [Num α] {inflow t : List α} {s0 : α} (h : StorageTrapAll.trapped inflow s0 = some t) :
    ∃ x xs, inflow = x :: xs ∧ t = (x + s0) :: xs := by
  cases inflow with
  | nil => exact nomatch h
  | cons x xs => exact ⟨x, xs, rfl, (Option.some.inj h).symm⟩

end OW.C12
