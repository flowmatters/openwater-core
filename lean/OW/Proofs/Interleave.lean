import OW.Sim.Interleave
import OW.Proofs.ListLemmas
/-!
Lemmas about schedules, projections and interleavings of `OW.Sim.Interleave` that mention the model only; the interleaving
theorems of `OW/Props/C05.lean` rest on them. Core Lean only.

The idea of T2 (`disjoint_interleaving`) is NOT a sorting of the schedule by adjacent transpositions. It is a projection:
take a region `A` of addresses that holds everything task `i` touches and that no other task writes. Restricted to `A`, ANY
schedule acts like the steps of task `i` in it, run alone (`own_view`): a step of task `i` sees in `A` what it would see
alone (`step_agree`), a step of another task changes nothing in `A` (`Step.frame`). The steps of task `i` in an interleaving
are task `i` (`proj_interleaving`), and an address nobody writes keeps its value (`final_frame`). That pairwise disjoint tasks
(`TasksDisjoint`) provide such a region for every `i`, and what follows for the final memory, is in `OW/Props/C05.lean`
(`prefix_view`, `final_view`, `final_eq`). Commutation of two steps (`run_run_of_mem_writes`, T1) is used for permutations of
one-step tasks only.
-/
namespace OW.Sim.Interleave

variable {Addr Val : Type}

/-- at an address `s` writes: `t` neither writes it nor changes anything `s` looks at -/
theorem run_run_of_mem_writes (s t : Step Addr Val) (h : NoConflict s t) (m : Mem Addr Val) {a : Addr}
    (hs : a ∈ s.writes) : s.run (t.run m) a = t.run (s.run m) a := by
  rw [t.frame _ a (fun h' => h.1 a hs (List.mem_append_right _ h'))]
  exact s.loc _ _ (fun b hb => t.frame _ b (fun hbw => h.2 b hbw hb)) a hs

theorem step_agree [DecidableEq Addr] (A : Addr → Prop) (u : Step Addr Val) (hu : ∀ a, a ∈ u.foot → A a) {m m' : Mem Addr Val}
    (h : ∀ a, A a → m a = m' a) (a : Addr) (ha : A a) : u.run m a = u.run m' a := by
  by_cases hw : a ∈ u.writes
  · exact u.loc m m' (fun c hc => h c (hu c hc)) a hw
  · rw [u.frame m a hw, u.frame m' a hw]
    exact h a ha

theorem proj_cons (i : Nat) (x : Nat × Step Addr Val) (sched : Sched Addr Val) :
    proj i (x :: sched) = if x.1 = i then x.2 :: proj i sched else proj i sched := by
  unfold proj
  rw [List.filter_cons]
  by_cases hx : x.1 = i
  · rw [if_pos (beq_iff_eq.mpr hx), if_pos hx, List.map_cons]
  · rw [if_neg (fun h => hx (beq_iff_eq.mp h)), if_neg hx]

theorem proj_append (i : Nat) (l₁ l₂ : Sched Addr Val) : proj i (l₁ ++ l₂) = proj i l₁ ++ proj i l₂ := by
  simp [proj, List.filter_append]

/-- on a region `A` that contains the footprints of task `i`'s steps and that no other task's step writes, a
schedule acts exactly like task `i`'s own steps alone (from any memory that agrees on `A`) -/
theorem own_view [DecidableEq Addr] (i : Nat) (A : Addr → Prop) :
    ∀ (sched : Sched Addr Val), (∀ x, x ∈ sched → x.1 = i → ∀ a, a ∈ x.2.foot → A a) →
      (∀ x, x ∈ sched → x.1 ≠ i → ∀ a, a ∈ x.2.writes → ¬ A a) → ∀ (m m' : Mem Addr Val),
        (∀ a, A a → m a = m' a) → ∀ a, A a → runSched sched m a = runList (proj i sched) m' a
  | [], _, _, _, _, h, a, ha => h a ha
  | x :: sched, hown, hoth, m, m', h, a, ha => by
    have ih := own_view i A sched (fun y hy => hown y (List.mem_cons_of_mem _ hy))
      (fun y hy => hoth y (List.mem_cons_of_mem _ hy))
    rw [proj_cons, runSched_cons]
    by_cases hx : x.1 = i
    · rw [if_pos hx, runList_cons]
      exact ih _ _ (step_agree A x.2 (hown x List.mem_cons_self hx) h) a ha
    · rw [if_neg hx]
      -- a step of another task changes nothing in `A`
      exact ih _ _ (fun b hb => (x.2.frame m b (fun hw => hoth x List.mem_cons_self hx b hw hb)).trans (h b hb)) a ha

theorem proj_interleaving {tasks : List (Task Addr Val)} {sched : Sched Addr Val} (hi : Interleaving tasks sched)
    (i : Nat) : proj i sched = (tasks[i]?).getD [] := by
  induction hi with
  | @done tasks h =>
    cases hg : tasks[i]? with
    | none => rfl
    | some t => exact (h t (List.mem_of_getElem? hg)).symm
  | @step tasks sched k s rest hget _ ih =>
    rw [proj_cons, ih]
    by_cases hk : k = i
    · subst hk
      rw [if_pos rfl, List.getElem?_set_self (lt_length_of_getElem? hget), hget]
      rfl
    · rw [if_neg hk, List.getElem?_set_ne hk]

theorem mem_of_interleaving {tasks : List (Task Addr Val)} {sched : Sched Addr Val} (hi : Interleaving tasks sched)
    (j : Nat) (t : Step Addr Val) (h : (j, t) ∈ sched) : ∃ tj, tasks[j]? = some tj ∧ t ∈ tj := by
  -- `t` is among the steps of task `j` in the schedule, and these are task `j`
  have ht : t ∈ proj j sched := List.mem_map.mpr ⟨(j, t), List.mem_filter.mpr ⟨h, beq_iff_eq.mpr rfl⟩, rfl⟩
  rw [proj_interleaving hi] at ht
  match hj : tasks[j]?, ht with
  | none, ht => cases ht
  | some tj, ht => exact ⟨tj, rfl, ht⟩

theorem task_first {tasks : List (Task Addr Val)} {sched : Sched Addr Val} (k : Nat) :
    ∀ t : Task Addr Val, tasks[k]? = some t → Interleaving (tasks.set k []) sched →
      Interleaving tasks (t.map (fun s => (k, s)) ++ sched)
  | [], hk, h => by
    obtain ⟨hlt, e⟩ := List.getElem?_eq_some_iff.mp hk
    rwa [← e, List.set_getElem_self] at h
  | s :: rest, hk, h =>
    .step k s rest hk (task_first k rest (List.getElem?_set_self (lt_length_of_getElem? hk)) (by rwa [List.set_set]))

theorem runSched_frame {a : Addr} : ∀ (sched : Sched Addr Val), (∀ x, x ∈ sched → a ∉ x.2.writes) → ∀ m : Mem Addr Val,
    runSched sched m a = m a
  | [], _, _ => rfl
  | x :: l, h, m => by
    rw [runSched_cons, runSched_frame l (fun y hy => h y (List.mem_cons_of_mem _ hy)), x.2.frame m a (h x List.mem_cons_self)]

theorem final_frame {tasks : List (Task Addr Val)} {sched : Sched Addr Val} (hi : Interleaving tasks sched) {a : Addr}
    (ha : a ∉ tasks.flatten.flatMap Step.writes) (m : Mem Addr Val) : runSched sched m a = m a :=
  runSched_frame sched (fun x hx hw =>
    let ⟨tj, h1, h2⟩ := mem_of_interleaving hi x.1 x.2 hx
    ha (List.mem_flatMap.mpr ⟨x.2, List.mem_flatten.mpr ⟨tj, List.mem_of_getElem? h1, h2⟩, hw⟩)) m

end OW.Sim.Interleave
