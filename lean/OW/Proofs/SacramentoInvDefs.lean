import OW.Kernels.Sacramento
/-!
C10 for Sacramento — named pieces of the kernel model (`OW/Kernels/Sacramento.lean`) and the proof that the
kernel IS their composition (`incBody_eq`, `iiBody_eq`, `step_eq` hold by unfolding: the pieces are the kernel's own
sub-expressions, so that each zone can be reasoned about separately without unfolding the whole time step; they are cut
out as written except that `uzPart` binds `fracp`, `percs0` outside the `if 0 < percfw` and `percDemand` is the product
`perc0 * (1 + …)` in one expression). In the order of the kernel: the zones of one pass of the drainage-and-percolation
loop (`bfOut` … `addroOf`, assembled by `uzPart` / `uzOf` and `incBody_eq`), one `ii` pass (`nincOf`, `rateOf`, `iiTags`),
one time step (`e1aOf` … `loopsOf`; `Pre` / `preOf` is everything before the loop, `v0Of` / `v2Of` the loop variables before
and after it, `chOf` the channel stage).
Generic in `α` and core Lean only, like the kernel: with Mathlib in scope every literal and operation on a bare `[Num α]`
is searched through Mathlib's hierarchy first, once per definition. The predicates over ℝ are in OW/Proofs/Sacramento.lean.
-/
namespace OW.RR.Sac
open OW OW.Kernels.Sacramento

section Mirror
variable {α : Type} [Num α]

def bfOut (x d : α) : α := if (0.0 : α) < x then x * d else 0.0
def bfKeep (x : α) : α := if (0.0 : α) < x then x else 0.0
def bfRest (x d : α) : α := bfKeep x - bfOut x d

def lzairOf (p : Params α) (c : Consts α) (lztwc s2 p2 : α) : α :=
  p.lztwm - lztwc + c.alzfsm - s2 + c.alzfpm - p2

def percDemand (p : Params α) (c : Consts α) (dinc uzfwc lztwc s2 p2 : α) : α :=
  (c.pbase * dinc * uzfwc) / p.uzfwm *
    (1.0 + (p.zperc * Num.pow (1.0 - (p2 + s2 + lztwc) / (c.alzfpm + c.alzfsm + p.lztwm)) p.rexp))

def percVal (p : Params α) (c : Consts α) (dinc uzfwc lztwc s2 p2 : α) : α :=
  if (0.0 : α) < lzairOf p c lztwc s2 p2 then
    Num.gmin (lzairOf p c lztwc s2 p2) (Num.gmin uzfwc (percDemand p c dinc uzfwc lztwc s2 p2))
  else 0.0

def uzAfterPerc (p : Params α) (c : Consts α) (dinc uzfwc lztwc s2 p2 : α) : α :=
  if (0.0 : α) < lzairOf p c lztwc s2 p2 then uzfwc - percVal p c dinc uzfwc lztwc s2 p2 else uzfwc

def lzair2Of (c : Consts α) (s2 p2 : α) : α := c.alzfsm - s2 + c.alzfpm - p2

def perctw0Of (p : Params α) (perc lztwc : α) : α := Num.gmin (perc * (1.0 - p.pfree)) (p.lztwm - lztwc)

def perctwOf (p : Params α) (c : Consts α) (perc lztwc s2 p2 : α) : α :=
  if lzair2Of c s2 p2 < perc - perctw0Of p perc lztwc then
    perctw0Of p perc lztwc + (perc - perctw0Of p perc lztwc) - lzair2Of c s2 p2
  else perctw0Of p perc lztwc

def percfwOf (p : Params α) (c : Consts α) (perc lztwc s2 p2 : α) : α :=
  if lzair2Of c s2 p2 < perc - perctw0Of p perc lztwc then lzair2Of c s2 p2 else perc - perctw0Of p perc lztwc

def ratlpOf (c : Consts α) (p2 : α) : α := 1.0 - p2 / c.alzfpm
def ratlsOf (c : Consts α) (s2 : α) : α := 1.0 - s2 / c.alzfsm

def fracpOf (c : Consts α) (hpl s2 p2 : α) : α :=
  Num.gmin 1.0 (hpl * (ratlpOf c p2 + ratlpOf c p2) / (ratlpOf c p2 + ratlsOf c s2))

def percs0Of (c : Consts α) (fracp percfw s2 : α) : α := Num.gmin (c.alzfsm - s2) (percfw * (1.0 - fracp))

/-- supplemental and primary store after the split with its two spills (alzfsc5, alzfpc4 of the kernel) -/
def fwOf (c : Consts α) (fracp percfw s2 p2 : α) : α × α :=
  let percs0 := percs0Of c fracp percfw s2
  let alzfsc3 := s2 + percs0
  let percs := if c.alzfsm < alzfsc3 then percs0 - alzfsc3 + c.alzfsm else percs0
  let alzfsc4 := if c.alzfsm < alzfsc3 then c.alzfsm else alzfsc3
  let alzfpc3 := p2 + percfw - percs
  (if c.alzfpm < alzfpc3 then alzfsc4 + alzfpc3 - c.alzfpm else alzfsc4, if c.alzfpm < alzfpc3 then c.alzfpm else alzfpc3)

/-- the `if uprFreeWater > VERY_SMALL { … }` block: (uzfwc, floin, lztwc, alzfsc, alzfpc, tags) -/
def uzPart (p : Params α) (c : Consts α) (dinc duz hpl uzfwc floin lztwc s2 p2 : α) :
    α × α × α × α × α × List String :=
  if (0.0 : α) < uzfwc then
    let perc := percVal p c dinc uzfwc lztwc s2 p2
    let uzfwc1 := uzAfterPerc p c dinc uzfwc lztwc s2 p2
    let percfw := percfwOf p c perc lztwc s2 p2
    let fracp := fracpOf c hpl s2 p2
    let percs0 := percs0Of c fracp percfw s2
    if (0.0 : α) < percfw then
      (uzfwc1 - duz * uzfwc1, floin + duz * uzfwc1, lztwc + perctwOf p c perc lztwc s2 p2,
        (fwOf c fracp percfw s2 p2).1, (fwOf c fracp percfw s2 p2).2,
        ["uzfw", "percfw"] ++ (if (0.0 : α) < lzairOf p c lztwc s2 p2 then ["lzair"] else ["lz_full"]) ++
        (if lzair2Of c s2 p2 < perc - perctw0Of p perc lztwc then ["percfw_excess"] else []) ++
        (if c.alzfsm < s2 + percs0 then ["spill_s"] else []) ++
        (if c.alzfpm < p2 + percfw - (if c.alzfsm < s2 + percs0 then percs0 - (s2 + percs0) + c.alzfsm else percs0)
          then ["spill_p"] else []) ++
        (if (1.0 : α) < hpl * (ratlpOf c p2 + ratlpOf c p2) / (ratlpOf c p2 + ratlsOf c s2)
          then ["fracp_clamped"] else []))
    else
      (uzfwc1 - duz * uzfwc1, floin + duz * uzfwc1, lztwc + perctwOf p c perc lztwc s2 p2, s2, p2,
        ["uzfw", "no_percfw"] ++ (if (0.0 : α) < lzairOf p c lztwc s2 p2 then ["lzair"] else ["lz_full"]) ++
        (if lzair2Of c s2 p2 < perc - perctw0Of p perc lztwc then ["percfw_excess"] else []))
  else (uzfwc, floin, lztwc, s2, p2, ["uzfw_empty"])

def pavIOf (p : Params α) (pinc uzfwc3 : α) : α := pinc - p.uzfwm + uzfwc3

def fillUz (p : Params α) (pinc uzfwc3 : α) : α :=
  if (0.0 : α) < pinc then (if pavIOf p pinc uzfwc3 ≤ 0 then uzfwc3 + pinc else p.uzfwm) else uzfwc3

def fillSf (p : Params α) (pinc flosf uzfwc3 : α) : α :=
  if (0.0 : α) < pinc then (if pavIOf p pinc uzfwc3 ≤ 0 then flosf else flosf + pavIOf p pinc uzfwc3) else flosf

def ratioOf (p : Params α) (uztwc adimc : α) : α :=
  if (adimc - uztwc) / p.lztwm < 0 then 0 else (adimc - uztwc) / p.lztwm

def addroOf (p : Params α) (uztwc pinc adimc uzfwc3 : α) : α :=
  let addro0 := pinc * ratioOf p uztwc adimc * ratioOf p uztwc adimc
  if (0.0 : α) < pinc then
    (if pavIOf p pinc uzfwc3 ≤ 0 then addro0 else addro0 + pavIOf p pinc uzfwc3 * (1.0 - addro0 / pinc))
  else addro0

/-- the `uz` tuple of one pass on the loop variables `v` -/
def uzOf (p : Params α) (c : Consts α) (dinc duz dlzp dlzs hpl : α) (v : Inner α) :
    α × α × α × α × α × List String :=
  uzPart p c dinc duz hpl v.uzfwc v.floin v.lztwc (bfRest v.alzfsc dlzs) (bfRest v.alzfpc dlzp)

variable (p : Params α) (c : Consts α) (uztwc pinc dinc duz dlzp dlzs hpl : α) (v : Inner α)

/-- One pass of the loop in terms of its zones. The kernel's intermediates are named first so that the upper-zone
block is compared with `uzOf` once: a bare `rfl` compares it once per occurrence (and with `uzOf`, `uzPart` unfolded by
hand: left to choose, the unifier unfolds in an order that costs twice as much). -/
theorem incBody_eq : incBody p c uztwc pinc dinc duz dlzp dlzs hpl v =
    (let u := uzOf p c dinc duz dlzp dlzs hpl v
    ⟨u.2.2.2.2.1, u.2.2.2.1, fillUz p pinc u.1, u.2.2.1, v.adimc + pinc - addroOf p uztwc pinc v.adimc u.1,
      v.flobf + bfOut v.alzfpc dlzp + bfOut v.alzfsc dlzs, fillSf p pinc v.flosf u.1, u.2.1,
      v.roimp + addroOf p uztwc pinc v.adimc u.1 * p.adimp, (incBody p c uztwc pinc dinc duz dlzp dlzs hpl v).tags⟩) := by
  unfold incBody
  extract_lets ratio0 ratio addro0 bfp alzfpc1 flobf1 alzfpc2 bfs alzfsc1 alzfsc2 flobf2 lzair perc0 perc uzfwc1 del
    floin1 uzfwc2 perctw0 percfw0 lzair2 perctw percfw lztwc1 ratlp ratls fracp percs0 alzfsc3 percs alzfsc4 alzfpc3
    alzfsc5 alzfpc4 uz uzfwc3 floin2 lztwc2 alzfsc6 alzfpc5 pavI uzfwc4 flosf1 addro adimc1 roimp1 u
  have huz : u = uz := by
    unfold u uz uzOf uzPart
    rfl
  rw [huz]
  rfl

def nincOf (adj pav uzfwc : α) : Int := Num.toInt (Num.floor ((uzfwc * adj + pav) * 0.2)) + 1

def rateOf (n : Int) (adj k dinc : α) : α := if n = 1 ∧ (1.0 : α) ≤ adj then k else fracRate k dinc

def iiTags (adj : α) (n : Int) (v : Inner α) : Inner α :=
  { v with tags := v.tags ++ (if n = 1 ∧ (1.0 : α) ≤ adj then ["rates_direct"] else ["rates_pow"]) ++
                (if n = 1 then ["ninc=1"] else if n ≤ 0 then ["ninc<=0"] else ["ninc>1"]) }

theorem iiBody_eq (adj pav : α) : iiBody p c uztwc hpl adj pav v =
    incLoop p c uztwc (pav * (1.0 / Num.ofInt (nincOf adj pav v.uzfwc)))
      (1.0 / Num.ofInt (nincOf adj pav v.uzfwc) * adj)
      (rateOf (nincOf adj pav v.uzfwc) adj p.uzk (1.0 / Num.ofInt (nincOf adj pav v.uzfwc) * adj))
      (rateOf (nincOf adj pav v.uzfwc) adj p.lzpk (1.0 / Num.ofInt (nincOf adj pav v.uzfwc) * adj))
      (rateOf (nincOf adj pav v.uzfwc) adj p.lzsk (1.0 / Num.ofInt (nincOf adj pav v.uzfwc) * adj))
      hpl (nincOf adj pav v.uzfwc).toNat (iiTags adj (nincOf adj pav v.uzfwc) v) := rfl

def e1aOf (p : Params α) (uztwc evapt : α) : α := if (0.0 : α) < p.uztwm then evapt * uztwc / p.uztwm else 0.0
def e1bOf (p : Params α) (uztwc evapt : α) : α :=
  if uztwc < e1aOf p uztwc evapt then uztwc else e1aOf p uztwc evapt
def uztwc1Of (p : Params α) (uztwc evapt : α) : α :=
  if uztwc < e1aOf p uztwc evapt then 0.0 else uztwc - e1aOf p uztwc evapt
def e2aOf (p : Params α) (uztwc uzfwc evapt : α) : α :=
  if uztwc < e1aOf p uztwc evapt then Num.gmin (evapt - e1bOf p uztwc evapt) uzfwc else 0.0
def uzfwc1Of (p : Params α) (uztwc uzfwc evapt : α) : α :=
  if uztwc < e1aOf p uztwc evapt then uzfwc - e2aOf p uztwc uzfwc evapt else uzfwc

def a1Of (p : Params α) (uztwc1 : α) : α := if (0.0 : α) < p.uztwm then uztwc1 / p.uztwm else 1.0
def b1Of (p : Params α) (uzfwc1 : α) : α := if (0.0 : α) < p.uzfwm then uzfwc1 / p.uzfwm else 1.0
def uztwc2Of (p : Params α) (uztwc1 uzfwc1 : α) : α :=
  if a1Of p uztwc1 < b1Of p uzfwc1 then p.uztwm * ((uztwc1 + uzfwc1) / (p.uztwm + p.uzfwm)) else uztwc1
def uzfwc2Of (p : Params α) (uztwc1 uzfwc1 : α) : α :=
  if a1Of p uztwc1 < b1Of p uzfwc1 then p.uzfwm * ((uztwc1 + uzfwc1) / (p.uztwm + p.uzfwm)) else uzfwc1

def e3aOf (p : Params α) (evapt e1b e2a lztwc : α) : α :=
  if (0.0 : α) < p.uztwm + p.lztwm then
    Num.gmin ((evapt - e1b - e2a) * lztwc / (p.uztwm + p.lztwm)) lztwc else 0.0
def e5aOf (p : Params α) (evapt e1b e2a adimc uztwc2 : α) : α :=
  if (0.0 : α) < p.uztwm + p.lztwm then
    Num.gmin (e1b + (evapt - e1b - e2a) * (adimc - e1b - uztwc2) / (p.uztwm + p.lztwm)) adimc else 0.0

def a3Of (p : Params α) (lztwc1 : α) : α := if (0.0 : α) < p.lztwm then lztwc1 / p.lztwm else 1.0
def b3Of (p : Params α) (c : Consts α) (lztwc1 alzfsc alzfpc : α) : α :=
  if (0.0 : α) < c.alzfpm + c.alzfsm - c.saved + p.lztwm then
    (alzfpc + alzfsc - c.saved + lztwc1) / (c.alzfpm + c.alzfsm - c.saved + p.lztwm) else 1.0
/-- resupply of the lower tension water from the lower free water: (lztwc2, alzfsc1, alzfpc1) -/
def resupplyOf (p : Params α) (c : Consts α) (lztwc1 alzfsc alzfpc : α) : α × α × α :=
  let a3 := a3Of p lztwc1
  let b3 := b3Of p c lztwc1 alzfsc alzfpc
  let del := (b3 - a3) * p.lztwm
  let alzfsc0 := if a3 < b3 then alzfsc - del else alzfsc
  (if a3 < b3 then lztwc1 + del else lztwc1,
   if a3 < b3 then (if alzfsc0 < 0 then 0.0 else alzfsc0) else alzfsc0,
   if a3 < b3 then (if alzfsc0 < 0 then alzfpc + alzfsc0 else alzfpc) else alzfpc)

def pav0Of (p : Params α) (pliq uztwc2 : α) : α := pliq + uztwc2 - p.uztwm
def adimc2Of (p : Params α) (pliq uztwc2 adimc1 : α) : α :=
  if pav0Of p pliq uztwc2 < 0 then adimc1 + pliq else adimc1 + p.uztwm - uztwc2
def uztwc3Of (p : Params α) (pliq uztwc2 : α) : α :=
  if pav0Of p pliq uztwc2 < 0 then uztwc2 + pliq else p.uztwm
def pavOf (p : Params α) (pliq uztwc2 : α) : α :=
  if pav0Of p pliq uztwc2 < 0 then 0.0 else pav0Of p pliq uztwc2

def adjOf (pav : α) : α :=
  if pav ≤ 5.08 then 1.0 else if pav < 25.4 then 0.5 * Num.sqrt (pav / 25.4) else 1.0 - 12.7 / pav
def hplOf (c : Consts α) : α := c.alzfpm / (c.alzfpm + c.alzfsm)

/-- the one or two `ii` passes of a time step -/
def loopsOf (p : Params α) (c : Consts α) (uztwc3 pav : α) (v0 : Inner α) : Inner α :=
  if pav ≤ 5.08 then iiBody p c uztwc3 (hplOf c) (adjOf pav) pav v0
  else iiBody p c uztwc3 (hplOf c) (1.0 - adjOf pav) 0.0 (iiBody p c uztwc3 (hplOf c) (adjOf pav) pav v0)

/-- everything a time step computes before the drainage loop -/
structure Pre (α : Type) where
  e1b : α
  e2a : α
  uztwc2 : α
  uzfwc2 : α
  e3a : α
  e5a : α
  lztwc2 : α
  alzfsc1 : α
  alzfpc1 : α
  adimc2 : α
  uztwc3 : α
  pav : α

def preOf (p : Params α) (c : Consts α) (st : State α) (x : α × α) : Pre α :=
  let e1b := e1bOf p st.uztwc x.2
  let e2a := e2aOf p st.uztwc st.uzfwc x.2
  let uztwc1 := uztwc1Of p st.uztwc x.2
  let uzfwc1 := uzfwc1Of p st.uztwc st.uzfwc x.2
  let uztwc2 := uztwc2Of p uztwc1 uzfwc1
  let uzfwc2 := uzfwc2Of p uztwc1 uzfwc1
  let e3a := e3aOf p x.2 e1b e2a st.lztwc
  let e5a := e5aOf p x.2 e1b e2a st.adimc uztwc2
  let r := resupplyOf p c (st.lztwc - e3a) st.alzfsc st.alzfpc
  ⟨e1b, e2a, uztwc2, uzfwc2, e3a, e5a, r.1, r.2.1, r.2.2,
    adimc2Of p x.1 uztwc2 (st.adimc - e5a), uztwc3Of p x.1 uztwc2, pavOf p x.1 uztwc2⟩

/-- the loop variables at the start of the drainage loop -/
def v0Of (p : Params α) (c : Consts α) (st : State α) (x : α × α) : Inner α :=
  let pr := preOf p c st x
  ⟨pr.alzfpc1, pr.alzfsc1, pr.uzfwc2, pr.lztwc2, pr.adimc2, 0.0, 0.0, 0.0, x.1 * p.pctim, []⟩

/-- the loop variables after the drainage loop -/
def v2Of (p : Params α) (c : Consts α) (st : State α) (x : α × α) : Inner α :=
  loopsOf p c (preOf p c st x).uztwc3 (preOf p c st x).pav (v0Of p c st x)

def chOf (p : Params α) (c : Consts α) (st : State α) (x : α × α) : Channel α :=
  channel p c st.qq x.2 (v2Of p c st x)

variable (st : State α) (x : α × α)

/-- The tags are left as they are: rewrite with `rw`, not `simp`. -/
theorem step_eq : step p c st x =
    (let pr := preOf p c st x
    let v2 := v2Of p c st x
    let ch := chOf p c st x
    let e1 := pr.e1b * (1 - p.adimp - p.pctim)
    let e2 := pr.e2a * (1 - p.adimp - p.pctim)
    let e3 := pr.e3a * (1 - p.adimp - p.pctim)
    let e5 := pr.e5a * p.adimp
    (⟨pr.uztwc3, v2.uzfwc, v2.lztwc, ch.lzfpc, ch.lzfsc, v2.adimc, v2.alzfsc, v2.alzfpc, ch.qq⟩,
     ⟨e1 + e2 + e3 + ch.e4 + e5, ch.qf, v2.roimp, ch.qf - ch.bf, ch.bf, e1, e2, e3, ch.e4, e5, ch.baseflowFraction,
       (step p c st x).2.tags⟩)) := by
  unfold step
  extract_lets
  rfl

end Mirror

end OW.RR.Sac
