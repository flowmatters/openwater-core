import OW.Proofs.JsonNest
import OW.Proofs.NdUnroll
/-!
Helper lemmas for C17: the n-d array plumbing of `encodeResults` in closed form.

The arrays of `encodeResults` are fresh Go-backed ROOT arrays over an exactly fitting storage, reshaped and sliced by
rows; extents may be 0 (no states, zero time steps), so the lemmas here do not go through `Geo` (which needs extents
≥ 1) but compute directly:
* `mustReshape_contig` — a contiguous Go-backed array (it unrolls to the run of cells from `Start` to its last index,
  `Nd.unroll_window`) reshapes, to any shape of the same size, into a root array on that run, without a copy; instances: a root
  array (`Nd.contiguous_rootView` in NdContig.lean, `mustReshape_root`) and
  `outputArray.Slice([i,0],[1,T],[1,1]).MustReshape([T])` = the root array on row `i`'s window (`row_reshape`);
* `jsa_root` — `JsonSafeArray` of a root array of any rank; `jsa_rank1`, `jsa_rank2` are its instances.
`rootArr`, `mustReshape_contig`, `mustReshape_root`, `get_root` speak of n-d notions only and continue
`Nd.contiguous_rootView`; they are named here because other files have `rootArr`s of their own (`OW.WrapperNd.rootArr`,
`OW.NdC03.rootArr`) and use them unqualified where `OW.Nd` is open.
-/
namespace OW.Sim.Json
open OW.Nd

/-- `map_range_window` (`OW/Proofs/ListLemmas.lean`) at the whole list -/
theorem range_map_getD {β γ : Type} (l : List β) (d : β) (f : β → γ) :
    (List.range l.length).map (fun i => f (l.getD i d)) = l.map f := by
  simpa using map_range_window l d f 0 l.length (Nat.le_of_eq (Nat.zero_add _))

section
variable {α : Type}

/-- Go-backed root array of shape `dims` on the window `[base, base+len)` of storage `sid` -/
def rootArr (dims : Idx) (sid : Nat) (base len : Int) : Arr := ⟨rootView dims 0, sid, base, len, false⟩

theorem mustReshape_contig {h : Heap α} {a : Arr} {s : List α} {n : Int} (hs : h[a.sid]? = some s)
    (hC : a.isC = false) (hc : a.v.contiguous = .ok true) (hidx : a.v.index (decrement a.v.dims) = .ok (a.v.start + (n - 1)))
    (hwin : 0 ≤ a.v.start ∧ 0 ≤ n ∧ a.base + a.v.start + n ≤ s.length)
    (hd : a.v.dims ≠ []) {newShape : Idx} (hne : newShape ≠ []) (hsz : product newShape = product a.v.dims) :
    mustReshape h a newShape = .ok (h, rootArr newShape a.sid (a.base + a.v.start) n) := by
  obtain ⟨m, hm⟩ : ∃ m, maximum a.v.dims = .ok m := by
    obtain ⟨d, ds, hdd⟩ := List.exists_cons_of_ne_nil hd
    exact ⟨_, by rw [hdd]; rfl⟩
  have hu := Nd.unroll_window hs hC hc hidx ⟨hwin.1, by omega, by omega⟩
  rw [show a.v.start + (n - 1) + 1 - a.v.start = n by omega] at hu
  unfold mustReshape reshape
  simp only [View.size, hsz, ne_eq, not_true_eq_false, if_false, hm, hc, hC, hu, implOf,
    root_eq newShape 0 hne, bind, Except.bind, pure, Except.pure]
  by_cases h1 : newShape.length = 1
  · simp [h1, rootArr]
  · simp [h1, rootArr]

theorem mustReshape_root {h : Heap α} {dims newShape : Idx} {sid : Nat} {base len : Int} {s : List α}
    (hs : h[sid]? = some s) (hd : dims ≠ []) (hne : newShape ≠ [])
    (h0 : 0 ≤ product dims) (hcap : base + product dims ≤ s.length)
    (hsz : product newShape = product dims) :
    mustReshape h (rootArr dims sid base len) newShape = .ok (h, rootArr newShape sid base (product dims)) := by
  have := mustReshape_contig (a := rootArr dims sid base len) (n := product dims) hs rfl (contiguous_rootView _ _)
    (by show (rootView dims 0).index (decrement dims) = .ok (0 + (product dims - 1))
        rw [rootView_index dims 0 _ (by unfold decrement; exact List.length_map _), Nd.ravel_decrement])
    ⟨Int.le_refl 0, h0, by show base + 0 + _ ≤ _; omega⟩ hd hne hsz
  rwa [show (rootArr dims sid base len).base + (rootArr dims sid base len).v.start = base from Int.add_zero _] at this

theorem get_root {h : Heap α} {dims : Idx} {sid : Nat} {base len : Int} {s : List α} (hs : h[sid]? = some s)
    (idx : Idx) (hl : idx.length = dims.length) (h0 : 0 ≤ ravel idx dims) (h1 : ravel idx dims < len)
    {x : α} (hx : s[(base + ravel idx dims).toNat]? = some x) :
    Nd.get h (rootArr dims sid base len) idx = .ok x := by
  unfold Nd.get
  simp only [rootArr, rootView_index dims 0 idx hl, readAt, storeOf, hs, bind, Except.bind, pure, Except.pure,
    Bool.false_eq_true, if_false, Int.zero_add, h0, h1, and_self, if_true, hx]

end

section
variable {α : Type} [JNum α]

theorem jsa_root {h : Heap α} {sid : Nat} {s : List α} (hs : h[sid]? = some s) (dims : Idx) (hne : dims ≠ [])
    (hpos : ∀ d ∈ dims, 0 ≤ d) (base : Nat) (len : Int) (hlen : product dims ≤ len)
    (hfit : (base : Int) + product dims ≤ s.length) :
    jsonSafeArray h (rootArr dims sid base len) 0 =
      .ok (nest dims fun idx => s.getD (base + (ravel idx dims).toNat) JNum.zero) := by
  refine jsonSafeArrayF_spec h dims.length (rootArr dims sid base len) 0 _ (rootView_regular _ _)
    (List.length_pos_iff.mpr hne) (Nat.le_add_left _ _) hpos ?_
  intro idx (hb : InBounds idx dims)
  obtain ⟨h0, h1⟩ := ravel_bounds hb
  apply get_root hs idx hb.length h0 (by omega)
  rw [show ((base : Int) + ravel idx dims).toNat = base + (ravel idx dims).toNat by omega,
    List.getD_eq_getElem?_getD, List.getElem?_eq_getElem (by omega), Option.getD_some]

theorem jsa_rank1 {h : Heap α} {sid : Nat} {s : List α} (hs : h[sid]? = some s) (base n : Nat)
    (hfit : base + n ≤ s.length) :
    jsonSafeArray h (rootArr [(n : Int)] sid base n) 0 = .ok (((s.drop base).take n).map jsonSafeValue) := by
  have hp : product [(n : Int)] = n := Int.mul_one _
  rw [jsa_root hs [(n : Int)] (List.cons_ne_nil _ _) (by simp) base n (Int.le_of_eq hp) (by rw [hp]; omega),
    ← map_range_window s JNum.zero jsonSafeValue base n hfit]
  simp [nest, ravel, product]

omit [JNum α] in
theorem mapInsert_fresh {ks rest : List String} (vs : List (JVal α)) {k : String} (v : JVal α)
    (hnd : (ks ++ k :: rest).Nodup) :
    mapInsert ks vs k v = (ks ++ [k], vs ++ [v]) ∧ ((ks ++ [k]) ++ rest).Nodup := by
  have hk : k ∉ ks := fun hmem => (List.nodup_append.mp hnd).2.2 k hmem k List.mem_cons_self rfl
  rw [List.append_assoc]
  exact ⟨by rw [mapInsert, List.idxOf?_eq_none_iff.mpr hk], hnd⟩

omit [JNum α] in
/-- how `encodeResults` starts on either array: `vals` in a fresh storage as a `1 × ds` array, reshaped to `ds` -/
theorem fresh_dropLeading (vals : List α) (ds : Idx) (hne : ds ≠ []) (hp : product ds = vals.length) :
    fromStore ([vals] : Heap α) 0 (1 :: ds) = .ok (rootArr (1 :: ds) 0 0 vals.length) ∧
    mustReshape [vals] (rootArr (1 :: ds) 0 0 vals.length) ((rootArr (1 :: ds) 0 0 vals.length).v.dims.drop 1) =
      .ok ([vals], rootArr ds 0 0 vals.length) := by
  have hp1 : product (1 :: ds) = vals.length := by rw [product, Int.one_mul, hp]
  have := mustReshape_root (h := [vals]) (dims := 1 :: ds) (newShape := ds) (sid := 0) (base := 0)
    (len := vals.length) rfl (List.cons_ne_nil _ _) hne (by omega) (by omega) (by rw [hp1, hp])
  rw [hp1] at this
  exact ⟨by simp [fromStore, storeOf, root_eq (1 :: ds) 0, rootArr, bind, Except.bind, pure, Except.pure], this⟩

theorem stateLoop_spec {h : Heap α} {sid : Nat} {s : List α} (hs : h[sid]? = some s) (W : Nat) (hW : W ≤ s.length) :
    ∀ (rest : List String) (i : Nat) (ks : List String) (vs : List (JVal α)),
      i + rest.length ≤ W → (ks ++ rest).Nodup →
      encodeStates.loop h (rootArr [(W : Int)] sid 0 W) i ks vs rest =
        .ok (ks ++ rest, vs ++ ((s.drop i).take rest.length).map jsonSafeValue)
  | [], i, ks, vs, _, _ => by simp [encodeStates.loop]
  | state :: rest, i, ks, vs, hi, hnd => by
    rw [List.length_cons] at hi
    have hi' : i < s.length := by omega
    have hr : ravel [(i : Int)] [(W : Int)] = i := by simp [ravel, product]
    have hget : Nd.get h (rootArr [(W : Int)] sid 0 W) [(i : Int)] = .ok s[i] :=
      get_root (dims := [(W : Int)]) hs [(i : Int)] rfl (by rw [hr]; omega) (by rw [hr]; omega)
        (by rw [hr, Int.zero_add, Int.toNat_natCast, List.getElem?_eq_getElem hi'])
    obtain ⟨hins, hnd'⟩ := mapInsert_fresh vs (jsonSafeValue s[i]) hnd
    simp only [encodeStates.loop, hget, hins, bind, Except.bind]
    rw [stateLoop_spec hs W hW rest (i + 1) _ _ (by omega) hnd', List.length_cons, List.drop_eq_getElem_cons hi',
      List.take_succ_cons]
    simp

theorem encodeStates_spec (states : List α) (names : List String) (split : Bool) (hnd : names.Nodup) :
    encodeStates states names split =
      .ok (if split = true ∧ states.length = names.length then .obj names (states.map jsonSafeValue)
           else .arr (states.map jsonSafeValue)) := by
  have hs : ([states] : Heap α)[0]? = some states := rfl
  obtain ⟨hfs, hmr⟩ := fresh_dropLeading states [(states.length : Int)] (List.cons_ne_nil _ _) (Int.mul_one _)
  have hlen : (rootArr [(states.length : Int)] 0 0 states.length).v.len 0 = .ok (states.length : Int) := rfl
  unfold encodeStates
  simp only [alloc, List.nil_append, List.length_nil, hfs, hmr, hlen, bind, Except.bind, pure, Except.pure,
    Int.natCast_inj]
  split
  next hc =>
    rw [stateLoop_spec (h := [states]) (sid := 0) hs states.length (Nat.le_refl _) names 0 [] []
      (by omega) (by simpa using hnd)]
    simp only [List.nil_append, List.drop_zero, ← hc.2, List.take_length]
  next =>
    have hj : jsonSafeArray [states] (rootArr [(states.length : Int)] 0 0 states.length) 0 = _ :=
      jsa_rank1 (h := [states]) (sid := 0) hs 0 states.length (by omega)
    rw [hj]
    simp

/-- the view of `outputArray.Slice([i,0], [1,T], [1,1])` on a root array of shape `[nO, T]` -/
def rowView (nO T i : Nat) : View :=
  { orig := [(nO : Int), (T : Int)], dims := [1, (T : Int)], start := (i : Int) * (T : Int),
    offset := [(T : Int), 1], step := [1, 1], offStep := [(T : Int), 1] }

theorem slice_row (nO T i : Nat) (sid : Nat) (len : Int) :
    slice (rootArr [(nO : Int), (T : Int)] sid 0 len) [(i : Int), 0] [1, (T : Int)] (some [1, 1]) =
      .ok ⟨rowView nO T i, sid, 0, len, false⟩ := by
  simp [slice, View.sliceInto, rootArr, rootView, rowView, offsetsT, dotProduct, multiply, uniform, bind,
    Except.bind, pure, Except.pure]

omit [JNum α] in
theorem row_reshape {h : Heap α} {sid : Nat} {s : List α} (hs : h[sid]? = some s) (nO T i : Nat) (len : Int)
    (hrow : i * T + T ≤ s.length) :
    mustReshape h ⟨rowView nO T i, sid, 0, len, false⟩ [(T : Int)] =
      .ok (h, rootArr [(T : Int)] sid ((i * T : Nat) : Int) T) := by
  have h1 : ((i * T + T : Nat) : Int) ≤ (s.length : Int) := Int.ofNat_le.mpr hrow
  rw [Int.natCast_add] at h1
  have hc : (rowView nO T i).contiguous = .ok true :=
    (Regular.contiguous_loopState (v := rowView nO T i) ⟨rfl, rfl, rfl, by simp [rowView]⟩).trans
      (by simp [rowView, Nd.loopState])
  have := mustReshape_contig (a := ⟨rowView nO T i, sid, 0, len, false⟩) (n := T) hs rfl hc
    (by simp [rowView, View.index, View.indexAux, decrement, bind, Except.bind, pure, Except.pure])
    ⟨by show (0 : Int) ≤ (i : Int) * T; exact Int.natCast_mul i T ▸ Int.natCast_nonneg _, Int.natCast_nonneg T,
      by show (0 : Int) + (i : Int) * T + T ≤ _; rw [← Int.natCast_mul]; omega⟩
    (List.cons_ne_nil _ _) (List.cons_ne_nil _ _) (show product [(T : Int)] = product [1, (T : Int)] by simp [product])
  rwa [show (0 : Int) + (rowView nO T i).start = ((i * T : Nat) : Int) by simp [rowView]] at this

theorem outputLoop_spec {h : Heap α} {sid : Nat} {s : List α} (hs : h[sid]? = some s) (nO T : Nat) (len : Int)
    (hfit : s.length = nO * T) :
    ∀ (rest : List String) (i : Nat) (ks : List String) (vs : List (JVal α)),
      i + rest.length ≤ nO → (ks ++ rest).Nodup →
      encodeOutputs.loop (rootArr [(nO : Int), (T : Int)] sid 0 len) (T : Int) h i ks vs rest =
        .ok (ks ++ rest, vs ++ (List.range' i rest.length).map
          (fun j => JVal.arr (((s.drop (j * T)).take T).map jsonSafeValue)))
  | [], i, ks, vs, _, _ => by simp [encodeOutputs.loop]
  | output :: rest, i, ks, vs, hi, hnd => by
    rw [List.length_cons] at hi
    have hrow := hfit ▸ nat_row_le (show i < nO by omega) T
    obtain ⟨hins, hnd'⟩ := mapInsert_fresh vs (JVal.arr (((s.drop (i * T)).take T).map jsonSafeValue)) hnd
    simp only [encodeOutputs.loop, slice_row, row_reshape hs nO T i len hrow, jsa_rank1 hs (i * T) T hrow, hins,
      bind, Except.bind]
    rw [outputLoop_spec hs nO T len hfit rest (i + 1) _ _ (by omega) hnd']
    simp [List.range'_succ]

theorem jsa_rank2 {h : Heap α} {sid : Nat} {s : List α} (hs : h[sid]? = some s) (nO T : Nat) (len : Int)
    (hfit : s.length = nO * T) (hlen : (s.length : Int) ≤ len) :
    jsonSafeArray h (rootArr [(nO : Int), (T : Int)] sid 0 len) 0 =
      .ok ((List.range nO).map fun i => JVal.arr (((s.drop (i * T)).take T).map jsonSafeValue)) := by
  have hp : product [(nO : Int), (T : Int)] = s.length := by
    rw [hfit, Int.natCast_mul, product, product, product, Int.mul_one]
  have hj : jsonSafeArray h (rootArr [(nO : Int), (T : Int)] sid 0 len) 0 = _ :=
    jsa_root hs [(nO : Int), (T : Int)] (List.cons_ne_nil _ _) (by simp) 0 len (by rw [hp]; exact hlen)
      (by rw [hp]; omega)
  rw [hj]
  simp only [nest, Int.toNat_natCast]
  congr 1
  apply List.map_congr_left
  intro i hi
  rw [List.mem_range] at hi
  rw [← map_range_window s JNum.zero jsonSafeValue (i * T) T (hfit ▸ nat_row_le hi T)]
  simp only [ravel, product, Int.mul_one, Int.add_zero, ← Int.natCast_mul, ← Int.natCast_add, Int.toNat_natCast,
    Nat.zero_add]

theorem encodeOutputs_spec (outs : List (List α)) (T : Nat) (names : List String) (split : Bool)
    (hrect : ∀ o ∈ outs, o.length = T) (hn : names.length = outs.length) (hnd : names.Nodup) :
    encodeOutputs outs T names split =
      .ok (if split = true then .obj names (outs.map fun o => .arr (o.map jsonSafeValue))
           else .arr (outs.map fun o => .arr (o.map jsonSafeValue))) := by
  have hfl := length_flatten_rect hrect
  have hs : ([outs.flatten] : Heap α)[0]? = some outs.flatten := rfl
  obtain ⟨hfs, hmr⟩ := fresh_dropLeading outs.flatten [(outs.length : Int), (T : Int)] (List.cons_ne_nil _ _)
    (by rw [hfl, Int.natCast_mul, product, product, product, Int.mul_one])
  have hlen : (rootArr [(outs.length : Int), (T : Int)] 0 0 (outs.flatten.length : Int)).v.len 1 = .ok (T : Int) := rfl
  have hrows := rows_of_flatten T outs hrect fun o => JVal.arr (o.map jsonSafeValue)
  unfold encodeOutputs
  simp only [alloc, List.nil_append, List.length_nil, hfs, hmr, bind, Except.bind, pure, Except.pure]
  cases split with
  | true =>
    simp only [if_true, hlen]
    rw [outputLoop_spec (h := [outs.flatten]) (sid := 0) hs outs.length T outs.flatten.length hfl names 0 [] []
      (by omega) (by simpa using hnd)]
    simp only [List.nil_append, hn, ← List.range_eq_range', hrows]
  | false =>
    simp only [Bool.false_eq_true, if_false]
    rw [jsa_rank2 hs outs.length T _ hfl (Int.le_refl _)]
    simp only [hrows]

end
end OW.Sim.Json
