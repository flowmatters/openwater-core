import OW.Proofs.RealNum
import OW.Proofs.Scan
import OW.Kernels.C16.Units
import Mathlib.Tactic.Ring
import Mathlib.Tactic.Linarith
import Mathlib.Tactic.NormNum
import Mathlib.Tactic.Positivity
/-!
What the C16 files (partition / conversion / generation identities) share and that is not about one kernel: the Go `== 0.0`
test and the unit constants at ℝ, the early return of a kernel as its loop, small facts about lists and signs of products.
The lifting of a per-timestep fact to a whole series is `forall₂_map` (OW/Proofs/Scan.lean); that import, and the tactic
imports this file does not use itself (`ring`, `linarith`, `positivity`), are for the files that import it.

Divisors in C16. An identity that relates outputs of one evaluation holds over ℝ whatever a quotient is, also for a zero
divisor (`x / 0 = 0` in ℝ, ±Inf or NaN in float64). Several statements of OW/Props/C16/* carry a hypothesis whose only role is
to make a divisor non-zero (`0 < Δt`, `0 < area`, `0 ≤ maxConc`, `0 ≤ quickflow`) although the ℝ proof does not use it: the
statement is meant to be read for the code, where it is needed. Such a binder is written `_h…`, or is followed by an unused
`have _hne : … ≠ 0` that names the divisor. The `…_zero_driver_dt0` theorems give the zero-driver case without the hypothesis,
as a quotient whose numerator is 0.
-/
namespace OW.C16
open OW OW.Kernels

/-- Go `x == 0.0` at ℝ -/
theorem feq_zero (x : ℝ) : Num.feq x (0.0 : ℝ) = true ↔ x = 0 := by
  rw [RealNum.feq_eq]; norm_num

theorem feq_zero_false (x : ℝ) : Num.feq x (0.0 : ℝ) = false ↔ x ≠ 0 := by
  rw [Ne, ← feq_zero, Bool.not_eq_true]

theorem num_one : (@OfNat.ofNat ℝ 1 (Num.instOfNat 1)) = 1 := RealNum.lit1

/-- the literal `0.0` of the kernels at ℝ -/
theorem sci_zero : (@OfScientific.ofScientific ℝ Num.toOfScientific 0 true 1) = 0 := RealNum.sci_zero

/-- normalise the class-projected literals `0`, `1`, `0.0`, `n` and `>`/`≥` of a kernel unfolded at ℝ -/
macro "c16norm" "at" h:ident : tactic =>
  `(tactic| simp only [RealNum.ofNat_eq, Nat.cast_zero, Nat.cast_one, Nat.cast_ofNat, gt_iff_lt, ge_iff_le, sci_zero,
      RealNum.zero_eq, RealNum.one_eq, RealNum.gmin_eq, RealNum.gmax_eq, RealNum.pow_eq] at $h:ident)

theorem millimetresToMetres_eq : (Units.millimetresToMetres : ℝ) = 1 / 1000 := by
  simp only [Units.millimetresToMetres]; norm_num
theorem metresToMillimetres_eq : (Units.metresToMillimetres : ℝ) = 1000 := by
  simp only [Units.metresToMillimetres, RealNum.ofNat_eq]
theorem tonnesToKg_eq : (Units.tonnesToKg : ℝ) = 1000 := by
  simp only [Units.tonnesToKg, RealNum.ofNat_eq]
theorem kgToMilligram_eq : (Units.kgToMilligram : ℝ) = 1000000 := by
  simp only [Units.kgToMilligram, RealNum.ofNat_eq]
theorem milligramToKg_eq : (Units.milligramToKg : ℝ) = 1 / 1000000 := by
  simp only [Units.milligramToKg]; norm_num
theorem litresToCubicMetres_eq : (Units.litresToCubicMetres : ℝ) = 1 / 1000 := by
  simp only [Units.litresToCubicMetres]; norm_num
theorem cubicMetresToLitres_eq : (Units.cubicMetresToLitres : ℝ) = 1000 := by
  simp only [Units.cubicMetresToLitres, RealNum.ofNat_eq]
theorem megaLitresToLitres_eq : (Units.megaLitresToLitres : ℝ) = 1000000 := by
  simp only [Units.megaLitresToLitres, RealNum.ofNat_eq]
theorem mgPerLitreToKgPerM3_eq : (Units.mgPerLitreToKgPerM3 : ℝ) = 1 / 1000 := by
  simp only [Units.mgPerLitreToKgPerM3]; norm_num
theorem percentToProportion_eq : (Units.percentToProportion : ℝ) = 1 / 100 := by
  simp only [Units.percentToProportion]; norm_num
theorem squareMetresToHectares_eq : (Units.squareMetresToHectares : ℝ) = 1 / 10000 := by
  simp only [Units.squareMetresToHectares]; norm_num
theorem secondsPerDay_eq : (Units.secondsPerDay : ℝ) = 86400 := by
  simp only [Units.secondsPerDay, RealNum.ofNat_eq]
theorem cumecsToMegaLitresPerDay_eq : (Units.cumecsToMegaLitresPerDay : ℝ) = 864 / 10 := by
  simp only [Units.cumecsToMegaLitresPerDay]; norm_num
theorem daysPerYear_eq : (Units.daysPerYear : ℝ) = 1461 / 4 := by
  simp only [Units.daysPerYear]; norm_num

theorem zip_fst_map {α β : Type} (xs : List α) (ys : List β) (h : xs.length = ys.length) :
    (xs.zip ys).map (·.1) = xs :=
  List.map_fst_zip h.le

/-- An early return (`if scale == 0.0 { return }`) leaves the zero-initialised output `z, …, z` as allocated. That is
what the loop `out[t] = f(in[t])` writes whenever `f` is constantly `z` under the condition of the return, so the
kernel IS its loop. -/
theorem early_return {ι ο : Type} (c : Bool) (z : ο) (f : ι → ο) (xs : List ι) (n : Nat) (hn : n = xs.length)
    (h : c = true → ∀ x, f x = z) : (if c = true then List.replicate n z else xs.map f) = xs.map f := by
  split_ifs with hc
  · subst hn
    exact List.map_const'.symm.trans (List.map_congr_left fun x _ => (h hc x).symm)
  · rfl

theorem early_return_zero {ι : Type} (p : ℝ) (f : ι → ℝ) (xs : List ι) (n : Nat) (hn : n = xs.length)
    (h : p = 0 → ∀ x, f x = 0) : (if Num.feq p (0.0 : ℝ) = true then zeros n else xs.map f) = xs.map f :=
  early_return _ _ f xs n hn fun hc => h ((feq_zero p).mp hc)

theorem map_map_of {ι ο κ : Type} (f : ι → ο) (g : ο → κ) (k : ι → κ) (h : ∀ x, g (f x) = k x) (xs : List ι) :
    (xs.map f).map g = xs.map k := by
  rw [List.map_map]
  exact List.map_congr_left fun x _ => h x

/-- a load `flow · concentration · 1e-3`: zero without flow, non-negative with its factors -/
theorem load_zero_nonneg {x c l : ℝ} (h : l = x * c * (1 / 1000)) : (x = 0 → l = 0) ∧ (0 ≤ c → 0 ≤ x → 0 ≤ l) := by
  subst h
  exact ⟨fun h => by rw [h, zero_mul, zero_mul],
    fun hc hx => mul_nonneg (mul_nonneg hx hc) (by norm_num)⟩

theorem delivered_nonneg {m c e r : ℝ} (hm : 0 ≤ m) (hc : 0 ≤ c) (he : 0 ≤ e) (hr : 0 ≤ r) :
    0 ≤ m * c * e * (r * (1 / 100)) :=
  mul_nonneg (mul_nonneg (mul_nonneg hm hc) he) (mul_nonneg hr (by norm_num))

end OW.C16
