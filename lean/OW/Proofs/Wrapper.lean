import OW.Sim.Wrapper
import OW.Proofs.ExceptList
/-!
The list-level wrapper `OW.Sim.run` read once, in the model's namespace. First flat buffers: a buffer cut into rows
(`chunks_flatten_iff`) and a run written at a position (`store`), which carry `InitialiseStates` here, the copy-back of the C entry
and the block writes of the view level. Then `Run`: when a cell step, the loop over the cells and the whole run succeed, and with
what; C04, the C entry point of C03, causality C14 and the view level read the wrapper through these lemmas and do not unfold it.
`store`, `writeRows` and `startStates` are definitions of the proofs (names for expressions the model writes inline), not of
`OW/Sim/Wrapper.lean`. The all-scalar spec: `WrapperScalar.lean`. Core Lean only.
-/
namespace OW.Sim
open OW

variable {α : Type} [Num α]

section Buffers
omit [Num α]

theorem chunks_length (w : Nat) : ∀ (n : Nat) (l : List α), (chunks w n l).length = n
  | 0, _ => rfl
  | n + 1, l => congrArg (· + 1) (chunks_length w n (l.drop w))

/-- **buffer ↔ array.** `rows` is the `n × w` array whose row-major image is `l` exactly when `l` has `n · w` elements and
`rows` is `l` cut into `n` rows of `w`. -/
theorem chunks_flatten_iff (w : Nat) : ∀ (n : Nat) (rows : List (List α)) (l : List α),
    (rows.length = n ∧ ∀ r ∈ rows, r.length = w) ∧ rows.flatten = l ↔ l.length = n * w ∧ rows = chunks w n l
  | 0, rows, l => by
    simp only [chunks, Nat.zero_mul, List.length_eq_zero_iff]
    constructor
    · rintro ⟨⟨rfl, _⟩, rfl⟩
      exact ⟨rfl, rfl⟩
    · rintro ⟨rfl, rfl⟩
      exact ⟨⟨rfl, fun _ h => (nomatch h)⟩, rfl⟩
  | n + 1, [], l => by
    simp only [chunks, List.length_nil]
    exact ⟨fun h => (nomatch h.1.1), fun h => (nomatch h.2)⟩
  | n + 1, r :: rest, l => by
    rw [List.length_cons, Nat.add_right_cancel_iff, List.forall_mem_cons, chunks, List.cons.injEq, List.flatten_cons, Nat.succ_mul]
    constructor
    · rintro ⟨⟨hn, hr, hrest⟩, rfl⟩
      obtain ⟨h1, h2⟩ := (chunks_flatten_iff w n rest _).mp ⟨⟨hn, hrest⟩, rfl⟩
      rw [List.take_left' hr, List.drop_left' hr, List.length_append, hr, h1, Nat.add_comm]
      exact ⟨rfl, rfl, h2⟩
    · rintro ⟨hl, rfl, rfl⟩
      obtain ⟨⟨hn, h1⟩, h2⟩ := (chunks_flatten_iff w n _ (l.drop w)).mpr ⟨by rw [List.length_drop, hl, Nat.add_sub_cancel], rfl⟩
      rw [h2, List.take_append_drop, List.length_take, hl]
      exact ⟨⟨hn, Nat.min_eq_left (Nat.le_add_left _ _), h1⟩, rfl⟩

/-- `xs` stored at positions `pos, pos + 1, …` of `st`, for a run that fits (`pos + xs.length ≤ st.length`): what `writeFlat`
returns (`writeFlat_eq_store`), what the unchecked `writeC` stores (`C03Entry.writeC_eq_store`), and what a block write through a flat
view leaves in the storage (`WrapperNd.getElem?_writeRun`) -/
def store (st : List α) (pos : Nat) (xs : List α) : List α := st.take pos ++ xs ++ st.drop (pos + xs.length)

theorem store_length {st : List α} {pos : Nat} {xs : List α} (hf : pos + xs.length ≤ st.length) :
    (store st pos xs).length = st.length := by
  simp only [store, List.length_append, List.length_take, List.length_drop]
  omega

theorem store_append (pre xs tail : List α) :
    store (pre ++ tail) pre.length xs = pre ++ xs ++ tail.drop xs.length := by
  rw [store, List.take_left' rfl, ← List.drop_drop, List.drop_left' rfl]

theorem store_frame {st : List α} {pos : Nat} {xs : List α} (hf : pos + xs.length ≤ st.length) {q : Nat}
    (hq : q < pos ∨ pos + xs.length ≤ q) : (store st pos xs)[q]? = st[q]? := by
  have hl : (st.take pos ++ xs).length = pos + xs.length := by rw [List.length_append, List.length_take]; omega
  unfold store
  rcases hq with h | h
  · rw [List.append_assoc, List.getElem?_append_left (by rw [List.length_take]; omega), List.getElem?_take, if_pos h]
  · rw [List.getElem?_append_right (hl ▸ h), hl, List.getElem?_drop]
    congr 1; omega

theorem store_cons {st : List α} {lo : Nat} (h : lo < st.length) (x : α) (xs : List α) :
    store (st.set lo x) (lo + 1) xs = store st lo (x :: xs) := by
  have e1 : (st.set lo x).take (lo + 1) = st.take lo ++ [x] := by
    rw [List.take_add_one, List.take_set_of_le (Nat.le_refl _), List.getElem?_set_self h]; rfl
  have e2 : (st.set lo x).drop (lo + 1 + xs.length) = st.drop (lo + (xs.length + 1)) := by
    rw [List.drop_set_of_lt (by omega)]; congr 1; omega
  unfold store
  rw [e1, e2, List.length_cons]
  simp

theorem writeFlat_eq_store {buf : List α} {pos : Nat} {xs : List α} (hf : pos + xs.length ≤ buf.length) :
    writeFlat buf pos xs = .ok (store buf pos xs) := if_neg (Nat.not_lt.mpr hf)

theorem fill_length (w : Nat) : ∀ (rs : List (List α)) (i : Nat) (buf buf' : List α),
    initStates.fill w i rs buf = .ok buf' → buf'.length = buf.length
  | [], _, _, _, h => by
    simp only [initStates.fill, Except.ok.injEq] at h
    subst h; rfl
  | r :: rest, i, buf, buf', h => by
    obtain ⟨b1, hw, h⟩ := Except.bind_eq_ok.mp h
    obtain ⟨hf, hw⟩ := Except.ite_error_eq_ok.mp hw
    cases hw
    exact (fill_length w rest (i + 1) _ buf' h).trans (store_length (Nat.not_lt.mp hf))

theorem fill_fit (w : Nat) : ∀ (rs : List (List α)) (i : Nat) (pre tail : List α), pre.length = i * w →
    (∀ r ∈ rs, r.length = w) → rs.length * w ≤ tail.length →
    initStates.fill w i rs (pre ++ tail) = .ok (pre ++ rs.flatten ++ tail.drop (rs.length * w))
  | [], _, _, _, _, _, _ => by
    simp only [initStates.fill, List.flatten_nil, List.append_nil, List.length_nil, Nat.zero_mul, List.drop_zero]
  | r :: rest, i, pre, tail, hp, hw, hle => by
    obtain ⟨hr, hw'⟩ := List.forall_mem_cons.mp hw
    rw [List.length_cons, Nat.succ_mul] at hle
    have ih := fill_fit w rest (i + 1) (pre ++ r) (tail.drop r.length)
      (by rw [List.length_append, hp, hr, Nat.succ_mul]) hw' (by rw [List.length_drop, hr]; omega)
    have hf : pre.length + r.length ≤ (pre ++ tail).length := by rw [List.length_append]; omega
    simp only [initStates.fill, ← hp, writeFlat_eq_store hf, store_append pre r tail, bind, Except.bind, ih]
    rw [List.drop_drop, hr, List.length_cons, Nat.succ_mul, Nat.add_comm w, List.flatten_cons]
    simp only [List.append_assoc]

end Buffers

/-- `InitialiseStates(n)` returns `n` rows of one width `w` (the width of cell 0's initial states); each cell's own initial
row has been produced by the kernel's init function -/
theorem initStates_reg {km : KModel α} {spec : ParamSpec} {lay : List (Nat × Nat)} {params : List (List α)} {n : Nat}
    {s0 : List (List α)} (h : initStates km spec lay params n = .ok s0) :
    s0.length = n ∧ (n ≠ 0 → ∃ p r0, km.init p = .ok r0 ∧ ∀ r ∈ s0, r.length = r0.length) := by
  unfold initStates at h
  obtain ⟨rows, hm, h⟩ := Except.bind_eq_ok.mp h
  obtain ⟨hl, hget⟩ := mapM_ok _ _ _ hm
  rw [List.length_range] at hl
  cases rows with
  | nil =>
    cases h
    exact ⟨hl, fun hn => absurd hl.symm hn⟩
  | cons r0 rest =>
    obtain ⟨buf, hf, h⟩ := Except.bind_eq_ok.mp h
    cases h
    have hbl : buf.length = n * r0.length := by
      rw [fill_length _ _ _ _ _ hf, List.length_replicate]
    refine ⟨chunks_length _ _ _, fun hn => ?_⟩
    obtain ⟨r, hr, h0⟩ := hget 0 0 (List.getElem?_range (Nat.pos_of_ne_zero hn))
    cases h0
    obtain ⟨p, _, hi⟩ := Except.bind_eq_ok.mp hr
    exact ⟨p, r0, hi, ((chunks_flatten_iff _ _ _ buf).mpr ⟨hbl, rfl⟩).1.2⟩

omit [Num α] in
theorem overwrite_length (row xs : List α) : (overwrite row xs).length = row.length := by
  unfold overwrite
  simp only [List.length_append, List.length_take, List.length_drop]
  omega

omit [Num α] in
theorem overwrite_getElem? (row xs : List α) (k : Nat) :
    (overwrite row xs)[k]? = if k < xs.length ∧ k < row.length then xs[k]? else row[k]? := by
  by_cases hr : k < row.length
  · unfold overwrite
    by_cases h : k < xs.length
    · rw [if_pos ⟨h, hr⟩, List.getElem?_append_left (by rw [List.length_take]; omega), List.getElem?_take, if_pos hr]
    · rw [if_neg (fun c => h c.1), List.getElem?_append_right (by rw [List.length_take]; omega), List.getElem?_drop,
        List.length_take]
      congr 1
      omega
  · rw [if_neg (fun c => hr c.2), List.getElem?_eq_none (by rw [overwrite_length]; omega), List.getElem?_eq_none (by omega)]

/-- what `cellStep` leaves in a cell's output rows `orow` when the kernel returned the series `outs`: row `o` overwritten by series
`o` (by nothing when there are fewer series; series beyond the rows are dropped) -/
def writeRows (orow outs : List (List α)) : List (List α) :=
  (orow.zip (outs ++ List.replicate (orow.length - outs.length) [])).map fun (old, new) => overwrite old new

omit [Num α] in
theorem writeRows_getElem? (orow outs : List (List α)) (o : Nat) (ho : o < orow.length) :
    (writeRows orow outs)[o]? = some (overwrite (orow[o]'ho) (outs[o]?.getD [])) := by
  have hpad : (outs ++ List.replicate (orow.length - outs.length) ([] : List α))[o]? = some (outs[o]?.getD []) := by
    by_cases h : o < outs.length
    · rw [List.getElem?_append_left h, List.getElem?_eq_getElem h]; rfl
    · rw [List.getElem?_append_right (by omega), List.getElem?_replicate, if_pos (by omega),
        List.getElem?_eq_none (by omega)]
      rfl
  have : (orow.zip (outs ++ List.replicate (orow.length - outs.length) ([] : List α)))[o]? =
      some (orow[o]'ho, outs[o]?.getD []) :=
    List.getElem?_zip_eq_some.mpr ⟨List.getElem?_eq_getElem ho, hpad⟩
  unfold writeRows
  rw [List.getElem?_map, this]
  rfl

omit [Num α] in
theorem writeRows_cons (a : List α) (as : List (List α)) (s : List α) (ss : List (List α)) :
    writeRows (a :: as) (s :: ss) = overwrite a s :: writeRows as ss := by
  simp only [writeRows, List.length_cons, Nat.succ_sub_succ, List.cons_append, List.zip_cons_cons, List.map_cons]

omit [Num α] in
theorem writeRows_nil : ∀ orow : List (List α), writeRows orow [] = orow
  | [] => rfl
  | a :: as => by
    have := writeRows_nil as
    simp only [writeRows, List.length_nil, Nat.sub_zero, List.nil_append] at this ⊢
    rw [List.length_cons, List.replicate_succ, List.zip_cons_cons, List.map_cons, this]
    simp [overwrite]

omit [Num α] in
theorem writeRows_shape (orow outs : List (List α)) : (writeRows orow outs).map List.length = orow.map List.length := by
  have : (List.length ∘ fun (p : List α × List α) => overwrite p.1 p.2) = List.length ∘ Prod.fst :=
    funext fun p => overwrite_length p.1 p.2
  unfold writeRows
  rw [List.map_map, this, ← List.map_map, List.map_fst_zip]
  simp only [List.length_append, List.length_replicate]
  omega

theorem cellStep_ok_iff {km : KModel α} {spec : ParamSpec} {lay : List (Nat × Nat)} {params : List (List α)}
    {inputs : List (List (List α))} {i : Nat} {st : List α} {orow : List (List α)} {so : List α × List (List α)} :
    cellStep km spec lay params inputs i st orow = .ok so ↔
      inputs.length ≠ 0 ∧ ∃ p r, cellParams spec lay params i = .ok p ∧
        km.run p (inputs[i % inputs.length]?.getD []) st = .ok r ∧ so = (overwrite st r.states, writeRows orow r.outputs) := by
  unfold cellStep
  by_cases hb : inputs.length = 0
  · rw [if_pos hb]
    exact ⟨fun h => (nomatch h), fun h => absurd hb h.1⟩
  · rw [if_neg hb]
    simp only [Except.bind_eq_ok]
    exact ⟨fun ⟨p, hp, r, hr, h⟩ => ⟨hb, p, r, hp, hr, (Except.ok.inj h).symm⟩,
      fun ⟨_, p, r, hp, hr, h⟩ => ⟨p, hp, r, hr, h ▸ rfl⟩⟩

/-- the step of a cell whose column is known, up to the kernel call -/
theorem cellStep_of_column {km : KModel α} {spec : ParamSpec} {lay : List (Nat × Nat)} {params : List (List α)}
    {inputs : List (List (List α))} {i : Nat} {p : List α} (hb : inputs.length ≠ 0) (hp : cellParams spec lay params i = .ok p)
    (st : List α) (orow : List (List α)) :
    cellStep km spec lay params inputs i st orow = (do
      let r ← km.run p (inputs[i % inputs.length]?.getD []) st
      pure (overwrite st r.states, writeRows orow r.outputs)) := by
  unfold cellStep
  rw [if_neg hb, hp]
  rfl

theorem cellStep_shape {km : KModel α} {spec : ParamSpec} {lay : List (Nat × Nat)} {params : List (List α)}
    {inputs : List (List (List α))} {i : Nat} {st : List α} {orow : List (List α)} {s' : List α} {o' : List (List α)}
    (h : cellStep km spec lay params inputs i st orow = .ok (s', o')) :
    s'.length = st.length ∧ o'.map List.length = orow.map List.length := by
  obtain ⟨_, p, r, _, _, hso⟩ := cellStep_ok_iff.mp h
  cases hso
  exact ⟨overwrite_length _ _, writeRows_shape _ _⟩

theorem runCells_cons_ok_iff {km : KModel α} {spec : ParamSpec} {lay : List (Nat × Nat)} {params : List (List α)}
    {inputs : List (List (List α))} {i : Nat} {st : List α} {restS : List (List α)} {orow : List (List α)}
    {restO : List (List (List α))} {ss : List (List α)} {os : List (List (List α))} :
    runCells km spec lay params inputs i (st :: restS) (orow :: restO) = .ok (ss, os) ↔
    ∃ s' o' ss' os', cellStep km spec lay params inputs i st orow = .ok (s', o') ∧
      runCells km spec lay params inputs (i + 1) restS restO = .ok (ss', os') ∧ ss = s' :: ss' ∧ os = o' :: os' := by
  simp only [runCells, Except.bind_eq_ok, Prod.exists, Except.pure, pure, Except.ok.injEq, Prod.mk.injEq]
  exact ⟨fun ⟨s', o', hc, ss', os', hr, h1, h2⟩ => ⟨s', o', ss', os', hc, hr, h1.symm, h2.symm⟩,
    fun ⟨s', o', ss', os', hc, hr, h1, h2⟩ => ⟨s', o', hc, ss', os', hr, h1.symm, h2.symm⟩⟩

theorem runCells_ok_iff (km : KModel α) (spec : ParamSpec) (lay : List (Nat × Nat)) (params : List (List α))
    (inputs : List (List (List α))) :
    ∀ (cells : List (List α)) (outs : List (List (List α))) (i : Nat) (ss : List (List α)) (os : List (List (List α))),
      runCells km spec lay params inputs i cells outs = .ok (ss, os) ↔
      ss.length = cells.length ∧ os.length = outs.length ∧ cells.length ≤ outs.length ∧
      (∀ k (hk : k < cells.length) (ho : k < outs.length),
          ∃ s' o', cellStep km spec lay params inputs (i + k) cells[k] outs[k] = .ok (s', o') ∧
            ss[k]? = some s' ∧ os[k]? = some o') ∧
      (∀ k, cells.length ≤ k → os[k]? = outs[k]?)
  | [], outs, i, ss, os => by
    constructor
    · intro h
      cases h
      exact ⟨rfl, rfl, Nat.zero_le _, fun k hk => absurd hk (Nat.not_lt_zero k), fun k _ => rfl⟩
    · rintro ⟨h1, _, _, _, h5⟩
      rw [List.eq_nil_of_length_eq_zero h1, List.ext_getElem? fun k => h5 k (Nat.zero_le k)]
      rfl
  | st :: restS, [], i, ss, os => by
    exact ⟨fun h => (nomatch h), fun h => absurd h.2.2.1 (Nat.not_succ_le_zero _)⟩
  | st :: restS, orow :: restO, i, ss, os => by
    rw [runCells_cons_ok_iff]
    constructor
    · rintro ⟨s', o', ss', os', hc, hr, rfl, rfl⟩
      obtain ⟨h1, h2, h3, h4, h5⟩ := (runCells_ok_iff km spec lay params inputs restS restO (i + 1) ss' os').mp hr
      refine ⟨congrArg (· + 1) h1, congrArg (· + 1) h2, Nat.succ_le_succ h3, fun k hk ho => ?_, fun k hk => ?_⟩
      · cases k with
        | zero => exact ⟨s', o', hc, rfl, rfl⟩
        | succ k =>
          rw [show i + (k + 1) = i + 1 + k by omega]
          exact h4 k (Nat.lt_of_succ_lt_succ hk) (Nat.lt_of_succ_lt_succ ho)
      · cases k with
        | zero => exact absurd hk (Nat.not_succ_le_zero _)
        | succ k => exact h5 k (Nat.le_of_succ_le_succ hk)
    · rintro ⟨h1, h2, h3, h4, h5⟩
      obtain ⟨s', o', hc, hs', ho'⟩ := h4 0 (Nat.succ_pos _) (Nat.succ_pos _)
      cases ss with
      | nil => cases h1
      | cons s ss' =>
        cases os with
        | nil => cases h2
        | cons o os' =>
          cases hs'
          cases ho'
          refine ⟨s', o', ss', os', hc, ?_, rfl, rfl⟩
          refine (runCells_ok_iff km spec lay params inputs restS restO (i + 1) ss' os').mpr
            ⟨Nat.succ.inj h1, Nat.succ.inj h2, Nat.le_of_succ_le_succ h3, fun k hk ho => ?_, fun k hk => h5 (k + 1) (Nat.succ_le_succ hk)⟩
          have := h4 (k + 1) (Nat.succ_lt_succ hk) (Nat.succ_lt_succ ho)
          rwa [show i + (k + 1) = i + 1 + k by omega] at this

theorem runCells_ok_of_steps (km : KModel α) (spec : ParamSpec) (lay : List (Nat × Nat)) (params : List (List α))
    (inputs : List (List (List α))) :
    ∀ (cells : List (List α)) (outs : List (List (List α))) (i : Nat), cells.length ≤ outs.length →
      (∀ k (hk : k < cells.length) (ho : k < outs.length),
        ∃ so, cellStep km spec lay params inputs (i + k) cells[k] outs[k] = .ok so) →
      ∃ ss os, runCells km spec lay params inputs i cells outs = .ok (ss, os)
  | [], outs, _, _, _ => ⟨[], outs, rfl⟩
  | _ :: _, [], _, hl, _ => nomatch hl
  | st :: restS, orow :: restO, i, hl, h => by
    obtain ⟨⟨s', o'⟩, hc⟩ := h 0 (Nat.succ_pos _) (Nat.succ_pos _)
    obtain ⟨ss, os, hr⟩ := runCells_ok_of_steps km spec lay params inputs restS restO (i + 1) (Nat.le_of_succ_le_succ hl)
      fun k hk ho => by
        have := h (k + 1) (Nat.succ_lt_succ hk) (Nat.succ_lt_succ ho)
        rwa [show i + (k + 1) = i + 1 + k by omega] at this
    exact ⟨s' :: ss, o' :: os, runCells_cons_ok_iff.mpr ⟨s', o', ss, os, hc, hr, rfl, rfl⟩⟩

theorem runCells_shape {km : KModel α} {spec : ParamSpec} {lay : List (Nat × Nat)} {params : List (List α)}
    {inputs : List (List (List α))} {cells : List (List α)} {outs : List (List (List α))} {i : Nat} {ss : List (List α)}
    {os : List (List (List α))} (h : runCells km spec lay params inputs i cells outs = .ok (ss, os)) :
    ss.map List.length = cells.map List.length ∧
    os.map (fun m => m.map List.length) = outs.map (fun m => m.map List.length) := by
  obtain ⟨h1, h2, h3, h4, h5⟩ := (runCells_ok_iff km spec lay params inputs cells outs i ss os).mp h
  constructor
  · refine List.ext_getElem (by simp only [List.length_map, h1]) fun k hk _ => ?_
    simp only [List.length_map] at hk
    obtain ⟨s', o', hc, e, _⟩ := h4 k (h1 ▸ hk) (by omega)
    rw [List.getElem?_eq_getElem hk] at e
    simp only [List.getElem_map, Option.some.inj e, (cellStep_shape hc).1]
  · refine List.ext_getElem? fun k => ?_
    simp only [List.getElem?_map]
    by_cases hk : k < cells.length
    · obtain ⟨s', o', hc, _, e⟩ := h4 k hk (by omega)
      rw [e, List.getElem?_eq_getElem (show k < outs.length by omega)]
      exact congrArg some (cellStep_shape hc).2
    · rw [h5 k (by omega)]

/-- the state array a run starts from: the caller's, or `InitialiseStates(nCells)` -/
def startStates (km : KModel α) (spec : ParamSpec) (lay : List (Nat × Nat)) (x : RunIn α) : Except String (List (List α)) :=
  match x.states with
  | some s => pure s
  | none => initStates km spec lay x.params x.nCells

theorem run_eq (km : KModel α) (spec : ParamSpec) (x : RunIn α) :
    run km spec x = (do
      let lay ← layout spec x.params
      let states ← startStates km spec lay x
      let (ss, os) ← runCells km spec lay x.params x.inputs 0 states x.outputs
      pure { outputs := os, states := ss }) := by
  unfold run startStates
  cases x.states <;> rfl

theorem run_ok_iff (km : KModel α) (spec : ParamSpec) (x : RunIn α) (r : RunOut α) :
    run km spec x = .ok r ↔
      ∃ lay states, layout spec x.params = .ok lay ∧ startStates km spec lay x = .ok states ∧
        runCells km spec lay x.params x.inputs 0 states x.outputs = .ok (r.states, r.outputs) := by
  rw [run_eq]
  simp only [Except.bind_eq_ok]
  exact ⟨fun ⟨lay, hl, states, hs, so, hr, h⟩ => ⟨lay, states, hl, hs, by cases h; exact hr⟩,
    fun ⟨lay, states, hl, hs, hr⟩ => ⟨lay, hl, states, hs, _, hr, rfl⟩⟩

end OW.Sim
