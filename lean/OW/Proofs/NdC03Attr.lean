import Lean.Meta.Tactic.Simp.RegisterCommand

/-- evaluating one `stepOp` of `NdC03Prog` on given array lookups and operation results: the interpreter and the
`Except` monad operations. (A module of its own: an attribute cannot be used in the file that registers it.) -/
register_simp_attr step_eval
