import OW.Num
import OW.Proofs.RealNumAttr
import Mathlib.Analysis.SpecialFunctions.Pow.Real
import Mathlib.Analysis.SpecialFunctions.Log.Base
import Mathlib.Analysis.SpecialFunctions.Sqrt
import Mathlib.Analysis.Complex.Trigonometric
/-!
The `ℝ` instance of `Num`: every field is the Mathlib operation, so a kernel unfolded at `ℝ` is ordinary
real arithmetic. Theorems proved through this instance are about EXACT real arithmetic; IEEE rounding,
overflow and NaN are modelled by execution only (the `Float` instance).
-/
namespace OW

noncomputable instance instNumReal : Num ℝ where
  toAdd := inferInstance
  toSub := inferInstance
  toMul := inferInstance
  toDiv := inferInstance
  toNeg := inferInstance
  toLT := inferInstance
  toLE := inferInstance
  toOfScientific := inferInstance
  default := 0
  decLt := fun _ _ => Classical.propDecidable _
  decLe := fun _ _ => Classical.propDecidable _
  feq := fun a b => @decide (a = b) (Classical.propDecidable _)
  zero := 0
  one := 1
  ofNat := fun n => (n : ℝ)
  ofInt := fun n => (n : ℝ)
  exp := Real.exp
  pow := fun x y => x ^ y
  log := Real.log
  log10 := Real.logb 10
  tanh := Real.tanh
  cos := Real.cos
  sqrt := Real.sqrt
  abs := fun x => |x|
  floor := fun x => (⌊x⌋ : ℝ)
  ceil := fun x => (⌈x⌉ : ℝ)
  toInt := fun x => if 0 ≤ x then ⌊x⌋ else ⌈x⌉
  isNaN := fun _ => false
  nan := 0
  gmin := min
  gmax := max

namespace RealNum

@[simp] theorem ofNat_eq (n : Nat) : (@OfNat.ofNat ℝ n (Num.instOfNat n)) = (n : ℝ) := rfl


@[simp] theorem zero_eq : (Num.zero : ℝ) = 0 := rfl
@[simp] theorem one_eq : (Num.one : ℝ) = 1 := rfl
@[simp] theorem gmin_eq (a b : ℝ) : Num.gmin a b = min a b := rfl
@[simp] theorem gmax_eq (a b : ℝ) : Num.gmax a b = max a b := rfl
@[simp] theorem exp_eq (a : ℝ) : Num.exp a = Real.exp a := rfl
@[simp] theorem pow_eq (a b : ℝ) : Num.pow a b = a ^ b := rfl
@[simp] theorem tanh_eq (a : ℝ) : Num.tanh a = Real.tanh a := rfl
@[simp] theorem abs_eq (a : ℝ) : Num.abs a = |a| := rfl
@[simp] theorem sqrt_eq (a : ℝ) : Num.sqrt a = Real.sqrt a := rfl
@[simp] theorem isNaN_eq (a : ℝ) : Num.isNaN a = false := rfl
@[simp] theorem feq_eq (a b : ℝ) : (Num.feq a b = true) ↔ a = b := by
  simp [Num.feq]

theorem toInt_intCast (n : ℤ) : Num.toInt ((n : ℤ) : ℝ) = n := by
  show (if (0 : ℝ) ≤ (n : ℝ) then ⌊(n : ℝ)⌋ else ⌈(n : ℝ)⌉) = n
  split_ifs
  · exact Int.floor_intCast n
  · exact Int.ceil_intCast n

theorem pmin_eq (a b : ℝ) : Num.pmin a b = min a b := by
  unfold Num.pmin; split_ifs with h
  · exact (min_eq_right (le_of_lt h)).symm
  · exact (min_eq_left (not_lt.mp h)).symm

theorem pmax_eq (a b : ℝ) : Num.pmax a b = max a b := by
  unfold Num.pmax; split_ifs with h
  · exact (max_eq_left (le_of_lt h)).symm
  · exact (max_eq_right (not_lt.mp h)).symm

theorem toInt_natCast (n : ℕ) : Num.toInt ((n : ℕ) : ℝ) = (n : Int) := toInt_intCast n
theorem toInt_floor (x : ℝ) : Num.toInt (Num.floor x : ℝ) = ⌊x⌋ := toInt_intCast ⌊x⌋
theorem ofInt_eq (n : ℤ) : (Num.ofInt n : ℝ) = (n : ℝ) := rfl
theorem numOfNat_eq (n : ℕ) : (Num.ofNat n : ℝ) = (n : ℝ) := rfl
/-- `int(float64(n)) = n` over ℝ (at `Float` the round-trip is exact for n < 2^53; covered by execution) -/
theorem toInt_ofNat (n : ℕ) : Num.toInt (Num.ofNat n : ℝ) = (n : ℤ) := toInt_natCast n
theorem toInt_ceil (y : ℝ) : (Num.toInt (Num.ceil y : ℝ)).toNat = ⌈y⌉₊ := congrArg Int.toNat (toInt_intCast ⌈y⌉)

/-! ### literals
A numeral `n` written in a `[Num α]` kernel is `@OfNat.ofNat α n (Num.instOfNat n)`, a literal `0.0` is
`@OfScientific.ofScientific α Num.toOfScientific 0 true 1`; at `ℝ` they are the ordinary numerals. There are two normal forms.
`ofNat_eq` (above) goes to the cast `(n : ℝ)`; `norm_num only` or `Nat.cast_ofNat` after the `simp only` then gives the numeral
(inside the same simp set the two loop on numerals ≥ 2). `ofNat_lit`, `lit0`, `lit1` go straight to the numeral and are the ones
in `realnum`: `ofNat_lit` has the standard numeral on its right, which its left side also matches (the instances unify) but
rewrites to itself, so `simp` stops. -/

theorem ofNat_lit (n : Nat) [n.AtLeastTwo] : (@OfNat.ofNat ℝ n (Num.instOfNat n)) = (OfNat.ofNat n : ℝ) := rfl
theorem lit0 : (@OfNat.ofNat ℝ 0 (Num.instOfNat 0)) = (0 : ℝ) := Nat.cast_zero
theorem lit1 : (@OfNat.ofNat ℝ 1 (Num.instOfNat 1)) = (1 : ℝ) := Nat.cast_one
/-- `0.0`, `1.0`; stated with the standard instance, they also rewrite the kernels' own literals (the instances unify) -/
theorem sci_zero : (0.0 : ℝ) = 0 := by norm_num
theorem sci_one : (1.0 : ℝ) = 1 := by norm_num
theorem sci_two : (2.0 : ℝ) = 2 := by norm_num
theorem sci_100 : (100.0 : ℝ) = 100 := by norm_num
theorem sci_1000 : (1000.0 : ℝ) = 1000 := by norm_num
theorem sci_001 : (0.01 : ℝ) = 1 / 100 := by norm_num
theorem sci_0001 : (0.001 : ℝ) = 1 / 1000 := by norm_num

theorem mul_div_hundred_le {v rh : ℝ} (hv : 0 ≤ v) (hrh : rh ≤ 100) : v * rh / 100 ≤ v :=
  div_le_of_le_mul₀ (by norm_num) hv (mul_le_mul_of_nonneg_left hrh hv)

end RealNum

/-! ### The `Num ℝ` operations are the ordinary real operations
A kernel unfolded at `ℝ` mentions `+ - * / < ≤` and literals through the projections of `instNumReal`. These unfold to the
standard instances at the transparency at which tactics compare instances, so `ring`, `linarith`, `norm_num`, `positivity` and
`rw` / `simp only` with lemmas about the standard operations work on such a term as it stands; what they do not know are the
named fields (`Num.pow`, `Num.tanh`, `Num.gmax`, `Num.ofNat`, …), which the `_eq` lemmas above rewrite. A proof may therefore
rewrite the named fields and the literals only and leave the operators (C10 / C15 for SURM, SIMHYD, GR4J do). The `rfl` lemmas
below also make the operators the standard ones, for a goal that is to be read or matched as ordinary real arithmetic; with the
lemmas above they make the simp set `realnum`, which terminates in one pass: `simp only [defs…, realnum]`. `0.0`, `1.0` are not
in the set (`sci_zero`, `sci_one` are given beside it where wanted). The namespace `C12.N` is that of one of the properties whose
proofs use the set (C12, C16, C06, Sacramento); the lemmas are about `Num ℝ`, not about that property. -/
namespace C12.N
theorem add (a b : ℝ) : @HAdd.hAdd ℝ ℝ ℝ (@instHAdd ℝ (Num.toAdd)) a b = a + b := rfl
theorem sub (a b : ℝ) : @HSub.hSub ℝ ℝ ℝ (@instHSub ℝ (Num.toSub)) a b = a - b := rfl
theorem mul (a b : ℝ) : @HMul.hMul ℝ ℝ ℝ (@instHMul ℝ (Num.toMul)) a b = a * b := rfl
theorem div (a b : ℝ) : @HDiv.hDiv ℝ ℝ ℝ (@instHDiv ℝ (Num.toDiv)) a b = a / b := rfl
theorem neg (a : ℝ) : @Neg.neg ℝ (Num.toNeg) a = -a := rfl
theorem lt (a b : ℝ) : @LT.lt ℝ (Num.toLT) a b = (a < b) := rfl
theorem le (a b : ℝ) : @LE.le ℝ (Num.toLE) a b = (a ≤ b) := rfl
theorem sci (m : Nat) (s : Bool) (e : Nat) :
    @OfScientific.ofScientific ℝ (Num.toOfScientific) m s e = (OfScientific.ofScientific m s e : ℝ) := rfl
end C12.N

attribute [realnum] C12.N.add C12.N.sub C12.N.mul C12.N.div C12.N.neg C12.N.lt C12.N.le C12.N.sci
  RealNum.ofNat_lit RealNum.lit0 RealNum.lit1 RealNum.zero_eq RealNum.one_eq RealNum.gmin_eq RealNum.gmax_eq RealNum.exp_eq
  RealNum.pow_eq RealNum.abs_eq RealNum.tanh_eq RealNum.sqrt_eq RealNum.pmin_eq RealNum.pmax_eq gt_iff_lt ge_iff_le

namespace C12
/-- the `realnum` set applied to the goal and to every hypothesis -/
macro "realnum" : tactic => `(tactic| try simp only [realnum] at *)
end C12

end OW
