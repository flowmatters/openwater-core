import OW.Proofs.ScanModel
import OW.Proofs.Lag
/-!
Hot-start continuity of the `Lag` kernel: the delay buffer is the state row, and lagging `a ++ b` from a buffer equals
lagging `a`, then lagging `b` from the buffer left by `a`. Pure list theory (no Mathlib). The list lemmas continue the
namespace `OW.Proofs.Lag` of OW/Proofs/Lag.lean (`run_append` there is about `Lag.run`; the law of the same name is a field of
`KLoop.Lawful`); the loop `Lag.loop`, its laws and `restartable_Lag` are in `OW.Kernels` like the loops of the other models.
-/
namespace OW.Proofs.Lag
open OW OW.Kernels.Lag

variable {α : Type} [Inhabited α]

theorem lagCore_append (lag : Nat) (ia ib lagged : List α) (za zb zab : List α)
    (hza : za.length = ia.length) (hzb : zb.length = ib.length) (hzab : zab.length = (ia ++ ib).length)
    (hlen : lag ≤ lagged.length) :
    (lagCore lag (ia ++ ib) lagged zab).outflow =
        (lagCore lag ia lagged za).outflow ++ (lagCore lag ib (lagCore lag ia lagged za).lagged zb).outflow ∧
    (lagCore lag (ia ++ ib) lagged zab).lagged = (lagCore lag ib (lagCore lag ia lagged za).lagged zb).lagged := by
  have oA := lagCore_outflow_eq lag ia lagged za hza hlen
  have lA := lagCore_lagged_eq lag ia lagged za hlen
  -- the buffer left by the first part: its first `lag` cells are the rest of the stream, the others are untouched
  have hM : ia.length ≤ (lagged.take lag ++ ia).length := by rw [List.length_append]; omega
  have hd : ((lagged.take lag ++ ia).drop ia.length).length = lag := by
    rw [List.length_drop, List.length_append, List.length_take, Nat.min_eq_left hlen]; omega
  have tA : (lagCore lag ia lagged za).lagged.take lag = (lagged.take lag ++ ia).drop ia.length := by
    rw [lA, List.take_left' hd]
  have dA : (lagCore lag ia lagged za).lagged.drop lag = lagged.drop lag := by
    rw [lA, List.drop_left' hd]
  have hB : lag ≤ (lagCore lag ia lagged za).lagged.length := by rw [lA, List.length_append, hd]; omega
  have oB := lagCore_outflow_eq lag ib (lagCore lag ia lagged za).lagged zb hzb hB
  have lB := lagCore_lagged_eq lag ib (lagCore lag ia lagged za).lagged zb hB
  have oW := lagCore_outflow_eq lag (ia ++ ib) lagged zab hzab hlen
  have lW := lagCore_lagged_eq lag (ia ++ ib) lagged zab hlen
  rw [oW, lW, oA, oB, lB, tA, dA, ← List.append_assoc, List.length_append]
  constructor
  · rw [List.take_add, List.take_append_of_le_length hM, List.drop_append_of_le_length hM]
  · rw [← List.drop_drop, List.drop_append_of_le_length hM]

theorem run_append {α : Type} [Num α] (tl : α) (ia ib st : List α) (r₁ r₂ : Out α)
    (h₁ : run tl ia st = .ok r₁) (h₂ : run tl ib r₁.lagged = .ok r₂) :
    run tl (ia ++ ib) st = .ok ⟨r₁.outflow ++ r₂.outflow, r₂.lagged⟩ := by
  rcases run_ok_cases h₁ with ⟨h0, rfl⟩ | ⟨hp, hs, rfl⟩
  · rw [run_zero h0] at h₂ ⊢
    cases h₂
    rfl
  · rw [run_pos hp (by rw [(lagCore_length _ ia st _).2]; exact hs)] at h₂
    cases h₂
    obtain ⟨e1, e2⟩ := lagCore_append (Num.toInt tl).toNat ia ib st (zeros ia.length) (zeros ib.length)
      (zeros (ia ++ ib).length) (by simp [zeros]) (by simp [zeros]) (by simp [zeros]) hs
    rw [run_pos hp hs, ← e1, ← e2]

end OW.Proofs.Lag

namespace OW.Kernels
open OW OW.Proofs.Lag
variable {α : Type} [Num α]

/-- `lag` on a whole series: an action of the inflow series on the delay buffer, which is the state row -/
abbrev Lag.loop (tl : α) : KLoop α where
  σ := List α
  rows := rows1
  run := fun st x => (Lag.run tl x st).map fun o => (o.lagged, o.outflow)
  outs := [id]
  enc := fun st => st

/-- whether `lag` panics depends on the lag and the length of the buffer, which it keeps -/
theorem Lag.run_ok_of {tl : α} {x st : List α} {r : Lag.Out α} (h : Lag.run tl x st = .ok r) (y : List α) :
    r.outflow.length = x.length ∧ (∃ r', Lag.run tl y st = .ok r') ∧ ∃ r', Lag.run tl y r.lagged = .ok r' := by
  rcases run_ok_cases h with ⟨h0, rfl⟩ | ⟨hp, hs, rfl⟩
  · exact ⟨rfl, ⟨_, run_zero h0 _ _⟩, _, run_zero h0 _ _⟩
  · exact ⟨(lagCore_length _ x st _).1.trans (zeros_length _), ⟨_, run_pos hp hs _⟩, _,
      run_pos hp (by rw [(lagCore_length _ x st _).2]; exact hs) _⟩

theorem Lag.loop_lawful (tl : α) : (Lag.loop tl).Lawful 1 where
  rows := rows1_lawful
  run_append := fun (s : List α) (x y : List α) r₁ h₁ => by
    obtain ⟨q, hx, rfl⟩ := Except.map_eq_ok.mp h₁
    obtain ⟨-, -, q', hy⟩ := Lag.run_ok_of hx y
    show (Lag.run tl (x ++ y) s).map _ = ((Lag.run tl y q.lagged).map _).map _
    rw [run_append tl x y s q q' hx hy, hy]
    rfl
  run_prefix := fun (s : List α) (x y : List α) r h => by
    obtain ⟨q, hw, -⟩ := Except.map_eq_ok.mp h
    obtain ⟨-, ⟨q', hx⟩, -⟩ := Lag.run_ok_of hw x
    exact ⟨_, Except.map_eq_ok.mpr ⟨q', hx, rfl⟩⟩
  run_length := fun (s : List α) (x : List α) r h => by
    obtain ⟨q, hx, rfl⟩ := Except.map_eq_ok.mp h
    exact (Lag.run_ok_of hx []).1

/-- the delay buffer (the state row, also when it is longer than the lag) is the whole memory -/
theorem restartable_Lag : Restartable (Lag.model (α := α)) := by
  refine restartable_of_enc fun p ins st o h => ?_
  unfold Lag.model at h
  dsimp only at h
  split at h
  next tl inflow =>
    refine ⟨Lag.loop tl, st, Lag.loop_lawful tl, rfl, fun s' => KModel.runsFrom_zero fun ins' hk => ?_⟩
    match ins', hk with
    | [a'], _ =>
      simp only [Lag.model, KLoop.call, KLoop.series, rows1, List.map_cons, List.map_nil]
      cases Lag.run tl a' s' <;> simp only [Except.map, List.map_id] <;> rfl
  next => cases h

end OW.Kernels
