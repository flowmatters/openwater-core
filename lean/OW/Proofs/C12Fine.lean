import OW.Proofs.C12Lumped
import OW.Kernels.InstreamFineSediment
import Mathlib.Tactic.LinearCombination
/-!
C12 helpers: `instreamFineSediment` (with `floodPlainDepositionEmperical`, `inChannelStorage`) over ℝ; at the end, the
channel-store invariant that hot-start continuity (C06) needs.
-/
namespace OW.C12
open OW OW.Kernels
open InstreamFineSediment (Params)

theorem floodPlain_eq (q total bff vfl fpa : ℝ) :
    InstreamFineSediment.floodPlainDepositionEmperical q total bff vfl fpa =
      if q ≤ bff ∨ bff = 0 then 0
      else if total < total * ((q - bff) / q) * (1 - Real.exp (-1 * (vfl * fpa / (q - bff)))) then total
      else total * ((q - bff) / q) * (1 - Real.exp (-1 * (vfl * fpa / (q - bff)))) := by
  simp only [InstreamFineSediment.floodPlainDepositionEmperical, realnum, RealNum.feq_eq, Bool.or_eq_true,
    decide_eq_true_eq, RealNum.sci_zero, RealNum.sci_one]

theorem fine_bff_pos {bff : ℝ} (hmain : ¬ bff ≤ 1e-8) : 0 < bff := lt_trans (by norm_num) (not_le.mp hmain)

/-- Where the guard `outflow <= bankFullFlow || bankFullFlow == 0` of the floodplain formula is false, its two divisors
`outflow` and `Qf = outflow − bankFullFlow` are positive. -/
theorem fine_floodplain_divisors {q bff : ℝ} (hbff : 0 < bff) (h : ¬ (q ≤ bff ∨ bff = 0)) : 0 < q ∧ 0 < q - bff :=
  have hq : bff < q := not_le.mp fun hle => h (Or.inl hle)
  ⟨hbff.trans hq, sub_pos.mpr hq⟩

theorem fine_floodplain_bounds {q total bff vfl fpa fp : ℝ}
    (h : fp = InstreamFineSediment.floodPlainDepositionEmperical q total bff vfl fpa) (hbff : 0 < bff) (hvfl : 0 ≤ vfl)
    (hfpa : 0 ≤ fpa) (ht : 0 ≤ total) : 0 ≤ fp ∧ fp ≤ total := by
  rw [h, floodPlain_eq]
  split_ifs with h h2
  · exact ⟨le_rfl, ht⟩
  · exact ⟨ht, le_rfl⟩
  · obtain ⟨hq, hqf⟩ := fine_floodplain_divisors hbff h
    have hexp : Real.exp (-1 * (vfl * fpa / (q - bff))) ≤ 1 := by
      rw [Real.exp_le_one_iff]
      have := div_nonneg (mul_nonneg hvfl hfpa) hqf.le
      linarith
    exact ⟨mul_nonneg (mul_nonneg ht (div_nonneg hqf.le hq.le)) (sub_nonneg.mpr hexp), not_lt.mp h2⟩

/-- the divisor of the transport-capacity formula `stc` -/
theorem fine_stc_divisor_pos (v w n : ℝ) (hv : 0 < v) (hw : 0 < w) (hn : 0 < n) :
    0 < v * w ^ (0.4 : ℝ) * n ^ (0.6 : ℝ) :=
  mul_pos (mul_pos hv (Real.rpow_pos_of_pos hw _)) (Real.rpow_pos_of_pos hn _)

theorem fine_stc_nonneg (q slope v w n : ℝ) (hq : 0 ≤ q) (hs : 0 ≤ slope) (hv : 0 < v) (hw : 0 < w) (hn : 0 < n) :
    0 ≤ InstreamFineSediment.stc q slope v w n := by
  simp only [InstreamFineSediment.stc, realnum]
  have hd := fine_stc_divisor_pos v w n hv hw hn
  have h1 : 0 ≤ q ^ (1.4 : ℝ) * slope ^ (1.3 : ℝ) := mul_nonneg (Real.rpow_nonneg hq _) (Real.rpow_nonneg hs _)
  exact mul_nonneg (div_nonneg (mul_nonneg (by norm_num) h1) (le_of_lt hd)) (by norm_num)

/-- `propTotalStreamFootprint = 1` is multiplied out. -/
theorem inChannel_eq (q tv t1 cs w slope n vs vr maxS : ℝ) :
    InstreamFineSediment.inChannelStorage q tv t1 cs w slope n vs vr maxS =
      if tv ≤ 0 then 0
      else if InstreamFineSediment.stc q slope vs w n < t1 * (1 / 1000) then
        min ((t1 * (1 / 1000) - InstreamFineSediment.stc q slope vs w n) * 1000) (maxS - cs)
      else if t1 * (1 / 1000) < InstreamFineSediment.stc q slope vr w n then
        -min ((InstreamFineSediment.stc q slope vr w n - t1 * (1 / 1000)) * 1000) cs
      else 0 := by
  simp only [InstreamFineSediment.inChannelStorage, realnum, RealNum.sci_zero, RealNum.sci_one, RealNum.sci_0001,
    RealNum.sci_1000, one_mul, mul_one]

/-- The channel-store side of the net deposition (negative = remobilisation). It holds whatever the transport capacities
are, hence also for parameters out of range. -/
theorem fine_inChannel_store {q tv t1 cs w slope n vs vr maxS net : ℝ}
    (h : net = InstreamFineSediment.inChannelStorage q tv t1 cs w slope n vs vr maxS) (hcs : 0 ≤ cs) (hmax : 0 ≤ maxS) :
    -net ≤ cs ∧ cs + net ≤ max cs maxS := by
  rw [h, inChannel_eq]
  generalize InstreamFineSediment.stc q slope vs w n = A
  generalize InstreamFineSediment.stc q slope vr w n = B
  have hzero : -(0 : ℝ) ≤ cs ∧ cs + 0 ≤ max cs maxS := ⟨by rwa [neg_zero], by rw [add_zero]; exact le_max_left _ _⟩
  split_ifs with h1 h2 h3
  · exact hzero
  · -- deposition: the excess over the capacity `A`, capped by the room left
    refine ⟨?_, le_trans (by linarith only [min_le_right ((t1 * (1 / 1000) - A) * 1000) (maxS - cs)])
      (le_max_right cs maxS)⟩
    rcases min_choice ((t1 * (1 / 1000) - A) * 1000) (maxS - cs) with hm | hm <;> rw [hm]
    · linarith only [h2, hcs]
    · linarith only [hmax]
  · -- remobilisation: the deficit below the capacity `B`, capped by what the store holds
    have h0 : 0 ≤ min ((B - t1 * (1 / 1000)) * 1000) cs := le_min (by linarith only [h3]) hcs
    exact ⟨by rw [neg_neg]; exact min_le_right _ _, le_trans (by linarith only [h0]) (le_max_left cs maxS)⟩
  · exact hzero

/-- The in-stream side. It needs the deposition capacity non-negative (`fine_stc_nonneg`), hence parameters in range. -/
theorem fine_inChannel_le_mass {q tv t1 cs w slope n vs vr maxS net : ℝ}
    (h : net = InstreamFineSediment.inChannelStorage q tv t1 cs w slope n vs vr maxS) (hq : 0 ≤ q) (hsl : 0 ≤ slope)
    (hw : 0 < w) (hn : 0 < n) (hvs : 0 < vs) (_hvr : 0 < vr) (ht1 : 0 ≤ t1) (hcs : 0 ≤ cs) : net ≤ t1 := by
  rw [h, inChannel_eq]
  have hA := fine_stc_nonneg q slope vs w n hq hsl hvs hw hn
  generalize InstreamFineSediment.stc q slope vs w n = A at hA ⊢
  generalize InstreamFineSediment.stc q slope vr w n = B
  split_ifs with h1 h2 h3
  · exact ht1
  · linarith only [min_le_left ((t1 * (1 / 1000) - A) * 1000) (maxS - cs), hA]
  · have h0 : 0 ≤ min ((B - t1 * (1 / 1000)) * 1000) cs := le_min (by linarith only [h3]) hcs
    linarith only [h0, ht1]
  · exact ht1

/-- Parameter ranges under which the non-negativity statements hold (all physical: flows, velocities, areas and
geometry non-negative; the factors of the divisors of the two transport capacities — settling velocity, remobilisation
velocity, width, roughness — strictly positive; a positive time step). -/
structure FineRange (p : Params ℝ) : Prop where
  bff : 0 ≤ p.bankFullFlow
  vfl : 0 ≤ p.fineSedSettVelocityFlood
  fpa : 0 ≤ p.floodPlainArea
  width : 0 < p.linkWidth
  slope : 0 ≤ p.linkSlope
  n : 0 < p.manningsN
  vs : 0 < p.fineSedSettVelocity
  vr : 0 < p.fineSedReMobVelocity
  maxS : 0 ≤ InstreamFineSediment.maxStorage p
  dt : 0 < p.durationInSeconds

/-- Main path. `pf`, `pc` are the two ratio outputs (`floodplainDepositionFraction`, `channelDepositionFraction`), of which
nothing is claimed; `dry` is the code's `¬ totalVolume > 0`. -/
theorem fine_stepMain_eq (p : Params ℝ) (cs s up lat loc vol q : ℝ) :
    ∃ T fp net pf pc m, T = s + (up + lat + loc) * p.durationInSeconds ∧
      fp = InstreamFineSediment.floodPlainDepositionEmperical q T p.bankFullFlow p.fineSedSettVelocityFlood
        p.floodPlainArea ∧
      net = InstreamFineSediment.inChannelStorage q (vol + q * p.durationInSeconds) (T - fp) cs p.linkWidth p.linkSlope
        p.manningsN p.fineSedSettVelocity p.fineSedReMobVelocity (InstreamFineSediment.maxStorage p) ∧
      m = mix (¬ 0 < vol + q * p.durationInSeconds) (T - fp - net) (vol + q * p.durationInSeconds) q vol ∧
      InstreamFineSediment.stepMain p (cs, s) (up, lat, loc, vol, q) =
        ((cs + net, m.1), ⟨m.2.1, fp / p.durationInSeconds, net, pf, pc, m.2.2⟩) := by
  refine ⟨_, _, _, (InstreamFineSediment.stepMain p (cs, s) (up, lat, loc, vol, q)).2.floodplainDepositionFraction,
    (InstreamFineSediment.stepMain p (cs, s) (up, lat, loc, vol, q)).2.channelDepositionFraction, _, rfl, rfl, rfl,
    rfl, ?_⟩
  simp only [InstreamFineSediment.stepMain, realnum, RealNum.sci_zero, mix]
  split_ifs <;> rfl

/-- What the run-level theorems use of one step of the fine-sediment loop, on either path, from the stores
`st = (channel, in-stream)` on the input `x = (up, lat, loc, vol, q)` with result `r`. In `budget`, Δt is the divisor of
`loadToFloodplain`; in `flushed`, the main path drops mass only with no water at all. -/
structure FineStep (p : Params ℝ) (st : ℝ × ℝ) (x : ℝ × ℝ × ℝ × ℝ × ℝ) (r : (ℝ × ℝ) × InstreamFineSediment.Out ℝ) :
    Prop where
  budget : p.durationInSeconds ≠ 0 → st.2 + (x.1 + x.2.1 + x.2.2.1) * p.durationInSeconds =
    r.1.2 + (r.2.loadDownstream * p.durationInSeconds + r.2.loadToFloodplain * p.durationInSeconds +
      r.2.loadToChannelDeposition + r.2.flushed)
  store : r.1.1 = st.1 + r.2.loadToChannelDeposition
  flushed : r.2.flushed ≠ 0 → x.2.2.2.1 + x.2.2.2.2 * p.durationInSeconds < 0.01 ∧
    (¬ p.bankFullFlow ≤ 1e-8 → x.2.2.2.1 + x.2.2.2.2 * p.durationInSeconds ≤ 0)
  store_nonneg : 0 ≤ InstreamFineSediment.maxStorage p → 0 ≤ st.1 → 0 ≤ r.1.1
  nonneg : FineRange p → 0 ≤ st.1 ∧ 0 ≤ st.2 →
    0 ≤ x.1 ∧ 0 ≤ x.2.1 ∧ 0 ≤ x.2.2.1 ∧ 0 ≤ x.2.2.2.1 ∧ 0 ≤ x.2.2.2.2 →
    (0 ≤ r.1.1 ∧ 0 ≤ r.1.2) ∧ 0 ≤ r.2.loadDownstream ∧ 0 ≤ r.2.loadToFloodplain ∧ 0 ≤ r.2.flushed ∧
      -r.2.loadToChannelDeposition ≤ st.1 ∧
      st.1 + r.2.loadToChannelDeposition ≤ max st.1 (InstreamFineSediment.maxStorage p)

/-- Main path: the budget is pure algebra, whatever the floodplain and channel exchanges are (`totalVolume > 0` on the
branch that divides by it). -/
theorem fine_stepMain (p : Params ℝ) (hmain : ¬ p.bankFullFlow ≤ 1e-8) (st : ℝ × ℝ) (x : ℝ × ℝ × ℝ × ℝ × ℝ) :
    FineStep p st x (InstreamFineSediment.stepMain p st x) := by
  obtain ⟨cs, s⟩ := st
  obtain ⟨up, lat, loc, vol, q⟩ := x
  obtain ⟨T, fp, net, pf, pc, m, hT, hfp, hnet, hm, e⟩ := fine_stepMain_eq p cs s up lat loc vol q
  obtain ⟨mb, mf, mn⟩ := mix_facts hm not_not.mp (add_comm vol _)
  rw [e]
  refine ⟨fun hdt => ?_, rfl, fun hf => ?_, fun hmax hcs => ?_, fun hr ⟨hcs, hs⟩ ⟨hup, hlat, hloc, hvol, hq⟩ => ?_⟩
  · rw [← hT]; linear_combination mb - div_mul_cancel₀ fp hdt
  · have := not_lt.mp (mf hf)
    exact ⟨lt_of_le_of_lt this (by norm_num), fun _ => this⟩
  · linarith only [(fine_inChannel_store hnet hcs hmax).1]
  · have hT0 : 0 ≤ T := by
      rw [hT]
      exact add_nonneg hs (mul_nonneg (add_nonneg (add_nonneg hup hlat) hloc) hr.dt.le)
    obtain ⟨fp0, fp1⟩ := fine_floodplain_bounds hfp (fine_bff_pos hmain) hr.vfl hr.fpa hT0
    have n1 := fine_inChannel_le_mass hnet hq hr.slope hr.width hr.n hr.vs hr.vr (sub_nonneg.mpr fp1) hcs
    obtain ⟨n2, n3⟩ := fine_inChannel_store hnet hcs hr.maxS
    obtain ⟨m1, m2, m3⟩ := mn (sub_nonneg.mpr n1) hq hvol
    exact ⟨⟨by linarith only [n2], m1⟩, m2, div_nonneg fp0 hr.dt.le, m3, n2, n3⟩

theorem fine_lumped_iff (p : Params ℝ) : InstreamFineSediment.lumped p = true ↔ p.bankFullFlow ≤ 1e-8 := by
  unfold InstreamFineSediment.lumped
  rw [decide_eq_true_eq]

theorem fine_step_lumped (p : Params ℝ) (h : p.bankFullFlow ≤ 1e-8) :
    InstreamFineSediment.step p = InstreamFineSediment.stepLumped p ∧
    ∀ st, InstreamFineSediment.start p st = st := by
  have hL := (fine_lumped_iff p).mpr h
  unfold InstreamFineSediment.step InstreamFineSediment.start
  simp [hL]

theorem fine_step_main (p : Params ℝ) (h : ¬ p.bankFullFlow ≤ 1e-8) :
    InstreamFineSediment.step p = InstreamFineSediment.stepMain p ∧
    ∀ st, InstreamFineSediment.start p st = (InstreamFineSediment.initStore p st.1, st.2) := by
  have hL : InstreamFineSediment.lumped p = false := by
    cases hb : InstreamFineSediment.lumped p with
    | false => rfl
    | true => exact absurd ((fine_lumped_iff p).mp hb) h
  unfold InstreamFineSediment.step InstreamFineSediment.start
  simp [hL]

/-- A negative given state stands for a proportion of the maximum (`math.Abs(channelStoreFine) * maxStorage`). -/
theorem fine_initStore_nonneg (p : Params ℝ) (hmax : 0 ≤ InstreamFineSediment.maxStorage p) (cs0 : ℝ) :
    0 ≤ InstreamFineSediment.initStore p cs0 := by
  unfold InstreamFineSediment.initStore
  split_ifs with h
  · simp only [realnum]
    exact mul_nonneg (abs_nonneg _) hmax
  · simp only [realnum, RealNum.sci_zero] at h
    exact not_lt.mp h

/-- bank-full-flow-0 path: the lumped step on `lateral + local`, the channel store untouched -/
theorem fine_stepLumped (p : Params ℝ) (hl : p.bankFullFlow ≤ 1e-8) (st : ℝ × ℝ) (x : ℝ × ℝ × ℝ × ℝ × ℝ) :
    FineStep p st x (InstreamFineSediment.stepLumped p st x) := by
  obtain ⟨cs, s⟩ := st
  obtain ⟨up, lat, loc, vol, q⟩ := x
  obtain ⟨h1, h2, h3⟩ := lumped_step 0 p.durationInSeconds s (up, lat + loc, q, vol)
  simp only [InstreamFineSediment.stepLumped, realnum, RealNum.sci_zero]
  refine ⟨fun _ => ?_, (add_zero _).symm, fun hf => ⟨by have := h2 hf; linarith, fun hn => absurd hl hn⟩, fun _ hcs => hcs,
    fun hr ⟨b, a⟩ ⟨c, d, e, g, h⟩ => ?_⟩
  · linear_combination h1
  · obtain ⟨n1, n2, n3⟩ := h3 ⟨le_rfl, hr.dt.le⟩ a ⟨c, add_nonneg d e, h, g⟩
    exact ⟨⟨b, n1⟩, n2, le_rfl, n3, by rwa [neg_zero], by rw [add_zero]; exact le_max_left _ _⟩

theorem fine_step (p : Params ℝ) (st : ℝ × ℝ) (x : ℝ × ℝ × ℝ × ℝ × ℝ) :
    FineStep p st x (InstreamFineSediment.step p st x) := by
  by_cases hl : p.bankFullFlow ≤ 1e-8
  · rw [(fine_step_lumped p hl).1]; exact fine_stepLumped p hl st x
  · rw [(fine_step_main p hl).1]; exact fine_stepMain p hl st x

/-- For hot-start continuity (C06): on the main path, with a non-negative maximum channel storage, the channel store stays
non-negative along a run, so the "negative initial value = fraction of the maximum storage" conversion at the start of a call
never fires on a carried state. (The bank-full-flow-0 path returns the channel store as given.) -/
theorem fine_run_store_nonneg (p : Params ℝ) (hm : 0 ≤ InstreamFineSediment.maxStorage p)
    (hl : InstreamFineSediment.lumped p = false) (st : ℝ × ℝ) (xs : List (ℝ × ℝ × ℝ × ℝ × ℝ)) :
    0 ≤ (InstreamFineSediment.run p st xs).1.1 := by
  have hmain : ¬ p.bankFullFlow ≤ 1e-8 := fun h => Bool.false_ne_true (hl.symm.trans ((fine_lumped_iff p).mpr h))
  refine (scan_inv (Inv := fun st => 0 ≤ st.1) (P := fun _ => True)
    (fun st x hs _ => ⟨(fine_step p st x).store_nonneg hm hs, trivial⟩) ?_ fun _ _ => trivial).1
  rw [(fine_step_main p hmain).2]
  exact fine_initStore_nonneg p hm _

end OW.C12
