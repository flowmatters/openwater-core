import OW.Proofs.ScanModel
import OW.Kernels.GR4J
/-!
Hot-start lemmas for GR4J (C06): the two unit-hydrograph stores keep their lengths through the day loop, and the row
`packGR4JStates` writes for such a state has the layout `extractGR4JStates` cuts up, given the two lengths. Hence the day loop
(`GR4J.loop`, named for the proofs) is restartable once the two store sizes survive being read back from the row:
`restartableWhen_GR4J`, under the side condition `Props.C06.IntRoundTripUpToRow`, which stands here because the shape lemma
states it. No Mathlib (through OW.Proofs.ScanModel the list basics of Batteries).
-/
namespace OW.Proofs.GR4JHot
open OW OW.Kernels.GR4J
variable {α : Type} [Num α]

theorem uh1_length (x4 : α) (n : Nat) : (uh1 x4 n).length = n := by simp [uh1]
theorem uh2_length (x4 : α) (n : Nat) : (uh2 x4 n).length = n := by simp [uh2]

theorem shift_addUH_length (pr f : α) (q uh : List α) (n : Nat) (hq : q.length = n) (hu : uh.length = n) (hn : 0 < n) :
    (shift (addUH pr f q uh)).length = n := by
  simp only [shift, addUH, List.length_append, List.length_tail, List.length_zipWith, hq, hu, List.length_cons,
    List.length_nil]
  omega

theorem step_len (x1 x2 x3 x4 : α) (n1 n2 : Nat) (h1 : 0 < n1) (h2 : 0 < n2) (st : State α) (i : α × α)
    (hq1 : st.q1.length = n2) (hq9 : st.q9.length = n1) :
    (step x1 x2 x3 (uh1 x4 n1) (uh2 x4 n2) st i).1.q1.length = n2 ∧
    (step x1 x2 x3 (uh1 x4 n1) (uh2 x4 n2) st i).1.q9.length = n1 := by
  simp only [step]
  exact ⟨shift_addUH_length _ _ _ _ n2 hq1 (uh2_length x4 n2) h2, shift_addUH_length _ _ _ _ n1 hq9 (uh1_length x4 n1) h1⟩

theorem run_len (x1 x2 x3 x4 : α) (n1 n2 : Nat) (h1 : 0 < n1) (h2 : 0 < n2) (xs : List (α × α)) (st : State α)
    (hq1 : st.q1.length = n2) (hq9 : st.q9.length = n1) :
    (run x1 x2 x3 x4 n1 n2 st xs).1.q1.length = n2 ∧ (run x1 x2 x3 x4 n1 n2 st xs).1.q9.length = n1 := by
  unfold run
  induction xs generalizing st with
  | nil => exact ⟨hq1, hq9⟩
  | cons x xs ih =>
    simp only [scan]
    obtain ⟨a, b⟩ := step_len x1 x2 x3 x4 n1 n2 h1 h2 st x hq1 hq9
    exact ih _ a b

/-- `rest` is cut at the GIVEN `n2`, `n1`: reading them back from the row with `int(…)` is not part of this statement (it is the
law `IntRoundTrip` of OW/Props/C06.lean). -/
theorem roundtrip_GR4J (st : State α) (n1 n2 : Nat) (hq1 : st.q1.length = n2) (hq9 : st.q9.length = n1) :
    ∃ n1f n2f rest, pack st n1 n2 = st.S :: st.R :: n1f :: n2f :: rest ∧ n1f = Num.ofNat n1 ∧ n2f = Num.ofNat n2 ∧
      rest.length = n1 + n2 ∧ (⟨st.S, st.R, rest.take n2, (rest.drop n2).take n1⟩ : State α) = st := by
  refine ⟨_, _, st.q1 ++ st.q9, rfl, rfl, rfl, by simp [hq1, hq9, Nat.add_comm], ?_⟩
  obtain ⟨S, R, q1, q9⟩ := st
  simp only at hq1 hq9
  simp [← hq1, ← hq9]

theorem model_run_row (x1 x2 x3 x4 s r n1f n2f : α) (rest rain pet : List α) (N1 N2 : Nat)
    (h1 : Num.toInt n1f = N1) (h2 : Num.toInt n2f = N2) (hp1 : 0 < N1) (hp2 : 0 < N2) (hr : N1 + N2 ≤ rest.length) :
    (model (α := α)).run [x1, x2, x3, x4] [rain, pet] (s :: r :: n1f :: n2f :: rest) =
      .ok { outputs := [(run x1 x2 x3 x4 N1 N2 ⟨s, r, rest.take N2, (rest.drop N2).take N1⟩ (rain.zip pet)).2.map (·.runoff)],
            states := pack (run x1 x2 x3 x4 N1 N2 ⟨s, r, rest.take N2, (rest.drop N2).take N1⟩ (rain.zip pet)).1 N1 N2,
            tags := dedup ((run x1 x2 x3 x4 N1 N2 ⟨s, r, rest.take N2, (rest.drop N2).take N1⟩ (rain.zip pet)).2.flatMap (·.tags)) ++
              ["n1=" ++ toString N1, "n2=" ++ toString N2] } := by
  simp only [model, h1, h2, Int.toNat_natCast]
  rw [if_neg (by omega), if_neg (by omega)]

end OW.Proofs.GR4JHot

namespace OW.Props.C06

variable {α : Type} [Num α]

/-- side condition for GR4J: the arithmetic round-trips the integers up to the length of the state row the call starts from (the
two store sizes are among them). The statements of `hotstart_GR4J_bounded`, `hotstartN_GR4J_bounded` write it out. -/
def IntRoundTripUpToRow (_p st _s : List α) : Prop := ∀ n : Nat, n ≤ st.length → Num.toInt (Num.ofNat n : α) = (n : Int)

end OW.Props.C06

namespace OW.Kernels
open OW OW.Proofs OW.Props.C06

variable {α : Type} [Num α]

/-- the day loop of GR4J for unit-hydrograph stores of `N1`, `N2` cells -/
abbrev GR4J.loop (x1 x2 x3 x4 : α) (N1 N2 : Nat) : KLoop α :=
  KLoop.ofScan rows2 (GR4J.step x1 x2 x3 (GR4J.uh1 x4 N1) (GR4J.uh2 x4 N2)) [(·.runoff)] (fun t => GR4J.pack t N1 N2)

theorem GR4J.runsFrom_row (x1 x2 x3 x4 s r n1f n2f : α) (rest : List α) (N1 N2 : Nat)
    (h1 : Num.toInt n1f = N1) (h2 : Num.toInt n2f = N2) (hp1 : 0 < N1) (hp2 : 0 < N2) (hr : N1 + N2 ≤ rest.length) :
    (GR4J.model (α := α)).RunsFrom [x1, x2, x3, x4] 2 0 (GR4J.loop x1 x2 x3 x4 N1 N2)
      (s :: r :: n1f :: n2f :: rest) ⟨s, r, rest.take N2, (rest.drop N2).take N1⟩ :=
  KModel.runsFrom_total fun f =>
    ⟨_, GR4JHot.model_run_row x1 x2 x3 x4 s r n1f n2f rest (f 0) (f 1) N1 N2 h1 h2 hp1 hp2 hr, rfl, rfl⟩

/-- GR4J needs the round trip only for the two store sizes `n1`, `n2`, and `n1 + n2 + 4` is at most the length of the
state row. -/
theorem restartableWhen_GR4J :
    RestartableWhen 0 (GR4J.model (α := α)) IntRoundTripUpToRow := by
  refine restartableWhen_of_loop fun p ins st o h => ?_
  unfold GR4J.model at h
  dsimp only at h
  split at h
  next x1 x2 x3 x4 rain pet s r n1f n2f rest =>
    -- the model's two panicking guards were not taken: both store lengths are positive, the state row holds both stores
    obtain ⟨hn, h⟩ := Except.ite_error_eq_ok.mp h
    obtain ⟨hr, -⟩ := Except.ite_error_eq_ok.mp h
    generalize hN1 : (Num.toInt n1f).toNat = N1 at hr
    generalize hN2 : (Num.toInt n2f).toNat = N2 at hr
    have hp1 : 0 < N1 := by omega
    have hp2 : 0 < N2 := by omega
    -- a state whose stores have their lengths is recovered from its packed row
    have hre : ∀ t : GR4J.State α, t.q1.length = N2 ∧ t.q9.length = N1 →
        (∀ n : Nat, n ≤ (s :: r :: n1f :: n2f :: rest).length → Num.toInt (Num.ofNat n : α) = (n : Int)) →
        (GR4J.model (α := α)).RunsFrom [x1, x2, x3, x4] 2 0 (GR4J.loop x1 x2 x3 x4 N1 N2) (GR4J.pack t N1 N2) t := by
      intro t hlen hc
      obtain ⟨m1, m2, rest', hpk, rfl, rfl, hrl, hback⟩ := GR4JHot.roundtrip_GR4J t N1 N2 hlen.1 hlen.2
      have := GR4J.runsFrom_row x1 x2 x3 x4 t.S t.R (Num.ofNat N1) (Num.ofNat N2) rest' N1 N2
        (hc N1 (by simp only [List.length_cons]; omega)) (hc N2 (by simp only [List.length_cons]; omega)) hp1 hp2 (by omega)
      rwa [hback, ← hpk] at this
    exact ⟨GR4J.loop x1 x2 x3 x4 N1 N2, _, KLoop.ofScan_lawful rows2_lawful _ _ _,
      GR4J.runsFrom_row x1 x2 x3 x4 s r n1f n2f rest N1 N2 (by omega) (by omega) hp1 hp2 (by omega), fun x r' hx hc => by
      cases hx
      exact hre _ (GR4JHot.run_len x1 x2 x3 x4 N1 N2 hp1 hp2 x _ (by simp only [List.length_take]; omega)
        (by simp only [List.length_take, List.length_drop]; omega)) hc⟩
  next => cases h

end OW.Kernels
