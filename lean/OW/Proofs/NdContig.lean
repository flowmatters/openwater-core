import OW.Proofs.NdInts
/-!
The `Contiguous()` loop (C02, Part B). Per dimension `(d, D, s, o)` = view extent, allocated extent, cumulative step, root stride.
The Go loop runs from the last dimension, so its state after a suffix of the dimensions is a right fold, `loopState`, which
`View.contigLoop` computes (`contigLoop_bridge`). It runs through iff the view is `Dense` (`loopState_dense`), and the view is
`Dense` iff every in-bounds index is addressed at `Start` plus its row-major rank (`dense_addr` / `addr_dense`; for a view
with its verdict: `contig_addr` / `contiguous_of_addr`, and from it the window `[Start, Start + Π dims)` of a contiguous view inside
the allocated shape, `contig_window`). A root view runs through whatever its extents, 0 included (`loopState_root`,
`contiguous_rootView`: computed on `Regular`, without `Geo`).
-/
namespace OW.NdC02
open OW.Nd

/-- per-dimension facts of a reachable view: `1 ≤ d ≤ D`, `s ≥ 1` (parallel lists dims / orig / step) -/
def GeoL : Idx → Idx → Idx → Prop
  | [], [], [] => True
  | d :: ds, D :: Ds, s :: ss => 1 ≤ d ∧ d ≤ D ∧ 1 ≤ s ∧ GeoL ds Ds ss
  | _, _, _ => False

theorem GeoL.lengths {ds Ds ss : Idx} (h : GeoL ds Ds ss) : Ds.length = ds.length ∧ ss.length = ds.length := by
  fun_induction GeoL ds Ds ss with
  | case1 => simp
  | case2 d ds D Ds s ss ih => simp [ih h.2.2.2]
  | case3 => exact h.elim

theorem GeoL.pos {ds Ds ss : Idx} (h : GeoL ds Ds ss) : Pos ds := by
  fun_induction GeoL ds Ds ss with
  | case1 => simp [Pos]
  | case2 d ds D Ds s ss ih => exact Pos.cons h.1 (ih h.2.2.2)
  | case3 => exact h.elim

theorem GeoL.posOrig {ds Ds ss : Idx} (h : GeoL ds Ds ss) : Pos Ds := by
  fun_induction GeoL ds Ds ss with
  | case1 => simp [Pos]
  | case2 d ds D Ds s ss ih => exact Pos.cons (Int.le_trans h.1 h.2.1) (ih h.2.2.2)
  | case3 => exact h.elim

theorem GeoL.prod_le {ds Ds ss : Idx} (h : GeoL ds Ds ss) :
    product ds ≤ product Ds ∧ (product ds = product Ds → ds = Ds) := by
  fun_induction GeoL ds Ds ss with
  | case1 => simp
  | case2 d ds D Ds s ss ih =>
    obtain ⟨h1, h2, _, h4⟩ := h
    obtain ⟨le, eq⟩ := ih h4
    have p1 := product_pos h4.pos
    -- `d·Πds ≤ d·ΠDs ≤ D·ΠDs`, and equality of the ends forces equality at both steps
    have l1 : d * product ds ≤ d * product Ds := Int.mul_le_mul_of_nonneg_left le (by omega)
    have l2 : d * product Ds ≤ D * product Ds := Int.mul_le_mul_of_nonneg_right h2 (by omega)
    simp only [product_cons]
    refine ⟨Int.le_trans l1 l2, fun e => ?_⟩
    have hp : product ds = product Ds := Int.eq_of_mul_eq_mul_left (by omega) (by omega : d * product ds = d * product Ds)
    have hd : d = D := Int.eq_of_mul_eq_mul_right (by omega) (by omega : d * product Ds = D * product Ds)
    rw [hd, eq hp]
  | case3 => exact h.elim

end OW.NdC02

namespace OW.Nd
open OW.NdC02

/-- a dimension with more than one element has step 1 and all later dimensions are taken whole -/
def Dense : Idx → Idx → Idx → Prop
  | d :: ds, _ :: Ds, s :: ss => Dense ds Ds ss ∧ (d > 1 → s = 1 ∧ ds = Ds)
  | _, _, _ => True

/-- `(contiguousOffset, dimsMustBeOne)` after the loop has run over these (trailing) dimensions; `none` = returned false -/
def loopState : Idx → Idx → Idx → Idx → Option (Int × Bool)
  | d :: ds, D :: Ds, s :: ss, o :: os =>
    match loopState ds Ds ss os with
    | none => none
    | some (co, must) =>
      if d > 1 ∧ (must = true ∨ s > 1 ∨ o > co) then none else some (co * d, must || (d != D))
  | _, _, _, _ => some (1, false)

theorem loopState_cons_none (d D s o : Int) {ds Ds ss os : Idx} (h : loopState ds Ds ss os = none) :
    loopState (d :: ds) (D :: Ds) (s :: ss) (o :: os) = none := by
  rw [loopState, h]

theorem loopState_cons_some (d D s o : Int) {ds Ds ss os : Idx} {co : Int} {must : Bool}
    (h : loopState ds Ds ss os = some (co, must)) :
    loopState (d :: ds) (D :: Ds) (s :: ss) (o :: os) =
      if d > 1 ∧ (must = true ∨ s > 1 ∨ o > co) then none else some (co * d, must || (d != D)) := by
  rw [loopState, h]

theorem loopState_dense {ds Ds ss : Idx} (h : GeoL ds Ds ss) :
    (Dense ds Ds ss → loopState ds Ds ss (offsetsT Ds) = some (product ds, decide (ds ≠ Ds))) ∧
    (¬ Dense ds Ds ss → loopState ds Ds ss (offsetsT Ds) = none) := by
  fun_induction GeoL ds Ds ss with
  | case1 => simp [loopState, Dense]
  | case3 => exact h.elim
  | case2 d ds D Ds s ss ih =>
    obtain ⟨h1, h2, h3, h4⟩ := h
    obtain ⟨ihd, ihn⟩ := ih h4
    rw [offsetsT_cons]
    by_cases hD : Dense ds Ds ss
    · rw [loopState_cons_some _ _ _ _ (ihd hD)]
      have hstop : (d > 1 ∧ (decide (ds ≠ Ds) = true ∨ s > 1 ∨ product Ds > product ds)) ↔
          ¬ (d > 1 → s = 1 ∧ ds = Ds) := by
        by_cases heq : ds = Ds
        · subst heq; simp; omega
        · simp [heq]
      by_cases hx : d > 1 → s = 1 ∧ ds = Ds
      · rw [if_neg (hstop.not.mpr (not_not.mpr hx)), Int.mul_comm]
        refine ⟨fun _ => ?_, fun hh => absurd ⟨hD, hx⟩ hh⟩
        by_cases hdD : d = D <;> by_cases heq : ds = Ds <;> simp [hdD, heq]
      · rw [if_pos (hstop.mpr hx)]
        exact ⟨fun hh => absurd hh.2 hx, fun _ => rfl⟩
    · rw [loopState_cons_none _ _ _ _ (ihn hD)]
      exact ⟨fun hh => absurd hh.1 hD, fun _ => rfl⟩

theorem dense_addr {ds Ds ss : Idx} (h : GeoL ds Ds ss) (hD : Dense ds Ds ss) :
    ∀ idx, InBounds idx ds → dot idx (mulL ss (offsetsT Ds)) = ravel idx ds := by
  fun_induction GeoL ds Ds ss with
  | case1 => intro idx hi; cases idx <;> simp_all [ravel]
  | case3 => exact h.elim
  | case2 d ds D Ds s ss ih =>
    intro idx hi
    cases idx with
    | nil => exact hi.elim
    | cons i is =>
      obtain ⟨i0, i1, i2⟩ := hi
      rw [offsetsT_cons, mulL_cons, dot_cons, ravel_cons, ih h.2.2.2 hD.1 is i2]
      by_cases hgt : d > 1
      · obtain ⟨hs, heq⟩ := hD.2 hgt
        rw [hs, heq, Int.one_mul]
      · have : i = 0 := by omega
        rw [this, Int.zero_mul, Int.zero_mul]

theorem addr_dense {ds Ds ss : Idx} (h : GeoL ds Ds ss)
    (ha : ∀ idx, InBounds idx ds → dot idx (mulL ss (offsetsT Ds)) = ravel idx ds) : Dense ds Ds ss := by
  fun_induction GeoL ds Ds ss with
  | case1 => trivial
  | case3 => exact h.elim
  | case2 d ds D Ds s ss ih =>
    obtain ⟨h1, h2, h3, h4⟩ := h
    simp only [offsetsT_cons, mulL_cons] at ha
    refine ⟨ih h4 fun is hi => ?_, fun hgt => ?_⟩
    · simpa [ravel] using ha (0 :: is) ⟨by omega, by omega, hi⟩
    · -- the address of `(1, 0, …, 0)` is `s·ΠDs`, its rank `Πds ≤ ΠDs`
      have e := ha (1 :: uniform ds.length 0) ⟨by omega, by omega, inBounds_zeros h4.pos⟩
      simp only [dot_cons, ravel_cons, dot_zeros, ravel_zeros, Int.one_mul, Int.add_zero] at e
      obtain ⟨le, eq⟩ := h4.prod_le
      have p2 := product_pos h4.posOrig
      have l1 : 1 * product Ds ≤ s * product Ds := Int.mul_le_mul_of_nonneg_right h3 (by omega)
      exact ⟨Int.eq_one_of_mul_eq_self_left (by omega) (by omega : s * product Ds = product Ds), eq (by omega)⟩

theorem contigLoop_succ (v : View) (i : Nat) (co : Int) (must : Bool) {d D s o : Int}
    (g1 : v.dims[i]? = some d) (g2 : v.orig[i]? = some D) (g3 : v.step[i]? = some s) (g4 : v.offset[i]? = some o) :
    v.contigLoop (i + 1) co must =
      if d > 1 ∧ (must = true ∨ s > 1 ∨ o > co) then .ok false
      else v.contigLoop i (co * d) (must || (d != D)) := by
  simp only [View.contigLoop, g1, g2, g3, g4]
  by_cases hgt : d > 1
  · cases must
    · by_cases hs : s > 1
      · simp [hgt, hs]
      · by_cases ho : o > co <;> simp [hgt, hs, ho]
    · simp [hgt]
  · simp [hgt]

theorem loopState_none_prop (a b c e : Idx) (i : Nat) (ha : i ≤ a.length) (hb : b.length = a.length)
    (hc : c.length = a.length) (he : e.length = a.length)
    (hn : loopState (a.drop i) (b.drop i) (c.drop i) (e.drop i) = none) : loopState a b c e = none := by
  induction i with
  | zero => exact hn
  | succ i ih =>
    have i1 : i < a.length := ha
    have i2 : i < b.length := hb ▸ i1
    have i3 : i < c.length := hc ▸ i1
    have i4 : i < e.length := he ▸ i1
    apply ih (Nat.le_of_lt i1)
    rw [List.drop_eq_getElem_cons i1, List.drop_eq_getElem_cons i2, List.drop_eq_getElem_cons i3,
      List.drop_eq_getElem_cons i4, loopState_cons_none _ _ _ _ hn]

theorem contigLoop_bridge (v : View) (hb : v.orig.length = v.dims.length)
    (hc : v.step.length = v.dims.length) (he : v.offset.length = v.dims.length) :
    ∀ i, i ≤ v.dims.length → ∀ co must,
      loopState (v.dims.drop i) (v.orig.drop i) (v.step.drop i) (v.offset.drop i) = some (co, must) →
      v.contigLoop i co must = .ok (loopState v.dims v.orig v.step v.offset).isSome := by
  intro i
  induction i with
  | zero =>
    intro _ co must hs
    rw [View.contigLoop, show loopState v.dims v.orig v.step v.offset = some (co, must) from hs]
    rfl
  | succ i ih =>
    intro hi co must hs
    have i1 : i < v.dims.length := hi
    have i2 : i < v.orig.length := hb ▸ i1
    have i3 : i < v.step.length := hc ▸ i1
    have i4 : i < v.offset.length := he ▸ i1
    have hstep := loopState_cons_some v.dims[i] v.orig[i] v.step[i] v.offset[i] hs
    rw [← List.drop_eq_getElem_cons i1, ← List.drop_eq_getElem_cons i2, ← List.drop_eq_getElem_cons i3,
      ← List.drop_eq_getElem_cons i4] at hstep
    rw [contigLoop_succ v i co must (List.getElem?_eq_getElem i1) (List.getElem?_eq_getElem i2)
      (List.getElem?_eq_getElem i3) (List.getElem?_eq_getElem i4)]
    split at hstep
    · rw [if_pos ‹_›, loopState_none_prop _ _ _ _ i (by omega) hb hc he hstep]
      rfl
    · rw [if_neg ‹_›]
      exact ih (by omega) _ _ hstep

theorem Regular.contiguous_loopState {v : View} (r : Regular v) :
    v.contiguous = .ok (loopState v.dims v.orig v.step v.offset).isSome := by
  rw [View.contiguous, contigLoop_bridge v r.rank_orig r.rank_step r.rank_offset v.dims.length (Nat.le_refl _) 1 false
    (by rw [List.drop_length]; rfl)]

theorem loopState_root : ∀ (dims : Idx),
    loopState dims dims (uniform dims.length 1) (offsetsT dims) = some (product dims, false)
  | [] => rfl
  | d :: ds => by
    rw [List.length_cons, uniform_succ, offsetsT_cons]
    simp only [loopState, loopState_root ds]
    rw [if_neg (by simp)]
    simp [product, Int.mul_comm]

theorem contiguous_rootView (dims : Idx) (st : Int) : (rootView dims st).contiguous = .ok true :=
  (rootView_regular dims st).contiguous_loopState.trans (by
    show Except.ok (loopState dims dims (uniform dims.length 1) (offsetsT dims)).isSome = _
    rw [loopState_root]
    rfl)

theorem geoL_of_sliceOK {Ds b ds ss : Idx} (h : SliceOK Ds b ds ss) : GeoL ds Ds ss :=
  match Ds, b, ds, ss, h with
  | [], [], [], [], _ => trivial
  | _ :: _, _ :: _, d :: _, s :: _, ⟨h0, hd, hs, hlt, h⟩ => by
    have : (d - 1) * 1 ≤ (d - 1) * s := Int.mul_le_mul_of_nonneg_left hs (by omega)
    exact ⟨hd, by omega, hs, geoL_of_sliceOK h⟩

theorem geoL_of_geo {v : View} (g : Geo v) : GeoL v.dims v.orig v.step := by
  obtain ⟨b, hb, _⟩ := g.box
  exact geoL_of_sliceOK hb

theorem contiguous_eq {v : View} (g : Geo v) :
    (Dense v.dims v.orig v.step → v.contiguous = .ok true) ∧
    (¬ Dense v.dims v.orig v.step → v.contiguous = .ok false) := by
  have gl := geoL_of_geo g
  rw [g.regular.contiguous_loopState, g.offset_eq]
  obtain ⟨hd, hn⟩ := loopState_dense gl
  exact ⟨fun h => by rw [hd h]; rfl, fun h => by rw [hn h]; rfl⟩

theorem dense_of_contiguous {v : View} (g : Geo v) (hc : v.contiguous = .ok true) : Dense v.dims v.orig v.step := by
  by_contra hne
  rw [(contiguous_eq g).2 hne] at hc
  exact absurd hc (by simp)

theorem Geo.contiguous_total {v : View} (g : Geo v) : ∃ b, v.contiguous = .ok b := ⟨_, g.regular.contiguous_loopState⟩

theorem contig_addr {v : View} (g : Geo v) (hc : v.contiguous = .ok true) {idx : Idx} (hi : InBounds idx v.dims) :
    addr v idx = v.start + ravel idx v.dims := by
  rw [addr, g.offStep_eq, g.offset_eq, dense_addr (geoL_of_geo g) (dense_of_contiguous g hc) idx hi]

theorem contiguous_of_addr {v : View} (g : Geo v)
    (ha : ∀ idx, InBounds idx v.dims → addr v idx = v.start + ravel idx v.dims) : v.contiguous = .ok true :=
  (contiguous_eq g).1 (addr_dense (geoL_of_geo g) fun idx ib => by
    have := ha idx ib
    rw [addr, g.offStep_eq, g.offset_eq] at this
    omega)

theorem contig_index {v : View} (g : Geo v) (hc : v.contiguous = .ok true) {k : Int} (k0 : 0 ≤ k) (k1 : k < product v.dims) :
    v.index (unravel k v.dims) = .ok (v.start + k) := by
  have ib := unravel_inBounds _ _ g.pos_dims k0 k1
  rw [index_addr g _ (Nat.le_of_eq ib.length), contig_addr g hc ib, ravel_unravel_lt k0 k1]

theorem inBounds_decrement {d : Idx} (hp : Pos d) : InBounds (decrement d) d := by
  induction d with
  | nil => simp [decrement]
  | cons y ys ih =>
    have := hp.head
    simp only [decrement, List.map_cons, InBounds_cons]
    exact ⟨by omega, by omega, ih (hp.tail)⟩

theorem ravel_decrement (d : Idx) : ravel (decrement d) d = product d - 1 := by
  induction d with
  | nil => rfl
  | cons y ys ih =>
    simp only [decrement, List.map_cons, ravel, product_cons] at *
    rw [ih]; ring

theorem contig_index_decrement {v : View} (g : Geo v) (hc : v.contiguous = .ok true) :
    v.index (decrement v.dims) = .ok (v.start + (product v.dims - 1)) := by
  have hi := inBounds_decrement g.pos_dims
  rw [index_addr g _ (Nat.le_of_eq hi.length), contig_addr g hc hi, ravel_decrement]

theorem contig_window {v : View} (g : Geo v) (hc : v.contiguous = .ok true) :
    0 ≤ v.start ∧ v.start + product v.dims ≤ product v.orig := by
  have b0 := addr_bounds g (inBounds_zeros g.pos_dims)
  have b1 := addr_bounds g (inBounds_decrement g.pos_dims)
  rw [contig_addr g hc (inBounds_zeros g.pos_dims), ravel_zeros] at b0
  rw [contig_addr g hc (inBounds_decrement g.pos_dims), ravel_decrement] at b1
  omega

end OW.Nd
