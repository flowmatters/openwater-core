import OW.Sim.WrapperNdTables
import OW.Proofs.WrapperNd
import OW.Proofs.WrapperScalar
/-!
Helper lemmas for `OW/Props/C04NdTables.lean`: the wrapper template with one-dimensional TABLE parameters. `OW.Sim.layout`
computes the template's `paramIdx` accumulation `tplRows` (`layout_go_tables`); the list-level decoder `cellParams.go` and the
view-level decoder `decodeNd` both return the closed-form column `entries` (`decoder_closed`).
-/
namespace OW.WrapperNd
open OW OW.Nd OW.Sim OW.Sim.WrapperNd

section
variable {α : Type} [Num α]

/-- a spec is well formed when every table refers to an EARLIER parameter that is a scalar (its dimension parameter) -/
def SpecWF (spec : ParamSpec) : Prop := ∀ j k : Nat, spec[j]? = some (some k) → k < j ∧ spec[k]? = some none

/-- `int(parameters.Slice([row,0],[1,nSets],nil).Maximum())`: the value `FindDimensions` reads back for a dimension
parameter stored in row `row` -/
def dimMaxZ (params : List (List α)) (row : Nat) : Int :=
  match maxOf ((params[row]?).getD []) with
  | some v => Num.toInt v
  | none => 0

/-- the size the template uses for parameter `p` -/
def paramSz (dims : Nat → Nat) : Option Nat → Nat
  | none => 1
  | some k => dims k

theorem tplRows_cons (dims : Nat → Nat) (p : Option Nat) (rest : ParamSpec) (idx : Nat) :
    tplRows dims (p :: rest) idx = (idx, paramSz dims p) :: tplRows dims rest (idx + paramSz dims p) := by
  cases p <;> rfl

theorem tplEnd_cons (dims : Nat → Nat) (p : Option Nat) (rest : ParamSpec) (idx : Nat) :
    tplEnd dims (p :: rest) idx = tplEnd dims rest (idx + paramSz dims p) := by
  cases p <;> rfl

theorem tplRows_length (dims : Nat → Nat) : ∀ (spec : ParamSpec) (idx : Nat), (tplRows dims spec idx).length = spec.length
  | [], _ => rfl
  | p :: rest, idx => by rw [tplRows_cons, List.length_cons, List.length_cons, tplRows_length dims rest]

theorem tplRows_append (dims : Nat → Nat) : ∀ (a b : ParamSpec) (idx : Nat),
    tplRows dims (a ++ b) idx = tplRows dims a idx ++ tplRows dims b (tplEnd dims a idx)
  | [], _, _ => rfl
  | p :: rest, b, idx => by
    rw [List.cons_append, tplRows_cons, tplRows_cons, tplEnd_cons, tplRows_append dims rest b, List.cons_append]

theorem tplEnd_append (dims : Nat → Nat) : ∀ (a b : ParamSpec) (idx : Nat),
    tplEnd dims (a ++ b) idx = tplEnd dims b (tplEnd dims a idx)
  | [], _, _ => rfl
  | p :: rest, b, idx => by rw [List.cons_append, tplEnd_cons, tplEnd_cons, tplEnd_append dims rest b]

theorem tplEnd_ge (dims : Nat → Nat) : ∀ (a : ParamSpec) (idx : Nat), idx ≤ tplEnd dims a idx
  | [], _ => Nat.le_refl _
  | p :: rest, idx => by rw [tplEnd_cons]; exact Nat.le_trans (Nat.le_add_right _ _) (tplEnd_ge dims rest _)

theorem tplRows_getElem? (dims : Nat → Nat) : ∀ (spec : ParamSpec) (idx j : Nat) (p : Option Nat) (row sz : Nat),
    spec[j]? = some p → (tplRows dims spec idx)[j]? = some (row, sz) →
    sz = paramSz dims p ∧ row + sz ≤ tplEnd dims spec idx
  | [], _, _, _, _, _, hp, _ => by simp at hp
  | q :: rest, idx, 0, p, row, sz, hp, hr => by
    rw [tplRows_cons, List.getElem?_cons_zero] at hr
    rw [List.getElem?_cons_zero] at hp
    obtain ⟨rfl, rfl⟩ := Prod.mk.inj (Option.some.inj hr)
    rw [tplEnd_cons, ← Option.some.inj hp]
    exact ⟨rfl, tplEnd_ge dims rest _⟩
  | q :: rest, idx, j + 1, p, row, sz, hp, hr => by
    rw [tplRows_cons, List.getElem?_cons_succ] at hr
    rw [List.getElem?_cons_succ] at hp
    rw [tplEnd_cons]
    exact tplRows_getElem? dims rest _ j p row sz hp hr

omit [Num α] in
theorem take_one_drop (params : List (List α)) (idx : Nat) (h : idx < params.length) :
    ((params.drop idx).take 1).flatten = (params[idx]?).getD [] := by
  rw [List.drop_eq_getElem_cons h, List.getElem?_eq_getElem h]
  simp only [List.take_succ_cons, List.take_zero, List.flatten_cons, List.flatten_nil, List.append_nil, Option.getD_some]

def rowOf (lay : List (Nat × Nat)) (k : Nat) : Nat := (lay[k]?.getD (0, 0)).1

omit [Num α] in
/-- an invariant "entry `k` of the values collected so far is `f k`, for the positions `k` that count (`C k`)" after one more value -/
theorem snoc_getElem? {β : Type} {vals : List β} {x : β} {f : Nat → Option β} {C : Nat → Prop} {n : Nat} (hl : vals.length = n)
    (hinv : ∀ k, k < n → C k → vals[k]? = f k) (hx : C n → some x = f n) :
    ∀ k, k < n + 1 → C k → (vals ++ [x])[k]? = f k := by
  subst hl
  intro k hk hc
  by_cases hk' : k < vals.length
  · rw [List.getElem?_append_left hk']; exact hinv k hk' hc
  · obtain rfl : k = vals.length := by omega
    rw [List.getElem?_append_right (Nat.le_refl _), Nat.sub_self, List.getElem?_cons_zero]; exact hx hc

/-- `layout.go` on a suffix of a well-formed spec, started in the state the template is in after the prefix: `maxv` holds, for
every scalar parameter done, the maximum of its row -/
theorem layout_go_tables (params : List (List α)) (dims : Nat → Nat) (spec : ParamSpec) (wf : SpecWF spec)
    (hd : ∀ j k : Nat, spec[j]? = some (some k) →
      ∃ row, (tplRows dims spec 0)[k]? = some (row, 1) ∧ dims k = (dimMaxZ params row).toNat)
    (hfit : tplEnd dims spec 0 ≤ params.length) :
    ∀ (suf pre : ParamSpec) (idx : Nat) (acc : List (Nat × Nat)) (maxv : List Int), spec = pre ++ suf →
      idx = tplEnd dims pre 0 → acc.reverse = tplRows dims pre 0 → maxv.length = pre.length →
      (∀ k, k < pre.length → spec[k]? = some none →
        maxv[k]? = some (dimMaxZ params (rowOf (tplRows dims spec 0) k))) →
      layout.go params suf idx acc maxv = .ok (tplRows dims spec 0) := by
  intro suf
  induction suf with
  | nil =>
    intro pre idx acc maxv hs _ hacc _ _
    simp only [List.append_nil] at hs
    subst hs
    simp [layout.go, hacc]
  | cons p rest ih =>
    intro pre idx acc maxv hs hidx hacc hlen hinv
    have hsp : spec[pre.length]? = some p := by rw [hs]; simp
    have hrowp : rowOf (tplRows dims spec 0) pre.length = idx := by
      rw [rowOf, hs, tplRows_append, List.getElem?_append_right (by rw [tplRows_length]), tplRows_length, Nat.sub_self, ← hidx,
        tplRows_cons, List.getElem?_cons_zero]
      rfl
    have hend : idx + paramSz dims p ≤ params.length := by
      have e : tplEnd dims spec 0 = tplEnd dims rest (idx + paramSz dims p) := by
        rw [hs, tplEnd_append, tplEnd_cons, ← hidx]
      have := tplEnd_ge dims rest (idx + paramSz dims p)
      omega
    have hrl : ((params.drop idx).take (paramSz dims p)).length = paramSz dims p := by
      simp only [List.length_take, List.length_drop]; omega
    -- `m` is the maximum `layout.go` stores for `p`
    have hnext : ∀ m : Int, (p = none → m = dimMaxZ params idx) →
        layout.go params rest (idx + paramSz dims p) ((idx, paramSz dims p) :: acc) (maxv ++ [m]) =
          .ok (tplRows dims spec 0) := fun m hm =>
      ih (pre ++ [p]) _ _ _ (by rw [hs]; simp) (by rw [tplEnd_append, ← hidx, tplEnd_cons]; rfl)
        (by rw [List.reverse_cons, hacc, tplRows_append, ← hidx, tplRows_cons]; rfl) (by simp [hlen])
        fun k hk => snoc_getElem? hlen hinv
          (fun hsk => by rw [hsp] at hsk; rw [hrowp, hm (Option.some.inj hsk)]) k (by simpa using hk)
    cases p with
    | none =>
      simp only [paramSz] at hend hrl hnext
      unfold layout.go
      simp only
      rw [if_neg (by omega)]
      exact hnext _ fun _ => by rw [take_one_drop params idx (by omega)]; rfl
    | some k =>
      obtain ⟨hk, hk2⟩ := wf _ _ hsp
      obtain ⟨row, hrow, hdk⟩ := hd _ _ hsp
      have hsz : (maxv.getD k 0).toNat = dims k := by
        rw [List.getD_eq_getElem?_getD, hinv k hk hk2, rowOf, hrow, hdk]; rfl
      simp only [paramSz] at hend hrl hnext
      unfold layout.go
      simp only [hsz]
      rw [if_neg (by omega)]
      exact hnext _ fun hp => nomatch hp

/-- `int(value of the dimension parameter stored in row rk, for cell i)`: the cell's own table length -/
def ownLenZ (params : List (List α)) (i rk : Nat) : Int :=
  match Props.C04.pick params i rk with
  | some v => Num.toInt v
  | none => 0

/-- the entries parameter `(p, (row, size))` contributes to the column of cell `i`: a scalar `parameters[row][i % nSets]`;
a table over dimension parameter `k` the elements `parameters[row + r][i % nSets]`, `r < ownLen_i` -/
def entries (params : List (List α)) (lay : List (Nat × Nat)) (i : Nat) : Option Nat × (Nat × Nat) → List α
  | (none, (row, _)) => (Props.C04.pick params i row).toList
  | (some k, (row, _)) =>
    (List.range (ownLenZ params i (rowOf lay k)).toNat).filterMap (fun r => Props.C04.pick params i (row + r))

omit [Num α] in
theorem table_col (params : List (List α)) (i row own : Nat)
    (h : ∀ r, r < own → (Props.C04.pick params i (row + r)).isSome) :
    ((params.drop row).take own).map (fun r => if r.length = 0 then none else r[i % r.length]?) =
      (List.range own).map (fun r => Props.C04.pick params i (row + r)) := by
  apply List.ext_getElem?
  intro r
  by_cases hr : r < own
  · have hp := h r hr
    simp only [List.getElem?_map, List.getElem?_take, if_pos hr, List.getElem?_drop, List.getElem?_range hr,
      Option.map_some]
    unfold Props.C04.pick at hp ⊢
    cases hq : params[row + r]? with
    | none => simp [hq] at hp
    | some rr => simp
  · rw [List.getElem?_eq_none (by simp; omega), List.getElem?_eq_none (by simp; omega)]

/-- the own length both decoders compute from the scalar values decoded so far: `int(vals[k])`, `k` a parameter NUMBER
(`cellParams.go` takes its `toNat`). `ownLenZ` reads the same value from the parameter array and takes the ROW of the dimension
parameter, `rowOf lay k`: `ownZ_eq`. -/
def ownZ (vals : List α) (k : Nat) : Int :=
  match vals[k]? with
  | some v => Num.toInt v
  | none => 0

theorem ownZ_eq {params : List (List α)} {i rk k : Nat} {vals : List α} (h : vals[k]? = Props.C04.pick params i rk) :
    ownZ vals k = ownLenZ params i rk := by
  unfold ownZ ownLenZ
  rw [h]

theorem go_table_step (params : List (List α)) (i k row size : Nat) (rest : List (Option Nat × (Nat × Nat)))
    (acc vals : List α) :
    cellParams.go params i ((some k, (row, size)) :: rest) acc vals =
      if (ownZ vals k).toNat > size then .error "index-out-of-range" else
      if (((params.drop row).take (ownZ vals k).toNat).map
          fun r => if r.length = 0 then none else r[i % r.length]?).any (·.isNone) then .error "index-out-of-range"
      else cellParams.go params i rest (acc ++ (((params.drop row).take (ownZ vals k).toNat).map
          fun r => if r.length = 0 then none else r[i % r.length]?).filterMap id) (vals ++ [Num.zero]) := by
  unfold ownZ
  conv => lhs; unfold cellParams.go
  simp only
  cases vals[k]? <;> rfl

/-- `go` walks `spec.zip lay` with the column `acc` built so far and the scalar values `vals` decoded so far (`cellParams.go` and
`decodeNd` are such decoders). The invariant: `vals` holds the cell's value of every scalar parameter done — which is what a
table step needs of its dimension parameter. -/
theorem decoder_closed (params : List (List α)) (i : Nat) (spec : ParamSpec) (lay : List (Nat × Nat)) (wf : SpecWF spec)
    (go : List (Option Nat × (Nat × Nat)) → List α → List α → Except String (List α))
    (hnil : ∀ acc vals, go [] acc vals = .ok acc)
    (hsc : ∀ (j row sz : Nat) rest acc vals, spec[j]? = some none → lay[j]? = some (row, sz) →
      ∃ v, Props.C04.pick params i row = some v ∧
        go ((none, (row, sz)) :: rest) acc vals = go rest (acc ++ [v]) (vals ++ [v]))
    (htb : ∀ (j k row sz : Nat) rest acc vals, spec[j]? = some (some k) → lay[j]? = some (row, sz) →
      vals[k]? = Props.C04.pick params i (rowOf lay k) →
      go ((some k, (row, sz)) :: rest) acc vals =
        go rest (acc ++ entries params lay i (some k, (row, sz))) (vals ++ [Num.zero])) :
    ∀ (suf done : List (Option Nat × (Nat × Nat))) (acc vals : List α), spec.zip lay = done ++ suf →
      vals.length = done.length →
      (∀ k : Nat, k < done.length → spec[k]? = some none → vals[k]? = Props.C04.pick params i (rowOf lay k)) →
      go suf acc vals = .ok (acc ++ suf.flatMap (entries params lay i)) := by
  intro suf
  induction suf with
  | nil => intro done acc vals _ _ _; simp [hnil]
  | cons e rest ih =>
    intro done acc vals hz hvl hinv
    obtain ⟨p, row, size⟩ := e
    have hj : (spec.zip lay)[done.length]? = some (p, (row, size)) := by rw [hz]; simp
    obtain ⟨hsp, hly⟩ := List.getElem?_zip_eq_some.mp hj
    have hz' : spec.zip lay = (done ++ [(p, (row, size))]) ++ rest := by rw [hz]; simp
    -- the invariant after this parameter, `x` being what was appended to `vals`
    have hinv' : ∀ x : α, (p = none → Props.C04.pick params i row = some x) → ∀ k : Nat,
        k < (done ++ [(p, (row, size))]).length → spec[k]? = some none →
        (vals ++ [x])[k]? = Props.C04.pick params i (rowOf lay k) := fun x hx k hk =>
      snoc_getElem? hvl hinv (fun hsk => by rw [hsp] at hsk; simp [rowOf, hly, hx (Option.some.inj hsk)]) k (by simpa using hk)
    cases p with
    | none =>
      obtain ⟨v, hv, hstep⟩ := hsc _ row size rest acc vals hsp hly
      rw [hstep, ih _ _ _ hz' (by simp [hvl]) (hinv' v fun _ => hv)]
      simp [entries, hv]
    | some k =>
      obtain ⟨hk, hk2⟩ := wf _ _ hsp
      rw [htb _ k row size rest acc vals hsp hly (hinv k hk hk2),
        ih _ _ _ hz' (by simp [hvl]) (hinv' _ fun hp => nomatch hp)]
      simp

omit [Num α] in
theorem pick_mat {pst : List α} {pb rows nSets i j : Nat} (hjr : j < rows) (hnS : 0 < nSets)
    (hfit : pb + j * nSets + nSets ≤ pst.length) :
    Props.C04.pick (mat pst pb rows nSets) i j = pst[pb + j * nSets + i % nSets]? := by
  have hmod : i % nSets < nSets := Nat.mod_lt _ hnS
  unfold Props.C04.pick
  rw [mat_getElem? _ _ _ _ _ hjr]
  simp only [rowAt_length hfit]
  rw [if_neg (by omega), rowAt_getElem? _ _ _ _ hmod]

omit [Num α] in
theorem scalar_pick {h : Heap α} {parameters : Arr} {rows nSets pb i j : Nat} {pst : List α}
    (rp : RootOn h parameters [(rows : Int), (nSets : Int)]) (hpb : parameters.base = (pb : Int))
    (hp : h[parameters.sid]? = some pst) (hjr : j < rows) :
    ∃ y, scalarParam h parameters (j : Int) (i : Int) = .ok y ∧ Props.C04.pick (mat pst pb rows nSets) i j = some y := by
  obtain ⟨_, hnS⟩ := pos2 rp.pos
  obtain ⟨x, hx, hc⟩ := scalarParam_eq rp (row := (j : Int)) (i := (i : Int)) (by omega) (by omega) (by omega)
  refine ⟨x, hx, ?_⟩
  have hfit := rp.row_fits hpb hp hjr
  have hpos : (parameters.base + ((j : Int) * nSets + (i : Int) % nSets)).toNat = pb + j * nSets + i % nSets := by
    rw [hpb]; omega
  rw [hpos] at hc
  simp only [cell, hp, Option.bind_some] at hc
  rw [pick_mat hjr (by omega) hfit, hc]

omit [Num α] in
theorem readLoop_filterMap {h : Heap α} {a : Arr} (g : Nat → Option α) :
    ∀ (n t0 : Nat), (∀ q, t0 ≤ q → q < t0 + n → ∃ y, get1 h a (q : Int) = .ok y ∧ g q = some y) →
      readLoop h a n (t0 : Int) = .ok ((List.range' t0 n).filterMap g)
  | 0, _, _ => rfl
  | n + 1, t0, hq => by
    obtain ⟨y, h1, h2⟩ := hq t0 (Nat.le_refl _) (by omega)
    have ih := readLoop_filterMap g n (t0 + 1) (fun q q0 q1 => hq q (by omega) (by omega))
    have e : ((t0 : Int) + 1) = ((t0 + 1 : Nat) : Int) := by omega
    simp only [readLoop, h1, e, ih, bind, Except.bind, pure, Except.pure, List.range'_succ, List.filterMap_cons, h2]

theorem decodeNd_table_step (h : Heap α) (parameters : Arr) (i : Int) (k row size : Nat)
    (rest : List (Option Nat × (Nat × Nat))) (acc vals : List α) :
    decodeNd h parameters i ((some k, (row, size)) :: rest) acc vals =
      (do let (h1, t) ← tableParam h parameters (row : Int) (size : Int) (ownZ vals k) i
          let col ← readTable h1 t (ownZ vals k).toNat
          decodeNd h parameters i rest (acc ++ col) (vals ++ [Num.zero])) := by
  unfold ownZ
  conv => lhs; unfold decodeNd
  cases vals[k]? <;> rfl

omit [Num α] in
theorem table_pick {h : Heap α} {parameters : Arr} {rows nSets pb i row size : Nat} {pst : List α} (ownLen : Int)
    (rp : RootOn h parameters [(rows : Int), (nSets : Int)]) (hpb : parameters.base = (pb : Int))
    (hp : h[parameters.sid]? = some pst) (hsz : 1 ≤ size) (hfit : row + size ≤ rows) (hown : ownLen.toNat ≤ size) :
    ∃ t, tableParam h parameters (row : Int) (size : Int) ownLen (i : Int) = .ok (h, t) ∧
      readTable h t ownLen.toNat =
        .ok ((List.range ownLen.toNat).filterMap (fun r => Props.C04.pick (mat pst pb rows nSets) i (row + r))) ∧
      ∀ r, r < ownLen.toNat → (Props.C04.pick (mat pst pb rows nSets) i (row + r)).isSome := by
  obtain ⟨_, hnS⟩ := pos2 rp.pos
  have hmodlt : i % nSets < nSets := Nat.mod_lt _ (by omega)
  obtain ⟨hc0, hc1⟩ := emod_range (i : Int) hnS
  obtain ⟨_, _, rt⟩ := paramView_table_eq (h := h) rp (row := (row : Int)) (maxLen := (size : Int)) (by omega) (by omega)
    (by omega)
  have he := tableParam_eq (h := h) (ownLen := ownLen) (i := (i : Int)) rp (row := (row : Int)) (maxLen := (size : Int))
    (by omega) (by omega) (by omega) (by omega)
  have key : ∀ r : Nat, r < ownLen.toNat → ∃ y,
      get1 h (tableArr parameters.sid (parameters.base + (row : Int) * nSets) size nSets ownLen ((i : Int) % nSets)) (r : Int) = .ok y ∧
      Props.C04.pick (mat pst pb rows nSets) i (row + r) = some y := by
    intro r hr
    obtain ⟨x, hx, _, hg1⟩ := tableArr_get (ownLen := ownLen) rt hc0 hc1 (r := (r : Int)) (by omega) (by omega)
    refine ⟨x, hg1, ?_⟩
    have hjr : row + r < rows := by omega
    have hfit' := rp.row_fits hpb hp hjr
    have hpos : (parameters.base + (row : Int) * nSets + ((i : Int) % nSets + (r : Int) * nSets)).toNat =
        pb + (row + r) * nSets + i % nSets := by
      rw [hpb]
      have e1 : ((pb + (row + r) * nSets + i % nSets : Nat) : Int) =
          (pb : Int) + (row : Int) * nSets + ((i : Int) % nSets + (r : Int) * nSets) := by push_cast; ring
      omega
    rw [hpos] at hx
    simp only [cell, hp, Option.bind_some] at hx
    rw [pick_mat hjr (by omega) hfit', hx]
  refine ⟨_, he, ?_, fun r hr => ?_⟩
  · unfold readTable
    have := readLoop_filterMap (h := h)
      (a := tableArr parameters.sid (parameters.base + (row : Int) * nSets) size nSets ownLen ((i : Int) % nSets))
      (fun r => Props.C04.pick (mat pst pb rows nSets) i (row + r)) ownLen.toNat 0
      (fun q _ q1 => key q (by omega))
    rw [List.range_eq_range']
    exact this
  · obtain ⟨y, _, hy⟩ := key r hr
    rw [hy]; rfl

end
end OW.WrapperNd
