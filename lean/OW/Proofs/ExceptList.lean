/-!
Inversion in `Except`: what a `bind` or `map` that returned (or failed) and a successful `List.mapM` went through; binds that agree
up to a projection. The one home of the development's general `Except` lemmas (two programs with the same first step: core
`bind_congr`). Core Lean only.
-/
namespace OW

theorem Except.bind_eq_ok {ε β γ : Type} {x : Except ε β} {f : β → Except ε γ} {c : γ} :
    x >>= f = .ok c ↔ ∃ b, x = .ok b ∧ f b = .ok c := by
  cases x with
  | error e => exact ⟨fun h => (nomatch h), fun ⟨_, h, _⟩ => (nomatch h)⟩
  | ok b => exact ⟨fun h => ⟨b, rfl, h⟩, fun ⟨_, h, hf⟩ => by cases h; exact hf⟩

theorem Except.bind_eq_error {ε β γ : Type} {x : Except ε β} {f : β → Except ε γ} {e : ε} :
    x >>= f = .error e ↔ x = .error e ∨ ∃ b, x = .ok b ∧ f b = .error e := by
  cases x with
  | error e' =>
    refine ⟨fun h => .inl (by cases h; rfl), fun h => ?_⟩
    obtain h | ⟨_, h, _⟩ := h
    · cases h
      rfl
    · cases h
  | ok b =>
    refine ⟨fun h => .inr ⟨b, rfl, h⟩, fun h => ?_⟩
    obtain h | ⟨_, h, hf⟩ := h
    · cases h
    · cases h
      exact hf

theorem Except.map_eq_ok {ε β γ : Type} {x : Except ε β} {f : β → γ} {c : γ} :
    x.map f = .ok c ↔ ∃ b, x = .ok b ∧ f b = c := by
  cases x with
  | error e => exact ⟨fun h => (nomatch h), fun ⟨_, h, _⟩ => (nomatch h)⟩
  | ok b => exact ⟨fun h => ⟨b, rfl, Except.ok.inj h⟩, fun ⟨_, h, hf⟩ => by cases h; exact congrArg Except.ok hf⟩

/-- a guard that panics (`if c { panic(…) }` before going on): a run that returned did not take it -/
theorem Except.ite_error_eq_ok {ε β : Type} {c : Prop} [Decidable c] {e : ε} {x : Except ε β} {r : β} :
    (if c then .error e else x) = .ok r ↔ ¬ c ∧ x = .ok r := by
  by_cases h : c <;> simp [h]

/-- the hypothesis has the form totality statements give it -/
theorem Except.ok_ne_error {ε β : Type} {x : Except ε β} {e : ε} (h : ∃ y, x = .ok y) : x ≠ .error e := by
  obtain ⟨y, rfl⟩ := h
  exact nofun

/-- a forward simulation between two computations in `Except` can be read backwards (both are functions) -/
theorem forward_inv {ε β γ : Type} {x : Except ε β} {y : Except ε γ} {P : β → γ → Prop}
    (he : ∀ e, x = .error e → y = .error e) (ho : ∀ b, x = .ok b → ∃ c, y = .ok c ∧ P b c) :
    (∀ e, y = .error e → x = .error e) ∧ (∀ c, y = .ok c → ∃ b, x = .ok b ∧ P b c) := by
  cases x with
  | error e =>
    cases he e rfl
    exact ⟨fun _ h => by cases h; rfl, fun _ h => (by cases h)⟩
  | ok b =>
    obtain ⟨c, rfl, p⟩ := ho b rfl
    exact ⟨fun _ h => (by cases h), fun _ h => by cases h; exact ⟨b, rfl, p⟩⟩

theorem mapM_ok {ε β γ : Type} (f : β → Except ε γ) : ∀ (l : List β) (rs : List γ), l.mapM f = .ok rs →
    rs.length = l.length ∧ ∀ (i : Nat) (x : β), l[i]? = some x → ∃ r, f x = .ok r ∧ rs[i]? = some r
  | [], rs, h => by
    cases h
    exact ⟨rfl, fun i x hx => (nomatch hx)⟩
  | y :: ys, rs, h => by
    rw [List.mapM_cons] at h
    obtain ⟨r0, hy, h⟩ := Except.bind_eq_ok.mp h
    obtain ⟨rs', hys, h⟩ := Except.bind_eq_ok.mp h
    cases h
    obtain ⟨hl, hget⟩ := mapM_ok f ys rs' hys
    refine ⟨congrArg (· + 1) hl, fun i x hx => ?_⟩
    cases i with
    | zero =>
      cases hx
      exact ⟨r0, hy, rfl⟩
    | succ j => exact hget j x hx

theorem mapM_eq_ok_map {ε β γ : Type} (f : β → Except ε γ) (g : β → γ) :
    ∀ (l : List β), (∀ x ∈ l, f x = .ok (g x)) → l.mapM f = .ok (l.map g)
  | [], _ => rfl
  | x :: xs, h => by
    rw [List.mapM_cons, h x List.mem_cons_self,
      mapM_eq_ok_map f g xs (fun y hy => h y (List.mem_cons_of_mem _ hy))]
    rfl

/-- `map f` moves out of a bind whose continuation ends in it -/
theorem Except.bind_eq_map_bind {ε β γ δ : Type} {x : Except ε β} {k : β → Except ε δ} {k' : β → Except ε γ} {f : γ → δ}
    (hk : ∀ b, k b = (k' b).map f) : (x >>= k) = (x >>= k').map f := by
  cases x with
  | error e => rfl
  | ok b => exact hk b

/-- two binds with the same first step agree under the projection `e` when their continuations do; `map_bind_congr2`: first steps
that agree under a projection `eb` -/
theorem Except.map_bind_congr {ε β γ δ : Type} (x : Except ε β) (f g : β → Except ε γ) (e : γ → δ)
    (h : ∀ b, (f b).map e = (g b).map e) : (x >>= f).map e = (x >>= g).map e := by
  cases x with
  | error _ => rfl
  | ok b => exact h b

theorem Except.map_eq_cases {ε β δ : Type} {x y : Except ε β} {e : β → δ} (h : x.map e = y.map e) :
    (∃ err, x = .error err ∧ y = .error err) ∨ (∃ a b, x = .ok a ∧ y = .ok b ∧ e a = e b) := by
  cases x with
  | error ex =>
    cases y with
    | error ey => left; exact ⟨ex, rfl, by simp [Except.map] at h; rw [h]⟩
    | ok b => simp [Except.map] at h
  | ok a =>
    cases y with
    | error ey => simp [Except.map] at h
    | ok b => right; exact ⟨a, b, rfl, rfl, by simpa [Except.map] using h⟩

theorem Except.map_bind_congr2 {ε β γ δ η : Type} (x y : Except ε β) (f g : β → Except ε γ) (e : γ → δ) (eb : β → η)
    (hxy : x.map eb = y.map eb)
    (h : ∀ b b', eb b = eb b' → (f b).map e = (g b').map e) : (x >>= f).map e = (y >>= g).map e := by
  rcases Except.map_eq_cases hxy with ⟨err, rfl, rfl⟩ | ⟨a, b, rfl, rfl, hab⟩
  · rfl
  · exact h a b hab

end OW
