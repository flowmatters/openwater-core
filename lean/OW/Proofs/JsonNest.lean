import OW.Sim.Json
import OW.Proofs.NdCells
/-!
Helper lemmas for C17: what `JsonSafeArray` computes.

* the recursion runs on `Regular` views (OW/Proofs/NdGeo.lean: implied by `Geo`, hence by `Reach`, and — unlike `Geo` —
  preserved by the odd `Slice(from, to, step)` of the Go code, whose `dims` argument is `to`: zeros left of the shift
  dimension, the loop counter at it).
* `nest dims g` — the dims-shaped nesting of `g` over all multi-indices inside `dims`.
* `jsonSafeArrayF_spec` — by induction on the recursion depth (one dimension further right per level).
-/
namespace OW.Sim.Json
open OW.Nd

section
variable {α : Type} [JNum α]

/-- the dims-shaped nesting of `g`: one array level per extent, leaves `JsonSafeValue (g idx)` in row-major order -/
def nest : Idx → (Idx → α) → List (JVal α)
  | [], _ => []
  | [d], g => (List.range d.toNat).map fun (i : Nat) => jsonSafeValue (g [(i : Int)])
  | d :: d2 :: ds, g => (List.range d.toNat).map fun (i : Nat) => JVal.arr (nest (d2 :: ds) fun t => g ((i : Int) :: t))

theorem uniform_set_succ (m sd : Nat) (i : Int) :
    (uniform (m + 1) 0).set (sd + 1) i = 0 :: (uniform m 0).set sd i := by
  simp [uniform_succ]

theorem affine_zeros_left : ∀ (t : Idx), affine (uniform t.length 0) t (uniform t.length 1) = t
  | [] => rfl
  | x :: xs => by simp [uniform_succ, affine_zeros_left xs]

theorem affine_from_tail (i : Int) : ∀ (sd n : Nat) (tail : Idx), sd + 1 + tail.length = n →
    affine ((uniform n 0).set sd i) (uniform (sd + 1) 0 ++ tail) (uniform n 1) = uniform sd 0 ++ i :: tail
  | _, 0, _, h => by omega
  | 0, m + 1, tail, h => by
    obtain rfl : tail.length = m := by omega
    simp [uniform_succ, affine_zeros_left, show uniform 0 (0 : Int) = [] from rfl]
  | sd + 1, m + 1, tail, h => by
    rw [uniform_set_succ, uniform_succ (sd + 1), uniform_succ m, List.cons_append, affine_cons,
      affine_from_tail i sd m tail (by omega), uniform_succ sd]
    simp

theorem uniform_set_last (sd : Nat) (i : Int) : (uniform (sd + 1) 0).set sd i = uniform sd 0 ++ [i] := by
  induction sd with
  | zero => simp [uniform]
  | succ n ih => rw [uniform_set_succ, ih]; simp [uniform_succ]

theorem fillTo_length (shape : Idx) (sd : Nat) : (fillTo shape sd).length = shape.length :=
  List.length_mapIdx

theorem fillTo_set_drop (i : Int) (shape : Idx) (sd : Nat) :
    ((fillTo shape sd).set sd i).drop (sd + 1) = shape.drop (sd + 1) := by
  rw [List.drop_set_of_lt (Nat.lt_succ_self sd)]
  apply List.ext_getElem?
  intro j
  simp only [fillTo, List.getElem?_drop, List.getElem?_mapIdx]
  cases shape[sd + 1 + j]? with
  | none => rfl
  | some d => simp only [Option.map_some, if_pos (show sd < sd + 1 + j by omega)]

theorem inBounds_length' {i d : Idx} (h : InBounds i d) : i.length = d.length := h.length

theorem newIndex_set_length (v : View) (x : Int) (sd : Nat) (i : Int) :
    ((v.newIndex x).set sd i).length = v.dims.length := by
  rw [List.length_set]
  exact List.length_replicate

/-- the sub-view of iteration `i` at shift dimension `sd`: `vals.Slice(from, to, ones)` -/
def iterSub (a : Arr) (sd : Nat) (i : Nat) : Arr :=
  { a with
    v := sliceView a.v ((a.v.newIndex 0).set sd (i : Int)) ((fillTo a.v.dims sd).set sd (i : Int)) (some (a.v.newIndex 1)) }

theorem stepOr_ones (v : View) : (stepOr v.dims.length (some (v.newIndex 1))).length = v.dims.length :=
  List.length_replicate

theorem slice_iterSub {a : Arr} (r : Regular a.v) (sd i : Nat) :
    slice a ((a.v.newIndex 0).set sd (i : Int)) ((fillTo a.v.dims sd).set sd (i : Int)) (some (a.v.newIndex 1)) =
      .ok (iterSub a sd i) := by
  rw [slice, r.sliceInto_eq _ _ _ (newIndex_set_length ..) (stepOr_ones a.v)]
  rfl

omit [JNum α] in
theorem iterSub_props (h : Heap α) {a : Arr} (r : Regular a.v) {sd : Nat} (hsd : sd < a.v.dims.length) (i : Nat) :
    Regular (iterSub a sd i).v ∧ (iterSub a sd i).v.dims.length = a.v.dims.length ∧
    (iterSub a sd i).v.dims.drop (sd + 1) = a.v.dims.drop (sd + 1) ∧
    (∀ tail : Idx, tail.length = a.v.dims.length - (sd + 1) →
      Nd.get h (iterSub a sd i) (uniform (sd + 1) 0 ++ tail) = Nd.get h a (uniform sd 0 ++ (i : Int) :: tail)) := by
  have htl : ((fillTo a.v.dims sd).set sd (i : Int)).length = a.v.dims.length := by
    rw [List.length_set, fillTo_length]
  refine ⟨r.slice _ htl (stepOr_ones a.v), htl, fillTo_set_drop (i : Int) a.v.dims sd, fun tail hlt => ?_⟩
  have hn : sd + 1 + tail.length = a.v.dims.length := by omega
  -- the index map of a slice: `Index_sub(idx) = Index_a(from + idx ⊙ ones)`
  rw [Nd.get, Nd.get, ← affine_from_tail (i : Int) sd _ tail hn]
  exact congrArg (· >>= readAt h a)
    (r.sliceView_index (newIndex_set_length ..) htl (stepOr_ones a.v) _ (by simp [htl, ← hn]))

/-- `JsonSafeArray` on a regular view at shift dimension `sd`: the nesting of the elements whose indices are 0 left of
the shift dimension. Every level of the recursion is one dimension further right, so `fuel` ≥ the number of
dimensions from `sd` on suffices. -/
theorem jsonSafeArrayF_spec (h : Heap α) :
    ∀ (fuel : Nat) (a : Arr) (sd : Nat) (g : Idx → α),
      Regular a.v → sd < a.v.dims.length → a.v.dims.length ≤ sd + fuel →
      (∀ d ∈ a.v.dims.drop sd, 0 ≤ d) →
      (∀ tail, InBounds tail (a.v.dims.drop sd) → Nd.get h a (uniform sd 0 ++ tail) = .ok (g tail)) →
      jsonSafeArrayF h fuel a (sd : Int) = .ok (nest (a.v.dims.drop sd) g)
  | 0, _, _, _, _, hsd, hfuel, _, _ => by omega
  | f + 1, a, sd, g, r, hsd, hfuel, hpos, hget => by
    have hdrop : a.v.dims.drop sd = a.v.dims[sd] :: a.v.dims.drop (sd + 1) := List.drop_eq_getElem_cons hsd
    rw [hdrop] at hpos hget ⊢
    have hd0 : 0 ≤ a.v.dims[sd] := hpos _ List.mem_cons_self
    have hlen : lenI a.v (sd : Int) = .ok a.v.dims[sd] := by
      rw [lenI, if_neg (by omega), Int.toNat_natCast, View.len, List.getElem?_eq_getElem hsd]
    unfold jsonSafeArrayF
    simp only [hlen, bind, Except.bind, pure, Except.pure, Int.toNat_natCast]
    rw [if_neg (by omega)]
    by_cases hlast : sd + 1 = a.v.dims.length
    · -- the last dimension: the elements themselves
      rw [List.drop_eq_nil_of_le (Nat.le_of_eq hlast.symm)] at hget ⊢
      apply mapM_eq_ok_map
      intro i hi
      rw [List.mem_range] at hi
      have hfrom : (a.v.newIndex 0).set sd (i : Int) = uniform sd 0 ++ [(i : Int)] := by
        rw [View.newIndex, View.ndims, ← hlast]
        exact uniform_set_last sd i
      rw [if_pos (by simp only [View.ndims]; omega), hfrom,
        hget [(i : Int)] ⟨Int.natCast_nonneg i, by omega, trivial⟩]
    · -- an inner dimension: one sub-view per position, converted by the recursive call
      obtain ⟨d2, ds, hdrop2⟩ : ∃ d2 ds, a.v.dims.drop (sd + 1) = d2 :: ds :=
        ⟨_, _, List.drop_eq_getElem_cons (by omega)⟩
      rw [hdrop2, nest, ← hdrop2]
      apply mapM_eq_ok_map
      intro i hi
      rw [List.mem_range] at hi
      obtain ⟨rsub, hsl, hdropsub, hgetsub⟩ := iterSub_props h r hsd i
      have ih := jsonSafeArrayF_spec h f (iterSub a sd i) (sd + 1) (fun t => g ((i : Int) :: t)) rsub
        (by rw [hsl]; omega) (by rw [hsl]; omega)
        (by rw [hdropsub]; exact fun d hd => hpos d (List.mem_cons_of_mem _ hd))
        (by
          rw [hdropsub]
          intro tail hb
          rw [hgetsub tail (by rw [hb.length, List.length_drop])]
          exact hget _ ⟨Int.natCast_nonneg i, by omega, hb⟩)
      rw [if_neg (by simp only [View.ndims]; omega), slice_iterSub r]
      simp only [← Int.natCast_add_one, ih, hdropsub]

omit [JNum α] in
theorem inBounds_pad : ∀ (sd : Nat) (dims tail : Idx), Pos dims → InBounds tail (dims.drop sd) →
    sd ≤ dims.length → InBounds (uniform sd 0 ++ tail) dims
  | 0, dims, tail, _, h, _ => by simpa [uniform] using h
  | sd + 1, [], tail, _, _, hl => by simp at hl
  | sd + 1, d :: ds, tail, hp, h, hl => by
    have h1 : 1 ≤ d := hp d (by simp)
    have ih := inBounds_pad sd ds tail (fun x hx => hp x (by simp [hx])) (by simpa using h) (by simpa using hl)
    simp only [uniform_succ, List.cons_append, InBounds_cons]
    exact ⟨by omega, by omega, ih⟩

end
end OW.Sim.Json
