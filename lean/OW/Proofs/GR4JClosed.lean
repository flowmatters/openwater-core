import OW.Proofs.GR4JSpec
/-!
C15, specification side: `Spec.GR4J.run` in CLOSED FORM. A day of the specification is three independent pieces,
* the production store (eqs. 1–8): S and Pr depend on S, P, E only (`prodDay`),
* the two unit hydrographs: pending deliveries updated with 0.9·Pr / 0.1·Pr (`Spec.GR4J.uhDay`),
* the routing store and direct branch (eqs. 18–22): R, Qr, Qd, Q from R, Q9, Q1 (`routeDay`),
so a run is the routing recurrence driven by
  Q9(t) = pend9[t] + Σ_{i≤t} UH1(t−i+1)·0.9·Pr(i),   Q1(t) = pend1[t] + Σ_{i≤t} UH2(t−i+1)·0.1·Pr(i),
the discrete convolutions of the paper (pend = 0 for a run from empty unit hydrographs), where Pr(i) comes from the
production-store recurrence alone: the state-carrying form of the unit hydrographs (`uhDay`: pending deliveries), used to
compare with the code, adds nothing to the published equations. `run_decomp` and `uhRun_zip` give this for whole runs
(`OW.Props.C15.spec_run_closed_form`): they compose `uhRun_convolution` into `Spec.GR4J.run`.
-/
namespace OW.RR.GR4J
open OW

/-- a run of `uhDay` over a series of inputs: (final pending vector, deliveries) -/
noncomputable def uhRun (ord : ℕ → ℝ) (pend : List ℝ) (xs : List ℝ) : List ℝ × List ℝ :=
  scan (fun p x => ((Spec.GR4J.uhDay ord p x).2, (Spec.GR4J.uhDay ord p x).1)) pend xs

/-- discrete convolution Σ_{i=0}^{t} ord(t−i+1) · x_i -/
noncomputable def conv (ord : ℕ → ℝ) (xs : List ℝ) (t : ℕ) : ℝ :=
  ∑ i ∈ Finset.range (t + 1), ord (t - i + 1) * xs.getD i 0

theorem uhDay_length (ord : ℕ → ℝ) (pend : List ℝ) (x : ℝ) : (Spec.GR4J.uhDay ord pend x).2.length = pend.length := by
  simp [Spec.GR4J.uhDay]

theorem uhDay_fst (ord : ℕ → ℝ) (pend : List ℝ) (x : ℝ) :
    (Spec.GR4J.uhDay ord pend x).1 = pend.getD 0 0 + x * ord 1 := by
  simp only [Spec.GR4J.uhDay, RealNum.lit0]

/-- for every `t`, also beyond the vector: both sides vanish there, by `hord` -/
theorem uhDay_pending (ord : ℕ → ℝ) (pend : List ℝ) (x : ℝ) (hord : ∀ k, pend.length < k → ord k = 0) (t : ℕ) :
    (Spec.GR4J.uhDay ord pend x).2.getD t 0 = pend.getD (t + 1) 0 + x * ord (t + 2) := by
  simp only [Spec.GR4J.uhDay, RealNum.lit0]
  by_cases ht : t < pend.length
  · rw [List.getD_eq_getElem _ _ (by simpa using ht), List.getElem_map, List.getElem_range]
  · rw [List.getD_eq_default _ _ (by simpa using not_lt.mp ht), List.getD_eq_default _ _ (by omega),
      hord (t + 2) (by omega)]
    ring

theorem conv_cons (ord : ℕ → ℝ) (x : ℝ) (rest : List ℝ) (t : ℕ) :
    conv ord (x :: rest) (t + 1) = x * ord (t + 2) + conv ord rest t := by
  unfold conv
  rw [Finset.sum_range_succ']
  simp only [List.getD_cons_zero, List.getD_cons_succ, Nat.sub_zero]
  rw [add_comm]
  congr 1
  · ring
  · apply Finset.sum_congr rfl
    intro i _
    have e : t + 1 - (i + 1) + 1 = t - i + 1 := by omega
    rw [e]

/-- the hypothesis on `ord` is what `UH1_beyond` / `UH2_beyond` prove for the published ordinates -/
theorem uhRun_convolution (ord : ℕ → ℝ) (xs : List ℝ) :
    ∀ (pend : List ℝ), (∀ k, pend.length < k → ord k = 0) → ∀ t, t < xs.length →
      (uhRun ord pend xs).2.getD t 0 = pend.getD t 0 + conv ord xs t := by
  induction xs with
  | nil => intro pend _ t ht; simp at ht
  | cons x rest ih =>
    intro pend hord t ht
    cases t with
    | zero =>
      simp only [uhRun, scan, List.getD_cons_zero, uhDay_fst, conv, Finset.sum_range_one, Nat.sub_zero, zero_add]
      ring
    | succ t =>
      have hlen := uhDay_length ord pend x
      have h := ih (Spec.GR4J.uhDay ord pend x).2 (by rw [hlen]; exact hord) t (by simpa using ht)
      simp only [uhRun, scan, List.getD_cons_succ] at h ⊢
      rw [h, uhDay_pending ord pend x hord t, conv_cons]
      ring

section generic
variable {α : Type} [Num α]

/-- production part of one day (eqs. 1–8): (new S, Pr) -/
def prodDay (tanhArg : α → α) (x1 : α) (S : α) (pe : α × α) : α × α :=
  let P := pe.1
  let E := pe.2
  let pn := Spec.GR4J.Pn P E
  let en := Spec.GR4J.En P E
  let ps := Spec.GR4J.Ps tanhArg x1 S pn
  let es := Spec.GR4J.Es tanhArg x1 S en
  let S1 := S - es + ps
  let perc := Spec.GR4J.Perc x1 S1
  (S1 - perc, perc + (pn - ps))

/-- routing part of one day (eqs. 18–22) given q = (Q9, Q1): (new R, (Q, Qr, Qd)) -/
def routeDay (x2 x3 : α) (R : α) (q : α × α) : α × Spec.GR4J.Day α :=
  let f := Spec.GR4J.F x2 x3 R
  let R1 := Num.gmax 0 (R + q.1 + f)
  let qr := Spec.GR4J.Qr x3 R1
  let qd := Num.gmax 0 (q.2 + f)
  (R1 - qr, ⟨qr + qd, qr, qd⟩)

/-- the 90 % share entering UH1 -/
def in9 (pr : α) : α := 0.9 * pr
/-- the 10 % share entering UH2 -/
def in1 (pr : α) : α := 0.1 * pr

theorem day_decomp (tanhArg : α → α) (x1 x2 x3 x4 : α) (st : Spec.GR4J.State α) (pe : α × α) :
    Spec.GR4J.day tanhArg x1 x2 x3 x4 st pe =
      (⟨(prodDay tanhArg x1 st.S pe).1,
        (routeDay x2 x3 st.R
          ((Spec.GR4J.uhDay (Spec.GR4J.UH1 x4) st.pend9 (in9 (prodDay tanhArg x1 st.S pe).2)).1,
           (Spec.GR4J.uhDay (Spec.GR4J.UH2 x4) st.pend1 (in1 (prodDay tanhArg x1 st.S pe).2)).1)).1,
        (Spec.GR4J.uhDay (Spec.GR4J.UH2 x4) st.pend1 (in1 (prodDay tanhArg x1 st.S pe).2)).2,
        (Spec.GR4J.uhDay (Spec.GR4J.UH1 x4) st.pend9 (in9 (prodDay tanhArg x1 st.S pe).2)).2⟩,
       (routeDay x2 x3 st.R
          ((Spec.GR4J.uhDay (Spec.GR4J.UH1 x4) st.pend9 (in9 (prodDay tanhArg x1 st.S pe).2)).1,
           (Spec.GR4J.uhDay (Spec.GR4J.UH2 x4) st.pend1 (in1 (prodDay tanhArg x1 st.S pe).2)).1)).2) := rfl

end generic

theorem in9_real (pr : ℝ) : in9 pr = 0.9 * pr := rfl
theorem in1_real (pr : ℝ) : in1 pr = 0.1 * pr := rfl

/-- eqs. 18–22 over ℝ: F = x2·(R/x3)^3.5, R′ = max(0, R + Q9 + F), Qr = R′·(1 − (1 + (R′/x3)⁴)^(−1/4)),
Qd = max(0, Q1 + F), Q = Qr + Qd, new R = R′ − Qr -/
theorem routeDay_real (x2 x3 R q9 q1 : ℝ) :
    routeDay x2 x3 R (q9, q1) =
      (max 0 (R + q9 + x2 * (R / x3) ^ (3.5 : ℝ)) -
          max 0 (R + q9 + x2 * (R / x3) ^ (3.5 : ℝ)) *
            (1 - (1 + (max 0 (R + q9 + x2 * (R / x3) ^ (3.5 : ℝ)) / x3) ^ (4 : ℝ)) ^ (-(0.25 : ℝ))),
       ⟨max 0 (R + q9 + x2 * (R / x3) ^ (3.5 : ℝ)) *
            (1 - (1 + (max 0 (R + q9 + x2 * (R / x3) ^ (3.5 : ℝ)) / x3) ^ (4 : ℝ)) ^ (-(0.25 : ℝ))) +
          max 0 (q1 + x2 * (R / x3) ^ (3.5 : ℝ)),
        max 0 (R + q9 + x2 * (R / x3) ^ (3.5 : ℝ)) *
            (1 - (1 + (max 0 (R + q9 + x2 * (R / x3) ^ (3.5 : ℝ)) / x3) ^ (4 : ℝ)) ^ (-(0.25 : ℝ))),
        max 0 (q1 + x2 * (R / x3) ^ (3.5 : ℝ))⟩) := by
  simp only [routeDay, Spec.GR4J.F, Spec.GR4J.Qr, Spec.GR4J.pow4, Spec.GR4J.sq, RealNum.gmax_eq, RealNum.pow_eq,
    RealNum.ofNat_eq]
  norm_num only
  simp only [rpow_four]

theorem run_decomp (tanhArg : ℝ → ℝ) (x1 x2 x3 x4 : ℝ) (xs : List (ℝ × ℝ)) :
    ∀ st : Spec.GR4J.State ℝ,
      Spec.GR4J.run tanhArg x1 x2 x3 x4 st xs =
        (let prod := scan (prodDay tanhArg x1) st.S xs
         let u9 := uhRun (Spec.GR4J.UH1 x4) st.pend9 (prod.2.map in9)
         let u1 := uhRun (Spec.GR4J.UH2 x4) st.pend1 (prod.2.map in1)
         let route := scan (routeDay x2 x3) st.R (u9.2.zip u1.2)
         (⟨prod.1, route.1, u1.1, u9.1⟩, route.2)) := by
  induction xs with
  | nil => intro st; rfl
  | cons x xs ih =>
    intro st
    unfold Spec.GR4J.run at ih ⊢
    simp only [scan, ih, day_decomp, uhRun, List.map_cons, List.zip_cons_cons]

theorem uhRun_series (ord : ℕ → ℝ) (xs pend : List ℝ) (hord : ∀ k, pend.length < k → ord k = 0) :
    (uhRun ord pend xs).2 = (List.range xs.length).map (fun t => pend.getD t 0 + conv ord xs t) := by
  have hlen : (uhRun ord pend xs).2.length = xs.length := scan_length _ _ _
  refine List.ext_getElem (by rw [hlen, List.length_map, List.length_range]) fun t h1 _ => ?_
  rw [List.getElem_map, List.getElem_range, ← uhRun_convolution ord xs pend hord t (hlen ▸ h1), List.getD_eq_getElem]

theorem getD_map_zero {f : ℝ → ℝ} (hf : f 0 = 0) (l : List ℝ) (i : ℕ) : (l.map f).getD i 0 = f (l.getD i 0) := by
  rw [← List.getD_map l 0 f, hf]

/-- Q9(t) of the paper for a run started with pending deliveries `pend9`: Σ_{i≤t} UH1(t−i+1)·0.9·Pr(i) + pend9[t] -/
noncomputable def Q9 (x4 : ℝ) (pend9 prs : List ℝ) (t : ℕ) : ℝ :=
  pend9.getD t 0 + ∑ i ∈ Finset.range (t + 1), Spec.GR4J.UH1 x4 (t - i + 1) * (0.9 * prs.getD i 0)

/-- Q1(t) of the paper: Σ_{i≤t} UH2(t−i+1)·0.1·Pr(i) + pend1[t] -/
noncomputable def Q1 (x4 : ℝ) (pend1 prs : List ℝ) (t : ℕ) : ℝ :=
  pend1.getD t 0 + ∑ i ∈ Finset.range (t + 1), Spec.GR4J.UH2 x4 (t - i + 1) * (0.1 * prs.getD i 0)

theorem uhRun_zip (x4 : ℝ) (hx4 : 0 < x4) {pend9 pend1 : List ℝ} (h9 : pend9.length = ⌈x4⌉₊)
    (h1 : pend1.length = ⌈2 * x4⌉₊) (prs : List ℝ) :
    (uhRun (Spec.GR4J.UH1 x4) pend9 (prs.map in9)).2.zip (uhRun (Spec.GR4J.UH2 x4) pend1 (prs.map in1)).2 =
      (List.range prs.length).map (fun t => (Q9 x4 pend9 prs t, Q1 x4 pend1 prs t)) := by
  have e9 := uhRun_series (Spec.GR4J.UH1 x4) (prs.map in9) pend9 (fun k hk => UH1_beyond x4 hx4 k (h9 ▸ hk))
  have e1 := uhRun_series (Spec.GR4J.UH2 x4) (prs.map in1) pend1 (fun k hk => UH2_beyond x4 hx4 k (h1 ▸ hk))
  rw [List.length_map] at e9 e1
  rw [e9, e1, List.zip_map']
  refine List.map_congr_left fun t _ => ?_
  simp only [Q9, Q1, conv, getD_map_zero ((in9_real 0).trans (mul_zero _)), getD_map_zero ((in1_real 0).trans (mul_zero _)),
    in9_real, in1_real]

end OW.RR.GR4J
