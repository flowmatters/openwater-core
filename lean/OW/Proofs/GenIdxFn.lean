import OW.Proofs.GenIdx
import OW.Util.Piecewise
import OW.Util.FindRoot
import OW.Util.Dates
/-!
Helper lemmas for the util/fn and calendar part of `OW/Props/GenTieIndex.lean` (core Lean only): loop shapes of `brackets`,
`FindRoot` and `_dayOfYear` for an ARBITRARY loop body satisfying a step equation. No lemma mentions a regenerated definition.
-/
namespace OW.Proofs.GenIdx
open OW OW.Gen.Idx OW.Fn

@[simp] theorem setIdx_single {τ : Type} (a b : τ) : setIdx [a] 0 b = .ok [b] := by
  have := setIdx_pre ([] : List τ) a b []
  simpa using this

@[simp] theorem nd1Get_single {τ : Type} (xs : List τ) (k : Int) : nd1Get xs [k] = getIdx xs k := rfl

theorem getIdx_last {τ : Type} (x0 : τ) (rest : List τ) :
    getIdx (x0 :: rest) (((x0 :: rest).length : Int) - 1) = .ok ((x0 :: rest).getLast?.getD x0) := by
  obtain ⟨l', y, e, hl⟩ := snoc_of_length (l := x0 :: rest) (n := rest.length) (by simp)
  rw [e]
  have e1 : (((l' ++ [y]).length : Nat) : Int) - 1 = ((l'.length : Nat) : Int) := by simp
  rw [e1, getIdx_pre]
  simp

/-- `(-1, -1)` or the bracket found -/
def bracketPair : Option (Nat × Nat) → Int × Int
  | none => (-1, -1)
  | some (i, j) => ((i : Int), (j : Int))

/-- the search loop of `brackets`, `for j = k; j < n; j++ { if xs[j] >= x { return …, j } }`, then `-1, -1`. The state `st i a` holds
the index slice `[a]` and, if the source carries one, the counter `i = j - 1`; `lo i j` is the lower index returned, `j - 1` either way -/
theorem brackets_search {α σ : Type} [Num α] (x : α) (xs : List α) (st : Int → Int → σ) (lo : Int → Int → Int)
    (body : Int → σ → R (Ctl σ (Int × Int))) (kont : Ctl σ (Int × Int) → R (Int × Int))
    (h : ∀ (j : Nat) (i a : Int), body (j : Int) (st i a) =
        (getIdx xs (j : Int) >>= fun v => if x ≤ v then .ok (Ctl.ret (lo i j, (j : Int))) else .ok (Ctl.next (st (i + 1) j))))
    (hlo : ∀ j : Int, lo (j - 1) j = j - 1)
    (k1 : ∀ r, kont (Ctl.ret r) = .ok r) (k2 : ∀ s, kont (Ctl.next s) = .ok (-1, -1)) :
    ∀ (rest pre : List α) (a : Int), xs = pre ++ rest → 1 ≤ pre.length →
      (loopN body 1 rest.length (pre.length : Int) (st ((pre.length : Int) - 1) a) >>= kont) =
        .ok (bracketPair (bracketLoop x rest pre.length)) := by
  intro rest
  induction rest with
  | nil => intro pre a _ _; simp [k2, bracketLoop, bracketPair]
  | cons v vs ih =>
    intro pre a hxs hpre
    rw [List.length_cons, loopN_succ, h, hxs, getIdx_pre, bind_ok]
    simp only [bracketLoop]
    by_cases hv : x ≤ v
    · have e0 : ((pre.length - 1 : Nat) : Int) = (pre.length : Int) - 1 := by omega
      simp only [hv, if_true, pure_eq, bind_ok, k1, bracketPair, e0, hlo]
    · simp only [hv, if_false, bind_ok]
      have e1 : ((pre.length : Int) - 1 + 1) = (((pre ++ [v]).length : Nat) : Int) - 1 := by simp
      have e3 : pre.length + 1 = (pre ++ [v]).length := by simp
      rw [e1, succ_length_eq pre v, e3]
      exact ih (pre ++ [v]) _ (by simp [hxs]) (by simp)

/-- the search with the upper index alone: `for j = k; j < n; j++ { if xs[j] >= x { return j-1, j } }`, then `-1, -1`
(the lower index is always the one before the upper one: no second counter is carried) -/
theorem brackets_fin1 {α : Type} [Num α] (x : α) (xs : List α)
    (body : Int → List Int → R (Ctl (List Int) (Int × Int)))
    (kont : Ctl (List Int) (Int × Int) → R (Int × Int))
    (h : ∀ (j : Nat) (a : Int), body (j : Int) [a] =
        (getIdx xs (j : Int) >>= fun v => if x ≤ v then .ok (Ctl.ret ((j : Int) - 1, (j : Int))) else .ok (Ctl.next [(j : Int)])))
    (k1 : ∀ r, kont (Ctl.ret r) = .ok r) (k2 : ∀ s, kont (Ctl.next s) = .ok (-1, -1)) :
    ∀ (rest pre : List α) (a : Int), xs = pre ++ rest → 1 ≤ pre.length →
      (loopN body 1 rest.length (pre.length : Int) [a] >>= kont) =
        .ok (bracketPair (bracketLoop x rest pre.length)) :=
  brackets_search x xs (fun _ a => [a]) (fun _ j => j - 1) body kont (fun j _ a => h j a) (fun _ => rfl) k1 k2

/-- the two results `(y, err)` of the Go function, or its panic, as the hand-written model's result type
(the value of `y` is not looked at when `err != nil`) -/
def pwOf {α : Type} : R (α × Bool) → PwRes α
  | .error e => .panic e
  | .ok (_, true) => .err
  | .ok (y, false) => .val y

theorem pwOf_ite {α : Type} (c : Prop) [Decidable c] (a b : α) :
    pwOf ((if c then (pure a : R α) else pure b) >>= fun m => pure (m, false)) = if c then PwRes.val a else PwRes.val b := by
  split <;> rfl

theorem bracketLoop_ge {α : Type} [Num α] (x : α) : ∀ (rest : List α) (k i j : Nat),
    bracketLoop x rest k = some (i, j) → 1 ≤ k → i + 1 = j ∧ k ≤ j
  | [], _, _, _, h, _ => by simp [bracketLoop] at h
  | v :: vs, k, i, j, h, hk => by
    simp only [bracketLoop] at h
    split at h
    · simp only [Option.some.injEq, Prod.mk.injEq] at h; omega
    · have := bracketLoop_ge x vs (k + 1) i j h (by omega); omega

theorem ite_ok_bind {α β : Type} (c : Prop) [Decidable c] (a b : α) (k : α → R β) :
    ((if c then (Except.ok a : R α) else Except.ok b) >>= k) = k (if c then a else b) := by
  split <;> rfl

/-- carried variables of the trial loop: hitConvergenceLimit, x, delta, minTrialX, minTrialDelta, maxTrialX, maxTrialDelta (the
order of the regenerated tuple: by type, then by declaration; the write-only `trialDeltas` of the source is removed by the
translator) -/
abbrev IS (α : Type) := Int × α × α × α × α × α × α

def isOf {α : Type} (s : Inner α) (x delta : α) : IS α :=
  ((s.hit : Int), x, delta, s.b.minX, s.b.minDelta, s.b.maxX, s.b.maxDelta)

/-- carried variables of the iteration loop: minX, maxX, x, delta, maxDelta, minDelta -/
abbrev OS (α : Type) := α × α × α × α × α × α

def osOf {α : Type} (b : Bracket α) (x delta : α) : OS α := (b.minX, b.maxX, x, delta, b.maxDelta, b.minDelta)

/-- what one trial does to the carried variables, in the words of `trialStep` -/
def trialCtl {α : Type} [Num α] (f : α → α) (tol conv x delta : α) (s : Inner α) (trial : α) :
    R (Ctl (IS α) (α × α)) :=
  match trialStep f tol conv x s trial with
  | .inl (rx, rd, _) => .ok (Ctl.ret (rx, rd))
  | .inr s' => .ok (Ctl.next (isOf s' x delta))

theorem trial_loop {α : Type} [Num α] (f : α → α) (tol conv x delta : α)
    (body : Int → α → IS α → R (Ctl (IS α) (α × α)))
    (h : ∀ i trial s, body i trial (isOf s x delta) = trialCtl f tol conv x delta s trial) :
    ∀ (ts : List α) (i : Int) (s : Inner α),
      loopRange body ts i (isOf s x delta) =
        match trialLoop f tol conv x s ts with
        | .inl (rx, rd, _) => .ok (Ctl.ret (rx, rd))
        | .inr s' => .ok (Ctl.next (isOf s' x delta)) := by
  intro ts
  induction ts with
  | nil => intro i s; simp [trialLoop]
  | cons t ts ih =>
    intro i s
    rw [loopRange_cons, h]
    simp only [trialCtl, trialLoop]
    cases trialStep f tol conv x s t with
    | inl r => rfl
    | inr s' =>
      simp only [bind_ok]
      rw [ih]

/-- one iteration of the outer loop in the words of `iterate` (the ghost lists `ev`, `dev` do not matter) -/
def iterCtl {α : Type} [Num α] (f : α → α) (f' : Option (α → α)) (tol conv x delta : α) (b : Bracket α) (ev : List α) :
    R (Ctl (OS α) (α × α)) :=
  let ts := trialXs f' x delta b
  match trialLoop f tol conv x { b := b, hit := 0, evals := ev } ts with
  | .inl (rx, rd, _) => .ok (Ctl.ret (rx, rd))
  | .inr s =>
    let p := pick s.b
    if s.hit == ts.length then .ok (Ctl.ret (p.1, p.2)) else .ok (Ctl.next (osOf s.b p.1 p.2))

/-- one iteration of the regenerated outer loop once its trial points are known: the trial loop runs over the list `ts`, `K` decides
between `return` and the next iteration (comparing the hit counter with the NUMBER of trial points, however the source holds it) -/
theorem iter_shape_ts {α : Type} [Num α] (f : α → α) (f' : Option (α → α)) (tol conv x delta : α) (b : Bracket α) (ev : List α)
    (ts : List α) (bodyI : Int → α → IS α → R (Ctl (IS α) (α × α)))
    (K : Ctl (IS α) (α × α) → R (Ctl (OS α) (α × α)))
    (hts : trialXs f' x delta b = ts)
    (hI : ∀ i trial s, bodyI i trial (isOf s x delta) = trialCtl f tol conv x delta s trial)
    (hK1 : ∀ r, K (Ctl.ret r) = .ok (Ctl.ret r))
    (hK2 : ∀ (s : Inner α), K (Ctl.next (isOf s x delta)) =
      if s.hit == ts.length then .ok (Ctl.ret ((pick s.b).1, (pick s.b).2)) else .ok (Ctl.next (osOf s.b (pick s.b).1 (pick s.b).2))) :
    (loopRange bodyI ts 0 (isOf { b := b, hit := 0, evals := ev } x delta) >>= K) = iterCtl f f' tol conv x delta b ev := by
  rw [trial_loop f tol conv x delta bodyI hI]
  simp only [iterCtl, hts]
  cases trialLoop f tol conv x { b := b, hit := 0, evals := ev } ts with
  | inl r => obtain ⟨rx, rd, s⟩ := r; simp [hK1]
  | inr s => simp [hK2]

/-- the same with the trial points `m` computed first (without panics): the trial loop `bodyI` runs over them, `K ts` compares the
hit counter with their number -/
theorem iter_shape {α : Type} [Num α] (f : α → α) (f' : Option (α → α)) (tol conv x delta : α) (b : Bracket α) (ev : List α)
    (m : R (List α)) (bodyI : Int → α → IS α → R (Ctl (IS α) (α × α)))
    (K : List α → Ctl (IS α) (α × α) → R (Ctl (OS α) (α × α)))
    (hm : m = .ok (trialXs f' x delta b))
    (hI : ∀ i trial s, bodyI i trial (isOf s x delta) = trialCtl f tol conv x delta s trial)
    (hK1 : ∀ ts r, K ts (Ctl.ret r) = .ok (Ctl.ret r))
    (hK2 : ∀ ts (s : Inner α), K ts (Ctl.next (isOf s x delta)) =
      if s.hit == ts.length then .ok (Ctl.ret ((pick s.b).1, (pick s.b).2)) else .ok (Ctl.next (osOf s.b (pick s.b).1 (pick s.b).2))) :
    (m >>= fun ts => loopRange bodyI ts 0 (isOf { b := b, hit := 0, evals := ev } x delta) >>= K ts) =
      iterCtl f f' tol conv x delta b ev := by
  rw [hm]
  exact iter_shape_ts f f' tol conv x delta b ev _ bodyI _ rfl hI (hK1 _) (hK2 _)

/-- `h` holds for every `ev`: the evaluation logs `ev`, `dev` are kept by the hand model only and the code carries nothing of them -/
theorem iterate_fin {α : Type} [Num α] (f : α → α) (f' : Option (α → α)) (tol conv : α)
    (body : Int → OS α → R (Ctl (OS α) (α × α))) (kont : Ctl (OS α) (α × α) → R (α × α))
    (h : ∀ it b x delta ev, body it (osOf b x delta) = iterCtl f f' tol conv x delta b ev)
    (k1 : ∀ r, kont (Ctl.ret r) = .ok r) (k2 : ∀ s : OS α, kont (Ctl.next s) = .ok (s.2.2.1, s.2.2.2.1)) :
    ∀ (d : Int) (fuel : Nat) (it : Int) (x delta : α) (b : Bracket α) (ev dev : List α),
      (loopN body d fuel it (osOf b x delta) >>= kont) =
        .ok ((iterate f f' tol conv fuel x delta b ev dev).x, (iterate f f' tol conv fuel x delta b ev dev).delta) := by
  intro d fuel
  induction fuel with
  | zero => intro it x delta b ev dev; simp [k2, iterate, osOf]
  | succ n ih =>
    intro it x delta b ev dev
    rw [loopN_succ, h it b x delta ev]
    simp only [iterCtl, iterate]
    cases trialLoop f tol conv x { b := b, hit := 0, evals := ev } (trialXs f' x delta b) with
    | inl r => obtain ⟨rx, rd, s⟩ := r; simp [k1]
    | inr s =>
      simp only []
      by_cases hh : (s.hit == (trialXs f' x delta b).length) = true
      · simp [hh, k1]
      · simp only [hh, Bool.false_eq_true, if_false, bind_ok]
        exact ih _ _ _ _ _ _

/-! ### calendar helpers (models/functions/dates.go) -/

/-- the hand-written calendar model says `none` for a Go panic (always an index out of the month table) -/
def optR {τ : Type} : Option τ → R τ
  | some a => .ok a
  | none => .error "index-out-of-range"

/-- `for mi := 1; mi < m; mi++ { doy += daysInMonth(mi, y) }` -/
theorem doy_loop (y m : Int) (body : Int → Int → R (Ctl Int Int))
    (h : ∀ mi s, body mi s = (optR (OW.Dates.daysInMonth mi y) >>= fun k => .ok (Ctl.next (s + k)))) :
    ∀ (fuel : Nat) (mi acc : Int), fuel = (m - mi).toNat →
      loopN body 1 fuel mi acc = (optR (OW.Dates.doyLoop y m fuel mi acc) >>= fun s => .ok (Ctl.next s)) := by
  intro fuel
  induction fuel with
  | zero => intro mi acc _; rfl
  | succ n ih =>
    intro mi acc hf
    have hlt : mi < m := by omega
    rw [loopN_succ, h]
    simp only [OW.Dates.doyLoop, hlt, if_true]
    cases OW.Dates.daysInMonth mi y with
    | none => rfl
    | some k => simp only [optR, bind_ok]; exact ih (mi + 1) (acc + k) (by omega)

end OW.Proofs.GenIdx
