import OW.Proofs.NdC03Rel
import OW.Proofs.NdApply
import OW.Proofs.NdC03Attr
/-!
Helper definitions and lemmas for C03: a small program fragment over a list of live arrays, interpreted on a state
(heap, arrays), and the lock-step relation `World` of two states whose arrays are pairwise related and pairwise over
compatible windows, with the ways it is kept and established (`world_roots`): `World.update` (paired writes through a live
pair); `World.extend` (a new pair joins), used as `World.pushD` (the new pair lies in the windows of a live pair, displaced by
`d`: slices, aliasing reshapes) and as `World.alloc` (it lies in two new storages: copying reshapes); `World.sid_ne` (live
arrays in different storages on one side are so on the other). The steps themselves are in `NdOffsetProg.lean`.

The fragment: `slice` (appends the new view to the list), `get`, `set`, `apply`, `applySlice`, `copyFrom`, `unroll`,
`contiguous`, `extremum`, `zipWithInto`, and `reshape` / `reshapeFast` (append their result; a returned error is an
observation). The domain `OpOK` admits a reshape request with a size mismatch, on a non-contiguous view (both sides
copy), and on a contiguous view that starts at address 0 (whole roots and their leading blocks). It excludes a successful
`Reshape` of a contiguous view with `Start > 0`: its C-side result is a root view with a non-zero `Start`, which is
outside the `Reach` vocabulary the C01/C02 theorems quantify over (one step: `NdOff.reshape_pairN`; the domain `OpOK'` of
`NdOffsetProg.lean` admits it).
-/
namespace OW.NdC03
open OW.Nd OW.NdC02

section
variable {α : Type}

/-- operations of the fragment; `i`, `j` index the list of live arrays (`i` = receiver, `j` = source) -/
inductive Op (α : Type) where
  | slice (i : Nat) (loc dims : Idx) (step : Option Idx)
  | get (i : Nat) (loc : Idx)
  | set (i : Nat) (loc : Idx) (x : α)
  | apply (i : Nat) (loc : Idx) (dim step : Int) (vals : List α)
  | applySlice (i j : Nat) (loc : Idx) (step : Option Idx)
  | copyFrom (i j : Nat)
  | unroll (i : Nat)
  | contiguous (i : Nat)
  | extremum (better : α → α → Bool) (i : Nat)
  | zipWithInto (f : α → α → α) (i j : Nat)
  | reshape (i : Nat) (shape : Idx)
  | reshapeFast (i : Nat) (shape : Idx)

inductive Obs (α : Type) where
  | unit
  | val (x : α)
  | vals (l : List α)
  | flag (b : Bool)
  | err (msg : String)
  deriving Repr, DecidableEq

structure St (α : Type) where
  heap : Heap α
  arrs : List Arr

def arrAt (s : St α) (i : Nat) : R Arr :=
  match s.arrs[i]? with
  | some a => .ok a
  | none => .error "no-array"

/-- one operation on one state (either back-end: the arrays carry their own `isC` flag) -/
def stepOp (s : St α) : Op α → R (St α × Obs α)
  | .slice i loc dims step => do
    let a ← arrAt s i
    let b ← Nd.slice a loc dims step
    pure ({ s with arrs := s.arrs ++ [b] }, .unit)
  | .get i loc => do
    let a ← arrAt s i
    let x ← Nd.get s.heap a loc
    pure (s, .val x)
  | .set i loc x => do
    let a ← arrAt s i
    let h ← Nd.set s.heap a loc x
    pure ({ s with heap := h }, .unit)
  | .apply i loc dim step vals => do
    let a ← arrAt s i
    let h ← Nd.apply s.heap a loc dim step vals
    pure ({ s with heap := h }, .unit)
  | .applySlice i j loc step => do
    let a ← arrAt s i
    let b ← arrAt s j
    let h ← Nd.applySlice s.heap a loc step b
    pure ({ s with heap := h }, .unit)
  | .copyFrom i j => do
    let a ← arrAt s i
    let b ← arrAt s j
    let h ← Nd.copyFrom s.heap a b
    pure ({ s with heap := h }, .unit)
  | .unroll i => do
    let a ← arrAt s i
    let sl ← Nd.unroll s.heap a
    let vs ← sliceVals s.heap sl
    pure (s, .vals vs)
  | .contiguous i => do
    let a ← arrAt s i
    let b ← a.v.contiguous
    pure (s, .flag b)
  | .extremum better i => do
    let a ← arrAt s i
    let x ← Nd.extremum better s.heap a
    pure (s, .val x)
  | .zipWithInto f i j => do
    let a ← arrAt s i
    let b ← arrAt s j
    let h ← Nd.zipWithInto f s.heap a b
    pure ({ s with heap := h }, .unit)
  | .reshape i shape => do
    let a ← arrAt s i
    let r ← Nd.reshape s.heap a shape
    match r.2 with
    | .inl e => pure ({ s with heap := r.1 }, .err e)
    | .inr b => pure (⟨r.1, s.arrs ++ [b]⟩, .unit)
  | .reshapeFast i shape => do
    let a ← arrAt s i
    let r ← Nd.reshapeFast s.heap a shape
    match r.2 with
    | .inl e => pure ({ s with heap := r.1 }, .err e)
    | .inr b => pure (⟨r.1, s.arrs ++ [b]⟩, .unit)

/-- a program: the first panic aborts -/
def run : St α → List (Op α) → R (St α × List (Obs α))
  | s, [] => .ok (s, [])
  | s, op :: ops => do
    let r ← stepOp s op
    let r' ← run r.1 ops
    pure (r'.1, r.2 :: r'.2)

attribute [step_eval] stepOp arrAt bind Except.bind pure Except.pure

/-- the request is in the domain of the C01/C02 theorems (in-bounds; two-array operations on different storages) -/
def OpOK (arrs : List Arr) : Op α → Prop
  | .slice i loc dims step => ∃ a, arrs[i]? = some a ∧ SliceOK a.v.dims loc dims (stepOr a.v.dims.length step)
  | .get i loc => ∃ a, arrs[i]? = some a ∧ InBounds loc a.v.dims
  | .set i loc _ => ∃ a, arrs[i]? = some a ∧ InBounds loc a.v.dims
  | .apply i loc dim step vals => ∃ a, arrs[i]? = some a ∧ 0 ≤ dim ∧ dim < a.v.dims.length ∧
      SliceOK a.v.dims loc (applyDims a dim vals.length) (applySteps a dim step)
  | .applySlice i j loc step => ∃ a b, arrs[i]? = some a ∧ arrs[j]? = some b ∧ b.sid ≠ a.sid ∧
      SliceOK a.v.dims loc b.v.dims (stepOr a.v.dims.length step)
  | .copyFrom i j => ∃ a b, arrs[i]? = some a ∧ arrs[j]? = some b ∧ b.sid ≠ a.sid ∧ b.v.dims = a.v.dims
  | .unroll i => ∃ a, arrs[i]? = some a
  | .contiguous i => ∃ a, arrs[i]? = some a
  | .extremum _ i => ∃ a, arrs[i]? = some a
  | .zipWithInto _ i j => ∃ a b, arrs[i]? = some a ∧ arrs[j]? = some b ∧ b.sid ≠ a.sid ∧ b.v.dims = a.v.dims
  | .reshape i shape => ∃ a, arrs[i]? = some a ∧ (product shape ≠ a.v.size ∨
      (product shape = a.v.size ∧ shape ≠ [] ∧ Pos shape ∧ (a.v.contiguous = .ok false ∨ a.v.start = 0)))
  | .reshapeFast i shape => ∃ a, arrs[i]? = some a ∧ (a.v.contiguous = .ok false ∨ product shape ≠ a.v.size ∨
      (product shape = a.v.size ∧ shape ≠ [] ∧ Pos shape ∧ a.v.start = 0))

/-- every request of the program is in the domain when it is issued (states followed along the run on `s`) -/
def ProgOK : St α → List (Op α) → Prop
  | _, [] => True
  | s, op :: ops => OpOK s.arrs op ∧ ∀ s' o, stepOp s op = .ok (s', o) → ProgOK s' ops

/-- lock step of two states. The pairs are `RelW` pairs: nothing says which back-end the arrays of either state have
(`NdOff.WorldO.goSide` adds that those of the first are Go-backed). -/
structure World (sg sc : St α) : Prop where
  len : sg.arrs.length = sc.arrs.length
  rel : ∀ (i : Nat) (g c : Arr), sg.arrs[i]? = some g → sc.arrs[i]? = some c → RelW sg.heap sc.heap g c
  compat : ∀ (i j : Nat) (g c g' c' : Arr), sg.arrs[i]? = some g → sc.arrs[i]? = some c → sg.arrs[j]? = some g' →
    sc.arrs[j]? = some c' → Compat (winOf g c) (winOf g' c')

theorem World.partner {sg sc : St α} (w : World sg sc) {i : Nat} {g : Arr} (hg : sg.arrs[i]? = some g) :
    ∃ c, sc.arrs[i]? = some c ∧ RelW sg.heap sc.heap g c := by
  have hi : i < sc.arrs.length := by rw [← w.len]; exact (List.getElem?_eq_some_iff.mp hg).1
  exact ⟨sc.arrs[i], List.getElem?_eq_getElem hi, w.rel i g _ hg (List.getElem?_eq_getElem hi)⟩

theorem World.update {sg sc : St α} (w : World sg sc) {i : Nat} {g c : Arr} (hg : sg.arrs[i]? = some g)
    (hc : sc.arrs[i]? = some c) {hg' hc' : Heap α} (pw : Paired (winOf g c) sg.heap sc.heap hg' hc') :
    World { sg with heap := hg' } { sc with heap := hc' } := by
  have r := w.rel i g c hg hc
  refine ⟨w.len, fun j g' c' h1 h2 => ?_, w.compat⟩
  exact pw.relW r.okG.base_nonneg r.okC.base_nonneg (w.rel j g' c' h1 h2) (w.compat i j g c g' c' hg hc h1 h2)

theorem append_pair_cases {β : Type} {la lb : List β} {a b x y : β} {i : Nat} (hl : la.length = lb.length)
    (h1 : (la ++ [a])[i]? = some x) (h2 : (lb ++ [b])[i]? = some y) :
    (la[i]? = some x ∧ lb[i]? = some y) ∨ (i = la.length ∧ x = a ∧ y = b) := by
  by_cases hi : i < la.length
  · rw [List.getElem?_append_left hi] at h1
    rw [List.getElem?_append_left (by omega)] at h2
    exact Or.inl ⟨h1, h2⟩
  · have hlt := (List.getElem?_eq_some_iff.mp h1).1
    simp only [List.length_append, List.length_cons, List.length_nil] at hlt
    have e : i = la.length := by omega
    subst e
    rw [List.getElem?_concat_length] at h1
    rw [hl, List.getElem?_concat_length] at h2
    injection h1 with h1
    injection h2 with h2
    exact Or.inr ⟨rfl, h1.symm, h2.symm⟩

theorem World.extend {sg sc : St α} (w : World sg sc) {hg' hc' : Heap α} {g' c' : Arr} (r' : RelW hg' hc' g' c')
    (hrel : ∀ (j : Nat) (a b : Arr), sg.arrs[j]? = some a → sc.arrs[j]? = some b → RelW hg' hc' a b)
    (hcp : ∀ (j : Nat) (a b : Arr), sg.arrs[j]? = some a → sc.arrs[j]? = some b → Compat (winOf a b) (winOf g' c')) :
    World ⟨hg', sg.arrs ++ [g']⟩ ⟨hc', sc.arrs ++ [c']⟩ := by
  refine ⟨by simp [w.len], ?_, ?_⟩
  · intro j a b h1 h2
    rcases append_pair_cases w.len h1 h2 with ⟨e1, e2⟩ | ⟨_, rfl, rfl⟩
    · exact hrel j a b e1 e2
    · exact r'
  · intro j k a b a' b' h1 h2 h3 h4
    rcases append_pair_cases w.len h1 h2 with ⟨e1, e2⟩ | ⟨_, rfl, rfl⟩ <;>
      rcases append_pair_cases w.len h3 h4 with ⟨e3, e4⟩ | ⟨_, rfl, rfl⟩
    · exact w.compat j k a b a' b' e1 e2 e3 e4
    · exact hcp j a b e1 e2
    · exact (hcp k a' b' e3 e4).symm
    · exact Compat.refl _

theorem World.pushD {sg sc : St α} (w : World sg sc) {i : Nat} {g c g' c' : Arr} (hg : sg.arrs[i]? = some g)
    (hc : sc.arrs[i]? = some c) (r' : RelW sg.heap sc.heap g' c') (d : Int)
    (hw : winOf g' c' = ⟨g.sid, g.base + d, c.sid, c.base + d⟩) :
    World { sg with arrs := sg.arrs ++ [g'] } { sc with arrs := sc.arrs ++ [c'] } := by
  refine w.extend r' w.rel (fun j a b e1 e2 => ?_)
  rw [hw]
  rcases w.compat j i a b g c e1 e2 hg hc with ⟨x, y, z⟩ | ⟨x, y⟩
  · exact Or.inl ⟨x, y, by simp only [winOf] at z ⊢; omega⟩
  · exact Or.inr ⟨x, y⟩

theorem World.alloc {sg sc : St α} (w : World sg sc) {vg vc : List α} {g' c' : Arr}
    (r' : RelW (sg.heap ++ [vg]) (sc.heap ++ [vc]) g' c') (h1 : g'.sid = sg.heap.length) (h2 : c'.sid = sc.heap.length) :
    World ⟨sg.heap ++ [vg], sg.arrs ++ [g']⟩ ⟨sc.heap ++ [vc], sc.arrs ++ [c']⟩ := by
  refine w.extend r' (fun j a b e1 e2 => (w.rel j a b e1 e2).append vg vc) (fun j a b e1 e2 => ?_)
  have r := w.rel j a b e1 e2
  have := arrOK_sid_lt r.okG
  have := arrOK_sid_lt r.okC
  exact Compat.of_ne (show g'.sid ≠ a.sid by omega) (show c'.sid ≠ b.sid by omega)

theorem World.sid_ne {sg sc : St α} (w : World sg sc) {i j : Nat} {g c g' c' : Arr} (h1 : sg.arrs[i]? = some g)
    (h2 : sc.arrs[i]? = some c) (h3 : sg.arrs[j]? = some g') (h4 : sc.arrs[j]? = some c') (hne : g'.sid ≠ g.sid) :
    c'.sid ≠ c.sid := by
  have := (w.compat i j g c g' c' h1 h2 h3 h4).sid_iff
  simp only [winOf] at this
  exact fun e => hne (this.mpr e)

/-- the Go-backed root `arrayFromSlice(bufs[i], dims)` and the C-backed root `New<T>CArray(&bufs[i][0], dims)` -/
def rootArr (bufs : Heap α) (isC : Bool) (i : Nat) (dims : Idx) : Arr :=
  ⟨rootView dims 0, i, 0, ((bufs[i]?).getD []).length, isC⟩

def rootArrs (bufs : Heap α) (isC : Bool) (shapes : List Idx) : List Arr :=
  shapes.zipIdx.map (fun p => rootArr bufs isC p.2 p.1)

theorem rootArrs_getElem? (bufs : Heap α) (isC : Bool) (shapes : List Idx) (i : Nat) :
    (rootArrs bufs isC shapes)[i]? = (shapes[i]?).map (fun d => rootArr bufs isC i d) := by
  simp [rootArrs, List.getElem?_zipIdx]
  cases shapes[i]? <;> simp

theorem rootArrs_some {bufs : Heap α} {isC : Bool} {shapes : List Idx} {i : Nat} {a : Arr}
    (h : (rootArrs bufs isC shapes)[i]? = some a) : ∃ d, shapes[i]? = some d ∧ a = rootArr bufs isC i d := by
  rw [rootArrs_getElem?] at h
  cases hd : shapes[i]? with
  | none => rw [hd] at h; cases h
  | some d => rw [hd] at h; exact ⟨d, rfl, (Option.some.inj h).symm⟩

/-- the shapes fit their buffers (what `fromStore` / `fromC` need and the Go code does not check) -/
def ShapesOK (bufs : Heap α) (shapes : List Idx) : Prop :=
  ∀ (i : Nat) (d : Idx), shapes[i]? = some d → d ≠ [] ∧ Pos d ∧ product d ≤ 1073741824 ∧
    ∃ s : List α, bufs[i]? = some s ∧ product d ≤ s.length

theorem rootArr_spec {bufs : Heap α} {shapes : List Idx} (ok : ShapesOK bufs shapes) {i : Nat} {d : Idx}
    (hd : shapes[i]? = some d) :
    fromStore bufs i d = .ok (rootArr bufs false i d) ∧ fromC bufs i d = .ok (rootArr bufs true i d) ∧
    Reach (rootArr bufs false i d).v ∧ ArrOK bufs (rootArr bufs false i d) ∧ ArrOK bufs (rootArr bufs true i d) := by
  obtain ⟨hne, hpos, hbig, s, hs, hfit⟩ := ok i d hd
  obtain ⟨a, ha, rfl, hr, hok⟩ := arrOK_fromStore hne hpos hs hfit
  obtain ⟨a', ha', rfl, _, hok'⟩ := arrOK_fromC hne hpos hs hfit hbig
  have e : ∀ b, rootArr bufs b i d = ⟨rootView d 0, i, 0, s.length, b⟩ := fun b => by simp [rootArr, hs]
  rw [e, e]
  exact ⟨ha, ha', hr, hok, hok'⟩

theorem world_roots (bufs : Heap α) (shapes : List Idx) (ok : ShapesOK bufs shapes) :
    World ⟨bufs, rootArrs bufs false shapes⟩ ⟨bufs, rootArrs bufs true shapes⟩ := by
  refine ⟨by simp [rootArrs], ?_, ?_⟩
  · intro i g c h1 h2
    obtain ⟨d, hd, rfl⟩ := rootArrs_some h1
    obtain ⟨d', hd', rfl⟩ := rootArrs_some h2
    obtain rfl := Option.some.inj (hd.symm.trans hd')
    obtain ⟨_, _, hr, okg, okc⟩ := rootArr_spec ok hd
    exact ⟨rfl, hr, okg, okc, fun p _ _ => rfl⟩
  · intro i j g c g' c' h1 h2 h3 h4
    obtain ⟨_, _, rfl⟩ := rootArrs_some h1
    obtain ⟨_, _, rfl⟩ := rootArrs_some h2
    obtain ⟨_, _, rfl⟩ := rootArrs_some h3
    obtain ⟨_, _, rfl⟩ := rootArrs_some h4
    by_cases e : j = i
    · exact Or.inl ⟨e, e, by simp [winOf, rootArr]⟩
    · exact Or.inr ⟨e, e⟩

end
end OW.NdC03
