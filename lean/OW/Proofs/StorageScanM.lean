import OW.Proofs.ScanM
import OW.Proofs.ExceptList
import OW.Kernels.Storage
/-! The loops of the Storage kernel at any `Num α`: one pass of the sub-step loop (`outer_succ`) and an invariant carried along it
(`outer_keeps`); `Storage.steps` is `scanM` over the state (volume, tags), with `stepM` the timestep on that state as one value; a run
that returned (`run_eq_ok`) or failed (`steps_error`, `run_error`), read off. Facts about the model's own functions with no choice of
arithmetic, hence in the kernel's namespace. No Mathlib. -/
namespace OW.Kernels.Storage
open OW

variable {α : Type} [Num α]

/-- one pass of the `for timeRemaining > 0` loop (its bind is spelled as a `match` in the model) -/
theorem outer_succ (t : Tables α) (keep : Bool) (fi : Nat) (inflow demand rps pps netFlux : α) (fo : Nat) (s : Loop α) :
    outer t keep fi inflow demand rps pps netFlux (fo + 1) s =
      if 0 < s.timeRemaining then
        outerBody t keep fi inflow demand rps pps netFlux s >>= outer t keep fi inflow demand rps pps netFlux fo
      else .ok s := by
  simp only [outer]
  cases outerBody t keep fi inflow demand rps pps netFlux s <;> rfl

theorem outer_keeps {t : Tables α} {keep : Bool} {fi : Nat} {inflow demand rps pps netFlux : α} {P : Loop α → Prop}
    (hP : ∀ s s', 0 < s.timeRemaining → P s → outerBody t keep fi inflow demand rps pps netFlux s = .ok s' → P s') :
    ∀ (fo : Nat) (s r : Loop α), outer t keep fi inflow demand rps pps netFlux fo s = .ok r → P s →
      P r ∧ ¬ 0 < r.timeRemaining := by
  intro fo
  induction fo with
  | zero => intro s r h; cases h
  | succ n ih =>
    intro s r h hs
    rw [outer_succ] at h
    by_cases ht : 0 < s.timeRemaining
    · obtain ⟨s', hB, h⟩ := Except.bind_eq_ok.mp (if_pos ht ▸ h)
      exact ih s' r h (hP s s' ht hs hB)
    · cases (if_neg ht ▸ h : Except.ok s = .ok r); exact ⟨hs, ht⟩

/-- `step` with the state (volume, tags) as one value: the body `scanM` runs. Named for the proofs, not part of the model. -/
def stepM (t : Tables α) (keep : Bool) (fo fi : Nat) (deltaT : α) (s : α × List String) (i : StepIn α) :
    Except String ((α × List String) × StepOut α) :=
  match step t keep fo fi deltaT s.1 s.2 i with
  | .error e => .error e
  | .ok r => .ok ((r.1, r.2.1), r.2.2)

theorem stepM_ok {t : Tables α} {keep : Bool} {fo fi : Nat} {deltaT : α} {s s₁ : α × List String} {i : StepIn α}
    {o : StepOut α} (h : stepM t keep fo fi deltaT s i = .ok (s₁, o)) :
    step t keep fo fi deltaT s.1 s.2 i = .ok (s₁.1, s₁.2, o) := by
  unfold stepM at h
  split at h
  · cases h
  · rename_i r hr
    cases h
    exact hr

theorem steps_eq_scanM (t : Tables α) (keep : Bool) (fo fi : Nat) (deltaT : α) (v : α) (tags : List String)
    (ins : List (StepIn α)) :
    steps t keep fo fi deltaT v tags ins =
      match scanM (stepM t keep fo fi deltaT) (v, tags) ins with
      | .error e => .error e
      | .ok r => .ok (r.1.1, r.1.2, r.2) := by
  induction ins generalizing v tags with
  | nil => rfl
  | cons i rest ih =>
    simp only [steps, scanM, stepM, bind, Except.bind]
    cases step t keep fo fi deltaT v tags i with
    | error e => rfl
    | ok r =>
      obtain ⟨v₁, tg₁, o⟩ := r
      simp only [ih v₁ tg₁]
      cases scanM (stepM t keep fo fi deltaT) (v₁, tg₁) rest with
      | error e => rfl
      | ok r' => rfl

theorem steps_ok {t : Tables α} {keep : Bool} {fo fi : Nat} {deltaT v v' : α} {tags tags' : List String}
    {ins : List (StepIn α)} {outs : List (StepOut α)}
    (h : steps t keep fo fi deltaT v tags ins = .ok (v', tags', outs)) :
    scanM (stepM t keep fo fi deltaT) (v, tags) ins = .ok ((v', tags'), outs) := by
  rw [steps_eq_scanM] at h
  split at h
  · cases h
  · rename_i r hr
    cases h
    exact hr

theorem steps_append {t : Tables α} {keep : Bool} {fo fi : Nat} {deltaT v v₁ : α} {tags tags₁ : List String}
    {xs : List (StepIn α)} {o₁ : List (StepOut α)} (h : steps t keep fo fi deltaT v tags xs = .ok (v₁, tags₁, o₁))
    (ys : List (StepIn α)) :
    steps t keep fo fi deltaT v tags (xs ++ ys) =
      (steps t keep fo fi deltaT v₁ tags₁ ys).map fun r => (r.1, r.2.1, o₁ ++ r.2.2) := by
  rw [steps_eq_scanM, steps_eq_scanM, scanM_append _ _ _ _ _ (steps_ok h)]
  cases scanM (stepM t keep fo fi deltaT) (v₁, tags₁) ys <;> rfl

theorem steps_prefix {t : Tables α} {keep : Bool} {fo fi : Nat} {deltaT v : α} {tags : List String}
    {xs ys : List (StepIn α)} {r : α × List String × List (StepOut α)}
    (h : steps t keep fo fi deltaT v tags (xs ++ ys) = .ok r) : ∃ r₁, steps t keep fo fi deltaT v tags xs = .ok r₁ := by
  obtain ⟨r₁, h₁⟩ := scanM_prefix _ _ _ _ _ (steps_ok h)
  exact ⟨(r₁.1.1, r₁.1.2, r₁.2), by rw [steps_eq_scanM, h₁]⟩

/-- a failing run of the timestep loop fails in one timestep, reached through timesteps that returned (`I` is carried along them) -/
theorem steps_error (t : Tables α) (keep : Bool) (fo fi : Nat) (deltaT : α) (I : α → Prop)
    (hI : ∀ v tags i v' tags' o, I v → step t keep fo fi deltaT v tags i = .ok (v', tags', o) → I v') :
    ∀ (ins : List (StepIn α)) (v : α) (tags : List String) (e : String), I v →
      steps t keep fo fi deltaT v tags ins = .error e →
      ∃ v' tags' i, i ∈ ins ∧ I v' ∧ step t keep fo fi deltaT v' tags' i = .error e := by
  intro ins
  induction ins with
  | nil => intro v tags e _ h; simp only [steps, pure, Except.pure] at h; cases h
  | cons i rest ih =>
    intro v tags e hv h
    simp only [steps, Except.bind_eq_error] at h
    rcases h with h | ⟨⟨v1, tg1, o⟩, hS, h | ⟨⟨v2, tg2, os⟩, -, h⟩⟩
    · exact ⟨v, tags, i, List.mem_cons_self .., hv, h⟩
    · obtain ⟨v', tags', j, hj, hv', hs⟩ := ih v1 tg1 _ (hI _ _ _ _ _ _ hv hS) h
      exact ⟨v', tags', j, List.mem_cons_of_mem _ hj, hv', hs⟩
    · cases h

theorem run_error (t : Tables α) (keep : Bool) (fo fi : Nat) (deltaT : α) (I : α → Prop)
    (hI : ∀ v tags i v' tags' o, I v → step t keep fo fi deltaT v tags i = .ok (v', tags', o) → I v')
    (v0 : α) (hv0 : I v0) (ins : List (StepIn α)) (e : String) (h : run t keep fo fi deltaT v0 ins = .error e) :
    (∃ v' tags' i, i ∈ ins ∧ I v' ∧ step t keep fo fi deltaT v' tags' i = .error e) ∨
    ∃ v, cappedPiecewise t v t.levels = .error e ∨ cappedPiecewise t v t.areas = .error e := by
  simp only [run, Except.bind_eq_error] at h
  rcases h with h | ⟨⟨v, tags, outs⟩, -, h | ⟨level, -, h | ⟨area, -, h⟩⟩⟩
  · exact Or.inl (steps_error t keep fo fi deltaT I hI ins v0 [] _ hv0 h)
  · exact Or.inr ⟨v, Or.inl h⟩
  · exact Or.inr ⟨v, Or.inr h⟩
  · cases h

theorem run_eq_ok {t : Tables α} {keep : Bool} {fo fi : Nat} {deltaT v0 : α} {xs : List (StepIn α)} {r : RunOut α} :
    run t keep fo fi deltaT v0 xs = .ok r ↔ ∃ tg, steps t keep fo fi deltaT v0 [] xs = .ok (r.volume, tg, r.outs) ∧
      cappedPiecewise t r.volume t.levels = .ok r.level ∧ cappedPiecewise t r.volume t.areas = .ok r.area ∧ r.tags = tg := by
  obtain ⟨os, v, lv, ar, tg⟩ := r
  simp only [run, Except.bind_eq_ok, pure, Except.pure, Except.ok.injEq, RunOut.mk.injEq]
  constructor
  · rintro ⟨⟨v', tg', os'⟩, hs, l, hl, a, ha, rfl, rfl, rfl, rfl, rfl⟩
    exact ⟨_, hs, hl, ha, rfl⟩
  · rintro ⟨_, hs, hl, ha, rfl⟩
    exact ⟨_, hs, _, hl, _, ha, rfl, rfl, rfl, rfl, rfl⟩

end OW.Kernels.Storage
