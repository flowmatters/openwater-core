import OW.Proofs.Storage
import OW.Proofs.Piecewise
/-!
Helper lemmas for C13, "when does a run return": under
* `Total t`           — every table evaluation the kernel makes returns a value (no single-knot or short table), and
* `SafeAt … v est`    — the two "volume would become negative" tests of the inner trial loop pass for every sub-step of at
                        most 6 s at the volume `v` (this is what the code needs in order not to panic at its 6 s floor),
the fuelled loops of OW/Kernels/Storage.lean can only fail by running out of fuel: an error is `"fuel"` (`trial_no_panic`,
`outerBody_no_panic`, `outer_no_panic`); together with the `*_ne_fuel` lemmas of OW/Proofs/Storage.lean (the result is not the
error `"fuel"`) this gives `.ok` (`ok_of_no_panic_of_ne_fuel`). The converse for the first test, `trial_panics`: a first trial volume that is negative for every
sub-step down to the floor ends the trial loop in the panic. `total_of_wellFormed` derives `Total` from the shape of the tables
(`WellFormed`), `safeAt_of_release_limited` and `safeAt_of_net_gain` derive `SafeAt` from conditions on the tables and the inputs
alone.
-/
namespace OW.Proofs.Storage
open OW OW.Kernels.Storage

structure Total (t : Tables ℝ) : Prop where
  areas : ∀ v, ∃ y, cappedPiecewise t v t.areas = .ok y
  minRelease : ∀ v, ∃ y, cappedPiecewise t v t.minRelease = .ok y
  maxRelease : ∀ v, ∃ y, cappedPiecewise t v t.maxRelease = .ok y
  levels : ∀ v, ∃ y, cappedPiecewise t v t.levels = .ok y

theorem releaseRate_total (t : Tables ℝ) (ht : Total t) (d v : ℝ) : ∃ q, releaseRate t d v = .ok q := by
  obtain ⟨m, hm⟩ := ht.minRelease v
  obtain ⟨M, hM⟩ := ht.maxRelease v
  exact ⟨_, releaseRate_of_capped hm hM⟩

def AreaVal (t : Tables ℝ) (a : ℝ) : Prop := ∃ w, cappedPiecewise t w t.areas = .ok a

def RelVal (t : Tables ℝ) (demand q : ℝ) : Prop := ∃ u, releaseRate t demand u = .ok q

/-- **6 s safety** at the volume `volume` whose release is `est`: for every sub-step of at most 6 s and every value `a` of the
area table, neither the first trial volume (release `est`) nor the averaged trial volume (release = mean of `est` and the release
`q'` evaluated AT the first trial volume) is negative. These are exactly the two tests after which the code panics
(`testVol < 0.0 and subtimestep <= MIN_TIMESTEP_SECONDS…`) once the sub-step is at its floor. -/
structure SafeAt (t : Tables ℝ) (inflow demand netFlux volume est : ℝ) : Prop where
  first : ∀ sub a, 0 < sub → sub ≤ 6 → AreaVal t a → 0 ≤ volume + ((inflow - est) + netFlux * a) * sub
  avg : ∀ sub a q', 0 < sub → sub ≤ 6 → AreaVal t a →
    releaseRate t demand (volume + ((inflow - est) + netFlux * a) * sub) = .ok q' →
    0 ≤ volume + ((inflow - (q' + est) / 2) + netFlux * a) * sub

theorem trial_no_panic (t : Tables ℝ) (ht : Total t) (inflow demand netFlux volume est area : ℝ)
    (harea : AreaVal t area) (hs : SafeAt t inflow demand netFlux volume est) :
    ∀ (fuel : Nat) (sub : ℝ) (tags : List String) (e : String), 0 < sub →
      trial t inflow demand netFlux volume est area fuel sub tags = .error e → e = "fuel" := by
  intro fuel
  induction fuel with
  | zero => intro sub tags e _ h; cases h; rfl
  | succ n ih =>
    intro sub tags e hpos h
    rcases trial_succ_cases t inflow demand netFlux volume est area n sub tags with
      ⟨h6, -, hneg⟩ | ⟨-, e', -, he⟩ | ⟨-, a, h', -⟩ | ⟨-, sub', tags', h', h1, -⟩
    · -- the 6 s-floor panic is what `SafeAt` excludes
      exfalso
      rcases hneg with hn | ⟨avgArea, after, hA, hR, hn⟩
      · exact not_le.mpr hn (hs.first sub area hpos h6 harea)
      · exact hn (hs.avg sub avgArea after hpos h6 ⟨_, hA⟩ hR)
    · exfalso
      rcases he with hA | ⟨avgArea, hR⟩
      · exact Except.ok_ne_error (ht.areas _) hA
      · exact Except.ok_ne_error (releaseRate_total t ht demand _) hR
    · rw [h'] at h; cases h
    · rw [h'] at h
      exact ih _ _ _ (by linarith) h

/-- The test `if volume < 0 { panic }` after the update never fires at ℝ: the updated volume is the last trial volume, which the
trial loop accepted as non-negative. -/
theorem outerBody_no_panic (t : Tables ℝ) (ht : Total t) (keep : Bool) (fi : Nat) (inflow demand rps pps netFlux : ℝ)
    (s : Loop ℝ) (e : String)
    (hs : ∀ est, releaseRate t demand s.volume = .ok est → SafeAt t inflow demand netFlux s.volume est)
    (hsub : 0 < min s.timeRemaining (s.subtimestep * 2))
    (h : outerBody t keep fi inflow demand rps pps netFlux s = .error e) : e = "fuel" := by
  simp only [outerBody, RealNum.gmin_eq, RealNum.lit0, RealNum.ofNat_lit 2, Except.bind_eq_error] at h
  rcases h with h | ⟨est, hE, h | ⟨area, hA, h | ⟨a, hT, h⟩⟩⟩
  · exact absurd h (Except.ok_ne_error (releaseRate_total t ht demand _))
  · exact absurd h (Except.ok_ne_error (ht.areas _))
  · exact trial_no_panic t ht inflow demand netFlux s.volume est area ⟨_, hA⟩ (hs est hE) fi _ _ _ hsub h
  · have ts := trial_spec _ _ _ _ _ _ _ _ _ _ _ hT
    by_cases hv : s.volume + (inflow + netFlux * a.avgArea - a.avgOutflow) * a.sub < 0
    · exfalso
      have h0 := ts.testVol_nonneg
      rw [ts.testVol_eq] at h0
      linarith
    · rw [if_neg hv] at h
      cases h

theorem outer_no_panic (t : Tables ℝ) (ht : Total t) (hfull : 0 ≤ t.volCurveMax) (keep : Bool) (fi : Nat)
    (inflow demand rps pps netFlux : ℝ)
    (hs : ∀ v est, 0 ≤ v → releaseRate t demand v = .ok est → SafeAt t inflow demand netFlux v est) :
    ∀ (fo : Nat) (s : Loop ℝ) (e : String), 0 ≤ s.volume → 0 < s.subtimestep →
      outer t keep fi inflow demand rps pps netFlux fo s = .error e → e = "fuel" := by
  intro fo
  induction fo with
  | zero => intro s e _ _ h; simp only [outer, Except.error.injEq] at h; exact h.symm
  | succ n ih =>
    intro s e hv hsub h
    rw [outer_succ, RealNum.lit0] at h
    by_cases ht' : 0 < s.timeRemaining
    · rw [if_pos ht', Except.bind_eq_error] at h
      have hsub0 : 0 < min s.timeRemaining (s.subtimestep * 2) := lt_min ht' (by linarith)
      rcases h with hB | ⟨s', hB, h⟩
      · exact outerBody_no_panic t ht keep fi inflow demand rps pps netFlux s _ (fun est he => hs _ est hv he) hsub0 hB
      · obtain ⟨a, b⟩ := outerBody_ok hB
        refine ih s' e ?_ ?_ h
        · rw [b.vol]
          exact spill_volume_nonneg _ _ _ _ hfull b.upd_nonneg
        · rw [b.sub]
          exact lt_of_lt_of_le (lt_min hsub0 (by norm_num)) b.trial.sub_ge
    · rw [if_neg ht'] at h
      cases h

/-- `.error "other"` is `panic("testVol < 0.0 and subtimestep <= MIN_TIMESTEP_SECONDS")`: every retry shortens the sub-step, none
changes the sign of the first trial volume, and at the 6 s floor the code gives up. -/
theorem trial_panics (t : Tables ℝ) (inflow demand netFlux volume est area lower : ℝ) (hl : lower ≤ 6)
    (hneg : ∀ s, lower ≤ s → volume + (inflow - est + netFlux * area) * s < 0) :
    ∀ (n fuel : Nat) (sub : ℝ) (tags : List String), lower ≤ sub → sub ≤ 6 * 2 ^ n → n + 1 ≤ fuel →
      trial t inflow demand netFlux volume est area fuel sub tags = .error "other" := by
  intro n fuel
  induction fuel generalizing n with
  | zero => intro sub tags _ _ hf; omega
  | succ f ih =>
    intro sub tags hlo hs hf
    rcases trial_succ_cases t inflow demand netFlux volume est area f sub tags with
      ⟨-, h', -⟩ | ⟨h1, -⟩ | ⟨h1, -⟩ | ⟨h6, sub', tags', h', h1, h2⟩
    · exact h'
    · exact absurd (hneg sub hlo) h1
    · exact absurd (hneg sub hlo) h1
    · obtain ⟨m, rfl, hm⟩ := halve_le_pow h6 hs h2
      rw [h']
      exact ih m _ _ (hl.trans h1) hm (by omega)

/-- the shape `mkTables` + the wrapper's slicing give for `nLVA ≥ 2`; a hypothesis here (`total_of_wellFormed`), shown of the table
`tHS` (`totalHS`), not derived from `mkTables` -/
structure WellFormed (t : Tables ℝ) : Prop where
  two : 2 ≤ t.volumes.length
  vmin : t.volumes[0]? = some t.volCurveMin
  vmax : t.volumes[t.volumes.length - 1]? = some t.volCurveMax
  levels : t.volumes.length ≤ t.levels.length
  areas : t.volumes.length ≤ t.areas.length
  minRelease : t.volumes.length ≤ t.minRelease.length
  maxRelease : t.volumes.length ≤ t.maxRelease.length

theorem capped_total (t : Tables ℝ) (hw : WellFormed t) (ys : List ℝ) (hy : t.volumes.length ≤ ys.length) (v : ℝ) :
    ∃ y, cappedPiecewise t v ys = .ok y := by
  have h2 := hw.two
  unfold cappedPiecewise
  split_ifs with h1 h3
  · exact ⟨ys[0]'(by omega), by simp only [getAt, List.getElem?_eq_getElem (by omega : 0 < ys.length)]⟩
  · exact ⟨ys[t.volumes.length - 1]'(by omega), by
      simp only [getAt, List.getElem?_eq_getElem (by omega : t.volumes.length - 1 < ys.length)]⟩
  · have e0 : t.volumes[0]'(by omega) = t.volCurveMin :=
      Option.some.inj ((List.getElem?_eq_getElem (by omega)).symm.trans hw.vmin)
    have el : t.volumes[t.volumes.length - 1]'(by omega) = t.volCurveMax :=
      Option.some.inj ((List.getElem?_eq_getElem (by omega)).symm.trans hw.vmax)
    obtain ⟨y, hy'⟩ := OW.Proofs.Piecewise.piecewise_total h2 hy (x := v) (by rw [e0]; exact not_lt.mp h1)
      (by rw [el]; exact not_lt.mp h3)
    exact ⟨y, by rw [hy']⟩

theorem total_of_wellFormed (t : Tables ℝ) (hw : WellFormed t) : Total t :=
  ⟨capped_total t hw _ hw.areas, capped_total t hw _ hw.minRelease, capped_total t hw _ hw.maxRelease,
    capped_total t hw _ hw.levels⟩

theorem safeAt_of_release_limited (t : Tables ℝ) (inflow demand netFlux : ℝ)
    (hq : ∀ u q, releaseRate t demand u = .ok q → 0 ≤ q ∧ q * 6 ≤ max u 0)
    (ha : ∀ a, AreaVal t a → 0 ≤ inflow + netFlux * a) :
    ∀ v est, 0 ≤ v → releaseRate t demand v = .ok est → SafeAt t inflow demand netFlux v est := by
  intro v est hv he
  obtain ⟨e0, e6⟩ := hq v est he
  rw [max_eq_left hv] at e6
  have first : ∀ sub a, 0 < sub → sub ≤ 6 → AreaVal t a → 0 ≤ v + ((inflow - est) + netFlux * a) * sub := by
    intro sub a hp h6 hA
    have g : 0 ≤ (inflow + netFlux * a) * sub := mul_nonneg (ha a hA) hp.le
    have r : est * sub ≤ est * 6 := mul_le_mul_of_nonneg_left h6 e0
    have key : v + ((inflow - est) + netFlux * a) * sub = (v - est * sub) + (inflow + netFlux * a) * sub := by ring
    rw [key]; linarith
  refine ⟨first, ?_⟩
  intro sub a q' hp h6 hA hq'
  have hu := first sub a hp h6 hA
  obtain ⟨q0, q6⟩ := hq _ q' hq'
  rw [max_eq_left hu] at q6
  have g : 0 ≤ (inflow + netFlux * a) * sub := mul_nonneg (ha a hA) hp.le
  have r : q' * sub ≤ q' * 6 := mul_le_mul_of_nonneg_left h6 q0
  have key : v + ((inflow - (q' + est) / 2) + netFlux * a) * sub
      = ((v + (inflow + netFlux * a) * sub) + ((v + ((inflow - est) + netFlux * a) * sub) - q' * sub)) / 2 := by ring
  rw [key]
  have : 0 ≤ (v + ((inflow - est) + netFlux * a) * sub) - q' * sub := by linarith
  linarith

theorem safeAt_of_net_gain (t : Tables ℝ) (inflow demand netFlux : ℝ)
    (hg : ∀ q a, RelVal t demand q → AreaVal t a → 0 ≤ inflow - q + netFlux * a) :
    ∀ v est, 0 ≤ v → releaseRate t demand v = .ok est → SafeAt t inflow demand netFlux v est := by
  intro v est hv he
  refine ⟨?_, ?_⟩
  · intro sub a hp _ hA
    have := mul_nonneg (hg est a ⟨v, he⟩ hA) hp.le
    linarith
  · intro sub a q' hp _ hA hq'
    have g1 := hg est a ⟨v, he⟩ hA
    have g2 := hg q' a ⟨_, hq'⟩ hA
    have key : v + ((inflow - (q' + est) / 2) + netFlux * a) * sub
        = v + (((inflow - est + netFlux * a) + (inflow - q' + netFlux * a)) / 2) * sub := by ring
    rw [key]
    have := mul_nonneg (by linarith : 0 ≤ ((inflow - est + netFlux * a) + (inflow - q' + netFlux * a)) / 2) hp.le
    linarith

/-- where the two families about errors meet: a computation whose only possible error is `"fuel"` (the `*_no_panic` lemmas above)
and that does not end in `"fuel"` (the `*_ne_fuel` lemmas of OW/Proofs/Storage.lean) returns -/
theorem ok_of_no_panic_of_ne_fuel {β : Type} {x : Except String β} (hp : ∀ e, x = .error e → e = "fuel")
    (hf : x ≠ .error "fuel") : ∃ r, x = .ok r := by
  cases x with
  | ok r => exact ⟨r, rfl⟩
  | error e => exact absurd (hp e rfl ▸ rfl) hf

end OW.Proofs.Storage
